-- Root of the AdfObdd library: imports every module except the driver's `AdfObdd/Drv/*`, which are built
-- through the `driver` target. `Counts.lean` is the only module that imports Mathlib (`Mathlib.Tactic.Ring`).
import AdfObdd.AdfModel
import AdfObdd.AdfPipeline
import AdfObdd.Base
import AdfObdd.BioModel
import AdfObdd.BioProofs
import AdfObdd.Bridge
import AdfObdd.CallHistory
import AdfObdd.CallHistoryMemo
import AdfObdd.CallHistoryMemoFull
import AdfObdd.CallHistoryProofs
import AdfObdd.CallHistoryQuery
import AdfObdd.CallHistoryRand
import AdfObdd.Channel
import AdfObdd.ChannelClones
import AdfObdd.ChannelDrop
import AdfObdd.ChannelFair
import AdfObdd.ChannelZero
import AdfObdd.CliCounter
import AdfObdd.CliFaithful
import AdfObdd.CliFuelBound
import AdfObdd.CliHalt
import AdfObdd.CliIO
import AdfObdd.CliIOProofs
import AdfObdd.CliModel
import AdfObdd.CliModes
import AdfObdd.CliModesProofs
import AdfObdd.CliWorld
import AdfObdd.CliWorldProofs
import AdfObdd.ClosureFacts
import AdfObdd.ClosureSound
import AdfObdd.Compile
import AdfObdd.Complete
import AdfObdd.CompleteExact
import AdfObdd.CompleteVectors
import AdfObdd.CountExact
import AdfObdd.CountInstance
import AdfObdd.CountInstanceProofs
import AdfObdd.CountModel
import AdfObdd.CountOrder
import AdfObdd.CountSearch
import AdfObdd.CountSearchG
import AdfObdd.CountSearchK
import AdfObdd.CountSearchLock
import AdfObdd.CountSearchRel
import AdfObdd.CountSearchS
import AdfObdd.CountWitness
import AdfObdd.Counts
import AdfObdd.CountsDef
import AdfObdd.CountsMore
import AdfObdd.CountsWord
import AdfObdd.Cubes
import AdfObdd.CubesCanon
import AdfObdd.CubesExact
import AdfObdd.Deps
import AdfObdd.Equivar
import AdfObdd.EquivarMore
import AdfObdd.FeatureDepsCard
import AdfObdd.FeatureLog
import AdfObdd.FeatureNg
import AdfObdd.FeatureOps
import AdfObdd.FeatureQueries
import AdfObdd.FeatureSearch
import AdfObdd.FeatureSemantics
import AdfObdd.FeatureStore
import AdfObdd.FeatureTables
import AdfObdd.FeatureVariants
import AdfObdd.FnRA
import AdfObdd.Fold
import AdfObdd.FromParser
import AdfObdd.FromParserProofs
import AdfObdd.Graph
import AdfObdd.Grounded
import AdfObdd.HeuMemo
import AdfObdd.HybridCli
import AdfObdd.HybridEndToEnd
import AdfObdd.HybridExample
import AdfObdd.HybridModel
import AdfObdd.HybridParser
import AdfObdd.HybridProofs
import AdfObdd.IsoCheck
import AdfObdd.Isolation
import AdfObdd.Iter
import AdfObdd.Iter3
import AdfObdd.IterFull
import AdfObdd.JsonModel
import AdfObdd.JsonPersist
import AdfObdd.JsonProofs
import AdfObdd.Lfp
import AdfObdd.MeasMemo
import AdfObdd.MemoCheck
import AdfObdd.MemoCheckProofs
import AdfObdd.MemoTransparent
import AdfObdd.NatLexOrder
import AdfObdd.NgBound
import AdfObdd.NgBridge
import AdfObdd.NgChannel
import AdfObdd.NgChannelMore
import AdfObdd.NgConcrete
import AdfObdd.NgEndToEnd
import AdfObdd.NgFuelBound
import AdfObdd.NgGen
import AdfObdd.NgGenHalt
import AdfObdd.NgHalt
import AdfObdd.NgLeaf
import AdfObdd.NgModel
import AdfObdd.NgOrder
import AdfObdd.NgPartialHeu
import AdfObdd.NgPrototype
import AdfObdd.NgSearch
import AdfObdd.NgSem
import AdfObdd.NgSimulation
import AdfObdd.NgSpecFacts
import AdfObdd.NgStore
import AdfObdd.NgStoreAfter
import AdfObdd.NgWideFacts
import AdfObdd.NodeTable
import AdfObdd.NoGood
import AdfObdd.OpsModel
import AdfObdd.OpsProofs
import AdfObdd.Parser
import AdfObdd.Parser2
import AdfObdd.Parser3
import AdfObdd.Parser4
import AdfObdd.Parser5
import AdfObdd.Parser6
import AdfObdd.Parser7
import AdfObdd.ParserProofs
import AdfObdd.PathsDepth
import AdfObdd.PathsWord
import AdfObdd.Persist
import AdfObdd.PersistAnswers
import AdfObdd.PersistMore
import AdfObdd.Picks
import AdfObdd.PreGround
import AdfObdd.PreGround2
import AdfObdd.PreGround3
import AdfObdd.Props.C01
import AdfObdd.Props.C02
import AdfObdd.Props.C03
import AdfObdd.Props.C04
import AdfObdd.Props.C05
import AdfObdd.Props.C06
import AdfObdd.Props.C07
import AdfObdd.Props.C08
import AdfObdd.Props.C09
import AdfObdd.Props.C10
import AdfObdd.Props.C11
import AdfObdd.Props.C12
import AdfObdd.Props.C13
import AdfObdd.Props.C14
import AdfObdd.Props.C15
import AdfObdd.Props.C16
import AdfObdd.Props.C17
import AdfObdd.Props.C18
import AdfObdd.Props.C19
import AdfObdd.Props.C20
import AdfObdd.RA
import AdfObdd.Reduct
import AdfObdd.Reach
import AdfObdd.Rebuild
import AdfObdd.SearchLock
import AdfObdd.SearchModel
import AdfObdd.ServerAdf
import AdfObdd.ServerAnswers
import AdfObdd.ServerCmd
import AdfObdd.ServerCmdProofs
import AdfObdd.ServerCmdResp
import AdfObdd.ServerConcrete
import AdfObdd.ServerConcreteProofs
import AdfObdd.ServerCred
import AdfObdd.ServerD9
import AdfObdd.ServerFuel
import AdfObdd.ServerGraph
import AdfObdd.ServerHybrid
import AdfObdd.ServerLive
import AdfObdd.ServerMention
import AdfObdd.ServerModel
import AdfObdd.ServerNonint
import AdfObdd.ServerNonintFull
import AdfObdd.ServerNonintJ
import AdfObdd.ServerNonintRsv
import AdfObdd.ServerParseLink
import AdfObdd.ServerProofs
import AdfObdd.ServerProv
import AdfObdd.ServerReach
import AdfObdd.ServerRoundTrip
import AdfObdd.ServerStale
import AdfObdd.ServerSuccess
import AdfObdd.ServerVars
import AdfObdd.Shortcut
import AdfObdd.SortModel
import AdfObdd.SortProofs
import AdfObdd.Spec.Adf
import AdfObdd.Spec.Ng
import AdfObdd.Spec.NgWide
import AdfObdd.Spec.TT
import AdfObdd.Spec.WebSem
import AdfObdd.SpecSound
import AdfObdd.Stable
import AdfObdd.StableExact
import AdfObdd.Store
import AdfObdd.StoreCanon
import AdfObdd.StoreIte
import AdfObdd.StoreLib
import AdfObdd.StoreOps
import AdfObdd.Stream
import AdfObdd.StreamBounded
import AdfObdd.StreamChain
import AdfObdd.StreamFull
import AdfObdd.Stutter
import AdfObdd.TTDepthPaths
import AdfObdd.TTSpec
import AdfObdd.Test.FeatureSemCheck
import AdfObdd.Test.MeasMemoCheck
import AdfObdd.Test.NgSimCheck
import AdfObdd.WfCheck
import AdfObdd.WfCheckFast
