import AdfObdd.CliModesProofs
/-! # The fuel hypothesis of the text-level CLI model is monotone in the bound

`CliM.haltedParsed W fuel i st` ("no nogood-learning search of the invocation hit the bound") is a
hypothesis of `C15.cli_text_faithful`. It is MONOTONE in the bound and a halted run does not depend on
it (`haltedParsed_mono`): if it holds for `fuel` it holds for every `fuel' ≥ fuel`, and `runParsed` /
`runText` return the same value for both. So "from some bound on" is one threshold `F0`: below it the
model prints a prefix, from `F0` on the output is constant (purely structural, no hypothesis about the
world). That the threshold exists and is at most `2^(n+3)`: `CliFuelBound.lean`. -/
namespace CliMP
open CliM ParserM FromParser Cli SortModel

theorem secHalts_mono (heu : SM.Heu) (n : Nat) (ac : List Nat) (sec : Section) (s : Store) {a b : Nat}
    (ha : secHalts a heu n ac sec s = true) (hab : a ≤ b) : secHalts b heu n ac sec s = true := by
  rw [CliF.secHalts_eq_F] at ha ⊢
  exact CliF.sectionHaltsF_mono heu sec s n ac ha hab

theorem secNaive_mono (heu : SM.Heu) (n : Nat) (ac : List Nat) (sec : Section) (s : Store) {a b : Nat}
    (ha : secHalts a heu n ac sec s = true) (hab : a ≤ b) :
    secNaive b heu n ac sec s = secNaive a heu n ac sec s := by
  rw [CliF.secHalts_eq_F] at ha
  rw [CliF.secNaive_eq_F, CliF.secNaive_eq_F]
  exact CliF.runSectionF_halted_mono heu sec s n ac ha hab

theorem secHybrid_mono (heu : SM.Heu) (cands : List (List Nat)) (n : Nat) (ac : List Nat) (sec : Section)
    (s : Store) {a b : Nat} (ha : secHalts a heu n ac sec s = true) (hab : a ≤ b) :
    secHybrid b heu cands n ac sec s = secHybrid a heu cands n ac sec s := by
  by_cases hsec : sec = .stmrew
  · subst hsec; rfl
  · rw [secHybrid_of_ne b heu cands n ac hsec, secHybrid_of_ne a heu cands n ac hsec]
    exact secNaive_mono heu n ac sec s ha hab

theorem haltsWith_mono (heu : SM.Heu) (n : Nat) (ac : List Nat) (R : Nat → Section → Store → Store × List (List Nat))
    {a b : Nat} (hab : a ≤ b)
    (hR : ∀ (sec : Section) (s : Store), secHalts a heu n ac sec s = true → R b sec s = R a sec s) :
    ∀ (l : List Section) (acc : Store × List Block),
      haltsWith (secHalts a heu n ac) (R a) l acc.1 = true →
      haltsWith (secHalts b heu n ac) (R b) l acc.1 = true ∧ runWith (R b) l acc = runWith (R a) l acc := by
  intro l
  induction l with
  | nil => intro acc _; exact ⟨rfl, rfl⟩
  | cons x xs ih =>
    intro acc h
    simp only [haltsWith, Bool.and_eq_true] at h
    simp only [haltsWith, Bool.and_eq_true, runWith, hR x acc.1 h.1]
    have := ih ((R a x acc.1).1, acc.2 ++ [(x, (R a x acc.1).2)]) h.2
    exact ⟨⟨secHalts_mono heu n ac x acc.1 h.1 hab, this.1⟩, this.2⟩

theorem haltedParsed_mono {T : Type} (W : World T) (i : Inv) (st : PState) {fuel fuel' : Nat}
    (h : haltedParsed W fuel i st = true) (hf : fuel ≤ fuel') :
    haltedParsed W fuel' i st = true ∧ runParsed W fuel' i st = runParsed W fuel i st := by
  obtain ⟨mode, f, so, heu⟩ := i
  cases mode with
  | biodivine => exact ⟨rfl, rfl⟩
  | naive =>
    simp only [haltedParsed, runParsed, runNaive] at h ⊢
    cases hfp : fromParser st with
    | none => simp
    | some b =>
      simp only [hfp, Option.map_some] at h ⊢
      have := haltsWith_mono heu (dictSizeOf st) b.2 (fun k => secNaive k heu (dictSizeOf st) b.2) hf
        (fun sec s ha => secNaive_mono heu _ _ sec s ha hf) (sections .naive f) (b.1, []) h
      exact ⟨this.1, by rw [this.2]⟩
  | hybrid =>
    simp only [haltedParsed, runParsed, runHybrid] at h ⊢
    cases hb : bioBuild (W.lib (dictSizeOf st)) st f.stmrew with
    | none => simp
    | some b =>
      simp only [hb, Option.map_some] at h ⊢
      have := haltsWith_mono heu (dictSizeOf st) (hybridStep (W.lib (dictSizeOf st)) W.dump b.1).2
        (fun k => secHybrid k heu (Bio.stableModelCandidates (W.lib (dictSizeOf st)) b.2 b.1) (dictSizeOf st)
          (hybridStep (W.lib (dictSizeOf st)) W.dump b.1).2) hf
        (fun sec s ha => secHybrid_mono heu _ _ _ sec s ha hf) (sections .hybrid f)
        ((hybridStep (W.lib (dictSizeOf st)) W.dump b.1).1, []) h
      exact ⟨this.1, by rw [this.2]⟩

theorem runText_fuel_irrelevant {T : Type} (W : World T) (i : Inv) (t : List Char) (st : PState)
    (hp : parsed W i t = some st) {fuel fuel' : Nat}
    (h : haltedParsed W fuel i st = true) (hf : fuel ≤ fuel') :
    runText W fuel' i t = runText W fuel i t := by
  unfold runText
  rw [hp]
  simp only [(haltedParsed_mono W i st h hf).2]

end CliMP
#print axioms CliMP.haltedParsed_mono
