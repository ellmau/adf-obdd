import AdfObdd.NoGood
/-! The counting-guided branching search as an abstract machine on partial assignments, and the laws `CSound`
    of its steps. That it is complete, sound and duplicate-free for every selection strategy is `search_spec`
    (`CountSearchG.lean`). -/

abbrev Cube := List (Nat × Bool)
def InCube (c : Cube) (σ : Asg) : Prop := ∀ x ∈ c, σ x.1 = x.2

def decided (A : PA) : Nat := size A

structure CParams where
  n : Nat
  pick : PA → Option Nat
  goal : PA → Nat → Bool
  cubes : PA → Nat → Bool → List Cube
  cubeStep : PA → Nat → Bool → Cube → Option PA
  flipStep : PA → Nat → Bool → Option PA
  leaf : PA → PA

def search (P : CParams) : Nat → PA → List PA
  | 0, _ => []
  | fuel+1, A =>
    match P.pick A with
    | none => [P.leaf A]
    | some idx =>
      let g := P.goal A idx
      (P.cubes A idx g).flatMap (fun c =>
          match P.cubeStep A idx g c with
          | some A' => search P fuel A'
          | none => [])
        ++ (match P.flipStep A idx g with
            | some A' => search P fuel A'
            | none => [])

def Disj (o o' : PA) : Prop := ∀ σ, ¬ (Matches o σ ∧ Matches o' σ)

structure CSound (T : Asg → Prop) (P : CParams) : Prop where
  bound : ∀ A, P.pick A ≠ none → decided A < P.n
  leaf_law : ∀ A, P.pick A = none → ∀ σ, Matches (P.leaf A) σ ↔ Matches A σ
  cube_cover : ∀ A idx, P.pick A = some idx → ∀ σ, T σ → Matches A σ → σ idx = P.goal A idx →
      ∃ c ∈ P.cubes A idx (P.goal A idx), InCube c σ
  cube_disj : ∀ A idx, P.pick A = some idx →
      (P.cubes A idx (P.goal A idx)).Pairwise (fun c c' => ∀ σ, ¬ (InCube c σ ∧ InCube c' σ))
  cube_some : ∀ A idx c A', P.pick A = some idx → P.cubeStep A idx (P.goal A idx) c = some A' →
      decided A < decided A' ∧
      (∀ σ, Matches A' σ → Matches A σ ∧ InCube c σ ∧ σ idx = P.goal A idx) ∧
      (∀ σ, T σ → Matches A σ → InCube c σ → σ idx = P.goal A idx → Matches A' σ)
  cube_none : ∀ A idx c, P.pick A = some idx → P.cubeStep A idx (P.goal A idx) c = none →
      ∀ σ, T σ → Matches A σ → InCube c σ → σ idx = P.goal A idx → False
  flip_some : ∀ A idx A', P.pick A = some idx → P.flipStep A idx (P.goal A idx) = some A' →
      decided A < decided A' ∧
      (∀ σ, Matches A' σ → Matches A σ ∧ σ idx = !P.goal A idx) ∧
      (∀ σ, T σ → Matches A σ → σ idx = (!P.goal A idx) → Matches A' σ)
  flip_none : ∀ A idx, P.pick A = some idx → P.flipStep A idx (P.goal A idx) = none →
      ∀ σ, T σ → Matches A σ → σ idx = (!P.goal A idx) → False
