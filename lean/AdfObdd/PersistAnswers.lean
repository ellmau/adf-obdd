import AdfObdd.Persist
import AdfObdd.CompleteExact
import AdfObdd.StableExact
import AdfObdd.CountExact
import AdfObdd.NgEndToEnd
import Std.Data.String.ToNat
/-! C14: the answers of every semantics on a round-tripped object are the answers of the original.

`SameFns s s' ac`: two well-formed stores in which the handles `ac` are valid and denote the same
Boolean functions. Each search of the model (complete, stable, stable with pre-filter, both
counting-guided searches, the nogood-learning search in both modes) RUN on `s'` — with its own cold
memo tables and its own further node creations — returns, read as three-valued interpretations, a
duplicate-free list with exactly the members of the list it returns on `s` (exactness theorems of
C02–C05). `roundtrip_sameFns`: both persistence round trips produce such an `s'`. -/
namespace Persist

structure SameFns (s s' : Store) (ac : List Nat) : Prop where
  w : WF s
  w' : WF s'
  hv : ∀ t ∈ ac, t < s.nodes.size
  hv' : ∀ t ∈ ac, t < s'.nodes.size
  same : ac.map (eval s') = ac.map (eval s)

theorem SameFns.ofNodes {s s' : Store} {ac : List Nat} (w : WF s) (w' : WF s') (hn : s'.nodes = s.nodes)
    (hv : ∀ t ∈ ac, t < s.nodes.size) : SameFns s s' ac :=
  ⟨w, w', hv, fun t ht => by rw [hn]; exact hv t ht, acFns_same hn ac⟩

/-- both round trips: `export → import → fix_import`, and `Bdd::from(nodes)` -/
theorem roundtrip_sameFns (a : PAdf) (w : WF a.bdd.st) (hv : ∀ t ∈ a.ac, t < a.bdd.st.nodes.size) :
    SameFns a.bdd.st (fixImportA (importA (exportA a))).bdd.st a.ac ∧
    SameFns a.bdd.st (rebuildP a.bdd.st.nodes).st a.ac :=
  have ⟨⟨wj, nj⟩, ⟨wr, nr⟩⟩ := roundtrips_nodes a.bdd w
  ⟨SameFns.ofNodes w wj nj hv, SameFns.ofNodes w wr nr hv⟩

abbrev dec3 (l : List (List Nat)) : List I3 := l.map (fun v => v.map storeIsConst)

/-- two answer lists without repetition and with the same members (equal up to order) -/
def SameAnswers (l l' : List I3) : Prop := l.Nodup ∧ l'.Nodup ∧ ∀ v : I3, v ∈ l ↔ v ∈ l'

theorem SameAnswers.perm {l l' : List I3} (h : SameAnswers l l') : l.Perm l' :=
  (List.perm_ext_iff_of_nodup h.1 h.2.1).mpr h.2.2

theorem SameAnswers.of_exact {l l' : List I3} {P : I3 → Prop} (a : l.Nodup ∧ ∀ v, v ∈ l ↔ P v)
    (b : l'.Nodup ∧ ∀ v, v ∈ l' ↔ P v) : SameAnswers l l' :=
  ⟨a.1, b.1, fun v => (a.2 v).trans (b.2 v).symm⟩

variable {s s' : Store} {ac : List Nat}

theorem SameFns.grounded (h : SameFns s s' ac) :
    (groundedLoop StoreRA (ac.length + 1) s' ac).2.map storeIsConst =
    (groundedLoop StoreRA (ac.length + 1) s ac).2.map storeIsConst :=
  (grounded_dec_same h.w h.w' rfl rfl h.hv h.hv' h.same.symm).symm

theorem SameFns.complete (h : SameFns s s' ac) (n : Nat) (hn : ac.length = n) :
    (dec3 (completeAll s' n ac).2.2).Nodup ∧ (dec3 (completeAll s n ac).2.2).Nodup ∧
    ∀ v : I3, v ∈ dec3 (completeAll s' n ac).2.2 ↔ v ∈ dec3 (completeAll s n ac).2.2 := by
  have a := CompleteExact.completeAll_exact s' n ac h.w' hn h.hv'
  have b := CompleteExact.completeAll_exact s n ac h.w hn h.hv
  rw [h.same] at a
  exact SameAnswers.of_exact ⟨a.1, a.2.1⟩ ⟨b.1, b.2.1⟩

/-- both `stable` loops return the stable members of the completions of the grounded interpretation
(`StableExact.stableAll_filter`, `stablePre_filter`) -/
theorem SameFns.stable_filter (h : SameFns s s' ac) (n : Nat) (hn : ac.length = n) {out out' : List (List Nat)}
    (e : out = (twoValAll (groundedLoop StoreRA (n + 1) s ac).2).filter (StableExact.verdict (ac.map (eval s))))
    (e' : out' = (twoValAll (groundedLoop StoreRA (n + 1) s' ac).2).filter (StableExact.verdict (ac.map (eval s')))) :
    SameAnswers (dec3 out') (dec3 out) := by
  have a := StableExact.answers_exact s' n ac h.w' hn h.hv' _ (StableExact.verdict_iff (ac.map (eval s')))
  rw [h.same] at a
  rw [e, e', h.same]
  exact .of_exact a (StableExact.answers_exact s n ac h.w hn h.hv _ (StableExact.verdict_iff (ac.map (eval s))))

theorem SameFns.stable (h : SameFns s s' ac) (n : Nat) (hn : ac.length = n) :
    (dec3 (stableAll s' n ac).2).Nodup ∧ (dec3 (stableAll s n ac).2).Nodup ∧
    ∀ v : I3, v ∈ dec3 (stableAll s' n ac).2 ↔ v ∈ dec3 (stableAll s n ac).2 :=
  h.stable_filter n hn (StableExact.stableAll_filter s n ac h.w hn h.hv).2
    (StableExact.stableAll_filter s' n ac h.w' hn h.hv').2

theorem SameFns.stablePre (h : SameFns s s' ac) (n : Nat) (hn : ac.length = n) :
    SameAnswers (dec3 (Cli.stablePre s' n ac).2) (dec3 (Cli.stablePre s n ac).2) :=
  h.stable_filter n hn (StableExact.stablePre_filter s n ac h.w hn h.hv).2
    (StableExact.stablePre_filter s' n ac h.w' hn h.hv').2

theorem SameFns.count (h : SameFns s s' ac) (n : Nat) (hn : ac.length = n) (useA useA' : Bool) :
    SameAnswers (dec3 (countAll s' n ac useA').2) (dec3 (countAll s n ac useA).2) := by
  have a := CI.countAll_exact s' n ac useA' h.w' hn h.hv'
  rw [h.same] at a
  exact .of_exact a (CI.countAll_exact s n ac useA h.w hn h.hv)

/-- the two-valued mode's side condition (the conditions look at statements only) transfers -/
theorem SameFns.support (h : SameFns s s' ac) (n : Nat)
    (hs : ∀ t ∈ ac, ∀ σ τ : Asg, (∀ i, i < n → σ i = τ i) → eval s t σ = eval s t τ) :
    ∀ t ∈ ac, ∀ σ τ : Asg, (∀ i, i < n → σ i = τ i) → eval s' t σ = eval s' t τ := by
  intro t ht σ τ hag
  rw [List.map_inj_left.mp h.same t ht]; exact hs t ht σ τ hag

theorem SameFns.ng (h : SameFns s s' ac) (n : Nat) (hn : ac.length = n) (heu heu' : SM.Heu) (stable : Bool)
    (hs : stable = false → ∀ t ∈ ac, ∀ σ τ : Asg, (∀ i, i < n → σ i = τ i) → eval s t σ = eval s t τ) :
    ∃ fuel fuel', (SM.ngSearch heu fuel s n ac stable).2.2.2 = true ∧
      (SM.ngSearch heu' fuel' s' n ac stable).2.2.2 = true ∧
      SameAnswers (dec3 (SM.ngSearch heu' fuel' s' n ac stable).2.1) (dec3 (SM.ngSearch heu fuel s n ac stable).2.1) := by
  have ⟨f, hf, a⟩ := NConc.ng_end_to_end heu s n ac stable h.w hn h.hv hs
  have ⟨f', hf', b⟩ := NConc.ng_end_to_end heu' s' n ac stable h.w' hn h.hv'
    (fun e => h.support n (hs e))
  rw [h.same] at b
  exact ⟨f, f', hf, hf', .of_exact b a⟩

/-- decimal rendering `Nat.repr` and parsing `String.toNat?`; the round trip is the standard
library's theorem `Nat.toNat?_repr` -/
def decimalCodec : Codec := ⟨Nat.repr, String.toNat?, Nat.toNat?_repr⟩

end Persist
