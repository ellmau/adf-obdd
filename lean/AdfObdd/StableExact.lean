import AdfObdd.CompleteExact
import AdfObdd.Reduct
import AdfObdd.CliModel
import AdfObdd.PreGround2
/-! `Adf::stable` and `Adf::stable_with_prefilter` end to end: restricting every condition by the
    candidate's false statements computes the reduct, grounding it computes its least fixpoint,
    the position-wise comparison is the stability test (Reduct.lean); folded over the two-valued iterator
    (C20: every completion of the grounded vector exactly once, a function of its decided part:
    `twoValAll_eq`; their decided parts are the total vectors above it: `twoValAll_dec`,
    `mem_picks_opt2D`) the answers are exactly the stable models, each once. The pre-filter never rejects a stable model. -/
open IterFull CompleteExact

namespace StableExact

theorem total_of_lt2 (c : List Nat) (h : ∀ i, i < c.length → c.getD i 0 < 2) :
    TotalI (c.map storeIsConst) := by
  intro i hi
  have hi' : i < c.length := by simpa using hi
  have h2 := h i hi'
  rw [List.getElem?_map, get?_of_lt c hi', Option.map_some]
  have : c.getD i 0 = 0 ∨ c.getD i 0 = 1 := by omega
  rcases this with e | e
  · exact ⟨false, by rw [e]; rfl⟩
  · exact ⟨true, by rw [e]; rfl⟩

theorem stable_test_spec (s : Store) (n : Nat) (ac cand : List Nat) (hw : WF s) (hn : ac.length = n)
    (hv : ∀ t ∈ ac, t < s.nodes.size) (hcl : cand.length = n)
    (hct : ∀ i, i < cand.length → cand.getD i 0 < 2) :
    let red := mapFalse s cand ac
    let grd := groundedLoop StoreRA (n + 1) red.1 red.2
    WF grd.1 ∧ Ext s grd.1 ∧
    ((cand.zip grd.2).all (fun (a, b) => sameInfo a b) = true ↔
      StableI (ac.map (eval s)) (cand.map storeIsConst)) := by
  have ⟨a, b, _, c⟩ := reductTest_spec s n ac cand hw hn hv hcl rfl rfl
  refine ⟨a, b, c.trans ?_⟩
  rw [StableI_iff (by simp [hcl, hn])]
  exact (and_iff_right (total_of_lt2 cand hct)).symm

theorem completion_refinement {w v : List Nat} (h : isCompletion w v) : isRefinement w v := by
  refine ⟨h.1, ?_⟩
  intro i hi
  have := h.2 i hi
  split at this
  · rename_i hd; rw [if_pos hd]; exact this
  · rename_i hd; rw [if_neg hd]; exact Or.inr this

theorem completion_total {w v : List Nat} (h : isCompletion w v) : ∀ i, i < w.length → w.getD i 0 < 2 := by
  intro i hi
  have := h.2 i (by rw [← h.1]; exact hi)
  split at this <;> omega

/-- the decided parts of what the two-valued iterator may put in place of an entry with decided part `o` -/
def opt2D : Option Bool → List (Option Bool)
  | some b => [some b]
  | none => [some false, some true]

theorem mem_opt2D {a o : Option Bool} : a ∈ opt2D o ↔ a ∈ opt3Of o ∧ a.isSome = true := by
  cases o with
  | some b => simp [opt2D, opt3Of]; intro h; rw [h]; rfl
  | none => cases a with
    | none => simp [opt2D, opt3Of]
    | some c => cases c <;> simp [opt2D, opt3Of]

theorem opt2D_nodup (o : Option Bool) : (opt2D o).Nodup := by
  cases o <;> simp [opt2D]

/-- the handles the two-valued iterator may put in place of an entry with decided part `o` -/
def opt2Of : Option Bool → List Nat
  | some b => [if b then 1 else 0]
  | none => [0, 1]

theorem twoValAll_eq (v : List Nat) : twoValAll v = List.picks opt2Of (v.map storeIsConst) := by
  rw [twoValAll_eq_picks, List.picks_map]
  congr 1; funext t
  match t with
  | 0 => rfl
  | 1 => rfl
  | t + 2 => simp [opt2, isTV, storeIsConst, opt2Of]

theorem twoValAll_dec (v : List Nat) :
    (twoValAll v).map (fun x => x.map storeIsConst) = List.picks opt2D (v.map storeIsConst) := by
  rw [twoValAll_eq, List.map_picks]
  congr 1; funext o
  rcases o with _ | _ | _ <;> rfl

theorem mem_picks_opt2D {d w : I3} : w ∈ List.picks opt2D d ↔ (w.length = d.length ∧ Le3 d w) ∧ TotalI w := by
  rw [← mem_picks_opt3Of, List.mem_picks none none, List.mem_picks none none]
  have tot : ∀ i, i < w.length → ((w.getD i none).isSome = true ↔ ∃ b, w[i]? = some (some b)) := by
    intro i hi
    rw [List.getD_eq_getElem?_getD, List.getElem?_eq_getElem hi]
    cases w[i] <;> simp
  constructor
  · rintro ⟨hl, h⟩
    exact ⟨⟨hl, fun i hi => (mem_opt2D.mp (h i hi)).1⟩,
      fun i hi => (tot i hi).mp (mem_opt2D.mp (h i (hl ▸ hi))).2⟩
  · rintro ⟨⟨hl, h⟩, ht⟩
    exact ⟨hl, fun i hi => mem_opt2D.mpr ⟨h i hi, (tot i (hl ▸ hi)).mpr (ht i (hl ▸ hi))⟩⟩

open Classical in
/-- for any back-end: `g` carries the least fixpoint and `p` decides stability on the completions of `g` -/
theorem stable_answers {D : List BoolFn} {g : List Nat} {n : Nat} (gl : g.length = n)
    (glfp : IsLfp D (g.map storeIsConst)) {p : List Nat → Bool}
    (hp : ∀ c, isCompletion c g → (p c = true ↔ StableI D (c.map storeIsConst))) :
    (((twoValAll g).filter p).map (fun v => v.map storeIsConst)).Nodup ∧
    ∀ v : I3, v ∈ ((twoValAll g).filter p).map (fun v => v.map storeIsConst) ↔
      (v.length = n ∧ StableI D v) := by
  have e := map_filter_dec (f := fun v => v.map storeIsConst) (Q := StableI D)
    fun c m => hp c ((mem_twoValAll g c).mp m)
  rw [twoValAll_dec] at e
  refine ⟨?_, fun w => ?_⟩
  · rw [e]; exact (List.picks_nodup fun o _ => opt2D_nodup o).sublist List.filter_sublist
  · rw [e, List.mem_filter, mem_picks_opt2D, List.length_map, gl, decide_eq_true_iff]
    exact ⟨fun ⟨⟨⟨hl, _⟩, _⟩, hs⟩ => ⟨hl, hs⟩, fun ⟨hl, hs⟩ => ⟨⟨⟨hl, glfp.2 w hs.2.1⟩, hs.1⟩, hs⟩⟩

/-- what both enumerations deliver, given that their loop is the filter by the definition -/
theorem answers_exact (s : Store) (n : Nat) (ac : List Nat) (hw : WF s) (hn : ac.length = n)
    (hv : ∀ t ∈ ac, t < s.nodes.size) (p : List Nat → Bool)
    (hp : ∀ c, p c = true ↔ StableI (ac.map (eval s)) (c.map storeIsConst)) :
    let g := groundedLoop StoreRA (n + 1) s ac
    let out := ((twoValAll g.2).filter p).map (fun v => v.map storeIsConst)
    out.Nodup ∧ ∀ v : I3, v ∈ out ↔ (v.length = n ∧ StableI (ac.map (eval s)) v) :=
  have ⟨_, _, _, gl, glfp⟩ := grounded_store s n ac hw hn hv
  stable_answers gl glfp fun c _ => hp c

open Classical in
/-- the store-independent verdict -/
noncomputable def verdict (D : List BoolFn) (c : List Nat) : Bool := decide (StableI D (c.map storeIsConst))

theorem verdict_iff (D : List BoolFn) (c : List Nat) :
    verdict D c = true ↔ StableI D (c.map storeIsConst) := by
  simp [verdict]

/-- one iteration of the loop of `Adf::stable` -/
def sstep (n : Nat) (ac : List Nat) (acc : Store × List (List Nat)) (cand : List Nat) :
    Store × List (List Nat) :=
  let red := mapFalse acc.1 cand ac
  let grd := groundedLoop StoreRA (n + 1) red.1 red.2
  let ok := (cand.zip grd.2).all (fun (a, b) => sameInfo a b)
  (grd.1, if ok then acc.2 ++ [cand] else acc.2)

/-- one iteration of the loop of `Adf::stable_with_prefilter` -/
def pstep (n : Nat) (ac : List Nat) (acc : Store × List (List Nat)) (cand : List Nat) :
    Store × List (List Nat) :=
  let pre := completeCheck StoreRA acc.1 cand ac cand
  if pre.2 then
    let red := mapFalse pre.1 cand ac
    let grd := groundedLoop StoreRA (n + 1) red.1 red.2
    let ok := (cand.zip grd.2).all (fun (a, b) => sameInfo a b)
    (grd.1, if ok then acc.2 ++ [cand] else acc.2)
  else (pre.1, acc.2)

theorem sstep_spec (s0 : Store) (n : Nat) (ac : List Nat) (hw0 : WF s0) (hn : ac.length = n)
    (hv : ∀ t ∈ ac, t < s0.nodes.size) (acc : Store × List (List Nat)) (cand : List Nat)
    (hcl : cand.length = n) (hct : ∀ i, i < cand.length → cand.getD i 0 < 2)
    (hi : WF acc.1 ∧ Ext s0 acc.1) :
    (WF (sstep n ac acc cand).1 ∧ Ext s0 (sstep n ac acc cand).1) ∧
    (sstep n ac acc cand).2 = if verdict (ac.map (eval s0)) cand then acc.2 ++ [cand] else acc.2 := by
  have hv' : ∀ t ∈ ac, t < acc.1.nodes.size := fun t ht => Nat.lt_of_lt_of_le (hv t ht) hi.2.1
  have ⟨a, b, c⟩ := stable_test_spec acc.1 n ac cand hi.1 hn hv' hcl hct
  rw [map_eval_ext hw0 hi.2 hv, ← verdict_iff] at c
  refine ⟨⟨a, Ext.trans hi.2 b⟩, ?_⟩
  have e := Bool.eq_iff_iff.mpr c
  simp only [sstep, e]

theorem pstep_spec (s0 : Store) (n : Nat) (ac : List Nat) (hw0 : WF s0) (hn : ac.length = n)
    (hv : ∀ t ∈ ac, t < s0.nodes.size) (acc : Store × List (List Nat)) (cand : List Nat)
    (hcl : cand.length = n) (hct : ∀ i, i < cand.length → cand.getD i 0 < 2)
    (hcv : ∀ t ∈ cand, t < s0.nodes.size)
    (hi : WF acc.1 ∧ Ext s0 acc.1) :
    (WF (pstep n ac acc cand).1 ∧ Ext s0 (pstep n ac acc cand).1) ∧
    (pstep n ac acc cand).2 = if verdict (ac.map (eval s0)) cand then acc.2 ++ [cand] else acc.2 := by
  have ⟨p1, p2, p3⟩ := completeCheck_spec StoreRA cand ac cand acc.1 s0 hw0 hi.2 hi.1 hv hcv
    (by omega)
  have hpre : (completeCheck StoreRA acc.1 cand ac cand).2 = true ↔
      Gam (ac.map (eval s0)) (cand.map storeIsConst) = cand.map storeIsConst := by
    rw [CompleteExact.check_indep StoreRA acc.1 s0 ac cand hw0 hi.2 hi.1 hcv hv (by omega)]
    exact complete_filter_iff StoreRA s0 ac cand hw0 hv hcv (by omega)
  fun_cases pstep n ac acc cand with
  | case1 pre hc red grd ok =>
    have l0 : Ext s0 pre.1 := Ext.trans hi.2 p2
    exact sstep_spec s0 n ac hw0 hn hv (pre.1, acc.2) cand hcl hct ⟨p1, l0⟩
  | case2 pre hc =>
    refine ⟨⟨p1, Ext.trans hi.2 p2⟩, ?_⟩
    have : verdict (ac.map (eval s0)) cand = false := by
      cases hvd : verdict (ac.map (eval s0)) cand with
      | false => rfl
      | true => exact absurd (hpre.mpr ((verdict_iff _ _).mp hvd).2.1) hc
    rw [this]; rfl

theorem cand_ok (s : Store) (n : Nat) (g : List Nat) (hs : 2 ≤ s.nodes.size) (hgl : g.length = n)
    (hg : ∀ t ∈ g, t < s.nodes.size) (c : List Nat) (hc : c ∈ twoValAll g) :
    c.length = n ∧ (∀ i, i < c.length → c.getD i 0 < 2) ∧ ∀ t ∈ c, t < s.nodes.size := by
  have h : isCompletion c g := (mem_twoValAll g c).mp hc
  exact ⟨by rw [h.1, hgl], completion_total h, refinement_valid s hs g c hg (completion_refinement h)⟩

/-- the stability filter from any extension `acc` of `s`, over any candidates of the right shape -/
theorem sstep_fold_filter (s : Store) (n : Nat) (ac : List Nat) (hw : WF s) (hn : ac.length = n)
    (hv : ∀ t ∈ ac, t < s.nodes.size) (cands : List (List Nat))
    (hc : ∀ c ∈ cands, c.length = n ∧ ∀ i, i < c.length → c.getD i 0 < 2) (acc : Store) (ha : WF acc ∧ Ext s acc) :
    (WF (cands.foldl (sstep n ac) (acc, [])).1 ∧ Ext s (cands.foldl (sstep n ac) (acc, [])).1) ∧
    (cands.foldl (sstep n ac) (acc, [])).2 = cands.filter (verdict (ac.map (eval s))) := by
  have key := fold_filter (fun t => WF t ∧ Ext s t) (verdict (ac.map (eval s))) (sstep n ac) cands
    (fun acc c hc' hi => sstep_spec s n ac hw hn hv acc c (hc c hc').1 (hc c hc').2 hi) (acc, []) ha
  exact ⟨key.1, by simpa using key.2⟩

theorem stableAll_filter (s : Store) (n : Nat) (ac : List Nat) (hw : WF s) (hn : ac.length = n)
    (hv : ∀ t ∈ ac, t < s.nodes.size) :
    (WF (stableAll s n ac).1 ∧ Ext s (stableAll s n ac).1) ∧
    (stableAll s n ac).2 =
      (twoValAll (groundedLoop StoreRA (n + 1) s ac).2).filter (verdict (ac.map (eval s))) :=
  have ⟨gi, gle, gv, hglen, _⟩ := grounded_store s n ac hw hn hv
  sstep_fold_filter s n ac hw hn hv _ (fun c hc => have ⟨a, b, _⟩ := cand_ok _ n _ gi.len hglen gv c hc; ⟨a, b⟩)
    _ ⟨gi, gle⟩

theorem stableAll_exact (s : Store) (n : Nat) (ac : List Nat) (hw : WF s) (hn : ac.length = n)
    (hv : ∀ t ∈ ac, t < s.nodes.size) :
    ((stableAll s n ac).2.map fun v => v.map storeIsConst).Nodup ∧
    ∀ v : I3, v ∈ (stableAll s n ac).2.map (fun v => v.map storeIsConst) ↔
      (v.length = n ∧ StableI (ac.map (eval s)) v) := by
  rw [(stableAll_filter s n ac hw hn hv).2]
  exact answers_exact s n ac hw hn hv _ (verdict_iff _)

theorem stablePre_filter (s : Store) (n : Nat) (ac : List Nat) (hw : WF s) (hn : ac.length = n)
    (hv : ∀ t ∈ ac, t < s.nodes.size) :
    (WF (Cli.stablePre s n ac).1 ∧ Ext s (Cli.stablePre s n ac).1) ∧
    (Cli.stablePre s n ac).2 =
      (twoValAll (groundedLoop StoreRA (n + 1) s ac).2).filter (verdict (ac.map (eval s))) := by
  have ⟨gi, gle, gv, hglen, _⟩ := grounded_store s n ac hw hn hv
  -- the loop runs on the store after grounding; verdicts are those of `s`
  have hac : ∀ t ∈ ac, t < (groundedLoop StoreRA (n + 1) s ac).1.nodes.size :=
    fun t ht => Nat.lt_of_lt_of_le (hv t ht) gle.1
  have hD := map_eval_ext hw gle hv
  have key := fold_filter (fun t => WF t ∧ Ext (groundedLoop StoreRA (n + 1) s ac).1 t)
    (verdict (ac.map (eval s))) (pstep n ac)
    (twoValAll (groundedLoop StoreRA (n + 1) s ac).2)
    (fun acc c hc hi => by
      have ⟨a, b, d⟩ := cand_ok _ n _ gi.len hglen gv c hc
      have := pstep_spec _ n ac gi hn hac acc c a b d hi
      rw [hD] at this; exact this)
    ((groundedLoop StoreRA (n + 1) s ac).1, []) ⟨gi, Ext.refl _⟩
  have e : Cli.stablePre s n ac = (twoValAll (groundedLoop StoreRA (n + 1) s ac).2).foldl (pstep n ac)
      ((groundedLoop StoreRA (n + 1) s ac).1, []) := rfl
  rw [e]
  exact ⟨⟨key.1.1, Ext.trans gle key.1.2⟩, by simpa using key.2⟩

end StableExact
