import AdfObdd.Base
/-! The counting-guided search exactly as `two_val_model_counts_logic` runs it, as a generic machine.
    `GS.search` of `CountSearchS.lean` is the instance with one partial assignment per leaf; beyond `GS`:

    * the leaf runs in the store too (`apply_interpretation` on the conditions) and returns a *list*
      of concrete outputs of an arbitrary type `O`;
    * cubes have an arbitrary type `K` (the code's pairs of negative / positive variable lists);
    * states and outputs are observed through *regions* `Reg c σ`, `RegO o σ` (sets of total
      assignments) and a measure `mu`, instead of through a partial assignment — this lets an instance
      restrict regions to assignments that are `false` outside the statement range;
    * outputs carry a predicate `Good` established at the leaves;
    * the laws of the cube step are only demanded for cubes of the enumerated list.

    The executable part (`CParams`, `search`) has no propositional fields, the view used by the
    proofs is a separate structure. Imports nothing but `Base`, so the driver can run it.

    `search_spec` is proved by composing specifications relative to a region (`SpecOn`): a branch delivers its
    part of the region, `SpecOn.append` puts disjoint parts side by side. -/
namespace GK

structure CParams (S C K O : Type) where
  pick : S → C → Option Nat
  goal : S → C → Nat → Bool
  cubes : S → C → Nat → Bool → List K
  cubeStep : S → C → Nat → Bool → K → S × Option C
  flipStep : S → C → Nat → Bool → S × Option C
  leaf : S → C → S × List O

variable {S C K O : Type}

def cubeLoop (P : CParams S C K O) (rec : S → C → S × List O) (c : C) (idx : Nat) (g : Bool) :
    List K → S → S × List O
  | [], s => (s, [])
  | cu :: cus, s =>
    let r := P.cubeStep s c idx g cu
    let here := match r.2 with
      | some c' => rec r.1 c'
      | none => (r.1, [])
    let rest := cubeLoop P rec c idx g cus here.1
    (rest.1, here.2 ++ rest.2)

def search (P : CParams S C K O) : Nat → S → C → S × List O
  | 0, s, _ => (s, [])
  | fuel+1, s, c =>
    match P.pick s c with
    | none => P.leaf s c
    | some idx =>
      let g := P.goal s c idx
      let r1 := cubeLoop P (fun s' c' => search P fuel s' c') c idx g (P.cubes s c idx g) s
      let f := P.flipStep r1.1 c idx g
      match f.2 with
      | some c' => let r2 := search P fuel f.1 c'; (r2.1, r1.2 ++ r2.2)
      | none => (f.1, r1.2)

/-- how the proofs look at states, cubes and outputs: `Reg c`, `RegO o` are the total assignments a state, an output
stands for, `InK cu` those a cube admits; `mu` measures what a state has decided, `n` bounds it; `Inv s c` is what the
steps need of a state in a store and is kept when the store grows along `Le` -/
structure View (S C K O : Type) where
  n : Nat
  mu : C → Nat
  Reg : C → Asg → Prop
  RegO : O → Asg → Prop
  InK : K → Asg → Prop
  Good : O → Prop
  Inv : S → C → Prop
  Le : S → S → Prop

def DisjO (V : View S C K O) (o o' : O) : Prop := ∀ σ, ¬ (V.RegO o σ ∧ V.RegO o' σ)

/-- what a (sub)search delivers -/
structure Spec (T : Asg → Prop) (V : View S C K O) (s : S) (c : C) (r : S × List O) : Prop where
  le : V.Le s r.1
  cover : ∀ σ, T σ → V.Reg c σ → ∃ o ∈ r.2, V.RegO o σ
  sound : ∀ o ∈ r.2, ∀ σ, V.RegO o σ → V.Reg c σ
  disj : r.2.Pairwise (DisjO V)
  good : ∀ o ∈ r.2, V.Good o

structure CSound (T : Asg → Prop) (P : CParams S C K O) (V : View S C K O) : Prop where
  le_refl : ∀ s, V.Le s s
  le_trans : ∀ s s' s'', V.Le s s' → V.Le s' s'' → V.Le s s''
  inv_mono : ∀ s s' c, V.Inv s c → V.Le s s' → V.Inv s' c
  bound : ∀ s c, V.Inv s c → P.pick s c ≠ none → V.mu c < V.n
  leaf_law : ∀ s c, V.Inv s c → P.pick s c = none → Spec T V s c (P.leaf s c)
  cube_cover : ∀ s c idx, V.Inv s c → P.pick s c = some idx → ∀ σ, T σ → V.Reg c σ →
      σ idx = P.goal s c idx → ∃ cu ∈ P.cubes s c idx (P.goal s c idx), V.InK cu σ
  cube_disj : ∀ s c idx, V.Inv s c → P.pick s c = some idx →
      (P.cubes s c idx (P.goal s c idx)).Pairwise (fun cu cu' => ∀ σ, ¬ (V.InK cu σ ∧ V.InK cu' σ))
  /-- a cube step taken later, in any extension `s` of the store `s0` in which the branching
  decision was made -/
  cube_step : ∀ s0 s c idx cu, V.Inv s0 c → P.pick s0 c = some idx → V.Le s0 s →
      cu ∈ P.cubes s0 c idx (P.goal s0 c idx) →
      V.Le s (P.cubeStep s c idx (P.goal s0 c idx) cu).1 ∧
      (∀ c', (P.cubeStep s c idx (P.goal s0 c idx) cu).2 = some c' →
        V.Inv (P.cubeStep s c idx (P.goal s0 c idx) cu).1 c' ∧ V.mu c < V.mu c' ∧
        (∀ σ, V.Reg c' σ → V.Reg c σ ∧ V.InK cu σ ∧ σ idx = P.goal s0 c idx) ∧
        (∀ σ, T σ → V.Reg c σ → V.InK cu σ → σ idx = P.goal s0 c idx → V.Reg c' σ)) ∧
      ((P.cubeStep s c idx (P.goal s0 c idx) cu).2 = none →
        ∀ σ, T σ → V.Reg c σ → V.InK cu σ → σ idx = P.goal s0 c idx → False)
  flip_step : ∀ s0 s c idx, V.Inv s0 c → P.pick s0 c = some idx → V.Le s0 s →
      V.Le s (P.flipStep s c idx (P.goal s0 c idx)).1 ∧
      (∀ c', (P.flipStep s c idx (P.goal s0 c idx)).2 = some c' →
        V.Inv (P.flipStep s c idx (P.goal s0 c idx)).1 c' ∧ V.mu c < V.mu c' ∧
        (∀ σ, V.Reg c' σ → V.Reg c σ ∧ σ idx = !P.goal s0 c idx) ∧
        (∀ σ, T σ → V.Reg c σ → σ idx = (!P.goal s0 c idx) → V.Reg c' σ)) ∧
      ((P.flipStep s c idx (P.goal s0 c idx)).2 = none →
        ∀ σ, T σ → V.Reg c σ → σ idx = (!P.goal s0 c idx) → False)

variable {T : Asg → Prop} {P : CParams S C K O} {V : View S C K O}

def branch (rec : S → C → S × List O) (r : S × Option C) : S × List O :=
  match r.2 with
  | some c' => rec r.1 c'
  | none => (r.1, [])

theorem cubeLoop_cons (P : CParams S C K O) (rec : S → C → S × List O) (c : C) (idx : Nat) (g : Bool) (cu : K)
    (cus : List K) (s : S) :
    cubeLoop P rec c idx g (cu :: cus) s =
      let here := branch rec (P.cubeStep s c idx g cu)
      let rest := cubeLoop P rec c idx g cus here.1
      (rest.1, here.2 ++ rest.2) := rfl

theorem search_succ_none {fuel : Nat} {s : S} {c : C} (hp : P.pick s c = none) :
    search P (fuel + 1) s c = P.leaf s c := by
  simp only [search, hp]

theorem search_succ_some {fuel : Nat} {s : S} {c : C} {idx : Nat} (hp : P.pick s c = some idx) :
    search P (fuel + 1) s c =
      let g := P.goal s c idx
      let r₁ := cubeLoop P (search P fuel) c idx g (P.cubes s c idx g) s
      let r₂ := branch (search P fuel) (P.flipStep r₁.1 c idx g)
      (r₂.1, r₁.2 ++ r₂.2) := by
  simp only [search, hp, branch]
  generalize cubeLoop P (search P fuel) c idx (P.goal s c idx) (P.cubes s c idx (P.goal s c idx)) s = r₁
  cases (P.flipStep r₁.1 c idx (P.goal s c idx)).2 with
  | some c' => rfl
  | none => simp only [List.append_nil]

structure SpecOn (T : Asg → Prop) (V : View S C K O) (Q : Asg → Prop) (s : S) (r : S × List O) : Prop where
  le : V.Le s r.1
  cover : ∀ σ, T σ → Q σ → ∃ o ∈ r.2, V.RegO o σ
  sound : ∀ o ∈ r.2, ∀ σ, V.RegO o σ → Q σ
  disj : r.2.Pairwise (DisjO V)
  good : ∀ o ∈ r.2, V.Good o

theorem specOn_reg_iff {s : S} {c : C} {r : S × List O} : SpecOn T V (V.Reg c) s r ↔ Spec T V s c r :=
  ⟨fun h => ⟨h.le, h.cover, h.sound, h.disj, h.good⟩, fun h => ⟨h.le, h.cover, h.sound, h.disj, h.good⟩⟩

theorem SpecOn.empty {Q : Asg → Prop} {s s' : S} (hle : V.Le s s') (hQ : ∀ σ, T σ → Q σ → False) :
    SpecOn T V Q s (s', []) :=
  ⟨hle, fun σ t q => (hQ σ t q).elim, fun _ ho => (List.not_mem_nil ho).elim, List.Pairwise.nil,
    fun _ ho => (List.not_mem_nil ho).elim⟩

theorem SpecOn.weaken {Q Q' : Asg → Prop} {s : S} {r : S × List O} (h : SpecOn T V Q s r)
    (hc : ∀ σ, T σ → Q' σ → Q σ) (hs : ∀ σ, Q σ → Q' σ) : SpecOn T V Q' s r :=
  ⟨h.le, fun σ t q => h.cover σ t (hc σ t q), fun o ho σ m => hs σ (h.sound o ho σ m), h.disj, h.good⟩

theorem SpecOn.append (hP : CSound T P V) {Q₁ Q₂ : Asg → Prop} {s : S} {r₁ r₂ : S × List O}
    (h₁ : SpecOn T V Q₁ s r₁) (h₂ : SpecOn T V Q₂ r₁.1 r₂) (hd : ∀ σ, Q₁ σ → Q₂ σ → False) :
    SpecOn T V (fun σ => Q₁ σ ∨ Q₂ σ) s (r₂.1, r₁.2 ++ r₂.2) where
  le := hP.le_trans _ _ _ h₁.le h₂.le
  cover := by
    rintro σ t (q | q)
    · obtain ⟨o, ho, mo⟩ := h₁.cover σ t q
      exact ⟨o, List.mem_append_left _ ho, mo⟩
    · obtain ⟨o, ho, mo⟩ := h₂.cover σ t q
      exact ⟨o, List.mem_append_right _ ho, mo⟩
  sound := fun o ho σ m => (List.mem_append.mp ho).imp (h₁.sound o · σ m) (h₂.sound o · σ m)
  disj := List.pairwise_append.mpr
    ⟨h₁.disj, h₂.disj, fun o ho o' ho' σ ⟨m, m'⟩ => hd σ (h₁.sound o ho σ m) (h₂.sound o' ho' σ m')⟩
  good := fun o ho => (List.mem_append.mp ho).elim (h₁.good o) (h₂.good o)

/-- one branch, in the form in which the laws describe the cube step and the flip step: `Q` is the part of the
region of `c` that the step is responsible for -/
theorem branch_spec (hP : CSound T P V) {rec : S → C → S × List O} {c : C} {Q : Asg → Prop} {s : S}
    {r : S × Option C} (hrec : ∀ s' c', V.Inv s' c' → V.mu c < V.mu c' → Spec T V s' c' (rec s' c'))
    (hle : V.Le s r.1)
    (hsome : ∀ c', r.2 = some c' →
      V.Inv r.1 c' ∧ V.mu c < V.mu c' ∧ (∀ σ, V.Reg c' σ → Q σ) ∧ (∀ σ, T σ → Q σ → V.Reg c' σ))
    (hnone : r.2 = none → ∀ σ, T σ → Q σ → False) : SpecOn T V Q s (branch rec r) := by
  unfold branch
  split
  next c' hc =>
    have ⟨hi, hmu, hs, hc'⟩ := hsome c' hc
    have sp := (specOn_reg_iff.mpr (hrec r.1 c' hi hmu)).weaken hc' hs
    exact { sp with le := hP.le_trans _ _ _ hle sp.le }
  next hc => exact SpecOn.empty hle (hnone hc)

section
variable (hP : CSound T P V) {rec : S → C → S × List O} {s0 s : S} {c : C} {idx : Nat}
  (hinv : V.Inv s0 c) (hp : P.pick s0 c = some idx)
  (hrec : ∀ s' c', V.Inv s' c' → V.mu c < V.mu c' → Spec T V s' c' (rec s' c'))
include hP hinv hp hrec

theorem cube_branch (hle : V.Le s0 s) {cu : K} (hmem : cu ∈ P.cubes s0 c idx (P.goal s0 c idx)) :
    SpecOn T V (fun σ => V.Reg c σ ∧ V.InK cu σ ∧ σ idx = P.goal s0 c idx) s
      (branch rec (P.cubeStep s c idx (P.goal s0 c idx) cu)) :=
  have ⟨st1, st2, st3⟩ := hP.cube_step s0 s c idx cu hinv hp hle hmem
  branch_spec hP hrec st1
    (fun c' hc => let ⟨i1, i2, i3, i4⟩ := st2 c' hc; ⟨i1, i2, i3, fun σ t q => i4 σ t q.1 q.2.1 q.2.2⟩)
    (fun hc σ t q => st3 hc σ t q.1 q.2.1 q.2.2)

theorem flip_branch (hle : V.Le s0 s) :
    SpecOn T V (fun σ => V.Reg c σ ∧ σ idx = !P.goal s0 c idx) s (branch rec (P.flipStep s c idx (P.goal s0 c idx))) :=
  have ⟨f1, f2, f3⟩ := hP.flip_step s0 s c idx hinv hp hle
  branch_spec hP hrec f1
    (fun c' hc => let ⟨i1, i2, i3, i4⟩ := f2 c' hc; ⟨i1, i2, i3, fun σ t q => i4 σ t q.1 q.2⟩)
    (fun hc σ t q => f3 hc σ t q.1 q.2)

theorem cubeLoop_spec :
    ∀ (l : List K) (s : S), V.Le s0 s → (∀ cu ∈ l, cu ∈ P.cubes s0 c idx (P.goal s0 c idx)) →
      l.Pairwise (fun cu cu' => ∀ σ, ¬ (V.InK cu σ ∧ V.InK cu' σ)) →
      SpecOn T V (fun σ => V.Reg c σ ∧ σ idx = P.goal s0 c idx ∧ ∃ cu ∈ l, V.InK cu σ) s
        (cubeLoop P rec c idx (P.goal s0 c idx) l s)
  | [], s, _, _, _ => SpecOn.empty (hP.le_refl s) (fun _ _ ⟨_, _, _, h, _⟩ => nomatch h)
  | cu :: cus, s, hle, hmem, hpw => by
    have ⟨hcu, hcus⟩ := List.pairwise_cons.mp hpw
    have here := cube_branch hP hinv hp hrec hle (hmem cu (List.mem_cons_self ..))
    have rest := cubeLoop_spec cus _ (hP.le_trans _ _ _ hle here.le)
      (fun cu' h => hmem cu' (List.mem_cons_of_mem _ h)) hcus
    rw [cubeLoop_cons]
    refine (here.append hP rest ?_).weaken ?_ ?_
    · rintro σ ⟨_, ic, _⟩ ⟨_, _, cu', hcu', ic'⟩
      exact hcu cu' hcu' σ ⟨ic, ic'⟩
    · rintro σ _ ⟨m, hv, cu', hcu', ic⟩
      rcases List.mem_cons.mp hcu' with rfl | h
      · exact Or.inl ⟨m, ic, hv⟩
      · exact Or.inr ⟨m, hv, cu', h, ic⟩
    · rintro σ (⟨m, ic, hv⟩ | ⟨m, hv, cu', hcu', ic⟩)
      · exact ⟨m, hv, cu, List.mem_cons_self .., ic⟩
      · exact ⟨m, hv, cu', List.mem_cons_of_mem _ hcu', ic⟩

end

/-- C04 core on the machine of the code: store only extended, complete, sound, pairwise disjoint
outputs, every output good — for fuel above `n - mu c` -/
theorem search_spec (hP : CSound T P V) : ∀ (fuel : Nat) (s : S) (c : C), V.Inv s c →
    V.n - V.mu c < fuel → Spec T V s c (search P fuel s c) := by
  intro fuel
  induction fuel with
  | zero => intro s c _ h; omega
  | succ f ih =>
    intro s c hinv hf
    cases hp : P.pick s c with
    | none => rw [search_succ_none hp]; exact hP.leaf_law s c hinv hp
    | some idx =>
      have hb := hP.bound s c hinv (by rw [hp]; simp)
      have hrec : ∀ s' c', V.Inv s' c' → V.mu c < V.mu c' → Spec T V s' c' (search P f s' c') :=
        fun s' c' hi hd => ih s' c' hi (by omega)
      have cubes := cubeLoop_spec hP hinv hp hrec (P.cubes s c idx (P.goal s c idx)) s
        (hP.le_refl s) (fun _ h => h) (hP.cube_disj s c idx hinv hp)
      have flip := flip_branch hP hinv hp hrec cubes.le
      rw [search_succ_some hp]
      refine specOn_reg_iff.mp ((cubes.append hP flip ?_).weaken ?_ ?_)
      · rintro σ ⟨_, hv, _⟩ ⟨_, hv'⟩
        rw [hv] at hv'
        exact (Bool.eq_not_self _).mp hv'
      · -- a target with the goal value lies in a cube, every other one in the flip branch
        intro σ t m
        by_cases hv : σ idx = P.goal s c idx
        · exact Or.inl ⟨m, hv, hP.cube_cover s c idx hinv hp σ t m hv⟩
        · exact Or.inr ⟨m, Bool.eq_not_of_ne hv⟩
      · rintro σ (⟨m, _⟩ | ⟨m, _⟩) <;> exact m
end GK
