import AdfObdd.Base
/-! nogoods (`nogoods.rs`): `conclude`, `is_violating`, and `conclusions` on the store as repaired (D8a: the test of
    the fold; D10: bucket `k` holds the nogoods of size `k`). `bucketStep` / `conclusions` are a closed form; the
    line-by-line model is `bucketStepR` / `conclusionsR` in `NgStore.lean` (`conclusionsR_eq`). -/

abbrev PA := List (Option Bool)          -- partial assignment / nogood / interpretation

def pget (g : PA) (i : Nat) : Option Bool := (g[i]?).getD none

def size (g : PA) : Nat := (g.filter Option.isSome).length

/-- `self.active \ other.active` -/
def implPos (self other : PA) : List Nat :=
  (List.range self.length).filter (fun i => (pget self i).isSome && (pget other i).isNone)

/-- both active, different value -/
def mismatch (self other : PA) : Bool :=
  (List.range self.length).any (fun i =>
    match pget self i, pget other i with
    | some a, some b => a != b
    | _, _ => false)

def conclude (self other : PA) : Option (Nat × Bool) :=
  match implPos self other with
  | [p] => if mismatch self other then none else
            match pget self p with
            | some v => some (p, !v)
            | none => none
  | _ => none

/-- `self.is_violating(other)`: every assignment of `self` is matched by `other` -/
def violating (self other : PA) : Bool :=
  (List.range self.length).all (fun i =>
    match pget self i with
    | none => true
    | some a => pget other i == some a)

def Matches (g : PA) (σ : Asg) : Prop := ∀ i b, pget g i = some b → σ i = b

theorem pget_of_le {g : PA} {i : Nat} (h : g.length ≤ i) : pget g i = none := by
  unfold pget; rw [List.getElem?_eq_none h]; rfl

theorem pget_lt {g : PA} {i : Nat} {b : Bool} (h : pget g i = some b) : i < g.length :=
  Nat.lt_of_not_le fun hle => by rw [pget_of_le hle] at h; cases h

theorem pget_eq_some {g : PA} {i : Nat} {b : Bool} : pget g i = some b ↔ g[i]? = some (some b) := by
  unfold pget
  cases g[i]? <;> simp

theorem pget_of_get {g : PA} {i : Nat} {x : Option Bool} (h : g[i]? = some x) : pget g i = x := by
  unfold pget; rw [h]; rfl

theorem all_decided_iff (g : PA) {f : Nat → Bool → Bool} {P : Nat → Bool → Prop}
    (hf : ∀ i a, pget g i = some a → (f i a = true ↔ P i a)) :
    (List.range g.length).all (fun i => match pget g i with | none => true | some a => f i a) = true ↔
      ∀ i a, pget g i = some a → P i a := by
  rw [List.all_eq_true]
  constructor
  · intro h i a hi
    have := h i (List.mem_range.mpr (pget_lt hi))
    rw [hi] at this
    exact (hf i a hi).mp this
  · intro h i _
    split
    · rfl
    next a hg => exact (hf i a hg).mpr (h i a hg)

theorem violating_iff (self other : PA) :
    violating self other = true ↔ ∀ i a, pget self i = some a → pget other i = some a :=
  all_decided_iff self fun _ _ _ => beq_iff_eq

/-- the right-hand side is `Closed self other` of `NgHalt.lean` -/
theorem mismatch_iff (self other : PA) :
    mismatch self other = true ↔ ∃ i c, pget self i = some c ∧ pget other i = some (!c) := by
  unfold mismatch
  rw [List.any_eq_true]
  constructor
  · rintro ⟨i, _, h⟩
    split at h
    next a b ha hb => exact ⟨i, a, ha, by rw [hb, Bool.eq_not_of_ne (bne_iff_ne.mp h).symm]⟩
    next => cases h
  · rintro ⟨i, c, ha, hb⟩
    refine ⟨i, List.mem_range.mpr (pget_lt ha), ?_⟩
    rw [ha, hb]; cases c <;> rfl

theorem mismatch_false {self other : PA} (h : mismatch self other = false) :
    ∀ i a b, pget self i = some a → pget other i = some b → a = b := by
  intro i a b ha hb
  false_or_by_contra
  rename_i hne
  have := (mismatch_iff self other).mpr ⟨i, a, ha, by rw [hb, Bool.eq_not_of_ne (Ne.symm hne)]⟩
  rw [h] at this; cases this

theorem implPos_mem {self other : PA} {i : Nat} :
    i ∈ implPos self other ↔ (pget self i).isSome = true ∧ pget other i = none := by
  unfold implPos
  rw [List.mem_filter, List.mem_range]
  constructor
  · intro ⟨_, h⟩
    simp only [Bool.and_eq_true] at h
    exact ⟨h.1, by simpa using h.2⟩
  · intro ⟨h1, h2⟩
    refine ⟨?_, by simp [h1, h2]⟩
    cases hg : pget self i with
    | none => simp [hg] at h1
    | some a => exact pget_lt hg

theorem conclude_some {self other : PA} {p : Nat} {b : Bool} (h : conclude self other = some (p, b)) :
    implPos self other = [p] ∧ mismatch self other = false ∧ pget self p = some (!b) := by
  revert h
  fun_cases conclude self other with
  | case1 => nofun
  | case2 p' hp hmm v hv =>
    intro h
    cases h
    exact ⟨hp, by simpa using hmm, by simp [hv]⟩
  | case3 => nofun
  | case4 => nofun

/-- a conclusion is forced: every total assignment that extends `other` and does not
match the nogood `self` gives the concluded value. -/
theorem conclude_sound {self other : PA} {p : Nat} {b : Bool} (h : conclude self other = some (p, b))
    (σ : Asg) (hm : Matches other σ) (hav : ¬ Matches self σ) : σ p = b := by
  have ⟨hp, hmm, hv⟩ := conclude_some h
  false_or_by_contra
  rename_i hne
  apply hav
  intro i a hi
  by_cases hip : i = p
  · subst hip
    rw [hv] at hi; cases hi
    exact Bool.eq_not_of_ne hne
  · cases ho : pget other i with
    | some c =>
      have := mismatch_false hmm i a c hi ho
      subst this
      exact hm i a ho
    | none =>
      have : i ∈ implPos self other := implPos_mem.mpr ⟨by simp [hi], ho⟩
      rw [hp] at this
      simp at this
      exact absurd this hip

def setAt (g : PA) (i : Nat) (v : Bool) : PA :=
  if i < g.length then g.set i (some v) else g ++ List.replicate (i - g.length) none ++ [some v]

theorem pget_setAt (g : PA) (i j : Nat) (v : Bool) :
    pget (setAt g i v) j = if j = i then some v else pget g j := by
  unfold pget
  fun_cases setAt g i v with
  | case1 h =>
    by_cases hj : j = i
    · subst hj; simp [h]
    · rw [if_neg hj, List.getElem?_set_ne (Ne.symm hj)]
  | case2 h =>
    by_cases hj : j = i
    · subst hj
      rw [if_pos rfl]
      have : (g ++ List.replicate (j - g.length) none).length = j := by simp; omega
      rw [List.getElem?_append_right (by omega)]
      simp [this]
    · rw [if_neg hj]
      rcases Nat.lt_or_ge j g.length with h1 | h1
      · rw [List.append_assoc, List.getElem?_append_left h1]
      · rw [List.getElem?_eq_none h1]
        rcases Nat.lt_or_ge j i with h2 | h2
        · rw [List.getElem?_append_left (by simp; omega), List.getElem?_append_right h1]
          simp only [List.getElem?_replicate]
          split <;> rfl
        · rw [List.getElem?_eq_none (by simp; omega)]

theorem matches_setAt {A : PA} {v : Nat} {b : Bool} {σ : Asg} (hm : Matches A σ) (hv : σ v = b) :
    Matches (setAt A v b) σ := by
  intro i c hi
  rw [pget_setAt] at hi
  by_cases e : i = v
  · rw [if_pos e] at hi; cases hi; rw [e]; exact hv
  · rw [if_neg e] at hi; exact hm i c hi

theorem matches_of_setAt {A : PA} {v : Nat} {b : Bool} {σ : Asg} (hn : pget A v = none)
    (hm : Matches (setAt A v b) σ) : Matches A σ := by
  intro i c hi
  apply hm i c
  rw [pget_setAt]
  have : i ≠ v := by intro e; rw [e, hn] at hi; cases hi
  rw [if_neg this]; exact hi

def consistentPairs (ps : List (Nat × Bool)) : Bool :=
  ps.all (fun x => ps.all (fun y => x.1 != y.1 || x.2 == y.2))

def mergePairs (acc : PA) (ps : List (Nat × Bool)) : PA := ps.foldl (fun a x => setAt a x.1 x.2) acc

/-- one bucket of the `filter_map` / `try_fold` of `conclusions`: a bucket that concludes nothing, or whose conclusions
contradict each other, is skipped (`try_from_pair_iter` answers `None` and `filter_map` drops it); a conclusion opposite
to a value already in `acc` aborts (the `bitand` / `bitxor` test) -/
def bucketStep (interp : PA) (acc : Option PA) (bucket : List PA) : Option PA :=
  match acc with
  | none => none
  | some acc =>
    let pairs := bucket.filterMap (fun g => conclude g interp)
    if pairs.isEmpty || !consistentPairs pairs then some acc
    else if pairs.any (fun x => pget acc x.1 == some (!x.2)) then none
    else some (mergePairs acc pairs)

/-- the buckets `conclusions` looks at: bucket `k` holds the nogoods of size `k` (repaired
indexing, D10), and the filter `*len <= nogood.len() + 1` keeps the indices `0 … size interp + 1`,
i.e. the first `size interp + 2` buckets (`relevant_eq_filter` in `NgStore.lean` states the
equality with the enumerate/filter form of the code) -/
def relevant (store : List (List PA)) (interp : PA) : List (List PA) := store.take (size interp + 2)

def conclusions (store : List (List PA)) (interp : PA) : Option PA :=
  match (relevant store interp).foldl (bucketStep interp) (some interp) with
  | none => none
  | some result =>
    if (relevant store interp).any (fun b => b.any (fun e => violating e result || violating e interp))
    then none else some result

def AvoidsAll (store : List (List PA)) (σ : Asg) : Prop := ∀ b ∈ store, ∀ g ∈ b, ¬ Matches g σ

structure Forced (store : List (List PA)) (interp acc : PA) : Prop where
  keep : ∀ i b, pget interp i = some b → pget acc i = some b
  forced : ∀ σ, Matches interp σ → AvoidsAll store σ → Matches acc σ

theorem relevant_sub {store : List (List PA)} {interp : PA} {b : List PA}
    (h : b ∈ relevant store interp) : b ∈ store := by
  exact List.mem_of_mem_take h

def ForcedLit (store : List (List PA)) (interp : PA) (x : Nat × Bool) : Prop :=
  pget interp x.1 = none ∧ ∀ σ, Matches interp σ → AvoidsAll store σ → σ x.1 = x.2

theorem merge_forced {store : List (List PA)} {interp : PA} (ps : List (Nat × Bool)) (acc : PA)
    (h : Forced store interp acc) (hx : ∀ x ∈ ps, ForcedLit store interp x) :
    Forced store interp (mergePairs acc ps) := by
  refine List.foldlRecOn (motive := Forced store interp) ps _ h fun a ha x hxm => ?_
  have ⟨hn, hf⟩ := hx x hxm
  constructor
  · intro i b hi
    rw [pget_setAt]
    have : i ≠ x.1 := by intro e; rw [e, hn] at hi; cases hi
    rw [if_neg this]; exact ha.keep i b hi
  · exact fun σ hm hav => matches_setAt (ha.forced σ hm hav) (hf σ hm hav)

theorem pairs_forced {store : List (List PA)} {interp : PA} {bucket : List PA} (hb : bucket ∈ store) :
    ∀ x ∈ bucket.filterMap (fun g => conclude g interp), ForcedLit store interp x := by
  intro x hx
  rw [List.mem_filterMap] at hx
  obtain ⟨g, hg, hc⟩ := hx
  have ⟨hp, _, _⟩ := conclude_some (p := x.1) (b := x.2) hc
  have hmem : x.1 ∈ implPos g interp := by rw [hp]; simp
  refine ⟨(implPos_mem.mp hmem).2, ?_⟩
  intro σ hm ha
  exact conclude_sound (p := x.1) (b := x.2) hc σ hm (ha bucket hb g hg)

theorem bucketStep_spec {store : List (List PA)} {interp : PA} {bucket : List PA} (hb : bucket ∈ store)
    (acc : PA) (h : Forced store interp acc) :
    (∀ r, bucketStep interp (some acc) bucket = some r → Forced store interp r) ∧
    (bucketStep interp (some acc) bucket = none → ∀ σ, Matches interp σ → ¬ AvoidsAll store σ) := by
  unfold bucketStep
  simp only
  have hpf := pairs_forced (interp := interp) hb
  generalize bucket.filterMap (fun g => conclude g interp) = pairs at *
  by_cases c1 : (pairs.isEmpty || !consistentPairs pairs) = true
  · rw [if_pos c1]
    exact ⟨(fun r hr => by cases hr; exact h), (fun hn => by cases hn)⟩
  · rw [if_neg c1]
    by_cases c2 : pairs.any (fun x => pget acc x.1 == some (!x.2)) = true
    · rw [if_pos c2]
      refine ⟨(fun r hr => by cases hr), fun _ σ hm ha => ?_⟩
      rw [List.any_eq_true] at c2
      obtain ⟨x, hx, hc⟩ := c2
      have hacc : pget acc x.1 = some (!x.2) := by simpa using hc
      have h1 := (hpf x hx).2 σ hm ha
      have h2 := h.forced σ hm ha x.1 _ hacc
      rw [h1] at h2
      cases hx2 : x.2 <;> simp [hx2] at h2
    · rw [if_neg c2]
      exact ⟨(fun r hr => by cases hr; exact merge_forced pairs acc h hpf), (fun hn => by cases hn)⟩

theorem fold_spec {store : List (List PA)} {interp : PA} (bs : List (List PA)) (hbs : ∀ b ∈ bs, b ∈ store)
    (acc : PA) (h : Forced store interp acc) :
    (∀ r, bs.foldl (bucketStep interp) (some acc) = some r → Forced store interp r) ∧
    (bs.foldl (bucketStep interp) (some acc) = none → ∀ σ, Matches interp σ → ¬ AvoidsAll store σ) := by
  refine List.foldlRecOn (motive := fun o => (∀ r, o = some r → Forced store interp r) ∧
      (o = none → ∀ σ, Matches interp σ → ¬ AvoidsAll store σ)) bs _
    ⟨fun r hr => by cases hr; exact h, nofun⟩ fun o ih b hb => ?_
  cases o with
  | none => exact ⟨fun r hr => (by cases hr), fun _ => ih.2 rfl⟩
  | some a => exact bucketStep_spec (hbs b hb) a (ih.1 a rfl)

theorem conclusions_sound (store : List (List PA)) (interp : PA) :
    (∀ r, conclusions store interp = some r → Forced store interp r) ∧
    (conclusions store interp = none → ∀ σ, Matches interp σ → ¬ AvoidsAll store σ) := by
  have h0 : Forced store interp interp := ⟨fun _ _ h => h, fun _ hm _ => hm⟩
  have ⟨f1, f2⟩ := fold_spec (relevant store interp) (fun b hb => relevant_sub hb) interp h0
  fun_cases conclusions store interp with
  | case1 hf => exact ⟨(fun r hr => by cases hr), fun _ => f2 hf⟩
  | case2 result hf c =>
    refine ⟨(fun r hr => by cases hr), fun _ σ hm ha => ?_⟩
    rw [List.any_eq_true] at c
    obtain ⟨b, hb, hc⟩ := c
    rw [List.any_eq_true] at hc
    obtain ⟨e, he, hv⟩ := hc
    apply ha b (relevant_sub hb) e he
    rw [Bool.or_eq_true] at hv
    rcases hv with hv | hv
    · intro i a hi
      exact (f1 result hf).forced σ hm ha i a ((violating_iff e result).mp hv i a hi)
    · intro i a hi
      exact hm i a ((violating_iff e interp).mp hv i a hi)
  | case3 result hf c => exact ⟨(fun r hr => by cases hr; exact f1 result hf), (fun hn => by cases hn)⟩
#print axioms conclusions_sound
