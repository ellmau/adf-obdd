import AdfObdd.CliHalt
import AdfObdd.NgFuelBound
/-! # The fuel hypothesis of the CLI models holds from the EXPLICIT bound `2^(n+3)` on

With `NConc.ngSearch_halts_within` (every search of a framework with `n` statements in a well-formed
store halts within `NConc.ngBound n = 2^(n+3)` iterations) every invocation on a framework with `n`
statements satisfies `HaltedF fuel` (`CliF.haltedF_within`, CliFaithful.lean) / `haltedParsed W fuel`
(`halted_within`: all three arms; the hybrid arm — the default of the binary and the only one that wires
`--twoval` — under the hypotheses of `runParsed_faithful`) for EVERY `fuel ≥ 2^(n+3)`; in particular from
some bound on, and since `2^(16+3) = 524288 ≤ 10^6` the driver's bound provably suffices for `n ≤ 16`
(`C15.halted_from_some_bound_on`, `C15.halted_text_for_small_frameworks`).

Beyond 16 statements nothing is proved about the number 10^6 (the bound is exponential; the Rust loop
has no bound at all): there the hypothesis remains; by monotonicity (`haltedParsed_mono`)
`haltedParsed W 1000000 i st = true` holds iff the threshold of the invocation is ≤ 10^6, and whether it
is, for the runs of the correspondence check, is decided by EVALUATION (the driver computes the same
Boolean - a run that hit the bound would print a prefix and differ from the binary), not by the kernel:
the store's hash maps do not reduce there. -/
namespace CliMP
open CliM ParserM FromParser Cli SortModel

theorem halted_within {T : Type} (W : World T) (ok : WorldOK W) (i : Inv)
    {st : PState} {names : List Label} {acs : List (Label × Fml)}
    (h : Pres st names acs) (hwf : WfOn names acs) (hn : names.length ≤ VBOT)
    (hnames : i.mode = .hybrid → names.all bioNameOK = true)
    (hone : i.mode = .hybrid → i.flags.stmrew = true → (acs.map (·.1)).Nodup)
    (hdump : i.mode = .hybrid → DumpOKW W ok) :
    ∀ fuel, NConc.ngBound names.length ≤ fuel → haltedParsed W fuel i st = true := by
  cases hm : i.mode with
  | naive => exact halted_naive_within W i hm h hwf hn
  | biodivine => exact fun fuel _ => halted_of_no_search W fuel i st (Or.inl hm)
  | hybrid =>
    obtain ⟨mode, f, so, heu⟩ := i
    cases hm
    obtain ⟨acB, rw, hb, hl, hv, hden, hg⟩ :=
      bioBuild_facts (ok.law names.length hn) h hwf hn (hnames rfl) f.stmrew
    obtain ⟨l1, hc, D', hs, h1⟩ := hybridStart (ok.law names.length hn) (hdump rfl names.length hn) hl hv hden (hg (hone rfl))
      (condsOn_length names acs) (condsOn_det names acs)
    intro fuel hf
    simp only [haltedParsed, h.p.size, hb]
    exact haltsWith_thread (sections .hybrid f)
      (fun sec _ => secHybrid_halts_step (reps_condsOn names acs) (condsOn_length names acs) hs _ hc heu l1 hf sec) _ h1

end CliMP
