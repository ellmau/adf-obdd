import AdfObdd.MemoCheck
import AdfObdd.TTDepthPaths
import AdfObdd.WfCheck
import AdfObdd.Props.C13
import AdfObdd.NodeTable
/-! Soundness of the audit `MemoCheck.memoCheckF` of the implementation's dumped private tables:
    on a structurally well-formed node table (`TableWF`, decided by `wfCheck`)
    `memoCheckF nv exc table rows = true → MemoSound nv exc s rows` for every store `s` with that
    node table.

    Steps: (1) the theorems about the measures (`counts_vs_truth_table_tab`, `Tab.deps_exact`,
    `TT.depth_eq`, `TT.paths_eq`) need the structural invariant of the node table only. (2) The table the checker
    computes bottom-up for node `i` represents `eval s i` (`tt_of_node_rep`). (3) Functions of
    the first `nv` variables with equal tables are equal (`TT.rep_inj`), which turns the
    checker's table comparisons for the ite and restrict rows into statements `∀ σ`; the count
    rows go through `TT.depth_eq`, `TT.paths_eq` (`TTDepthPaths.lean`) and
    `C13.counts_vs_truth_table_tab`. -/
namespace MemoCheck

def VarsBelow (nv : Nat) (ns : Array Node) : Prop := ∀ i n, 2 ≤ i → ns[i]? = some n → n.var < nv

theorem varsOK_sound (nv : Nat) (ns : Array Node) (h : varsOK nv ns = true) : VarsBelow nv ns := by
  intro i n hi hn
  have := List.all_eq_true.mp h i (List.mem_range.mpr (lt_of_get hn))
  simp only [Bool.or_eq_true, decide_eq_true_eq] at this
  rcases this with h' | h'
  · omega
  · rw [Array.getD_eq_getD_getElem?, hn] at h'; exact h'

theorem tt_prefix (s : Store) (h : TableWF s.nodes) (nv : Nat) :
    ∀ k, k ≤ s.nodes.size →
      ((List.range k).foldl (ttStep nv s.nodes) #[]).size = k ∧
      ∀ i, i < k → TT.Rep nv (((List.range k).foldl (ttStep nv s.nodes) #[]).getD i 0) (eval s i) := by
  intro k
  induction k with
  | zero => intro _; exact ⟨rfl, fun i hi => absurd hi (Nat.not_lt_zero _)⟩
  | succ k ih =>
    intro hk
    have ⟨hsz, hrep⟩ := ih (Nat.le_of_succ_le hk)
    rw [List.range_succ, List.foldl_append]
    generalize (List.range k).foldl (ttStep nv s.nodes) #[] = a at hsz hrep
    -- the step pushes one entry, and it represents node `k`
    obtain ⟨x, hx, hxr⟩ : ∃ x, ttStep nv s.nodes a k = a.push x ∧ TT.Rep nv x (eval s k) := by
      unfold ttStep
      by_cases h0 : k = 0
      · subst h0
        have : eval s 0 = fun _ => false := funext (eval_zero s)
        exact ⟨0, if_pos rfl, this ▸ TT.rep_const nv false⟩
      by_cases h1 : k = 1
      · subst h1
        have : eval s 1 = fun _ => true := funext (eval_one s)
        exact ⟨TT.mask nv, by rw [if_neg h0, if_pos rfl], this ▸ TT.rep_const nv true⟩
      have hk2 : 2 ≤ k := Nat.one_lt_iff_ne_zero_and_ne_one.mpr ⟨h0, h1⟩
      obtain ⟨n, hn⟩ := get_of_lt (ns := s.nodes) (i := k) hk
      have ⟨_, hlo, hhi, _, _, _⟩ := h.inner k n hk2 hn
      have hg : s.nodes.getD k ⟨0, 0, 0⟩ = n := by rw [Array.getD_eq_getD_getElem?, hn]; rfl
      have e : eval s k = fun σ => if σ n.var = true then eval s n.hi σ else eval s n.lo σ :=
        funext (Tab.eval_node s h k n hk2 hn)
      refine ⟨_, by rw [if_neg h0, if_neg h1], ?_⟩
      rw [hg, e]
      exact TT.rep_ite (TT.rep_var nv n.var) (hrep n.hi hhi) (hrep n.lo hlo)
    rw [List.foldl_cons, List.foldl_nil, hx]
    refine ⟨by rw [Array.size_push, hsz], fun i hi => ?_⟩
    rcases Nat.lt_or_ge i k with hlt | hge
    · rw [getD_push_lt a x i (hsz ▸ hlt)]; exact hrep i hlt
    · obtain rfl : i = a.size := by omega
      rw [getD_push_eq, hsz]; exact hxr

/-- on the coded assignments only; that this determines the function needs the variables to be below `nv`
(`detBy_node`) -/
theorem tt_of_node_rep (s : Store) (h : TableWF s.nodes) (nv : Nat)
    (i : Nat) (hi : i < s.nodes.size) : TT.Rep nv ((ttOf nv s.nodes).getD i 0) (eval s i) :=
  (tt_prefix s h nv s.nodes.size (Nat.le_refl _)).2 i hi

theorem depsF_below (s : Store) (nv : Nat) (hv : VarsBelow nv s.nodes) (f t x : Nat) (hx : x ∈ depsF s f t) :
    x < nv := by
  rw [Memo.depsF_eq_F] at hx
  refine Memo.F_ind Memo.depsG s (fun _ l => ∀ x ∈ l, x < nv) ?_ ?_ ?_ ?_ ?_ f t x hx
  · intro _ x hx; cases hx
  · intro x hx; cases hx
  · intro x hx; cases hx
  · intro _ x hx; cases hx
  · intro t n l h ht hn hl hh x hx
    rcases List.mem_cons.mp hx with rfl | hx
    · exact hv t n ht hn
    · exact (List.mem_append.mp hx).elim (hl x) (hh x)

theorem detBy_node (s : Store) (h : TableWF s.nodes) (nv : Nat) (hv : VarsBelow nv s.nodes)
    (t : Nat) (ht : t < s.nodes.size) : TT.DetBy nv (eval s t) :=
  TT.detBy_eval s h t nv ht (fun x hx => depsF_below s nv hv _ _ x hx)

theorem marks_mem (ts : List Nat) : ∀ (m : Array Bool) (i : Nat),
    (ts.foldl (fun m t => m.setIfInBounds t true) m).getD i false = true → m.getD i false = true ∨ i ∈ ts := by
  induction ts with
  | nil => intro m i hh; exact Or.inl hh
  | cons t ts ih =>
    intro m i hh
    rw [List.foldl_cons] at hh
    rcases ih _ i hh with h' | h'
    · by_cases e : t = i
      · exact Or.inr (e ▸ List.mem_cons_self ..)
      · left
        rw [Array.getD_eq_getD_getElem?, Array.getElem?_setIfInBounds, if_neg e] at h'
        rw [Array.getD_eq_getD_getElem?]; exact h'
    · exact Or.inr (List.mem_cons_of_mem _ h')

theorem marks_sound (size : Nat) (ts : List Nat) (i : Nat) (hh : (marks size ts).getD i false = true) : i ∈ ts := by
  rcases marks_mem ts _ i hh with h' | h'
  · rw [Array.getD_eq_getD_getElem?, Array.getElem?_replicate] at h'
    split at h' <;> simp at h'
  · exact h'

/-- the checker compares `m · 2^(nv-d)` with the table's count `X`; the theorems give `M · 2^nv = X · 2^d` -/
theorem eq_of_scaled (m M nv d X : Nat) (hd : d ≤ nv) (h1 : m * 2 ^ (nv - d) = X) (h2 : M * 2 ^ nv = X * 2 ^ d) :
    m = M := by
  apply Nat.eq_of_mul_eq_mul_right (Nat.two_pow_pos nv)
  rw [h2, ← h1, Nat.mul_assoc, Nat.mul_comm (2 ^ (nv - d)), _root_.pow_split d nv hd]

theorem memoCheckF_sound (nv : Nat) (exc : Bool) (s : Store) (r : Rows) (h : TableWF s.nodes)
    (hc : memoCheckF nv exc s.nodes r = true) : MemoSound nv exc s r := by
  unfold memoCheckF at hc
  simp only [Bool.and_eq_true] at hc
  obtain ⟨⟨⟨⟨⟨hvars, hu⟩, hite⟩, hres⟩, hcnt⟩, hdeps⟩ := hc
  have hv := varsOK_sound nv s.nodes hvars
  have rep := tt_of_node_rep s h nv
  have det := detBy_node s h nv hv
  have below : ∀ t, ∀ x ∈ depsF s (t+1) t, x < nv := fun t x hx => depsF_below s nv hv _ _ x hx
  generalize ttOf nv s.nodes = tt at *
  unfold uniqOK at hu
  simp only [Bool.and_eq_true] at hu
  obtain ⟨⟨_, hrows⟩, hcover⟩ := hu
  have hrow : ∀ v lo hi t, (v, lo, hi, t) ∈ r.uniq → 2 ≤ t ∧ s.nodes[t]? = some ⟨v, lo, hi⟩ := by
    intro v lo hi t hm
    have := List.all_eq_true.mp hrows (v, lo, hi, t) hm
    simp only [Bool.and_eq_true, decide_eq_true_eq] at this
    exact this
  constructor
  · exact hrow
  · -- unique table, coverage: position `t` is marked, so some row names `t`, and that row is the node at `t`
    intro t n ht hn
    have := List.all_eq_true.mp hcover t (List.mem_range.mpr (lt_of_get hn))
    simp only [Bool.or_eq_true, decide_eq_true_eq] at this
    have hmem := marks_sound _ _ _ (this.resolve_left (Nat.not_lt_of_le ht))
    obtain ⟨⟨v, lo, hi, t'⟩, hr, rfl⟩ := List.mem_map.mp hmem
    obtain rfl := Option.some.inj ((hrow v lo hi _ hr).2.symm.trans hn)
    exact hr
  ·
    intro i t e x hm
    have := List.all_eq_true.mp hite (i, t, e, x) hm
    simp only [Bool.and_eq_true, decide_eq_true_eq] at this
    obtain ⟨⟨⟨⟨hi, ht⟩, he⟩, hx⟩, heq⟩ := this
    refine ⟨hi, ht, he, hx, ?_⟩
    have r2 := TT.rep_ite (rep i hi) (rep t ht) (rep e he)
    rw [← heq] at r2
    exact TT.rep_inj (rep x hx) r2 (det x hx) (TT.detBy_ite (det i hi) (det t ht) (det e he))
  ·
    intro t v b x hm
    have := List.all_eq_true.mp hres (t, v, b, x) hm
    simp only [Bool.and_eq_true, decide_eq_true_eq] at this
    obtain ⟨⟨ht, hx⟩, heq⟩ := this
    refine ⟨ht, hx, ?_⟩
    have r1 := rep x hx
    by_cases hvn : v < nv
    · rw [if_pos hvn] at heq
      have r2 := TT.rep_restrict (rep t ht) v b hvn
      rw [← heq] at r2
      exact TT.rep_inj r1 r2 (det x hx) (TT.detBy_upd (det t ht) v b)
    · -- a variable the functions do not look at: the cofactor is the function itself
      rw [if_neg hvn] at heq
      have r2 := rep t ht
      rw [← heq] at r2
      intro σ
      rw [TT.rep_inj r1 r2 (det x hx) (det t ht) σ]
      exact det t ht _ _ fun y hy =>
        (upd_other σ b (Nat.ne_of_lt (Nat.lt_of_lt_of_le hy (Nat.le_of_not_lt hvn)))).symm
  ·
    intro t cm m pcm pm d hm
    have := List.all_eq_true.mp hcnt (t, cm, m, pcm, pm, d) hm
    simp only [Bool.and_eq_true, Bool.or_eq_true, decide_eq_true_eq] at this
    obtain ⟨⟨⟨ht, hp⟩, hd⟩, hmod⟩ := this
    have hD := TT.depth_eq s h t ht nv _ (rep t ht) (below t)
    have hP := TT.paths_eq s h t ht nv _ (rep t ht) (below t)
    refine ⟨ht, by rw [hp, hP], by rw [hd, hD], ?_⟩
    intro hexc
    rcases hmod with h' | ⟨⟨hle, hm1⟩, hm2⟩
    · rw [hexc] at h'; cases h'
    · have ⟨c1, c2, _⟩ := C13.counts_vs_truth_table_tab s h t ht nv _ (rep t ht) (below t)
      rw [← hD, ← hd] at c1 c2
      exact ⟨eq_of_scaled cm _ nv d _ hle hm2 c2, eq_of_scaled m _ nv d _ hle hm1 c1⟩
  ·
    intro ds hds
    rw [hds] at hdeps
    unfold depsOK at hdeps
    simp only [Bool.and_eq_true, decide_eq_true_eq] at hdeps
    refine ⟨hdeps.1, ?_⟩
    intro i hi
    have := List.all_eq_true.mp hdeps.2 i (List.mem_range.mpr hi)
    simp only [decide_eq_true_eq] at this
    refine ⟨_, this, ?_⟩
    intro x
    have ⟨_, _, c3⟩ := C13.counts_vs_truth_table_tab s h i hi nv _ (rep i hi) (below i)
    exact (c3 x).symm

/-- `memoCheckF_sound` with both hypotheses in the form the test driver establishes them: `wfCheck` and
`memoCheckF` answer `true` on the dumped tables -/
theorem memoCheckF_sound_of_checks (nv : Nat) (exc : Bool) (table : Array Node) (r : Rows)
    (h : wfCheck table = true) (hc : memoCheckF nv exc table r = true) :
    MemoSound nv exc ⟨table, ∅, ∅, ∅⟩ r :=
  memoCheckF_sound nv exc ⟨table, ∅, ∅, ∅⟩ r (wfCheck_sound table h) hc

end MemoCheck

#print axioms MemoCheck.tt_of_node_rep
#print axioms MemoCheck.memoCheckF_sound
#print axioms MemoCheck.memoCheckF_sound_of_checks
