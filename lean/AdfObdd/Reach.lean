import AdfObdd.OpsProofs
import AdfObdd.Rebuild
import AdfObdd.Bridge
import AdfObdd.Persist
/-! C06: ONE inductive notion of "reachable store" covering diagram operations, both node-list
rebuilds, the serde re-import with `fix_import`, and the bridge replay — and the invariant `WF` on
all of it. -/
open Persist

/-- the stores an `Adf`/`Bdd` object can hold:
* `fresh`: `Bdd::new()`;
* `op`: any diagram operation of `OpsModel` (`variable`, constants, `not`, `and`, `or`, `imp`, `iff`,
  `xor`, `restrict`) whose operands (positions in ANY list `hist` of handles valid in the store) are
  in range — `Op.valid` additionally demands `v < VBOT` of `.var v` (the two largest `usize` values
  are reserved for the terminals' pseudo-variables);
* `rebuild` / `rebuildBook`: `Bdd::from(nodes)` on the node list of a reachable store, without and
  with the bookkeeping of the features `variablelist` / `adhoccounting` (`Persist.rebuildP`);
* `reimport`: serde export → import → `fix_import` of an object whose store is reachable (whatever
  its bookkeeping fields hold);
* `bridge`: `from_biodivine_vector` replaying an ordered dump (`DumpOK`) into a reachable store. -/
inductive StoreReach : Store → Prop
  | fresh : StoreReach Store.init
  | op (s : Store) (hist : List Nat) (o : Op) : StoreReach s → (∀ t ∈ hist, t < s.nodes.size) →
      o.valid hist.length → StoreReach (stepOp s hist o).1
  | rebuild (s : Store) : StoreReach s → StoreReach (rebuild s.nodes)
  | rebuildBook (s : Store) : StoreReach s → StoreReach (rebuildP s.nodes).st
  | reimport (b : PBdd) : StoreReach b.st → StoreReach (fixImport (importB (exportB b))).st
  | bridge (s : Store) (d : List Node) : StoreReach s → DumpOK d → 2 ≤ d.length →
      StoreReach (replayL (d.drop 2) s [0, 1]).1

theorem reach_wf_aux {s : Store} (r : StoreReach s) : WF s := by
  induction r with
  | fresh => exact WF_init
  | op s hist o _ hv ho ih => exact (stepOp_good s hist _ o ih (HistOK.ofValid s hist hv) ho).wf
  | rebuild s _ ih =>
    have h := (rebuildP_ok s ih).2.2.2.wf
    rw [(rebuildP_ok s ih).1] at h
    exact h
  | rebuildBook s _ ih => exact (rebuildP_ok s ih).2.2.2.wf
  | reimport b _ ih => exact (import_fix b ih).2.2.wf
  | bridge s d _ hd hl ih => exact (bridge_correct d hd hl s ih).1

theorem reach_op_handle (s : Store) (hist : List Nat) (o : Op) (r : StoreReach s)
    (hv : ∀ t ∈ hist, t < s.nodes.size) (ho : o.valid hist.length) :
    (stepOp s hist o).2 < (stepOp s hist o).1.nodes.size ∧
    ∀ σ, eval (stepOp s hist o).1 (stepOp s hist o).2 σ = semOp (hist.map (eval s)) o σ :=
  let g := stepOp_good s hist _ o (reach_wf_aux r) (HistOK.ofValid s hist hv) ho
  ⟨g.lt, g.ev⟩

/-- the ordered dump ⊥, ⊤, x0 -/
theorem dump3_ok : DumpOK [⟨VBOT, 0, 0⟩, ⟨VTOP, 1, 1⟩, ⟨0, 0, 1⟩] := by
  intro j n hj hn
  match j, hj, hn with
  | 2, _, hn =>
    cases hn
    exact ⟨by decide, by decide, by decide, fun m h2 _ => absurd h2 (by decide), fun m h2 _ => absurd h2 (by decide)⟩
  | j+3, _, hn => cases hn
