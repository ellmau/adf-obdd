import AdfObdd.NgLeaf
/-! # Lock-step simulation: `SM.ngIter` is the semantic machine `NSem.semP` under denotation

`cIter` is `SM.ngIter` cut into its phases (`ngIter_eq`, by `rfl` + one case split). `Rel c a` relates a
concrete state `c` (store, handle vectors, `stack`/`hist` in lock-step) with a state `a` of the
generic machine instantiated with `NSem.semP`: `a.cur = c.cur.map (eval c.s)`, the same buckets,
the stack entries with their ghost annotation read off `hist`, the same flags, `a.out = c.out.map toPA`.
`sim_iter`: one concrete iteration is one abstract iteration (no stuttering: the abstract test
`semRound V ≠ V` on denotations is the concrete test on handles by canonicity). -/
namespace NConc
open NSem

/-- a concrete heuristic: any function of the store, the vector shown to it and the number of earlier
calls (`SM.heuCall h` for the built-in ones; an arbitrary custom closure otherwise) -/
abbrev CHeu := Store → List Nat → Nat → Option (Nat × Nat)

/-- what C05 asks of a heuristic: every answer is an undecided statement with a handle `0`/`1`, and an
answer is given whenever an undecided statement exists -/
structure HeuOK (hc : CHeu) : Prop where
  valid : ∀ s v time i t, hc s v time = some (i, t) → t < 2 ∧ i < v.length ∧ ∃ x, v[i]? = some x ∧ isTV x = false
  total : ∀ s v time, hc s v time = none → v.all isTV = true

theorem heuOK_builtin (h : SM.Heu) : HeuOK (SM.heuCall h) :=
  ⟨fun s v time i t hc => heuCall_valid h s v time i t hc, fun s v time hc => heuCall_none h s v time hc⟩

def cChoice (hc : CHeu) (st : SM.NgS) : SM.NgS :=
  if st.choice then
    match hc st.s st.cur st.time with
    | some (v, t) =>
      let cur' := st.cur.set v t
      { st with choice := false, hist := st.cur :: st.hist, cur := cur', stack := (true, toPA cur') :: st.stack,
                trace := st.trace ++ [st.cur], time := st.time + 1 }
    | none => { st with choice := false, backtrack := true, trace := st.trace ++ [st.cur], time := st.time + 1 }
  else st

def cBack (st : SM.NgS) : SM.NgS :=
  if st.backtrack then
    let p := SM.popLoop st.buckets st.cur st.hist st.stack
    { st with backtrack := false, buckets := p.1, stack := p.2.1, cur := p.2.2.1, hist := p.2.2.2 }
  else st

def cClass (n : Nat) (ac : List Nat) (stable : Bool) (st : SM.NgS) : SM.NgS :=
  if !(st.cur.all isTV) then { st with choice := true }
  else
    let chk := if stable then stabilityCheck st.s n ac st.cur else (st.s, true)
    let st := { st with s := chk.1 }
    if chk.2 then
      { st with stack := (false, toPA st.cur) :: st.stack, out := st.out ++ [st.cur], backtrack := true }
    else
      { st with stack := (false, toPA st.cur) :: st.stack, backtrack := true }

def cProp (n : Nat) (ac : List Nat) (stable : Bool) (st : SM.NgS) (updNg : Bool) : SM.NgS :=
  let upd := applyInterp st.s st.cur st.cur
  let st' := { st with s := upd.1, cur := upd.2 }
  if upd.2 != st.cur then st'
  else if updNg then st'
  else cClass n ac stable st'

def cFinal (n : Nat) (ac : List Nat) (stable : Bool) (st : SM.NgS) (updNg : Bool) : SM.NgS :=
  let acr := applyInterp st.s st.cur ac
  let st := { st with s := acr.1 }
  if (st.cur.zip acr.2).any (fun (c, a) => isTV c && isTV a && (c != a)) then { st with backtrack := true }
  else cProp n ac stable st updNg

def cTail (n : Nat) (ac : List Nat) (stable : Bool) (st : SM.NgS) : SM.NgS :=
  match SM.closureF st.buckets st.cur with
  | ClosT.inconsistent => { st with backtrack := true }
  | ClosT.update r => cFinal n ac stable { st with cur := r, stack := (false, toPA r) :: st.stack } true
  | ClosT.noUpdate => cFinal n ac stable st false

def cIter (hc : CHeu) (n : Nat) (ac : List Nat) (stable : Bool) (st : SM.NgS) : SM.NgS :=
  let st1 := cChoice hc st
  if st1.backtrack && st1.stack.isEmpty then { st1 with done := true } else cTail n ac stable (cBack st1)

/-- the tail of `SM.ngIter`, verbatim -/
def origTail (n : Nat) (ac : List Nat) (stable : Bool) (st : SM.NgS) : SM.NgS :=
  match SM.closureF st.buckets st.cur with
  | ClosT.inconsistent => { st with backtrack := true }
  | cl =>
    let (st, updNg) := match cl with
      | ClosT.update r => ({ st with cur := r, stack := (false, toPA r) :: st.stack }, true)
      | _ => (st, false)
    let acr := applyInterp st.s st.cur ac
    let st := { st with s := acr.1 }
    let bad := (st.cur.zip acr.2).any (fun (c, a) => isTV c && isTV a && (c != a))
    if bad then { st with backtrack := true } else
    let upd := applyInterp st.s st.cur st.cur
    let st := { st with s := upd.1 }
    let updFp := upd.2 != st.cur
    let st := { st with cur := upd.2 }
    if updFp then st
    else if updNg then st
    else if !(st.cur.all isTV) then { st with choice := true }
    else
      let chk := if stable then stabilityCheck st.s n ac st.cur else (st.s, true)
      let st := { st with s := chk.1 }
      if chk.2 then
        { st with stack := (false, toPA st.cur) :: st.stack, out := st.out ++ [st.cur], backtrack := true }
      else
        { st with stack := (false, toPA st.cur) :: st.stack, backtrack := true }

theorem ngIter_eq0 (h : SM.Heu) (n : Nat) (ac : List Nat) (stable : Bool) (st : SM.NgS) :
    SM.ngIter h n ac stable st =
      (let st1 := cChoice (SM.heuCall h) st
       if st1.backtrack && st1.stack.isEmpty then { st1 with done := true } else origTail n ac stable (cBack st1)) := rfl

theorem origTail_eq (n : Nat) (ac : List Nat) (stable : Bool) (st : SM.NgS) :
    origTail n ac stable st = cTail n ac stable st := by
  unfold origTail cTail
  cases SM.closureF st.buckets st.cur with
  | inconsistent => rfl
  | update r => rfl
  | noUpdate => rfl

theorem ngIter_eq (h : SM.Heu) (n : Nat) (ac : List Nat) (stable : Bool) (st : SM.NgS) :
    SM.ngIter h n ac stable st = cIter (SM.heuCall h) n ac stable st := by
  rw [ngIter_eq0]; unfold cIter; simp only [origTail_eq]

theorem cClass_cases (n : Nat) (ac : List Nat) (stable : Bool) (st : SM.NgS) :
    cClass n ac stable st = { st with choice := true } ∨
    (∃ s', cClass n ac stable st =
      { st with s := s', stack := (false, toPA st.cur) :: st.stack, out := st.out ++ [st.cur], backtrack := true }) ∨
    (∃ s', cClass n ac stable st = { st with s := s', stack := (false, toPA st.cur) :: st.stack, backtrack := true }) := by
  fun_cases cClass n ac stable st
  · left; rfl
  · right; left; exact ⟨_, rfl⟩
  · right; right; exact ⟨_, rfl⟩

theorem cClass_frame (n : Nat) (ac : List Nat) (stable : Bool) (st : SM.NgS) :
    (cClass n ac stable st).time = st.time ∧ st.out <+: (cClass n ac stable st).out := by
  rcases cClass_cases n ac stable st with h | ⟨s', h⟩ | ⟨s', h⟩
  · rw [h]; exact ⟨rfl, List.prefix_refl _⟩
  · rw [h]; exact ⟨rfl, List.prefix_append _ _⟩
  · rw [h]; exact ⟨rfl, List.prefix_refl _⟩

theorem cProp_frame (n : Nat) (ac : List Nat) (stable : Bool) (st : SM.NgS) (u : Bool) :
    (cProp n ac stable st u).time = st.time ∧ st.out <+: (cProp n ac stable st u).out := by
  fun_cases cProp n ac stable st u
  · exact ⟨rfl, List.prefix_refl _⟩
  · exact ⟨rfl, List.prefix_refl _⟩
  · exact cClass_frame n ac stable _

theorem cFinal_frame (n : Nat) (ac : List Nat) (stable : Bool) (st : SM.NgS) (u : Bool) :
    (cFinal n ac stable st u).time = st.time ∧ st.out <+: (cFinal n ac stable st u).out := by
  fun_cases cFinal n ac stable st u
  · exact ⟨rfl, List.prefix_refl _⟩
  · exact cProp_frame n ac stable _ u

theorem cTail_frame (n : Nat) (ac : List Nat) (stable : Bool) (st : SM.NgS) :
    (cTail n ac stable st).time = st.time ∧ st.out <+: (cTail n ac stable st).out := by
  fun_cases cTail n ac stable st
  · exact ⟨rfl, List.prefix_refl _⟩
  · exact cFinal_frame n ac stable _ true
  · exact cFinal_frame n ac stable st false

theorem cChoice_frame (hc : CHeu) (st : SM.NgS) :
    (cChoice hc st).time = st.time + (if st.choice then 1 else 0) ∧ (cChoice hc st).out = st.out := by
  unfold cChoice
  by_cases h : st.choice = true
  · rw [if_pos h, if_pos h]
    split <;> exact ⟨rfl, rfl⟩
  · rw [if_neg h, if_neg h]; exact ⟨rfl, rfl⟩

theorem cBack_frame (st : SM.NgS) : (cBack st).time = st.time ∧ (cBack st).out = st.out := by
  fun_cases cBack st <;> exact ⟨rfl, rfl⟩

theorem cIter_frame (hc : CHeu) (n : Nat) (ac : List Nat) (stable : Bool) (st : SM.NgS) :
    (cIter hc n ac stable st).time = st.time + (if st.choice then 1 else 0) ∧ st.out <+: (cIter hc n ac stable st).out := by
  have ⟨c1, c2⟩ := cChoice_frame hc st
  fun_cases cIter hc n ac stable st
  · exact ⟨c1, c2 ▸ List.prefix_refl _⟩
  · have ⟨t1, t2⟩ := cTail_frame n ac stable (cBack (cChoice hc st))
    rw [(cBack_frame _).1, c1] at t1
    rw [(cBack_frame _).2, c2] at t2
    exact ⟨t1, t2⟩

abbrev ASt := NGen.St (List BoolFn) (List (List PA))
abbrev AEntry := NGen.Entry (List BoolFn)

/-- the concrete `stack`/`hist` pair against the ghost-annotated abstract stack -/
inductive StackRel (s : Store) : List (Bool × PA) → List (List Nat) → List AEntry → Prop
  | nil (hs : List (List Nat)) : StackRel s [] hs []
  | plain (g : PA) (rest : List (Bool × PA)) (hs : List (List Nat)) (as : List AEntry) :
      StackRel s rest hs as → StackRel s ((false, g) :: rest) hs (⟨none, g⟩ :: as)
  | choice (g : PA) (rest : List (Bool × PA)) (h : List Nat) (hs : List (List Nat)) (v : Nat) (b : Bool)
      (as : List AEntry) : StackRel s rest hs as →
      StackRel s ((true, g) :: rest) (h :: hs) (⟨some (h.map (eval s), v, b), g⟩ :: as)

structure Rel (c : SM.NgS) (a : ASt) : Prop where
  cur : a.cur = c.cur.map (eval c.s)
  store : a.store = c.buckets
  stack : StackRel c.s c.stack c.hist a.stack
  bt : a.backtrack = c.backtrack
  ch : a.choice = c.choice
  out : a.out = c.out.map toPA

/-- shape invariant of the concrete state (`s0` = the store the search was started in) -/
structure CInv (s0 : Store) (n : Nat) (c : SM.NgS) : Prop where
  wf : WF c.s
  ext : Ext s0 c.s
  valid : ∀ t ∈ c.cur, t < c.s.nodes.size
  len : c.cur.length = n
  histOK : ∀ h ∈ c.hist, h.length = n ∧ ∀ t ∈ h, t < c.s.nodes.size
  nd : c.done = false

theorem StackRel.mono {s s' : Store} (w : WF s) (he : Ext s s') {st : List (Bool × PA)} {hs : List (List Nat)}
    {as : List AEntry} (h : StackRel s st hs as) (hv : ∀ x ∈ hs, ∀ t ∈ x, t < s.nodes.size) : StackRel s' st hs as := by
  induction h with
  | nil hs => exact StackRel.nil hs
  | plain g rest hs as _ ih => exact StackRel.plain g rest hs as (ih hv)
  | choice g rest x hs v b as _ ih =>
    have e : x.map (eval s) = x.map (eval s') := (map_eval_ext w he (hv x (List.mem_cons_self ..))).symm
    rw [e]
    exact StackRel.choice g rest x hs v b as (ih (fun y hy => hv y (List.mem_cons_of_mem _ hy)))

theorem StackRel.nil_iff {s : Store} {st : List (Bool × PA)} {hs : List (List Nat)} {as : List AEntry}
    (h : StackRel s st hs as) : as = [] ↔ st = [] := by
  cases h <;> simp

variable {s0 : Store} {n : Nat}

theorem rel_store {c : SM.NgS} {a : ASt} (hr : Rel c a) (hi : CInv s0 n c) {s' : Store} (w' : WF s')
    (he : Ext c.s s') : Rel { c with s := s' } a ∧ CInv s0 n { c with s := s' } := by
  refine ⟨⟨?_, hr.store, ?_, hr.bt, hr.ch, hr.out⟩, ⟨w', Ext.trans hi.ext he, ?_, hi.len, ?_, hi.nd⟩⟩
  · show a.cur = c.cur.map (eval s')
    rw [map_eval_ext hi.wf he hi.valid]; exact hr.cur
  · exact hr.stack.mono hi.wf he (fun x hx => (hi.histOK x hx).2)
  · intro t ht; exact Nat.lt_of_lt_of_le (hi.valid t ht) he.1
  · intro x hx; exact ⟨(hi.histOK x hx).1, fun t ht => Nat.lt_of_lt_of_le ((hi.histOK x hx).2 t ht) he.1⟩

theorem rel_cv {c : SM.NgS} {a : ASt} (hr : Rel c a) (hi : CInv s0 n c) : cv a.cur = toPA c.cur := by
  rw [hr.cur]; exact cv_map_eval hi.wf hi.valid

/-- the concrete answer `(statement, handle)` as an abstract answer `(statement, value)` -/
def conv : Option (Nat × Nat) → Option (Nat × Bool)
  | some (i, t) => some (i, t == 1)
  | none => none

theorem sim_choice (D : List BoolFn) (stable : Bool) (raw : Nat → Option (Nat × Bool)) {h : CHeu} (hok : HeuOK h)
    (k : Nat) {c : SM.NgS} {a : ASt} (hr : Rel c a) (hi : CInv s0 n c)
    (hraw : raw k = conv (h c.s c.cur c.time)) :
    Rel (cChoice h c) (NGen.step1 (semP D n stable raw) k a) ∧ CInv s0 n (cChoice h c) := by
  have hcv := rel_cv hr hi
  unfold NGen.step1
  rw [hr.ch]
  fun_cases cChoice h c with
  | case1 hc v t hh =>
    have ⟨ht2, hv, x, hx, hxn⟩ := hok.valid c.s c.cur c.time v t hh
    -- the proposed handle is the constant of a truth value `b`
    obtain ⟨b, rfl⟩ : ∃ b, t = bit b := ⟨_, eq_bit_of_lt_two ht2⟩
    have hheu : (semP D n stable raw).heu k a.cur = some (v, b) := by
      refine heuO_of_some (by rw [hraw, hh, conv, bit_beq_one]) ?_ (by rw [hr.cur, List.length_map]; exact hv)
      rw [hcv, pget_toPA hv]
      rw [List.getElem?_eq_getElem hv] at hx
      rw [Option.some.inj hx]
      exact isTV_false_iff.mp hxn
    rw [if_pos hc, hheu]
    simp only
    have hvalid' := set_bit_valid hi.wf hi.valid v b
    have hset : (semP D n stable raw).setV a.cur v b = (c.cur.set v (bit b)).map (eval c.s) := by
      rw [set_bit_map_eval, hr.cur]; rfl
    have hdec : (semP D n stable raw).dec ((semP D n stable raw).setV a.cur v b) = toPA (c.cur.set v (bit b)) := by
      rw [hset]; exact cv_map_eval hi.wf hvalid'
    refine ⟨⟨hset, hr.store, ?_, hr.bt, rfl, hr.out⟩, ⟨hi.wf, hi.ext, hvalid', List.length_set.trans hi.len,
      List.forall_mem_cons.mpr ⟨⟨hi.len, hi.valid⟩, hi.histOK⟩, hi.nd⟩⟩
    rw [hdec, hr.cur]
    exact StackRel.choice _ _ _ _ _ _ _ hr.stack
  | case2 hc hh =>
    have hheu : (semP D n stable raw).heu k a.cur = none :=
      heuO_of_none (by rw [hraw, hh]; rfl) (by rw [hcv, ← all_isTV_iff]; exact hok.total _ _ _ hh)
    rw [if_pos hc, hheu]
    exact ⟨{ hr with bt := rfl, ch := rfl }, { hi with }⟩
  | case3 hc => rw [if_neg hc]; exact ⟨hr, hi⟩

theorem sim_popLoop (P : NGen.GParams (List BoolFn) (List (List PA))) (hadd : P.add = addNg) {s : Store} :
    ∀ {stack : List (Bool × PA)} {hist : List (List Nat)} {as : List AEntry}, StackRel s stack hist as →
    ∀ (buckets : List (List PA)) (cur : List Nat),
    StackRel s (SM.popLoop buckets cur hist stack).2.1 (SM.popLoop buckets cur hist stack).2.2.2
      (NGen.popLoop P as buckets (cur.map (eval s))).1 ∧
    (NGen.popLoop P as buckets (cur.map (eval s))).2.1 = (SM.popLoop buckets cur hist stack).1 ∧
    (NGen.popLoop P as buckets (cur.map (eval s))).2.2 = (SM.popLoop buckets cur hist stack).2.2.1.map (eval s) ∧
    ((SM.popLoop buckets cur hist stack).2.2.1 = cur ∨ (SM.popLoop buckets cur hist stack).2.2.1 ∈ hist) ∧
    (∀ x ∈ (SM.popLoop buckets cur hist stack).2.2.2, x ∈ hist) := by
  intro stack hist as h
  induction h with
  | nil hs =>
    intro buckets cur
    simp only [SM.popLoop, NGen.popLoop]
    exact ⟨StackRel.nil hs, trivial, trivial, Or.inl trivial, fun _ hx => hx⟩
  | plain g rest hs as _ ih =>
    intro buckets cur
    simp only [SM.popLoop, NGen.popLoop, hadd, Bool.false_eq_true, if_false]
    exact ih (addNg buckets g) cur
  | choice g rest x hs v b as hrest _ =>
    intro buckets cur
    simp only [SM.popLoop, NGen.popLoop, hadd, if_true, List.headD_cons, List.tail_cons]
    exact ⟨hrest, trivial, trivial, Or.inr (List.mem_cons_self ..), fun y hy => List.mem_cons_of_mem _ hy⟩

theorem sim_back (D : List BoolFn) (stable : Bool) (raw : Nat → Option (Nat × Bool))
    {c : SM.NgS} {a : ASt} (hr : Rel c a) (hi : CInv s0 n c) :
    Rel (cBack c) (NGen.step3 (semP D n stable raw) a) ∧ CInv s0 n (cBack c) := by
  unfold cBack NGen.step3
  rw [hr.bt]
  by_cases hb : c.backtrack = true
  · rw [if_pos hb, if_pos hb]
    have ⟨p1, p2, p3, p4, p5⟩ := sim_popLoop (semP D n stable raw) rfl hr.stack c.buckets c.cur
    rw [hr.store, hr.cur]
    refine ⟨⟨p3, p2, p1, rfl, hr.ch, hr.out⟩, ⟨hi.wf, hi.ext, ?_, ?_, ?_, hi.nd⟩⟩
    · rcases p4 with e | e
      · simp only [e]; exact hi.valid
      · exact (hi.histOK _ e).2
    · rcases p4 with e | e
      · simp only [e]; exact hi.len
      · exact (hi.histOK _ e).1
    · intro x hx; exact hi.histOK x (p5 x hx)
  · rw [if_neg hb, if_neg hb]; exact ⟨hr, hi⟩

/-- the classification part of `NGen.stepFinal` -/
noncomputable def aClass (P : NGen.GParams (List BoolFn) (List (List PA))) (s4 : ASt) : ASt :=
  if !P.twoVal (P.dec s4.cur) then { s4 with choice := true }
  else if P.isTarget (P.dec s4.cur) then
    { s4 with stack := { choice := none, ng := P.dec s4.cur } :: s4.stack, out := s4.out ++ [P.dec s4.cur],
              backtrack := true }
  else
    { s4 with stack := { choice := none, ng := P.dec s4.cur } :: s4.stack, backtrack := true }

open Classical in
theorem stepFinal_eq (P : NGen.GParams (List BoolFn) (List (List PA))) (s3 : ASt) (updNg : Bool) :
    NGen.stepFinal P s3 updNg =
      if P.acIncons (P.dec s3.cur) then { s3 with backtrack := true } else
      if P.gam s3.cur ≠ s3.cur then { s3 with cur := P.gam s3.cur }
      else if updNg then { s3 with cur := P.gam s3.cur }
      else aClass P { s3 with cur := P.gam s3.cur } := by
  unfold NGen.stepFinal aClass
  by_cases h1 : P.acIncons (P.dec s3.cur) = true
  · rw [if_pos h1, if_pos h1]
  · rw [if_neg h1, if_neg h1]
    simp only

section tail
variable (ac : List Nat) (stable : Bool) (raw : Nat → Option (Nat × Bool))

/-- the parameters the concrete run is compared with -/
noncomputable abbrev PP (s0 : Store) (n : Nat) (ac : List Nat) (stable : Bool) (raw : Nat → Option (Nat × Bool)) :=
  semP (ac.map (eval s0)) n stable raw

theorem sim_class (w0 : WF s0) (hac0 : ∀ t ∈ ac, t < s0.nodes.size) (hn : ac.length = n)
    {c : SM.NgS} {a : ASt} (hr : Rel c a) (hi : CInv s0 n c) :
    Rel (cClass n ac stable c) (aClass (PP s0 n ac stable raw) a) ∧ CInv s0 n (cClass n ac stable c) := by
  have hcv := rel_cv hr hi
  have htv : (PP s0 n ac stable raw).twoVal ((PP s0 n ac stable raw).dec a.cur) = c.cur.all isTV := by
    show twoV (cv a.cur) = _
    rw [hcv, all_isTV_iff]
  have hacs : ∀ t ∈ ac, t < c.s.nodes.size := fun t ht => Nat.lt_of_lt_of_le (hac0 t ht) hi.ext.1
  have hD : ac.map (eval c.s) = ac.map (eval s0) := map_eval_ext w0 hi.ext hac0
  have ⟨cw, ce, cb⟩ : WF (if stable then stabilityCheck c.s n ac c.cur else (c.s, true)).1 ∧
      Ext c.s (if stable then stabilityCheck c.s n ac c.cur else (c.s, true)).1 ∧
      (if stable then stabilityCheck c.s n ac c.cur else (c.s, true)).2 =
        (PP s0 n ac stable raw).isTarget ((PP s0 n ac stable raw).dec a.cur) := by
    show _ ∧ _ ∧ _ = isTgt (ac.map (eval s0)) stable (cv a.cur)
    rw [hcv, ← hD]
    exact leafTest_spec c.s n ac c.cur stable hi.wf hacs hn hi.len
  have ⟨r1, i1⟩ := rel_store hr hi cw ce
  have hdec : (PP s0 n ac stable raw).dec a.cur = toPA c.cur := hcv
  unfold aClass
  rw [htv, ← cb]
  fun_cases cClass n ac stable c with
  | case1 hall => rw [if_pos hall]; exact ⟨{ hr with ch := rfl }, { hi with }⟩
  | case2 hall _ _ hb =>
    rw [if_neg hall, if_pos hb]
    refine ⟨{ r1 with stack := ?_, bt := rfl, out := ?_ }, { i1 with }⟩
    · rw [hdec]; exact StackRel.plain _ _ _ _ r1.stack
    · show a.out ++ [(PP s0 n ac stable raw).dec a.cur] = (c.out ++ [c.cur]).map toPA
      rw [hdec, List.map_append, hr.out]; rfl
  | case3 hall _ _ hb =>
    rw [if_neg hall, if_neg hb]
    refine ⟨{ r1 with stack := ?_, bt := rfl }, { i1 with }⟩
    rw [hdec]; exact StackRel.plain _ _ _ _ r1.stack

open Classical in
theorem sim_prop (w0 : WF s0) (hac0 : ∀ t ∈ ac, t < s0.nodes.size) (hn : ac.length = n)
    {c : SM.NgS} {a : ASt} (hr : Rel c a) (hi : CInv s0 n c) (updNg : Bool) :
    Rel (cProp n ac stable c updNg)
      (if (PP s0 n ac stable raw).gam a.cur ≠ a.cur then { a with cur := (PP s0 n ac stable raw).gam a.cur }
       else if updNg then { a with cur := (PP s0 n ac stable raw).gam a.cur }
       else aClass (PP s0 n ac stable raw) { a with cur := (PP s0 n ac stable raw).gam a.cur }) ∧
    CInv s0 n (cProp n ac stable c updNg) := by
  have hcv := rel_cv hr hi
  have ⟨u1, u2, u3, u4⟩ := applyInterp_spec c.cur c.cur c.s hi.wf hi.valid
  have hgam : (PP s0 n ac stable raw).gam a.cur =
      (applyInterp c.s c.cur c.cur).2.map (eval (applyInterp c.s c.cur c.cur).1) := by
    show semRound a.cur = _
    have hcv' : List.map constOf a.cur = toPA c.cur := hcv
    rw [u4, semRound, hcv', hr.cur, List.map_map]
    rfl
  have ⟨r1, i1⟩ := rel_store hr hi u1 u2
  have r2 : Rel { c with s := (applyInterp c.s c.cur c.cur).1, cur := (applyInterp c.s c.cur c.cur).2 }
      { a with cur := (PP s0 n ac stable raw).gam a.cur } :=
    ⟨hgam, r1.store, r1.stack, r1.bt, r1.ch, r1.out⟩
  have i2 : CInv s0 n { c with s := (applyInterp c.s c.cur c.cur).1, cur := (applyInterp c.s c.cur c.cur).2 } :=
    ⟨i1.wf, i1.ext, u3, by show (applyInterp c.s c.cur c.cur).2.length = n; rw [applyInterp_length, hi.len],
      i1.histOK, i1.nd⟩
  have hfp : ((applyInterp c.s c.cur c.cur).2 != c.cur) = true ↔ (PP s0 n ac stable raw).gam a.cur ≠ a.cur := by
    rw [hgam, r1.cur]
    show _ ↔ _ ≠ c.cur.map (eval (applyInterp c.s c.cur c.cur).1)
    rw [bne_iff_ne]
    constructor
    · intro hne he; exact hne (vec_canonical u1 u3 i1.valid he)
    · intro hne he; apply hne; rw [he]
  fun_cases cProp n ac stable c updNg with
  | case1 _ _ hc => rw [if_pos (hfp.mp hc)]; exact ⟨r2, i2⟩
  | case2 _ _ hc hu => rw [if_neg (mt hfp.mpr hc), if_pos hu]; exact ⟨r2, i2⟩
  | case3 _ _ hc hu => rw [if_neg (mt hfp.mpr hc), if_neg hu]; exact sim_class ac stable raw w0 hac0 hn r2 i2

theorem sim_final (w0 : WF s0) (hac0 : ∀ t ∈ ac, t < s0.nodes.size) (hn : ac.length = n)
    {c : SM.NgS} {a : ASt} (hr : Rel c a) (hi : CInv s0 n c) (updNg : Bool) :
    Rel (cFinal n ac stable c updNg) (NGen.stepFinal (PP s0 n ac stable raw) a updNg) ∧
    CInv s0 n (cFinal n ac stable c updNg) := by
  have hcv := rel_cv hr hi
  have hacs : ∀ t ∈ ac, t < c.s.nodes.size := fun t ht => Nat.lt_of_lt_of_le (hac0 t ht) hi.ext.1
  have ⟨u1, u2, u3, u4⟩ := applyInterp_spec c.cur ac c.s hi.wf hacs
  have ⟨r1, i1⟩ := rel_store hr hi u1 u2
  -- the information values of the restricted conditions are `Γ_D` of the decided part
  have hG : toPA (applyInterp c.s c.cur ac).2 = Gam (ac.map (eval s0)) (toPA c.cur) := by
    rw [← cv_map_eval u1 u3, u4]
    simp only [cv, Gam, List.map_map]
    apply List.map_congr_left
    intro x hx
    simp only [Function.comp]
    congr 1
    funext σ
    exact eval_ext w0 hi.ext x _ (hac0 x hx)
  have hbad : ((c.cur.zip (applyInterp c.s c.cur ac).2).any (fun (c, a) => isTV c && isTV a && (c != a))) =
      (PP s0 n ac stable raw).acIncons ((PP s0 n ac stable raw).dec a.cur) := by
    show _ = acInc (ac.map (eval s0)) (cv a.cur)
    apply Bool.eq_iff_iff.mpr
    rw [bad_iff, acInc_true_iff, hcv, hG]
  rw [stepFinal_eq, ← hbad]
  fun_cases cFinal n ac stable c updNg with
  | case1 _ _ hb => rw [if_pos hb]; exact ⟨{ r1 with bt := rfl }, { i1 with }⟩
  | case2 _ _ hb => rw [if_neg hb]; exact sim_prop ac stable raw w0 hac0 hn r1 i1 updNg

theorem sim_tail (w0 : WF s0) (hac0 : ∀ t ∈ ac, t < s0.nodes.size) (hn : ac.length = n)
    {c : SM.NgS} {a : ASt} (hr : Rel c a) (hi : CInv s0 n c) :
    Rel (cTail n ac stable c) (NGen.stepTail (PP s0 n ac stable raw) a) ∧ CInv s0 n (cTail n ac stable c) := by
  have hcv := rel_cv hr hi
  have hcl : (PP s0 n ac stable raw).closure a.store ((PP s0 n ac stable raw).dec a.cur) =
      conclusionClosure c.buckets (toPA c.cur) := by
    show conclusionClosure a.store (cv a.cur) = _
    rw [hr.store, hcv]
  unfold cTail NGen.stepTail
  rw [hcl, closureF_eq]
  cases hc : conclusionClosure c.buckets (toPA c.cur) with
  | inconsistent =>
    simp only [liftC]
    exact ⟨{ hr with bt := rfl }, { hi with }⟩
  | noUpdate =>
    simp only [liftC]
    exact sim_final ac stable raw w0 hac0 hn hr hi false
  | update R =>
    simp only [liftC]
    have hR : toPA (updH c.cur R) = R :=
      toPA_updH (by rw [closure_length hc, toPA_length]) (closure_upd_sub _ _ _ hc).1
    have r2 : Rel { c with cur := updH c.cur R, stack := (false, toPA (updH c.cur R)) :: c.stack }
        { a with cur := (PP s0 n ac stable raw).updV a.cur R, stack := { choice := none, ng := R } :: a.stack } := by
      refine ⟨?_, hr.store, ?_, hr.bt, hr.ch, hr.out⟩
      · show updF a.cur R = (updH c.cur R).map (eval c.s)
        rw [updH_map_eval, hr.cur]
      · rw [hR]; exact StackRel.plain _ _ _ _ hr.stack
    have i2 : CInv s0 n { c with cur := updH c.cur R, stack := (false, toPA (updH c.cur R)) :: c.stack } :=
      ⟨hi.wf, hi.ext, updH_valid hi.wf hi.valid R, by show (updH c.cur R).length = n; rw [updH_length, hi.len],
        hi.histOK, hi.nd⟩
    exact sim_final ac stable raw w0 hac0 hn r2 i2 true

/-- `hraw`: the oracle of the semantic machine answers in iteration `k` what the concrete heuristic answers here; the
oracle read off the concrete run (`rawOf`, `NgEndToEnd.lean`) does -/
theorem sim_iter (w0 : WF s0) (hac0 : ∀ t ∈ ac, t < s0.nodes.size) (hn : ac.length = n) {h : CHeu} (hok : HeuOK h)
    (k : Nat) {c : SM.NgS} {a : ASt} (hr : Rel c a) (hi : CInv s0 n c)
    (hraw : raw k = conv (h c.s c.cur c.time)) :
    (match NGen.iter (PP s0 n ac stable raw) k a with
      | NGen.Res.done a' => (cIter h n ac stable c).done = true ∧ (cIter h n ac stable c).out.map toPA = a'.out
      | NGen.Res.cont a' => Rel (cIter h n ac stable c) a' ∧ CInv s0 n (cIter h n ac stable c)) ∧
    WF (cIter h n ac stable c).s ∧ Ext s0 (cIter h n ac stable c).s := by
  have ⟨r1, i1⟩ := sim_choice (ac.map (eval s0)) stable raw hok k hr hi hraw
  have hd : (NGen.step1 (PP s0 n ac stable raw) k a).backtrack = true ∧
      (NGen.step1 (PP s0 n ac stable raw) k a).stack = [] ↔
      ((cChoice h c).backtrack && (cChoice h c).stack.isEmpty) = true := by
    rw [r1.bt, r1.stack.nil_iff, Bool.and_eq_true, List.isEmpty_iff]
  unfold NGen.iter
  fun_cases cIter h n ac stable c with
  | case1 _ hb => rw [if_pos (hd.mpr hb)]; exact ⟨⟨rfl, r1.out.symm⟩, i1.wf, i1.ext⟩
  | case2 _ hb =>
    rw [if_neg (mt hd.mp hb)]
    have ⟨r3, i3⟩ := sim_back (ac.map (eval s0)) stable raw r1 i1
    have t := sim_tail ac stable raw w0 hac0 hn r3 i3
    exact ⟨t, t.2.wf, t.2.ext⟩

end tail

end NConc
#print axioms NConc.sim_iter
