import AdfObdd.FeatureSemantics
import AdfObdd.SearchModel
/-! C12, the searches over the configured store: the queries they use
    (`paths(t, true)` through the `RefCell` count cache, `var_dependencies(..).contains(..)`,
    the two impacts, `interpretations`), the counting search `stable_count_optimisation_heu_a/b`
    under a feature set (`countAllC`) and its simulation by the executed model `countAll`.

    A query may fill the count cache (without `adhoccounting`), so under a feature set the
    heuristic comparators, `min_by`, `pick` and `goal` thread the store (`minByM`, `GK.searchM`);
    the simulation theorems compare these state-threading routines directly with the pure ones of
    the reference model. -/

theorem paths_oob (s : Store) (t : Nat) (h2 : 2 ≤ s.nodes.size) (h : s.nodes.size ≤ t) : paths s t = (0, 0) := by
  unfold paths pathsF
  rw [if_neg (by omega), if_neg (by omega)]
  simp only [Array.getElem?_eq_none h]

theorem depsOf_oob (s : Store) (t : Nat) (h : s.nodes.size ≤ t) : depsOf s t = [] := by
  unfold depsOf depsF
  split
  · rfl
  · simp only [Array.getElem?_eq_none h]

/-- `self.bdd.paths(t, true)` -/
def pathsQ (c : Cfg) (fs : FStore) (t : Nat) : (Nat × Nat) × FStore := pathsC c fs t true
/-- `self.bdd.var_dependencies(t).contains(&Var(v))` -/
def depsHasC (c : Cfg) (fs : FStore) (t v : Nat) : Bool := (varDepsC c fs t).contains v
/-- `Bdd::passive_var_impact` -/
def passiveC (c : Cfg) (fs : FStore) (v : Nat) (interp : List Nat) : Nat :=
  (interp.filter (fun t => depsHasC c fs t v)).length
/-- `Bdd::active_var_impact` -/
def activeC (c : Cfg) (fs : FStore) (v : Nat) (interp : List Nat) : Nat :=
  ((List.range interp.length).filter (fun i => depsHasC c fs (interp.getD v 0) i)).length
/-- `self.bdd.paths(t, true).minimum()` -/
def minPathsC (c : Cfg) (fs : FStore) (t : Nat) : Nat × FStore :=
  let p := pathsQ c fs t; (min p.1.1 p.1.2, p.2)
/-- `Bdd::interpretations(t, goal, gv, &[], &[])` (no feature split in its body) -/
def cubesC (fs : FStore) (t : Nat) (goal : Bool) (gv : Nat) : List PCube := cubesF fs.base (t+1) t goal gv [] []

theorem pathsC_pres {c : Cfg} {P : FStore → Prop} (st : Stable c P) (fs : FStore) (t : Nat) (memo : Bool) (h : P fs) :
    P (pathsC c fs t memo).2 := by
  fun_cases pathsC c fs t memo with
  | case1 => exact h
  | case2 ha => exact st.cnt (by simpa using ha) fs _ h
  | case3 => exact h

/-- `paths`, every handle: same answer, relation kept (the cache may have been filled) -/
theorem pathsQ_rel {c : Cfg} {z : Bool} {P : FStore → Prop} {A : Prop} (st : Stable c P) {fs : FStore} {s : Store}
    (h : RelP c z P A fs s) (t : Nat) :
    (pathsQ c fs t).1 = paths s t ∧ RelP c z P A (pathsQ c fs t).2 s := by
  have r := h.1
  have hp : paths fs.base t = paths s t := pathsF_congr r.nodes _ _
  by_cases ht : t < fs.base.nodes.size
  · have ⟨a, b, i⟩ := pathsC_exact c z fs t true r.inv ht
    unfold pathsQ
    exact ⟨by rw [a, hp], ⟨i, r.wf, by rw [b]; exact r.nodes, by rw [b]; exact r.ite⟩,
      pathsC_pres st fs t true h.2⟩
  · have hs : fs.base.nodes.size ≤ t := by omega
    have h2 := r.inv.wf.len
    have hnone : fs.cnt[t]? = none := by
      cases hc : fs.cnt[t]? with
      | none => rfl
      | some x => have := (r.inv.tab.cnt t x hc).1; omega
    have : pathsQ c fs t = ((0, 0), fs) := by
      unfold pathsQ pathsC
      by_cases ha : c.adhoccounting = true
      · rw [if_pos ha]; simp only [lookupCN, hnone, Option.getD_none, CN.zero]
      · rw [if_neg ha]
        simp only [if_true]
        have : memoCN fs.base (t+1) fs.cnt t = (CN.zero, fs.cnt) := by
          rw [memoCN, if_neg (by omega), if_neg (by omega)]
          simp only [hnone, Array.getElem?_eq_none hs]
        rw [this]
        rfl
    rw [this, ← hp, paths_oob fs.base t h2 hs]
    exact ⟨rfl, h⟩

theorem depsHasC_rel {c : Cfg} {z : Bool} {A : Prop} {fs : FStore} {s : Store} (r : RelA c z A fs s) (t v : Nat) :
    depsHasC c fs t v = (depsOf s t).contains v := by
  have hd := depsOf_congr r.nodes t
  unfold depsHasC
  fun_cases varDepsC c fs t with
  | case1 hv =>
    have ok := r.inv.tab.deps hv
    by_cases ht : t < fs.base.nodes.size
    · rw [DepsOK_contains ok t v ht, hd]
    · have hs : fs.base.nodes.size ≤ t := by omega
      rw [← hd, depsOf_oob fs.base t hs]
      have : fs.deps.getD t [] = [] := by
        have := ok.1
        simp [Array.getD, show ¬ t < fs.deps.size by omega]
      rw [this]
  | case2 => rw [hd]

theorem passiveC_rel {c : Cfg} {z : Bool} {A : Prop} {fs : FStore} {s : Store} (r : RelA c z A fs s) (v : Nat) (interp : List Nat) :
    passiveC c fs v interp = passive s v interp := by
  unfold passiveC passive
  simp only [depsHasC_rel r]

theorem activeC_rel {c : Cfg} {z : Bool} {A : Prop} {fs : FStore} {s : Store} (r : RelA c z A fs s) (v : Nat) (interp : List Nat) :
    activeC c fs v interp = active s v interp := by
  unfold activeC active
  simp only [depsHasC_rel r]

theorem cubesC_rel {c : Cfg} {z : Bool} {A : Prop} {fs : FStore} {s : Store} (r : RelA c z A fs s) (t : Nat) (goal : Bool) (gv : Nat) :
    cubesC fs t goal gv = cubesOf s t goal gv := cubesF_congr r.nodes _ _ _ _ _ _

theorem minPathsC_rel {c : Cfg} {z : Bool} {P : FStore → Prop} {A : Prop} (st : Stable c P) {fs : FStore} {s : Store}
    (h : RelP c z P A fs s) (t : Nat) :
    (minPathsC c fs t).1 = minPaths s t ∧ RelP c z P A (minPathsC c fs t).2 s := by
  have ⟨a, b⟩ := pathsQ_rel st h t
  unfold minPathsC minPaths
  simp only [a]
  exact ⟨trivial, b⟩

section
variable {S S' : Type}

/-- `Iterator::min_by` (first minimum), the comparator may change the state -/
def minByM (cmp : S → (Nat × Nat) → (Nat × Nat) → Ordering × S) : S → List (Nat × Nat) → Option (Nat × Nat) × S
  | s, [] => (none, s)
  | s, x :: xs =>
    let r := xs.foldl (fun (m : (Nat × Nat) × S) y => let c := cmp m.2 m.1 y; (if c.1 == .gt then y else m.1, c.2)) (x, s)
    (some r.1, r.2)

theorem minByM_sim {R : S → S' → Prop} (cmpM : S → (Nat × Nat) → (Nat × Nat) → Ordering × S)
    (cmp : (Nat × Nat) → (Nat × Nat) → Ordering) (s' : S')
    (h : ∀ s l r, R s s' → (cmpM s l r).1 = cmp l r ∧ R (cmpM s l r).2 s') :
    ∀ (xs : List (Nat × Nat)) (s : S), R s s' → (minByM cmpM s xs).1 = minBy cmp xs ∧ R (minByM cmpM s xs).2 s' := by
  intro xs s hs
  cases xs with
  | nil => exact ⟨rfl, hs⟩
  | cons x xs =>
    -- the two folds stay related: same current minimum, related states
    have ⟨a, b⟩ := List.foldl_rel (l := xs) (r := fun (m : (Nat × Nat) × S) m' => m.1 = m' ∧ R m.2 s')
      (f := fun m y => let c := cmpM m.2 m.1 y; (if c.1 == .gt then y else m.1, c.2))
      (g := fun m y => if cmp m y == .gt then y else m) (a := (x, s)) ⟨rfl, hs⟩
      fun y _ m m' hm => by
        have ⟨a, b⟩ := h m.2 m.1 y hm.2
        exact ⟨by rw [← hm.1, ← a], b⟩
    unfold minByM minBy
    exact ⟨congrArg some a, b⟩
end

/-- `heu_max_imp_min_nacyc_impact_min_paths` -/
def heuAC (c : Cfg) (fs : FStore) (interp : List Nat) (l r : Nat × Nat) : Ordering × FStore :=
  match compare (passiveC c fs r.1 interp) (passiveC c fs l.1 interp) with
  | .eq => match compare (activeC c fs l.1 interp) (activeC c fs r.1 interp) with
    | .eq => let a := minPathsC c fs l.2; let b := minPathsC c a.2 r.2; (compare a.1 b.1, b.2)
    | o => (o, fs)
  | o => (o, fs)

/-- `heu_min_paths_max_imp` -/
def heuBC (c : Cfg) (fs : FStore) (interp : List Nat) (l r : Nat × Nat) : Ordering × FStore :=
  let a := minPathsC c fs l.2; let b := minPathsC c a.2 r.2
  match compare a.1 b.1 with
  | .eq => (compare (passiveC c b.2 r.1 interp) (passiveC c b.2 l.1 interp), b.2)
  | o => (o, b.2)

/-- comparator of `heu_mc_minpaths_maxvarimp` -/
def cmpMinPathsImpC (c : Cfg) (fs : FStore) (interp : List Nat) (l r : Nat × Nat) : Ordering × FStore :=
  let a := minPathsC c fs l.2; let b := minPathsC c a.2 r.2
  match compare a.1 b.1 with
  | .eq => (compare (passiveC c b.2 l.1 interp) (passiveC c b.2 r.1 interp), b.2)
  | o => (o, b.2)

/-- comparator of `heu_mc_maxvarimp_minpaths` -/
def cmpImpMinPathsC (c : Cfg) (fs : FStore) (interp : List Nat) (l r : Nat × Nat) : Ordering × FStore :=
  match compare (passiveC c fs l.1 interp) (passiveC c fs r.1 interp) with
  | .eq => let a := minPathsC c fs l.2; let b := minPathsC c a.2 r.2; (compare a.1 b.1, b.2)
  | o => (o, fs)

section
variable {c : Cfg} {z : Bool} {P : FStore → Prop} {A : Prop} (st : Stable c P) {fs : FStore} {s : Store}
include st

theorem heuAC_rel (h : RelP c z P A fs s) (interp : List Nat) (l r : Nat × Nat) :
    (heuAC c fs interp l r).1 = heuA s interp l r ∧ RelP c z P A (heuAC c fs interp l r).2 s := by
  have ⟨a1, b1⟩ := minPathsC_rel st h l.2
  have ⟨a2, b2⟩ := minPathsC_rel st b1 r.2
  unfold heuAC heuA
  rw [passiveC_rel h.1, passiveC_rel h.1, activeC_rel h.1, activeC_rel h.1]
  cases compare (passive s r.1 interp) (passive s l.1 interp) with
  | eq =>
    cases compare (active s l.1 interp) (active s r.1 interp) with
    | eq => simp only [a1, a2]; exact ⟨trivial, b2⟩
    | lt => exact ⟨rfl, h⟩
    | gt => exact ⟨rfl, h⟩
  | lt => exact ⟨rfl, h⟩
  | gt => exact ⟨rfl, h⟩

theorem heuBC_rel (h : RelP c z P A fs s) (interp : List Nat) (l r : Nat × Nat) :
    (heuBC c fs interp l r).1 = heuB s interp l r ∧ RelP c z P A (heuBC c fs interp l r).2 s := by
  have ⟨a1, b1⟩ := minPathsC_rel st h l.2
  have ⟨a2, b2⟩ := minPathsC_rel st b1 r.2
  unfold heuBC heuB
  simp only [a1, a2, passiveC_rel b2.1]
  cases compare (minPaths s l.2) (minPaths s r.2) with
  | eq => exact ⟨rfl, b2⟩
  | lt => exact ⟨rfl, b2⟩
  | gt => exact ⟨rfl, b2⟩

theorem cmpMinPathsImpC_rel (h : RelP c z P A fs s) (interp : List Nat) (l r : Nat × Nat) :
    (cmpMinPathsImpC c fs interp l r).1 = SM.cmpMinPathsImp s interp l r ∧
    RelP c z P A (cmpMinPathsImpC c fs interp l r).2 s := by
  have ⟨a1, b1⟩ := minPathsC_rel st h l.2
  have ⟨a2, b2⟩ := minPathsC_rel st b1 r.2
  unfold cmpMinPathsImpC SM.cmpMinPathsImp
  simp only [a1, a2, passiveC_rel b2.1]
  cases compare (minPaths s l.2) (minPaths s r.2) with
  | eq => exact ⟨rfl, b2⟩
  | lt => exact ⟨rfl, b2⟩
  | gt => exact ⟨rfl, b2⟩

theorem cmpImpMinPathsC_rel (h : RelP c z P A fs s) (interp : List Nat) (l r : Nat × Nat) :
    (cmpImpMinPathsC c fs interp l r).1 = SM.cmpImpMinPaths s interp l r ∧
    RelP c z P A (cmpImpMinPathsC c fs interp l r).2 s := by
  have ⟨a1, b1⟩ := minPathsC_rel st h l.2
  have ⟨a2, b2⟩ := minPathsC_rel st b1 r.2
  unfold cmpImpMinPathsC SM.cmpImpMinPaths
  rw [passiveC_rel h.1, passiveC_rel h.1]
  cases compare (passive s l.1 interp) (passive s r.1 interp) with
  | eq => simp only [a1, a2]; exact ⟨trivial, b2⟩
  | lt => exact ⟨rfl, h⟩
  | gt => exact ⟨rfl, h⟩
end

namespace GK
variable {S S' C K O : Type}

structure CParamsM (S C K O : Type) where
  pick : S → C → Option Nat × S
  goal : S → C → Nat → Bool × S
  cubes : S → C → Nat → Bool → List K
  cubeStep : S → C → Nat → Bool → K → S × Option C
  flipStep : S → C → Nat → Bool → S × Option C
  leaf : S → C → S × List O

def cubeLoopM (P : CParamsM S C K O) (rec : S → C → S × List O) (c : C) (idx : Nat) (g : Bool) :
    List K → S → S × List O
  | [], s => (s, [])
  | cu :: cus, s =>
    let r := P.cubeStep s c idx g cu
    let here := match r.2 with
      | some c' => rec r.1 c'
      | none => (r.1, [])
    let rest := cubeLoopM P rec c idx g cus here.1
    (rest.1, here.2 ++ rest.2)

/-- `two_val_model_counts_logic`, in the order of the code: heuristic (`min_by`), `paths(ac, true)`,
`interpretations`, the cube loop, the flip -/
def searchM (P : CParamsM S C K O) : Nat → S → C → S × List O
  | 0, s, _ => (s, [])
  | fuel+1, s, c =>
    let p := P.pick s c
    match p.1 with
    | none => P.leaf p.2 c
    | some idx =>
      let g := P.goal p.2 c idx
      let r1 := cubeLoopM P (fun s' c' => searchM P fuel s' c') c idx g.1 (P.cubes g.2 c idx g.1) g.2
      let f := P.flipStep r1.1 c idx g.1
      match f.2 with
      | some c' => let r2 := searchM P fuel f.1 c'; (r2.1, r1.2 ++ r2.2)
      | none => (f.1, r1.2)

structure PSim (PM : CParamsM S C K O) (P : CParams S' C K O) (R : S → S' → Prop) : Prop where
  pick : ∀ s s' c, R s s' → (PM.pick s c).1 = P.pick s' c ∧ R (PM.pick s c).2 s'
  goal : ∀ s s' c idx, R s s' → (PM.goal s c idx).1 = P.goal s' c idx ∧ R (PM.goal s c idx).2 s'
  cubes : ∀ s s' c idx g, R s s' → PM.cubes s c idx g = P.cubes s' c idx g
  cubeStep : ∀ s s' c idx g cu, R s s' → (PM.cubeStep s c idx g cu).2 = (P.cubeStep s' c idx g cu).2 ∧
    R (PM.cubeStep s c idx g cu).1 (P.cubeStep s' c idx g cu).1
  flipStep : ∀ s s' c idx g, R s s' → (PM.flipStep s c idx g).2 = (P.flipStep s' c idx g).2 ∧
    R (PM.flipStep s c idx g).1 (P.flipStep s' c idx g).1
  leaf : ∀ s s' c, R s s' → (PM.leaf s c).2 = (P.leaf s' c).2 ∧ R (PM.leaf s c).1 (P.leaf s' c).1

theorem cubeLoopM_sim {PM : CParamsM S C K O} {P : CParams S' C K O} {R : S → S' → Prop} (ps : PSim PM P R)
    (rec : S → C → S × List O) (rec' : S' → C → S' × List O)
    (hrec : ∀ s s' c, R s s' → (rec s c).2 = (rec' s' c).2 ∧ R (rec s c).1 (rec' s' c).1)
    (c : C) (idx : Nat) (g : Bool) : ∀ (cus : List K) (s : S) (s' : S'), R s s' →
    (cubeLoopM PM rec c idx g cus s).2 = (cubeLoop P rec' c idx g cus s').2 ∧
    R (cubeLoopM PM rec c idx g cus s).1 (cubeLoop P rec' c idx g cus s').1 := by
  intro cus
  induction cus with
  | nil => intro s s' h; exact ⟨rfl, h⟩
  | cons cu cus ih =>
    intro s s' h
    have ⟨q, r⟩ := ps.cubeStep s s' c idx g cu h
    unfold cubeLoopM cubeLoop
    simp only
    rw [← q]
    cases (PM.cubeStep s c idx g cu).2 with
    | none =>
      simp only
      have ⟨q2, r2⟩ := ih _ _ r
      exact ⟨by rw [q2], r2⟩
    | some c' =>
      simp only
      have ⟨q1, r1⟩ := hrec _ _ c' r
      have ⟨q2, r2⟩ := ih _ _ r1
      exact ⟨by rw [q1, q2], r2⟩

theorem searchM_sim {PM : CParamsM S C K O} {P : CParams S' C K O} {R : S → S' → Prop} (ps : PSim PM P R) :
    ∀ (fuel : Nat) (s : S) (s' : S') (c : C), R s s' →
    (searchM PM fuel s c).2 = (search P fuel s' c).2 ∧ R (searchM PM fuel s c).1 (search P fuel s' c).1 := by
  intro fuel
  induction fuel with
  | zero => intro s s' c h; exact ⟨rfl, h⟩
  | succ f ih =>
    intro s s' c h
    have ⟨qp, rp⟩ := ps.pick s s' c h
    unfold searchM search
    simp only
    rw [← qp]
    cases (PM.pick s c).1 with
    | none => exact ps.leaf _ _ c rp
    | some idx =>
      simp only
      have ⟨qg, rg⟩ := ps.goal _ s' c idx rp
      have qc := ps.cubes _ s' c idx (PM.goal (PM.pick s c).2 c idx).1 rg
      have ⟨q1, r1⟩ := cubeLoopM_sim ps (fun s' c' => searchM PM f s' c') (fun s' c' => search P f s' c')
        (fun a a' c' ha => ih a a' c' ha) c idx (PM.goal (PM.pick s c).2 c idx).1
        (PM.cubes (PM.goal (PM.pick s c).2 c idx).2 c idx (PM.goal (PM.pick s c).2 c idx).1) _ s' rg
      rw [qc, qg] at q1 r1
      have ⟨qf, rf⟩ := ps.flipStep _ _ c idx (P.goal s' c idx) r1
      rw [qc, qg, ← qf]
      cases (PM.flipStep _ c idx (P.goal s' c idx)).2 with
      | none => exact ⟨q1, rf⟩
      | some c' =>
        simp only
        have ⟨q2, r2⟩ := ih _ _ c' rf
        exact ⟨by rw [q1, q2], r2⟩

end GK

section
variable {S : Type} (A : RA S Nat)

def mapRestrictG (s : S) (v : Nat) (b : Bool) : List Nat → S × List Nat
  | [] => (s, [])
  | t :: ts => let r := A.restrict s t v b; let m := mapRestrictG r.1 v b ts; (m.1, r.2 :: m.2)

/-- `apply_interpretation(ac, interp)` -/
def applyVecG (s : S) (interp : List Nat) : List Nat → S × List Nat
  | [] => (s, [])
  | a :: acs => let r := restrictBy A s a 0 interp; let m := applyVecG r.1 interp acs; (m.1, r.2 :: m.2)

/-- `stability_check` -/
def stabilityCheckG (s : S) (n : Nat) (ac cand : List Nat) : S × Bool :=
  let red := mapFalseG A s cand ac
  let grd := groundedLoop A (n + 1) red.1 red.2
  (grd.1, (grd.2.zip cand).all (fun (a, b) => sameInfo a b))

def stableFilterG (n : Nat) (ac : List Nat) (cands : List (List Nat)) (s : S) : S × List (List Nat) :=
  cands.foldl (fun (acc : S × List (List Nat)) v =>
      let chk := stabilityCheckG A acc.1 n ac v
      (chk.1, if chk.2 then acc.2 ++ [v] else acc.2)) (s, [])

theorem mapRestrictG_eq (v : Nat) (b : Bool) : ∀ (ts : List Nat) (s : S),
    mapRestrictG A s v b ts = mapS (fun s t => A.restrict s t v b) s ts := by
  intro ts; induction ts with
  | nil => intro s; rfl
  | cons t ts ih => intro s; simp only [mapRestrictG, mapS, ih]

theorem applyVecG_eq (interp : List Nat) : ∀ (acs : List Nat) (s : S),
    applyVecG A s interp acs = mapS (fun s a => restrictBy A s a 0 interp) s acs := by
  intro acs; induction acs with
  | nil => intro s; rfl
  | cons a acs ih => intro s; simp only [applyVecG, mapS, ih]
end

section
variable {S : Type} {A : RA S Nat} {R : S → Store → Prop} (sim : RASim A StoreRA R)
include sim

theorem mapRestrictG_sim (v : Nat) (b : Bool) (ts : List Nat) (s : S) (s' : Store) (h : R s s') :
    (mapRestrictG A s v b ts).2 = (mapRestrict s' v b ts).2 ∧ R (mapRestrictG A s v b ts).1 (mapRestrict s' v b ts).1 := by
  rw [mapRestrictG_eq, mapRestrict_eq]
  exact mapS_sim (fun s s' t r => sim.restrict s s' t v b r) ts s s' h

theorem applyVecG_sim (interp acs : List Nat) (s : S) (s' : Store) (h : R s s') :
    (applyVecG A s interp acs).2 = (applyVec s' interp acs).2 ∧ R (applyVecG A s interp acs).1 (applyVec s' interp acs).1 := by
  rw [applyVecG_eq, applyVec_eq]
  exact mapS_sim (fun s s' a r => restrictBy_sim sim interp 0 s s' a r) acs s s' h

theorem stabilityCheckG_sim (n : Nat) (ac cand : List Nat) (s : S) (s' : Store) (h : R s s') :
    (stabilityCheckG A s n ac cand).2 = (stabilityCheckC s' n ac cand).2 ∧
    R (stabilityCheckG A s n ac cand).1 (stabilityCheckC s' n ac cand).1 := by
  have ⟨q1, r1⟩ := mapFalseG_sim sim cand ac s s' h
  rw [mapFalseG_store] at q1 r1
  have ⟨q2, r2⟩ := groundedLoop_sim sim (n+1) _ _ (mapFalseG A s cand ac).2 r1
  unfold stabilityCheckG stabilityCheckC
  simp only
  rw [← q1]
  exact ⟨by rw [q2], r2⟩

theorem stableFilterG_sim (n : Nat) (ac : List Nat) (cands : List (List Nat)) (s : S) (s' : Store) (h : R s s') :
    (stableFilterG A n ac cands s).2 = (stableFilter n ac cands s').2 ∧
    R (stableFilterG A n ac cands s).1 (stableFilter n ac cands s').1 := by
  unfold stableFilterG stableFilter
  exact foldl_sim (R := R) _ _
    (by
      intro a a' x ra qa
      have ⟨q1, r1⟩ := stabilityCheckG_sim sim n ac x a.1 a'.1 ra
      simp only
      rw [q1, qa]
      exact ⟨rfl, r1⟩)
    _ _ _ h rfl
end

theorem applyVecG_store (s : Store) (interp xs : List Nat) : applyVecG StoreRA s interp xs = applyVec s interp xs := by
  rw [applyVecG_eq, applyVec_eq]

theorem mapRestrictG_store (s : Store) (v : Nat) (b : Bool) (xs : List Nat) :
    mapRestrictG StoreRA s v b xs = mapRestrict s v b xs := by
  rw [mapRestrictG_eq, mapRestrict_eq]; rfl

theorem stabilityCheckG_store (s : Store) (n : Nat) (ac cand : List Nat) :
    stabilityCheckG StoreRA s n ac cand = stabilityCheckC s n ac cand :=
  have ⟨a, b⟩ := stabilityCheckG_sim (RASim.eq StoreRA) n ac cand s s rfl
  Prod.ext b a

theorem stableFilterG_store (n : Nat) (ac : List Nat) (cands : List (List Nat)) (s : Store) :
    stableFilterG StoreRA n ac cands s = stableFilter n ac cands s :=
  have ⟨a, b⟩ := stableFilterG_sim (RASim.eq StoreRA) n ac cands s s rfl
  Prod.ext b a

/-- the steps of `two_val_model_counts_logic` under the feature set `c` (`countParams` at `unrepaired := false`) -/
def countParamsC (c : Cfg) (ac : List Nat) (useA : Bool) : GK.CParamsM FStore CState PCube (List Nat) where
  pick fs cs :=
    let r := minByM (fun fs l r => if useA then heuAC c fs cs.1 l r else heuBC c fs cs.1 l r) fs (candidates cs)
    (r.1.map (·.1), r.2)
  goal fs cs idx := let p := pathsQ c fs (cs.1.getD idx 0); (!moreModels p.1, p.2)
  cubes fs cs idx g := cubesC fs (cs.1.getD idx 0) g idx
  cubeStep fs cs idx g cu :=
    match applyCube cs.1 cs.2 cu with
    | none => (fs, none)
    | some ni =>
      let ni := ni.set idx (if g then 1 else 0)
      let upd := applyVecG (CfgRA c) fs ni ni
      (upd.1, if consistentWith upd.2 cs.2 then some (upd.2, cs.2) else none)
  flipStep fs cs idx g :=
    let ni := mapRestrictG (CfgRA c) fs idx (!g) cs.1
    let upd := applyVecG (CfgRA c) ni.1 ni.2 ni.2
    let nidx := ni.2.getD idx 0
    if noInfIncons nidx (upd.2.getD idx 0) then
      let other := if g then 0 else 1
      if noInfIncons nidx other then (upd.1, some (upd.2.set idx other, cs.2.set idx nidx))
      else (upd.1, none)
    else (upd.1, none)
  leaf fs cs :=
    let concluded := cs.1.zipIdx.map (fun (t, i) => if !isTV t then cs.2.getD i 2 else t)
    let r := applyVecG (CfgRA c) fs concluded ac
    if consistentWith r.2 concluded then (r.1, [r.2]) else (r.1, [cs.1])

/-- `stable_count_optimisation_heu_a/b` under the feature set `c` -/
def countAllC (c : Cfg) (fs : FStore) (n : Nat) (ac : List Nat) (useA : Bool) : FStore × List (List Nat) :=
  let g := groundedLoop (CfgRA c) (n + 1) fs ac
  let r := GK.searchM (countParamsC c ac useA) (n + 1) g.1 (g.2, List.replicate n 2)
  stableFilterG (CfgRA c) n ac r.2 r.1

theorem countParamsC_sim (c : Cfg) (z : Bool) (P : FStore → Prop) (A : Prop) (st : Stable c P) (ac : List Nat) (useA : Bool) :
    GK.PSim (countParamsC c ac useA) (countParams ac useA) (RelP c z P A) where
  pick := fun fs s cs h => by
    have := minByM_sim (R := RelP c z P A)
      (fun fs l r => if useA then heuAC c fs cs.1 l r else heuBC c fs cs.1 l r)
      (if useA then heuA s cs.1 else heuB s cs.1) s
      (by
        intro fs' l r h'
        cases useA with
        | true => exact heuAC_rel st h' cs.1 l r
        | false => exact heuBC_rel st h' cs.1 l r)
      (candidates cs) fs h
    exact ⟨congrArg (Option.map (fun p : Nat × Nat => p.1)) this.1, this.2⟩
  goal := fun fs s cs idx h => by
    have ⟨a, b⟩ := pathsQ_rel st h (cs.1.getD idx 0)
    exact ⟨congrArg (fun p => !moreModels p) a, b⟩
  cubes := fun fs s cs idx g h => cubesC_rel h.1 _ _ _
  cubeStep := fun fs s cs idx g cu h => by
    simp only [countParamsC, countParams]
    cases applyCube cs.1 cs.2 cu with
    | none => exact ⟨rfl, h⟩
    | some ni =>
      have ⟨q, r⟩ := applyVecG_sim (cfg_sim c z P A st) (ni.set idx (if g then 1 else 0)) (ni.set idx (if g then 1 else 0)) fs s h
      simp only [q]
      exact ⟨trivial, r⟩
  flipStep := fun fs s cs idx g h => by
    have ⟨q0, r0⟩ := mapRestrictG_sim (cfg_sim c z P A st) idx (!g) cs.1 fs s h
    have ⟨q1, r1⟩ := applyVecG_sim (cfg_sim c z P A st) (mapRestrictG (CfgRA c) fs idx (!g) cs.1).2
      (mapRestrictG (CfgRA c) fs idx (!g) cs.1).2 _ _ r0
    rw [q0] at q1 r1
    simp only [countParamsC, countParams, q0, q1, apply_ite Prod.fst, apply_ite Prod.snd, ite_self]
    exact ⟨trivial, r1⟩
  leaf := fun fs s cs h => by
    have ⟨q, r⟩ := applyVecG_sim (cfg_sim c z P A st)
      (cs.1.zipIdx.map (fun (t, i) => if !isTV t then cs.2.getD i 2 else t)) ac fs s h
    simp only [countParamsC, countParams, q, apply_ite Prod.fst, apply_ite Prod.snd, ite_self]
    exact ⟨trivial, r⟩

theorem countAllC_sim (c : Cfg) (z : Bool) (P : FStore → Prop) (A : Prop) (st : Stable c P) (fs : FStore) (s : Store)
    (n : Nat) (ac : List Nat) (useA : Bool) (h : RelP c z P A fs s) :
    (countAllC c fs n ac useA).2 = (countAll s n ac useA).2 ∧
    RelP c z P A (countAllC c fs n ac useA).1 (countAll s n ac useA).1 := by
  have sim := cfg_sim c z P A st
  have ⟨q0, r0⟩ := groundedLoop_sim sim (n+1) fs s ac h
  have ⟨q1, r1⟩ := GK.searchM_sim (countParamsC_sim c z P A st ac useA) (n+1) _ _
    ((groundedLoop (CfgRA c) (n+1) fs ac).2, List.replicate n 2) r0
  unfold countAllC countAll countLogic
  simp only
  rw [← q0, ← q1]
  exact stableFilterG_sim sim n ac _ _ _ r1

#print axioms countAllC_sim
