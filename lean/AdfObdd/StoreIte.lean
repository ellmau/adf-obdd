import AdfObdd.StoreOps
/-! if-then-else with its memo table on the store, treated as `iteS sc` on top of `restrictS sc` for a
    sound oracle `sc`; `iteF` equals `iteS scNone` (theorem `iteS_none`) and its theorems are the instances:
    `iteS_step` (what one call can do), `iteS_spec` (the specification, and: a represented result allocates
    nothing), `iteS_lock` (handle and node table depend on the node table alone). -/

/-- a cofactor taken at `mv ≤ topVar t` is the diagram itself or one of its children, so `restrictS` finds it
without allocating -/
theorem cof {sc : Store → Nat → Nat → Bool} (hsc : ScSound sc) (s : Store) (w : WF s) (t mv : Nat) (b : Bool)
    (ht : t < s.nodes.size) (hv : mv ≤ topVar s t) (hvb : mv < VBOT) :
    WF (restrictS sc (t+1) s t mv b).1 ∧ (restrictS sc (t+1) s t mv b).1.nodes = s.nodes ∧
    IsCof s t mv b (restrictS sc (t+1) s t mv b).2 := by
  have ⟨⟨w1, _⟩, rep⟩ := restrictS_spec hsc (t+1) s t mv b w ht (Nat.lt_succ_self t)
  obtain ⟨c, hc⟩ : ∃ c, IsCof s t mv b c := by
    obtain ⟨lo, hi, clo, chi, _⟩ := MemoT.cofRep w t mv ht hv hvb
    cases b
    · exact ⟨lo, clo⟩
    · exact ⟨hi, chi⟩
  have ⟨a, e⟩ := rep c (Nat.lt_of_le_of_lt hc.le ht) hc.ev
  rw [e]
  exact ⟨w1, a, hc⟩

def iteF : Nat → Store → Nat → Nat → Nat → Store × Nat
  | 0, s, i, _, _ => (s, i)
  | fuel+1, s, i, t, e =>
    if i = 1 then (s, t) else if i = 0 then (s, e) else if t = e then (s, t)
    else if t = 1 ∧ e = 0 then (s, i) else
    match s.iteC[(i, t, e)]? with
    | some r => (s, r)
    | none =>
    let mv := minVar s i t e
    let r1 := restrictF (i+1) s i mv true
    let r2 := restrictF (t+1) r1.1 t mv true
    let r3 := restrictF (e+1) r2.1 e mv true
    let r4 := restrictF (i+1) r3.1 i mv false
    let r5 := restrictF (t+1) r4.1 t mv false
    let r6 := restrictF (e+1) r5.1 e mv false
    let top := iteF fuel r6.1 r1.2 r2.2 r3.2
    let bot := iteF fuel top.1 r4.2 r5.2 r6.2
    let m := mkNode bot.1 mv bot.2 top.2
    ({ m.1 with iteC := m.1.iteC.insert (i, t, e) m.2 }, m.2)

/-- insertion into the ite memo of a store that is taken apart first (in place when compiled) -/
def Store.insIte (s : Store) (k : Nat × Nat × Nat) (r : Nat) : Store :=
  match s with
  | ⟨nodes, uniq, resC, iteC⟩ => ⟨nodes, uniq, resC, iteC.insert k r⟩

theorem Store.insIte_eq (s : Store) (k : Nat × Nat × Nat) (r : Nat) :
    s.insIte k r = { s with iteC := s.iteC.insert k r } := rfl

/-- `iteF` with every intermediate pair taken apart at once (single reference to the store in the
compiled code; `@[csimp]`-substituted, theorems speak about `iteF`) -/
def iteL : Nat → Store → Nat → Nat → Nat → Store × Nat
  | 0, s, i, _, _ => (s, i)
  | fuel+1, s, i, t, e =>
    if i = 1 then (s, t) else if i = 0 then (s, e) else if t = e then (s, t)
    else if t = 1 ∧ e = 0 then (s, i) else
    match s.iteC[(i, t, e)]? with
    | some r => (s, r)
    | none =>
    let mv := minVar s i t e
    match restrictL (i+1) s i mv true with
    | (s1, a1) =>
    match restrictL (t+1) s1 t mv true with
    | (s2, a2) =>
    match restrictL (e+1) s2 e mv true with
    | (s3, a3) =>
    match restrictL (i+1) s3 i mv false with
    | (s4, a4) =>
    match restrictL (t+1) s4 t mv false with
    | (s5, a5) =>
    match restrictL (e+1) s5 e mv false with
    | (s6, a6) =>
    match iteL fuel s6 a1 a2 a3 with
    | (s7, top) =>
    match iteL fuel s7 a4 a5 a6 with
    | (s8, bot) =>
    match mkNodeL s8 mv bot top with
    | (s9, r) => (s9.insIte (i, t, e) r, r)

theorem iteF_eq_iteL : ∀ (fuel : Nat) (s : Store) (i t e : Nat), iteF fuel s i t e = iteL fuel s i t e := by
  intro fuel
  induction fuel with
  | zero => intros; rfl
  | succ f ih =>
    intro s i t e
    unfold iteF iteL
    simp only [← ih, restrictF_eq_restrictL, ← mkNode_eq_mkNodeL, Store.insIte_eq]

@[csimp] theorem iteF_eq_iteL' : @iteF = @iteL := by
  funext fuel s i t e; exact iteF_eq_iteL fuel s i t e

theorem iteS_none : ∀ (fuel : Nat) (s : Store) (i t e : Nat),
    iteS scNone fuel s i t e = iteF fuel s i t e := by
  intro fuel
  induction fuel with
  | zero => intros; rfl
  | succ f ih =>
    intro s i t e
    rw [iteS, iteF]
    simp only [ih, restrictS_none]
    rfl

/-- the two ite memos answer every key alike: `iteS_lock` carries it across a call and `Rel` (`FeatureOps.lean`) has it
as a clause; no statement about handles or node tables needs it -/
def IteAgree (s s' : Store) : Prop := ∀ k : Nat × Nat × Nat, s.iteC[k]? = s'.iteC[k]?

theorem IteAgree.refl (s : Store) : IteAgree s s := fun _ => rfl

theorem WF_insert_ite (s : Store) (w : WF s) (i t e r : Nat)
    (hi : i < s.nodes.size) (ht : t < s.nodes.size) (he : e < s.nodes.size) (hr : r < s.nodes.size)
    (hmv : minVar s i t e ≤ topVar s r)
    (hev : ∀ σ, eval s r σ = if eval s i σ then eval s t σ else eval s e σ) :
    WF { s with iteC := s.iteC.insert (i, t, e) r } ∧ Ext s { s with iteC := s.iteC.insert (i, t, e) r } := by
  refine ⟨⟨w.len, w.bot, w.top, w.inner, w.uniqOK, w.resOK, ?_⟩, Ext.refl _⟩
  intro i' t' e' r' h
  rcases (getElem?_insert_some _ _ _ _ _).mp h with ⟨hk, rfl⟩ | ⟨_, h⟩
  · cases hk; exact ⟨hi, ht, he, hr, hmv, hev⟩
  · exact w.iteOK i' t' e' r' h

theorem minVar_le (s : Store) (i t e : Nat) :
    minVar s i t e ≤ topVar s i ∧ minVar s i t e ≤ topVar s t ∧ minVar s i t e ≤ topVar s e := by
  simp only [minVar]; omega
theorem minVar_eq (s : Store) (i t e : Nat) :
    minVar s i t e = topVar s i ∨ minVar s i t e = topVar s t ∨ minVar s i t e = topVar s e := by
  simp only [minVar]; omega

def withIte (k : Nat × Nat × Nat) (R : Store × Nat) : Store × Nat :=
  ({ R.1 with iteC := R.1.iteC.insert k R.2 }, R.2)

namespace MemoT

/-- the store and the six handles after the six cofactor calls of one `iteS` step -/
structure Cof6 where
  st : Store
  i1 : Nat
  t1 : Nat
  e1 : Nat
  i0 : Nat
  t0 : Nat
  e0 : Nat

end MemoT

def cofsS (sc : Store → Nat → Nat → Bool) (s : Store) (i t e mv : Nat) : MemoT.Cof6 :=
  let r1 := restrictS sc (i+1) s i mv true
  let r2 := restrictS sc (t+1) r1.1 t mv true
  let r3 := restrictS sc (e+1) r2.1 e mv true
  let r4 := restrictS sc (i+1) r3.1 i mv false
  let r5 := restrictS sc (t+1) r4.1 t mv false
  let r6 := restrictS sc (e+1) r5.1 e mv false
  ⟨r6.1, r1.2, r2.2, r3.2, r4.2, r5.2, r6.2⟩

theorem cofsS_iteC (sc : Store → Nat → Nat → Bool) (s : Store) (i t e mv : Nat) :
    (cofsS sc s i t e mv).st.iteC = s.iteC := by
  simp only [cofsS, restrictS_iteC]

section
variable (sc : Store → Nat → Nat → Bool) (f : Nat) {s : Store} {i t e : Nat}

theorem iteS_hit {r : Nat} (c1 : i ≠ 1) (c0 : i ≠ 0) (c2 : t ≠ e) (c3 : ¬ (t = 1 ∧ e = 0))
    (h : s.iteC[(i, t, e)]? = some r) : iteS sc (f+1) s i t e = (s, r) := by
  rw [iteS, if_neg c1, if_neg c0, if_neg c2, if_neg c3, h]

theorem iteS_miss (c1 : i ≠ 1) (c0 : i ≠ 0) (c2 : t ≠ e) (c3 : ¬ (t = 1 ∧ e = 0))
    (h : s.iteC[(i, t, e)]? = none) :
    iteS sc (f+1) s i t e =
      (let C := cofsS sc s i t e (minVar s i t e)
       let top := iteS sc f C.st C.i1 C.t1 C.e1
       let bot := iteS sc f top.1 C.i0 C.t0 C.e0
       withIte (i, t, e) (mkNode bot.1 (minVar s i t e) bot.2 top.2)) := by
  rw [iteS, if_neg c1, if_neg c0, if_neg c2, if_neg c3, h]
  simp only [cofsS, withIte]

end

namespace MemoT

/-- what the six cofactor calls deliver: the node table is unchanged and the six handles are the cofactor handles
of the operands along `mv`, the top variable of one of them -/
structure CofOK (s : Store) (i t e mv : Nat) (C : Cof6) : Prop where
  wf : WF C.st
  nodes : C.st.nodes = s.nodes
  top : mv = topVar s i ∨ mv = topVar s t ∨ mv = topVar s e
  i1 : IsCof s i mv true C.i1
  t1 : IsCof s t mv true C.t1
  e1 : IsCof s e mv true C.e1
  i0 : IsCof s i mv false C.i0
  t0 : IsCof s t mv false C.t0
  e0 : IsCof s e mv false C.e0

theorem sum_lt_sum {a b c i t e : Nat} (ha : a ≤ i) (hb : b ≤ t) (hc : c ≤ e)
    (h : a < i ∨ b < t ∨ c < e) : a + b + c < i + t + e := by omega

section
variable {s : Store} {i t e mv : Nat} {C : Cof6} (K : CofOK s i t e mv C)
include K

/-- the operand whose top variable is `mv` gets strictly smaller: the measure of the recursion -/
theorem CofOK.dec1 : C.i1 + C.t1 + C.e1 < i + t + e :=
  sum_lt_sum K.i1.le K.t1.le K.e1.le (K.top.imp K.i1.lt (Or.imp K.t1.lt K.e1.lt))
theorem CofOK.dec0 : C.i0 + C.t0 + C.e0 < i + t + e :=
  sum_lt_sum K.i0.le K.t0.le K.e0.le (K.top.imp K.i0.lt (Or.imp K.t0.lt K.e0.lt))
theorem CofOK.above1 : mv < min (topVar s C.i1) (min (topVar s C.t1) (topVar s C.e1)) :=
  Nat.lt_min.mpr ⟨K.i1.above, Nat.lt_min.mpr ⟨K.t1.above, K.e1.above⟩⟩
theorem CofOK.above0 : mv < min (topVar s C.i0) (min (topVar s C.t0) (topVar s C.e0)) :=
  Nat.lt_min.mpr ⟨K.i0.above, Nat.lt_min.mpr ⟨K.t0.above, K.e0.above⟩⟩

end

theorem CofOK.calls {s : Store} {i t e mv : Nat} {C : Cof6} (K : CofOK s i t e mv C)
    (hi : i < s.nodes.size) (ht : t < s.nodes.size) (he : e < s.nodes.size) {f : Nat} (hf : i + t + e < f + 1) :
    (C.i1 < C.st.nodes.size ∧ C.t1 < C.st.nodes.size ∧ C.e1 < C.st.nodes.size ∧ C.i1 + C.t1 + C.e1 < f) ∧
    (C.i0 < C.st.nodes.size ∧ C.t0 < C.st.nodes.size ∧ C.e0 < C.st.nodes.size ∧ C.i0 + C.t0 + C.e0 < f) := by
  rw [K.nodes]
  exact ⟨⟨Nat.lt_of_le_of_lt K.i1.le hi, Nat.lt_of_le_of_lt K.t1.le ht, Nat.lt_of_le_of_lt K.e1.le he,
      Nat.lt_of_lt_of_le K.dec1 (Nat.le_of_lt_succ hf)⟩,
    Nat.lt_of_le_of_lt K.i0.le hi, Nat.lt_of_le_of_lt K.t0.le ht, Nat.lt_of_le_of_lt K.e0.le he,
      Nat.lt_of_lt_of_le K.dec0 (Nat.le_of_lt_succ hf)⟩

/-- `cof` on a store `a` with the node table of `s`, stated about `s` -/
theorem cof_on {sc : Store → Nat → Nat → Bool} (hsc : ScSound sc) {s a : Store} (wa : WF a) (hna : a.nodes = s.nodes)
    (t mv : Nat) (b : Bool) (ht : t < s.nodes.size) (hv : mv ≤ topVar s t) (hvb : mv < VBOT) :
    WF (restrictS sc (t+1) a t mv b).1 ∧ (restrictS sc (t+1) a t mv b).1.nodes = s.nodes ∧
    IsCof s t mv b (restrictS sc (t+1) a t mv b).2 :=
  have h := cof hsc a wa t mv b (by rw [hna]; exact ht) (by rw [topVar_congr hna]; exact hv) hvb
  ⟨h.1, h.2.1.trans hna, h.2.2.congr hna⟩

theorem cofsS_spec {sc : Store → Nat → Nat → Bool} (hsc : ScSound sc) (s : Store) (w : WF s) (i t e mv : Nat)
    (hi : i < s.nodes.size) (ht : t < s.nodes.size) (he : e < s.nodes.size)
    (mi : mv ≤ topVar s i) (mt : mv ≤ topVar s t) (me : mv ≤ topVar s e) (hvb : mv < VBOT)
    (heq : mv = topVar s i ∨ mv = topVar s t ∨ mv = topVar s e) :
    CofOK s i t e mv (cofsS sc s i t e mv) := by
  unfold cofsS
  simp only
  have ⟨w1, n1, c1⟩ := cof_on hsc w rfl i mv true hi mi hvb
  generalize restrictS sc (i+1) s i mv true = R1 at *
  have ⟨w2, n2, c2⟩ := cof_on hsc w1 n1 t mv true ht mt hvb
  generalize restrictS sc (t+1) R1.1 t mv true = R2 at *
  have ⟨w3, n3, c3⟩ := cof_on hsc w2 n2 e mv true he me hvb
  generalize restrictS sc (e+1) R2.1 e mv true = R3 at *
  have ⟨w4, n4, c4⟩ := cof_on hsc w3 n3 i mv false hi mi hvb
  generalize restrictS sc (i+1) R3.1 i mv false = R4 at *
  have ⟨w5, n5, c5⟩ := cof_on hsc w4 n4 t mv false ht mt hvb
  generalize restrictS sc (t+1) R4.1 t mv false = R5 at *
  have ⟨w6, n6, c6⟩ := cof_on hsc w5 n5 e mv false he me hvb
  exact ⟨w6, n6, heq, c1, c2, c3, c4, c5, c6⟩

/-- the variable `iteS` splits on is a proper variable: the condition is not a terminal -/
theorem minVar_lt_VBOT {s : Store} (w : WF s) {i : Nat} (t e : Nat) (hi : i < s.nodes.size) (c1 : i ≠ 1) (c0 : i ≠ 0) :
    minVar s i t e < VBOT :=
  Nat.lt_of_le_of_lt (minVar_le s i t e).1 (Tab.topVar_lt_of_inner s w.table (by omega) hi)

end MemoT

theorem withIte_spec {s : Store} (w : WF s) {i t e : Nat} (hi : i < s.nodes.size) (ht : t < s.nodes.size)
    (he : e < s.nodes.size) {R : Store × Nat}
    (h : WF R.1 ∧ Ext s R.1 ∧ R.2 < R.1.nodes.size ∧ minVar s i t e ≤ topVar R.1 R.2 ∧
      ∀ σ, eval R.1 R.2 σ = if eval s i σ then eval s t σ else eval s e σ) :
    WF (withIte (i, t, e) R).1 ∧ Ext s (withIte (i, t, e) R).1 ∧
    (withIte (i, t, e) R).2 < (withIte (i, t, e) R).1.nodes.size ∧
    minVar s i t e ≤ topVar (withIte (i, t, e) R).1 (withIte (i, t, e) R).2 ∧
    ∀ σ, eval (withIte (i, t, e) R).1 (withIte (i, t, e) R).2 σ = if eval s i σ then eval s t σ else eval s e σ := by
  obtain ⟨wR, ex, l, tv, ev⟩ := h
  have ⟨w', e'⟩ := WF_insert_ite R.1 wR i t e R.2 (ex.lt hi) (ex.lt ht) (ex.lt he) l
    (by rw [minVar_ext ex hi ht he]; exact tv)
    (fun σ => by rw [ev σ, eval_ext w ex i σ hi, eval_ext w ex t σ ht, eval_ext w ex e σ he])
  exact ⟨w', ex.trans e', l, tv, ev⟩

open MemoT

/-- what one call can do: return at once (a shortcut or a memo hit, on every store whose memo answers this call
alike, well formed or not: that is how `iteS_lock` carries `IteAgree` across) a handle that represents the
if-then-else in the unchanged store, or take the six cofactors and recurse -/
theorem iteS_step {sc : Store → Nat → Nat → Bool} (hsc : ScSound sc) (f : Nat) {s : Store} (w : WF s) {i t e : Nat}
    (hi : i < s.nodes.size) (ht : t < s.nodes.size) (he : e < s.nodes.size) :
    (∃ x, (∀ sc' s', s'.iteC[(i, t, e)]? = s.iteC[(i, t, e)]? → iteS sc' (f+1) s' i t e = (s', x)) ∧
      x < s.nodes.size ∧ minVar s i t e ≤ topVar s x ∧
      ∀ σ, eval s x σ = if eval s i σ then eval s t σ else eval s e σ) ∨
    (minVar s i t e < VBOT ∧ CofOK s i t e (minVar s i t e) (cofsS sc s i t e (minVar s i t e)) ∧
      iteS sc (f+1) s i t e =
        (let C := cofsS sc s i t e (minVar s i t e)
         let top := iteS sc f C.st C.i1 C.t1 C.e1
         let bot := iteS sc f top.1 C.i0 C.t0 C.e0
         withIte (i, t, e) (mkNode bot.1 (minVar s i t e) bot.2 top.2))) := by
  have ⟨mi, mt, me⟩ := minVar_le s i t e
  -- the four shortcuts return an operand, the same one on every store
  by_cases c1 : i = 1
  · exact Or.inl ⟨t, fun sc' s' _ => by rw [iteS, if_pos c1], ht, mt, fun σ => by rw [c1, eval_one, if_pos rfl]⟩
  by_cases c0 : i = 0
  · exact Or.inl ⟨e, fun sc' s' _ => by rw [iteS, if_neg c1, if_pos c0], he, me,
      fun σ => by rw [c0, eval_zero, if_neg Bool.false_ne_true]⟩
  by_cases c2 : t = e
  · exact Or.inl ⟨t, fun sc' s' _ => by rw [iteS, if_neg c1, if_neg c0, if_pos c2], ht, mt,
      fun σ => by rw [c2]; split <;> rfl⟩
  by_cases c3 : t = 1 ∧ e = 0
  · exact Or.inl ⟨i, fun sc' s' _ => by rw [iteS, if_neg c1, if_neg c0, if_neg c2, if_pos c3], hi, mi,
      fun σ => by rw [c3.1, c3.2, eval_one, eval_zero]; cases eval s i σ <;> rfl⟩
  cases hm : s.iteC[(i, t, e)]? with
  | some r =>
    have ⟨_, _, _, a, g, b⟩ := w.iteOK i t e r hm
    exact Or.inl ⟨r, fun sc' s' h => iteS_hit sc' f c1 c0 c2 c3 h, a, g, b⟩
  | none =>
    have hvb := minVar_lt_VBOT w t e hi c1 c0
    exact Or.inr ⟨hvb, cofsS_spec hsc s w i t e _ hi ht he mi mt me hvb (minVar_eq s i t e),
      iteS_miss sc f c1 c0 c2 c3 hm⟩

/-- the specification, and: a result that a handle `r` of the store already represents is returned as `r`
without allocating -/
theorem iteS_spec {sc : Store → Nat → Nat → Bool} (hsc : ScSound sc) :
    ∀ (fuel : Nat) (s : Store) (i t e : Nat), WF s →
    i < s.nodes.size → t < s.nodes.size → e < s.nodes.size → i + t + e < fuel →
    (WF (iteS sc fuel s i t e).1 ∧ Ext s (iteS sc fuel s i t e).1 ∧
     (iteS sc fuel s i t e).2 < (iteS sc fuel s i t e).1.nodes.size ∧
     minVar s i t e ≤ topVar (iteS sc fuel s i t e).1 (iteS sc fuel s i t e).2 ∧
     (∀ σ, eval (iteS sc fuel s i t e).1 (iteS sc fuel s i t e).2 σ =
       if eval s i σ then eval s t σ else eval s e σ)) ∧
    ∀ r, r < s.nodes.size → (∀ σ, eval s r σ = if eval s i σ then eval s t σ else eval s e σ) →
      (iteS sc fuel s i t e).1.nodes = s.nodes ∧ (iteS sc fuel s i t e).2 = r := by
  intro fuel
  induction fuel with
  | zero => intro s i t e _ _ _ _ h; exact absurd h (Nat.not_lt_zero _)
  | succ f ih =>
    intro s i t e w hi ht he hf
    rcases iteS_step hsc f w hi ht he with ⟨x, hx, lx, tx, ex⟩ | ⟨hvb, K, hx⟩
    · rw [hx sc s rfl]
      exact ⟨⟨w, Ext.refl _, lx, tx, ex⟩,
        fun r hr hev => ⟨rfl, (canonical s w x r lx hr).mp fun σ => by rw [ex, hev]⟩⟩
    rw [hx]
    -- the memo entry that ends the call: sound by the first half, and it touches neither handle nor node table
    refine And.imp_left (withIte_spec w hi ht he) ?_
    have ⟨mi, mt, me⟩ := minVar_le s i t e
    generalize minVar s i t e = mv at *
    have ⟨⟨i1, t1, e1, hf1⟩, i0, t0, e0, hf0⟩ := K.calls hi ht he hf
    generalize cofsS sc s i t e mv = C at *
    dsimp only
    have nC := K.nodes
    have evC : ∀ x σ, eval C.st x σ = eval s x σ := fun x σ => eval_congr nC x σ
    -- the two recursive calls, then the node on top of their results
    obtain ⟨⟨wT, eT, lT, vT, evT⟩, repT⟩ := ih C.st C.i1 C.t1 C.e1 K.wf i1 t1 e1 hf1
    have vT' : mv < minVar C.st C.i1 C.t1 C.e1 := by rw [minVar_congr nC]; exact K.above1
    generalize iteS sc f C.st C.i1 C.t1 C.e1 = T at *
    obtain ⟨⟨wB, eB, lB, vB, evB⟩, repB⟩ := ih T.1 C.i0 C.t0 C.e0 wT (eT.lt i0) (eT.lt t0) (eT.lt e0) hf0
    have vB' : mv < minVar T.1 C.i0 C.t0 C.e0 := by rw [minVar_ext eT i0 t0 e0, minVar_congr nC]; exact K.above0
    generalize iteS sc f T.1 C.i0 C.t0 C.e0 = B at *
    refine ⟨?_, fun r hr hev => ?_⟩
    · have ⟨wM, eM, lM, vM, evM⟩ := mkNode_spec B.1 wB mv B.2 T.2 lB (eB.lt lT) hvb
        (Nat.lt_of_lt_of_le vB' vB) (by rw [topVar_ext eB _ lT]; exact Nat.lt_of_lt_of_le vT' vT)
      refine ⟨wM, (((Ext_of_nodes nC).trans eT).trans eB).trans eM, lM, vM, fun σ => ?_⟩
      rw [evM]
      cases hσ : σ mv with
      | true =>
        rw [if_pos rfl, eval_ext wT eB _ σ lT, evT, evC, evC, evC, K.i1.ev, K.t1.ev, K.e1.ev, upd_self hσ]
      | false =>
        rw [if_neg Bool.false_ne_true, evB, eval_ext K.wf eT _ σ i0, eval_ext K.wf eT _ σ t0,
            eval_ext K.wf eT _ σ e0, evC, evC, evC, K.i0.ev, K.t0.ev, K.e0.ev, upd_self hσ]
    · -- `r` ignores every variable below `mv`, so its cofactors along `mv` are represented
      have hle : mv ≤ topVar s r := by
        refine le_topVar_of_indep w r mv hr (Nat.le_of_lt hvb) fun y hy σ c => ?_
        rw [hev, hev, eval_upd_of_lt s w i hi y c (Nat.lt_of_lt_of_le hy mi),
            eval_upd_of_lt s w t ht y c (Nat.lt_of_lt_of_le hy mt), eval_upd_of_lt s w e he y c (Nat.lt_of_lt_of_le hy me)]
      obtain ⟨lo, hi', clo, chi, h1, h2⟩ := cofRep w r mv hr hle hvb
      have ⟨nT, rT⟩ := repT hi' (by rw [nC]; exact Nat.lt_of_le_of_lt chi.le hr) fun σ => by
        simp only [eval_congr nC]
        rw [chi.ev, hev, K.i1.ev, K.t1.ev, K.e1.ev]
      have nT' : T.1.nodes = s.nodes := nT.trans nC
      have ⟨nB, rB⟩ := repB lo (by rw [nT']; exact Nat.lt_of_le_of_lt clo.le hr) fun σ => by
        simp only [eval_congr nT']
        rw [clo.ev, hev, K.i0.ev, K.t0.ev, K.e0.ev]
      rw [rT, rB, mkNode_cof wB (nB.trans nT') mv lo hi' r h1 h2]
      exact ⟨nB.trans nT', rfl⟩

/-- a handle that represents the result in `s` is what the call returns on any store with the node table of `s` -/
theorem iteS_lock_early {sc' : Store → Nat → Nat → Bool} (hsc' : ScSound sc') {s s' : Store} (w' : WF s')
    (hn : s'.nodes = s.nodes) {fuel i t e x : Nat} (hi : i < s.nodes.size) (ht : t < s.nodes.size)
    (he : e < s.nodes.size) (hf : i + t + e < fuel) (lx : x < s.nodes.size)
    (ex : ∀ σ, eval s x σ = if eval s i σ then eval s t σ else eval s e σ) :
    (iteS sc' fuel s' i t e).1.nodes = s.nodes ∧ (iteS sc' fuel s' i t e).2 = x := by
  have ⟨a, c⟩ := (iteS_spec hsc' fuel s' i t e w' (by rw [hn]; exact hi) (by rw [hn]; exact ht)
    (by rw [hn]; exact he) hf).2 x (by rw [hn]; exact lx) fun σ => by simp only [eval_congr hn]; exact ex σ
  exact ⟨a.trans hn, c⟩

/-- handle and node table depend on the node table alone, not on the memo tables or the shortcut; ite memos that
answer alike still do afterwards -/
theorem iteS_lock {sc sc' : Store → Nat → Nat → Bool} (hsc : ScSound sc) (hsc' : ScSound sc') :
    ∀ (fuel : Nat) (s s' : Store) (i t e : Nat), WF s → WF s' → s'.nodes = s.nodes →
    i < s.nodes.size → t < s.nodes.size → e < s.nodes.size → i + t + e < fuel →
    (iteS sc' fuel s' i t e).1.nodes = (iteS sc fuel s i t e).1.nodes ∧
    (iteS sc' fuel s' i t e).2 = (iteS sc fuel s i t e).2 ∧
    (IteAgree s' s → IteAgree (iteS sc' fuel s' i t e).1 (iteS sc fuel s i t e).1) := by
  intro fuel
  induction fuel with
  | zero => intro s s' i t e _ _ _ _ _ _ h; exact absurd h (Nat.not_lt_zero _)
  | succ f ih =>
    intro s s' i t e w w' hnn hi ht he hf
    have hi' : i < s'.nodes.size := by rw [hnn]; exact hi
    have ht' : t < s'.nodes.size := by rw [hnn]; exact ht
    have he' : e < s'.nodes.size := by rw [hnn]; exact he
    rcases iteS_step hsc f w hi ht he with ⟨x, hx, lx, _, ex⟩ | ⟨hvb, K, hx⟩
    · have ⟨a, c⟩ := iteS_lock_early hsc' w' hnn hi ht he hf lx ex
      rw [hx sc s rfl]
      exact ⟨a, c, fun ag => by rw [hx sc' s' (ag _)]; exact ag⟩
    rcases iteS_step hsc' f w' hi' ht' he' with ⟨x, hx', lx, _, ex⟩ | ⟨_, K', hx'⟩
    · have ⟨a, c⟩ := iteS_lock_early hsc w hnn.symm hi' ht' he' hf lx ex
      rw [hx' sc' s' rfl]
      exact ⟨a.symm, c.symm, fun ag => by rw [hx' sc s (ag _).symm]; exact ag⟩
    rw [hx, hx']
    rw [minVar_congr hnn] at K' ⊢
    generalize minVar s i t e = mv at *
    have ln := K'.nodes.trans (hnn.trans K.nodes.symm)
    have ⟨⟨i1, t1, e1, hf1⟩, i0, t0, e0, hf0⟩ := K.calls hi ht he hf
    have iC := cofsS_iteC sc s i t e mv
    have iC' := cofsS_iteC sc' s' i t e mv
    generalize cofsS sc s i t e mv = C at *
    generalize cofsS sc' s' i t e mv = C' at *
    dsimp only
    -- the cofactor handles are determined by the node table: canonicity makes them unique
    rw [K.i1.unique w hnn hi K'.i1, K.t1.unique w hnn ht K'.t1, K.e1.unique w hnn he K'.e1,
      K.i0.unique w hnn hi K'.i0, K.t0.unique w hnn ht K'.t0, K.e0.unique w hnn he K'.e0]
    have ⟨nT, rT, aT⟩ := ih C.st C'.st C.i1 C.t1 C.e1 K.wf K'.wf ln i1 t1 e1 hf1
    have ⟨wT, eT, _⟩ := (iteS_spec hsc f C.st C.i1 C.t1 C.e1 K.wf i1 t1 e1 hf1).1
    have wT' := (iteS_spec hsc' f C'.st C.i1 C.t1 C.e1 K'.wf (by rw [ln]; exact i1) (by rw [ln]; exact t1)
      (by rw [ln]; exact e1) hf1).1.1
    generalize iteS sc f C.st C.i1 C.t1 C.e1 = T at *
    generalize iteS sc' f C'.st C.i1 C.t1 C.e1 = T' at *
    have ⟨nB, rB, aB⟩ := ih T.1 T'.1 C.i0 C.t0 C.e0 wT wT' nT (eT.lt i0) (eT.lt t0) (eT.lt e0) hf0
    have wB := (iteS_spec hsc f T.1 C.i0 C.t0 C.e0 wT (eT.lt i0) (eT.lt t0) (eT.lt e0) hf0).1.1
    have wB' := (iteS_spec hsc' f T'.1 C.i0 C.t0 C.e0 wT' (by rw [nT]; exact eT.lt i0) (by rw [nT]; exact eT.lt t0)
      (by rw [nT]; exact eT.lt e0) hf0).1.1
    generalize iteS sc f T.1 C.i0 C.t0 C.e0 = B at *
    generalize iteS sc' f T'.1 C.i0 C.t0 C.e0 = B' at *
    rw [rT, rB]
    have ⟨nM, rM⟩ := mkNode_lock wB wB' nB mv B.2 T.2
    refine ⟨nM, rM, fun ag k => ?_⟩
    have ag' : IteAgree B'.1 B.1 := aB (aT fun k => by rw [iC', iC]; exact ag k)
    simp only [withIte, Std.HashMap.getElem?_insert, rM]
    split
    · rfl
    · rw [(mkNode_memo _ _ _ _).2, (mkNode_memo _ _ _ _).2]; exact ag' k

theorem iteF_spec : ∀ (fuel : Nat) (s : Store) (i t e : Nat), WF s →
    i < s.nodes.size → t < s.nodes.size → e < s.nodes.size → i + t + e < fuel →
    WF (iteF fuel s i t e).1 ∧ Ext s (iteF fuel s i t e).1 ∧
    (iteF fuel s i t e).2 < (iteF fuel s i t e).1.nodes.size ∧
    minVar s i t e ≤ topVar (iteF fuel s i t e).1 (iteF fuel s i t e).2 ∧
    (∀ σ, eval (iteF fuel s i t e).1 (iteF fuel s i t e).2 σ =
      if eval s i σ then eval s t σ else eval s e σ) := by
  intro fuel s i t e w hi ht he hf
  rw [← iteS_none]
  exact (iteS_spec scNone_sound fuel s i t e w hi ht he hf).1

#print axioms iteF_spec

theorem MemoT.iteF_rep (fuel : Nat) (s : Store) (i t e r : Nat) (w : WF s)
    (hi : i < s.nodes.size) (ht : t < s.nodes.size) (he : e < s.nodes.size) (hf : i + t + e < fuel)
    (hr : r < s.nodes.size) (hev : ∀ σ, eval s r σ = if eval s i σ then eval s t σ else eval s e σ) :
    (iteF fuel s i t e).1.nodes = s.nodes ∧ (iteF fuel s i t e).2 = r := by
  rw [← iteS_none]
  exact (iteS_spec scNone_sound fuel s i t e w hi ht he hf).2 r hr hev

theorem MemoT.iteF_lock (fuel : Nat) (s s' : Store) (i t e : Nat) (w : WF s) (w' : WF s') (hn : s'.nodes = s.nodes)
    (hi : i < s.nodes.size) (ht : t < s.nodes.size) (he : e < s.nodes.size) (hf : i + t + e < fuel) :
    (iteF fuel s' i t e).1.nodes = (iteF fuel s i t e).1.nodes ∧
    (iteF fuel s' i t e).2 = (iteF fuel s i t e).2 := by
  rw [← iteS_none, ← iteS_none]
  have ⟨a, c, _⟩ := iteS_lock scNone_sound scNone_sound fuel s s' i t e w w' hn hi ht he hf
  exact ⟨a, c⟩
