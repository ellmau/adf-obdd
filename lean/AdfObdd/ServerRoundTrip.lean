import AdfObdd.ServerAnswers
import Std.Data.String.ToNat
/-! # C16 — the storage round trip `Adf → SimplifiedAdf → Adf` (server/src/adf.rs:97-200)

The parse task stores `SimplifiedAdf::from(lib_adf)`: the ordering as `VarContainerDb` (the name
list and the name ↦ index map with the indices PRINTED as decimal strings), the node list with
`var`, `lo`, `hi` printed as decimal strings (`BddNodeDb`), and the acceptance conditions as printed
handles (`AcDb`). The solve task re-hydrates it (`From<SimplifiedAdf> for Adf`): every string is
`parse().unwrap()`ed, the node list is replayed through `Bdd::from(Vec<BddNode>)` (`rebuild`), the
ordering goes through `VarContainer::from_parser`.

Model: a `HashMap` is the list of its entries (its content does not depend on the iteration order:
`lookup_perm`); `to_string` / `parse::<usize>` are `toString` / `String.toNat?` (`none` = the
`unwrap` panics; it never does on what `from` produced: `Nat.toNat?_repr`).

Result (`Props/C16.lean`, from `roundtrip`, `stored_sadf` and `solveAdfF_is_solveOn`): the round trip is
the identity on (ordering, node table, acceptance conditions), the
re-hydrated diagram store is well formed with exactly the original node table (`rebuild_WF`;
its operation caches start empty), every handle denotes the same Boolean function as before, and
solving the re-hydrated object gives the same answers as solving the original object. -/
namespace SrvRT
open ServerM ServerAdf

/-- `VarContainer` -/
structure VarC where
  names : List String
  mapping : List (String × Nat)
/-- `VarContainerDb` -/
structure VarCDb where
  names : List String
  mapping : List (String × String)
/-- `BddNodeDb` -/
structure NodeDb where
  var : String
  lo : String
  hi : String
/-- `SimplifiedAdf` -/
structure SimpAdf where
  ordering : VarCDb
  bdd : List NodeDb
  ac : List String
/-- the library's `Adf` (ordering, diagram store, acceptance conditions) -/
structure LibAdf where
  ordering : VarC
  bdd : Store
  ac : List Nat

/-- `From<VarContainer> for VarContainerDb` -/
def VarC.toDb (v : VarC) : VarCDb := ⟨v.names, v.mapping.map (fun kv => (kv.1, toString kv.2))⟩
/-- `From<VarContainerDb> for VarContainer` -/
def VarCDb.toLib (v : VarCDb) : Option VarC := do
  let m ← v.mapping.mapM (fun kv => kv.2.toNat?.map (fun n => (kv.1, n)))
  pure ⟨v.names, m⟩
/-- `From<BddNode> for BddNodeDb` -/
def NodeDb.ofNode (n : Node) : NodeDb := ⟨toString n.var, toString n.lo, toString n.hi⟩
/-- `From<BddNodeDb> for BddNode` -/
def NodeDb.toNode (n : NodeDb) : Option Node := do
  let v ← n.var.toNat?
  let l ← n.lo.toNat?
  let h ← n.hi.toNat?
  pure ⟨v, l, h⟩
/-- `From<Adf> for SimplifiedAdf` -/
def SimpAdf.ofLib (a : LibAdf) : SimpAdf :=
  ⟨a.ordering.toDb, a.bdd.nodes.toList.map NodeDb.ofNode, a.ac.map toString⟩
/-- `From<SimplifiedAdf> for Adf`; `none`: one of the `unwrap`s panics -/
def SimpAdf.toLib (d : SimpAdf) : Option LibAdf := do
  let nodes ← d.bdd.mapM NodeDb.toNode
  let ord ← d.ordering.toLib
  let ac ← d.ac.mapM String.toNat?
  pure ⟨ord, rebuild nodes.toArray, ac⟩

/-- the stored document as the model's `SAdf` (names of the ordering, node table, handles) -/
def SimpAdf.toSAdf (key : String) (d : SimpAdf) : Option SAdf := do
  let nodes ← d.bdd.mapM NodeDb.toNode
  let ac ← d.ac.mapM String.toNat?
  pure { key := key, names := d.ordering.names, nodes := nodes.toArray, ac := ac }

theorem toNat_toString (n : Nat) : (toString n).toNat? = some n := Nat.toNat?_repr n

theorem node_roundtrip (n : Node) : (NodeDb.ofNode n).toNode = some n := by
  simp [NodeDb.ofNode, NodeDb.toNode, toNat_toString]

theorem ordering_roundtrip (v : VarC) : v.toDb.toLib = some v := by
  simp only [VarC.toDb, VarCDb.toLib]
  rw [mapM_map_some (fun kv : String × Nat => (kv.1, toString kv.2))
    (fun kv => kv.2.toNat?.map (fun n => (kv.1, n))) (by intro x; simp [toNat_toString])]
  rfl

theorem roundtrip (a : LibAdf) : (SimpAdf.ofLib a).toLib = some ⟨a.ordering, rebuild a.bdd.nodes, a.ac⟩ := by
  simp only [SimpAdf.ofLib, SimpAdf.toLib]
  rw [mapM_map_some NodeDb.ofNode NodeDb.toNode node_roundtrip, ordering_roundtrip,
    mapM_map_some (toString : Nat → String) String.toNat? toNat_toString]
  rfl

theorem stored_sadf (key : String) (a : LibAdf) :
    (SimpAdf.ofLib a).toSAdf key = some { key := key, names := a.ordering.names, nodes := a.bdd.nodes, ac := a.ac } := by
  simp only [SimpAdf.ofLib, SimpAdf.toSAdf]
  rw [mapM_map_some NodeDb.ofNode NodeDb.toNode node_roundtrip,
    mapM_map_some (toString : Nat → String) String.toNat? toNat_toString]
  rfl

/-- a `HashMap` read through its entry list: the look-up does not depend on the iteration order as
long as the keys are distinct (they are the keys of a map) -/
def lookup {β : Type} (k : String) : List (String × β) → Option β
  | [] => none
  | (a, b) :: r => if a = k then some b else lookup k r

theorem lookup_eq_some {β : Type} (k : String) (v : β) : ∀ l : List (String × β), (l.map (·.1)).Nodup →
    (lookup k l = some v ↔ (k, v) ∈ l) := by
  intro l hnd
  fun_induction lookup k l with
  | case1 => simp
  | case2 b xs =>
    rw [Option.some.injEq, List.mem_cons, Prod.mk.injEq]
    exact ⟨fun h => .inl ⟨rfl, h.symm⟩,
      fun h => h.elim (·.2.symm) (fun h => absurd (List.mem_map_of_mem (f := (·.1)) h) (List.nodup_cons.mp hnd).1)⟩
  | case3 a b xs hak ih =>
    rw [ih (List.nodup_cons.mp hnd).2, List.mem_cons, Prod.mk.injEq]
    exact ⟨.inr, fun h => h.elim (fun h => absurd h.1.symm hak) id⟩

theorem lookup_perm {β : Type} (k : String) (l l' : List (String × β)) (hp : l.Perm l') (hnd : (l.map (·.1)).Nodup) :
    lookup k l = lookup k l' :=
  Option.ext fun v => by
    rw [lookup_eq_some k v l hnd, lookup_eq_some k v l' ((hp.map _).nodup_iff.mp hnd), hp.mem_iff]

/-- the blocking part of the solve task on an object in memory (any store) -/
def solveOn (fuel : Nat) (names : List String) (st : Store) (ac : List Nat) (s : Strategy) : SRes :=
  let r := CliF.runSectionF fuel .simple (SrvA.secOf s) st ac.length ac
  r.2.map (fun v => ⟨v, graphOf names r.1.nodes v⟩)

theorem solveAdfF_is_solveOn (fuel : Nat) (a : SAdf) (s : Strategy) :
    SrvA.solveAdfF fuel a s = .ok (solveOn fuel a.names (rebuild a.nodes) a.ac s) := rfl

end SrvRT
