import AdfObdd.ClosureSound
/-! # The nogood store as the repaired `lib/src/nogoods.rs` implements it

* `NgStore` = the `n + 1` size-indexed buckets + the duplicate-elimination mode;
  `NgStore.addNg` for the three modes `None` / `Equiv` / `Subsume`, `setMode` (= `set_dup_elem`),
  `run` over histories of adds and mode switches;
* `conclusionsR` — `NoGoodStore::conclusions` line by line: the enumerate/filter bucket
  selection, `try_from_pair_iter` (a bucket whose conclusions contradict each other is
  dropped), the contradiction test of the fold, `disjunction` ("true wins"), the final
  `is_violating` scan; `closureR` — `conclusion_closure`;
* `conclusionsR_eq` / `closureR_eq`: these are the functions `conclusions` / `conclusionClosure` of
  `NoGood.lean` / `ClosureFacts.lean` the laws are proved for;
* what adding keeps, drops and brings in (`addNg_sub`, `addNg_keep`, `addNg_new`) and what every history establishes
  (`Reach`, `run_spec`);
* the direct-conflict law on the REAL buckets of any store satisfying the invariant `NgInv` (`closure_direct_inv`,
  like the `bucketsOf` version an instance of the law on `Sized` buckets of `ClosureFacts.lean`), and, in terms of
  the ADDED nogoods, all laws on every store a history reaches (`NgStore.Reach.*`): sound deductions, no
  spurious and no missed conflict, the unit-flip law, termination of the closure loop
  (`closure_terminates`, from `closureLoop_fuel` and `closureLoop_rounds` of `ClosureSound.lean`);
* `NgOrig.*` — the same functions as the code has them before the repairs (defects D8a, D8b, D10). -/

inductive DupMode where
  | none | equiv | subsume
deriving DecidableEq, Repr, Inhabited

structure NgStore where
  buckets : List (List PA)
  mode : DupMode
deriving Repr, Inhabited

/-! ### bitmap operations that `NoGood.lean` abstracts away -/

/-- `NoGood::try_from_pair_iter`, the loop: `acc` = the pairs seen so far. A pair on a position
seen before with the other value aborts (`!is_new && upd`). -/
def tryFromPairsAux : PA → List (Nat × Bool) → Option PA
  | acc, [] => some acc
  | acc, (i, v) :: ps =>
    match pget acc i with
    | some w => if w != v then none else tryFromPairsAux acc ps
    | none => tryFromPairsAux (setAt acc i v) ps

/-- `NoGood::try_from_pair_iter`: `None` for no pair at all (`visit.then_some`) and for
contradicting pairs -/
def tryFromPairs (ps : List (Nat × Bool)) : Option PA :=
  if ps.isEmpty then none else tryFromPairsAux [] ps

/-- `NoGood::disjunction`: `active` and `value` are or-ed, so on a position active in both a
`true` wins -/
def disjPA (a b : PA) : PA :=
  (List.range (max a.length b.length)).map (fun i =>
    match pget a i, pget b i with
    | some x, some y => some (x || y)
    | some x, none => some x
    | none, some y => some y
    | none, none => none)

/-- one step of the `try_fold` in `conclusions` (after the `filter_map` that drops a bucket
without usable conclusions) -/
def bucketStepR (interp : PA) (acc : Option PA) (bucket : List PA) : Option PA :=
  match acc with
  | none => none
  | some acc =>
    match tryFromPairs (bucket.filterMap (fun g => conclude g interp)) with
    | none => some acc
    | some ng => if mismatch ng acc then none else some (disjPA acc ng)

/-- `.iter().enumerate().filter(|(len, _)| *len <= nogood.len() + 1)` -/
def relevantR (store : List (List PA)) (interp : PA) : List (List PA) :=
  (store.zipIdx.filter (fun p => p.2 ≤ size interp + 1)).map Prod.fst

/-- `NoGoodStore::conclusions` -/
def conclusionsR (store : List (List PA)) (interp : PA) : Option PA :=
  match (relevantR store interp).foldl (bucketStepR interp) (some interp) with
  | none => none
  | some result =>
    if (relevantR store interp).any (fun b => b.any (fun e => violating e result || violating e interp))
    then none else some result

/-- the `while update` loop of `conclusion_closure`; the fuel is never exhausted
(`closureLoop_fuel`) -/
def closureLoopR (buckets : List (List PA)) : Nat → PA → Closure
  | 0, r => Closure.update r
  | fuel+1, r =>
    match conclusionsR buckets r with
    | none => Closure.inconsistent
    | some val =>
      let u := updateVec val r
      if u.2 then closureLoopR buckets fuel u.1 else Closure.update u.1

/-- `NoGoodStore::conclusion_closure` -/
def closureR (buckets : List (List PA)) (interp : PA) : Closure :=
  match conclusionsR buckets interp with
  | none => Closure.inconsistent
  | some val =>
    let u := updateVec val interp
    if !u.2 then Closure.noUpdate else closureLoopR buckets (interp.length + 1) u.1

namespace NgStore

/-- `NoGoodStore::new`: `size + 1` empty buckets, mode `Equiv` -/
def new (n : Nat) : NgStore := ⟨List.replicate (n + 1) [], .equiv⟩

/-- `set_dup_elem` -/
def setMode (st : NgStore) (m : DupMode) : NgStore := { st with mode := m }

/-- what `add_ng` does to bucket `i` (contents `b`) when the new nogood `g` is stored -/
def addFn (m : DupMode) (g : PA) (i : Nat) (b : List PA) : List PA :=
  match m with
  | .none => if i == size g then b ++ [g] else b
  | .equiv => if i == size g then (if b.contains g then b else b ++ [g]) else b
  | .subsume =>
    -- `self.store[idx..]…retain(|ng| !nogood.is_violating(ng))`, then `self.store[idx].push(nogood)`
    let b' := if size g ≤ i then b.filter (fun h => !violating g h) else b
    if i == size g then b' ++ [g] else b'

/-- `self.store[..=idx].iter().any(|ng_vec| ng_vec.iter().any(|ng| ng.is_violating(&nogood)))` -/
def subsumed (bs : List (List PA)) (g : PA) : Bool :=
  (bs.take (size g + 1)).any (fun b => b.any (fun h => violating h g))

/-- `NoGoodStore::add_ng` (repaired: D8b, D10). Precondition of the code: `size g` is a valid
bucket index (it panics otherwise). -/
def addNg (st : NgStore) (g : PA) : NgStore :=
  if st.mode == .subsume && subsumed st.buckets g then st
  else { st with buckets := st.buckets.mapIdx (addFn st.mode g) }

def conclusions (st : NgStore) (interp : PA) : Option PA := conclusionsR st.buckets interp
def closure (st : NgStore) (interp : PA) : Closure := closureR st.buckets interp

inductive Cmd where
  | add (g : PA)
  | mode (m : DupMode)

def step (st : NgStore) : Cmd → NgStore
  | .add g => st.addNg g
  | .mode m => st.setMode m

/-- a history: adds and mode switches in any order -/
def run (st : NgStore) (cs : List Cmd) : NgStore := cs.foldl step st

def added : List Cmd → List PA
  | [] => []
  | .add g :: cs => g :: added cs
  | .mode _ :: cs => added cs

end NgStore

/-- the total assignments excluded by the stored nogoods -/
def Excluded (bs : List (List PA)) (σ : Asg) : Prop := ∃ h, Stored bs h ∧ Matches h σ

/-- the total assignments excluded by a flat list of nogoods -/
def ExcludedBy (gs : List PA) (σ : Asg) : Prop := ∃ g ∈ gs, Matches g σ

/-- the shape the store keeps: `n + 1` buckets, every stored nogood is a vector of width `n`
sitting in the bucket of its size -/
structure NgInv (n : Nat) (bs : List (List PA)) : Prop where
  len : bs.length = n + 1
  shape : ∀ (k : Nat) (b : List PA), bs[k]? = some b → ∀ h ∈ b, h.length = n ∧ size h = k

theorem avoidsAll_iff {bs : List (List PA)} {σ : Asg} : AvoidsAll bs σ ↔ ¬ Excluded bs σ := by
  constructor
  · rintro h ⟨g, hs, hm⟩
    obtain ⟨b, hb, hg⟩ := stored_iff_mem.mp hs
    exact h b hb g hg hm
  · intro h b hb g hg hm
    exact h ⟨g, stored_iff_mem.mpr ⟨b, hb, hg⟩, hm⟩

theorem avoidsL_iff {gs : List PA} {σ : Asg} : AvoidsL gs σ ↔ ¬ ExcludedBy gs σ :=
  ⟨fun h ⟨g, hg, hm⟩ => h g hg hm, fun h g hg hm => h ⟨g, hg, hm⟩⟩

theorem matches_of_psub {g h : PA} {σ : Asg} (hs : PSub g h) (hm : Matches h σ) : Matches g σ :=
  fun i b hi => hm i b (hs i b hi)

theorem size_le_of_length {g : PA} {n : Nat} (h : g.length = n) : size g ≤ n := by
  rw [← h]; exact size_le_length g

theorem getElem?_mapIdx_some {bs : List (List PA)} {f : Nat → List PA → List PA} {k : Nat} {b' : List PA} :
    (bs.mapIdx f)[k]? = some b' ↔ ∃ b, bs[k]? = some b ∧ b' = f k b := by
  rw [List.getElem?_mapIdx]
  cases bs[k]? with
  | none => simp
  | some b => simp [eq_comm]

theorem stored_mapIdx {bs : List (List PA)} {f : Nat → List PA → List PA} {h : PA} :
    Stored (bs.mapIdx f) h ↔ ∃ k b, bs[k]? = some b ∧ h ∈ f k b := by
  constructor
  · rintro ⟨k, b', hk, hh⟩
    obtain ⟨b, hb, rfl⟩ := getElem?_mapIdx_some.mp hk
    exact ⟨k, b, hb, hh⟩
  · rintro ⟨k, b, hb, hh⟩
    exact ⟨k, _, getElem?_mapIdx_some.mpr ⟨b, hb, rfl⟩, hh⟩

namespace NgStore

theorem mem_addFn {m : DupMode} {g : PA} {i : Nat} {b : List PA} {h : PA} :
    h ∈ addFn m g i b ↔
      (h ∈ b ∧ ¬ (m = .subsume ∧ size g ≤ i ∧ violating g h = true)) ∨ (h = g ∧ i = size g) := by
  unfold addFn
  cases m <;> grind

theorem addFn_sub (m : DupMode) (g : PA) (i : Nat) (b : List PA) (h : PA) (hh : h ∈ addFn m g i b) :
    h ∈ b ∨ (h = g ∧ i = size g) :=
  (mem_addFn.mp hh).imp_left And.left

theorem addFn_keep (m : DupMode) (g : PA) (i : Nat) (b : List PA) (h : PA) (hh : h ∈ b) :
    h ∈ addFn m g i b ∨ PSub g h := by
  by_cases c : m = .subsume ∧ size g ≤ i ∧ violating g h = true
  · exact Or.inr ((violating_iff g h).mp c.2.2)
  · exact Or.inl (mem_addFn.mpr (Or.inl ⟨hh, c⟩))

theorem addFn_new (m : DupMode) (g : PA) (b : List PA) : g ∈ addFn m g (size g) b :=
  mem_addFn.mpr (Or.inr ⟨rfl, rfl⟩)

theorem addNg_cases (st : NgStore) (g : PA) :
    (st.addNg g = st ∧ ∃ h, Stored st.buckets h ∧ PSub h g) ∨
    (st.addNg g).buckets = st.buckets.mapIdx (addFn st.mode g) := by
  unfold addNg
  split
  next c =>
    refine Or.inl ⟨rfl, ?_⟩
    have c := (Bool.and_eq_true _ _ ▸ c).2
    unfold subsumed at c
    obtain ⟨b, hb, hany⟩ := List.any_eq_true.mp c
    obtain ⟨h, hh, hv⟩ := List.any_eq_true.mp hany
    exact ⟨h, stored_iff_mem.mpr ⟨b, List.mem_of_mem_take hb, hh⟩, (violating_iff h g).mp hv⟩
  next => exact Or.inr rfl

theorem addNg_sub (st : NgStore) (g h : PA) (hs : Stored (st.addNg g).buckets h) :
    Stored st.buckets h ∨ h = g := by
  rcases addNg_cases st g with ⟨e, _⟩ | e
  · rw [e] at hs; exact Or.inl hs
  · rw [e] at hs
    obtain ⟨k, b, hb, hh⟩ := stored_mapIdx.mp hs
    exact (addFn_sub _ _ _ _ _ hh).imp (fun h1 => ⟨k, b, hb, h1⟩) And.left

theorem addNg_keep (st : NgStore) (g h : PA) (hs : Stored st.buckets h) :
    Stored (st.addNg g).buckets h ∨ PSub g h := by
  rcases addNg_cases st g with ⟨e, _⟩ | e
  · rw [e]; exact Or.inl hs
  · rw [e]
    obtain ⟨k, b, hk, hb⟩ := hs
    exact (addFn_keep st.mode g k b h hb).imp_left fun h1 => stored_mapIdx.mpr ⟨k, b, hk, h1⟩

theorem addNg_new (st : NgStore) (g : PA) (hsz : size g < st.buckets.length) :
    ∃ h, Stored (st.addNg g).buckets h ∧ PSub h g := by
  rcases addNg_cases st g with ⟨e, hc⟩ | e
  · rw [e]; exact hc
  · rw [e]
    exact ⟨g, stored_mapIdx.mpr ⟨size g, _, List.getElem?_eq_getElem hsz, addFn_new _ _ _⟩, PSub.refl g⟩

theorem addNg_inv {n : Nat} (st : NgStore) (g : PA) (hi : NgInv n st.buckets) (hg : g.length = n) :
    NgInv n (st.addNg g).buckets := by
  rcases addNg_cases st g with ⟨e, _⟩ | e
  · rw [e]; exact hi
  · rw [e]
    refine ⟨by rw [List.length_mapIdx]; exact hi.len, fun k b' hk h hh => ?_⟩
    obtain ⟨b, hb, rfl⟩ := getElem?_mapIdx_some.mp hk
    rcases addFn_sub _ _ _ _ _ hh with h1 | ⟨rfl, h2⟩
    · exact hi.shape k b hb h h1
    · exact ⟨hg, h2.symm⟩

theorem new_not_stored (n : Nat) (h : PA) : ¬ Stored (new n).buckets h := by
  rintro ⟨k, b, hk, hh⟩
  rw [new, List.getElem?_replicate] at hk
  split at hk
  · cases hk; cases hh
  · cases hk

theorem new_inv (n : Nat) : NgInv n (new n).buckets :=
  ⟨List.length_replicate, fun k b hk h hh => absurd ⟨k, b, hk, hh⟩ (new_not_stored n h)⟩

/-- what a history establishes, relative to the list `gs` of nogoods added so far -/
structure Reach (n : Nat) (st : NgStore) (gs : List PA) : Prop where
  inv : NgInv n st.buckets
  /-- every added nogood is represented by a stored one contained in it -/
  cover : ∀ g ∈ gs, ∃ h, Stored st.buckets h ∧ PSub h g
  /-- only added nogoods are stored -/
  sub : ∀ h, Stored st.buckets h → h ∈ gs

/-- nothing forgotten (`cover`), nothing invented (`sub`) -/
theorem Reach.excl {n : Nat} {st : NgStore} {gs : List PA} (h : Reach n st gs) (σ : Asg) :
    Excluded st.buckets σ ↔ ExcludedBy gs σ := by
  constructor
  · rintro ⟨g, hs, hm⟩
    exact ⟨g, h.sub g hs, hm⟩
  · rintro ⟨g, hg, hm⟩
    obtain ⟨g', hs, hp⟩ := h.cover g hg
    exact ⟨g', hs, matches_of_psub hp hm⟩

theorem reach_new (n : Nat) : Reach n (new n) [] :=
  ⟨new_inv n, nofun, fun h hs => absurd hs (new_not_stored n h)⟩

theorem reach_mode {n : Nat} {st : NgStore} {gs : List PA} (h : Reach n st gs) (m : DupMode) :
    Reach n (st.setMode m) gs := ⟨h.inv, h.cover, h.sub⟩

theorem reach_add {n : Nat} {st : NgStore} {gs : List PA} (h : Reach n st gs) (g : PA) (hg : g.length = n) :
    Reach n (st.addNg g) (gs ++ [g]) := by
  have hsz : size g < st.buckets.length := by
    rw [h.inv.len]; exact Nat.lt_succ_of_le (size_le_of_length hg)
  obtain ⟨h', h2, h3⟩ := addNg_new st g hsz
  refine ⟨addNg_inv st g h.inv hg, fun g' hg' => ?_, fun h' hs' => ?_⟩
  · rcases List.mem_append.mp hg' with hg' | hg'
    · -- the stored nogood that covered `g'` is still there, or the cover of `g` is contained in it
      obtain ⟨h0, hs0, hp0⟩ := h.cover g' hg'
      rcases addNg_keep st g h0 hs0 with h1 | h1
      · exact ⟨h0, h1, hp0⟩
      · exact ⟨h', h2, h3.trans (h1.trans hp0)⟩
    · rw [List.mem_singleton.mp hg']; exact ⟨h', h2, h3⟩
  · rcases addNg_sub st g h' hs' with h1 | rfl
    · exact List.mem_append_left _ (h.sub h' h1)
    · exact List.mem_append_right _ (List.mem_singleton_self _)

theorem reach_run {n : Nat} : ∀ (cs : List Cmd) (st : NgStore) (gs : List PA), Reach n st gs →
    (∀ g ∈ added cs, g.length = n) → Reach n (run st cs) (gs ++ added cs) := by
  intro cs
  induction cs with
  | nil => intro st gs h _; rw [added, List.append_nil]; exact h
  | cons c cs ih =>
    intro st gs h hl
    cases c with
    | add g =>
      rw [added, List.append_cons]
      exact ih _ _ (reach_add h g (hl g (List.mem_cons_self ..))) fun x hx => hl x (List.mem_cons_of_mem _ hx)
    | mode m => exact ih _ _ (reach_mode h m) hl

/-- **every history** of adds and mode switches from the fresh store: the invariant holds, every added
nogood is covered by a stored one, and only added nogoods are stored - so the store excludes exactly
what the added nogoods exclude (`Reach.excl`) -/
theorem run_spec (n : Nat) (cs : List Cmd) (hl : ∀ g ∈ added cs, g.length = n) :
    Reach n (run (new n) cs) (added cs) :=
  List.nil_append (added cs) ▸ reach_run cs (new n) [] (reach_new n) hl

end NgStore

theorem NgInv.width {n : Nat} {bs : List (List PA)} (hi : NgInv n bs) {g : PA} : Stored bs g → g.length = n :=
  fun ⟨k, b, hk, hg⟩ => (hi.shape k b hk g hg).1

theorem NgInv.lengths {n : Nat} {bs : List (List PA)} (hi : NgInv n bs) : ∀ b ∈ bs, ∀ g ∈ b, g.length = n :=
  fun b hb _ hg => hi.width (stored_iff_mem.mpr ⟨b, hb, hg⟩)

theorem NgInv.sized {n : Nat} {bs : List (List PA)} (hi : NgInv n bs) : Sized bs :=
  fun k b hk g hg => (hi.shape k b hk g hg).2

theorem fold_of_conclusions {bs : List (List PA)} {A r : PA} (h : conclusions bs A = some r) :
    (relevant bs A).foldl (bucketStep A) (some A) = some r := by
  unfold conclusions at h
  split at h
  · cases h
  · split at h
    · cases h
    · rw [← h]; assumption

theorem conclusions_direct_inv {n : Nat} {bs : List (List PA)} (hi : NgInv n bs) {h A : PA}
    (hs : Stored bs h) (hp : PSub h A) (hA : A.length = n) : conclusions bs A = none :=
  conclusions_direct_sized hi.sized hs ((hi.width hs).trans hA.symm) hp

theorem closure_direct_inv {n : Nat} {bs : List (List PA)} (hi : NgInv n bs) {h A : PA}
    (hs : Stored bs h) (hp : PSub h A) (hA : A.length = n) :
    conclusionClosure bs A = Closure.inconsistent :=
  closure_of_conflict (conclusions_direct_inv hi hs hp hA)

theorem zipIdx_filter_le {α : Type} : ∀ (l : List α) (k m : Nat),
    ((l.zipIdx k).filter (fun p => decide (p.2 ≤ m))).map Prod.fst = l.take (m + 1 - k)
  | [], k, m => (List.take_nil).symm
  | x :: l, k, m => by
    rw [List.zipIdx_cons]
    by_cases c : k ≤ m
    · rw [List.filter_cons_of_pos (p := fun p : α × Nat => decide (p.2 ≤ m)) (decide_eq_true c), List.map_cons,
        zipIdx_filter_le l (k + 1) m, Nat.add_sub_add_right, Nat.succ_sub c, List.take_succ_cons]
    · have hk : m + 1 ≤ k := Nat.lt_of_not_le c
      rw [List.filter_cons_of_neg (p := fun p : α × Nat => decide (p.2 ≤ m)) (by rw [decide_eq_false c]; nofun),
        zipIdx_filter_le l (k + 1) m, Nat.sub_eq_zero_of_le hk, Nat.sub_eq_zero_of_le (Nat.le_succ_of_le hk)]
      rfl

/-- the enumerate/filter bucket selection of the code is "the first `size interp + 2` buckets" -/
theorem relevant_eq_filter (store : List (List PA)) (interp : PA) :
    relevantR store interp = relevant store interp :=
  zipIdx_filter_le store 0 (size interp + 1)

/-! `try_from_pair_iter`: the loop succeeds iff the pairs agree with each other and with what is set already -/

def PairsCons (ps : List (Nat × Bool)) : Prop := ∀ x ∈ ps, ∀ y ∈ ps, x.1 = y.1 → x.2 = y.2
def PairsCompat (acc : PA) (ps : List (Nat × Bool)) : Prop := ∀ x ∈ ps, ∀ w, pget acc x.1 = some w → w = x.2

theorem consistentPairs_iff (ps : List (Nat × Bool)) : consistentPairs ps = true ↔ PairsCons ps := by
  simp only [consistentPairs, PairsCons, List.all_eq_true, Bool.or_eq_true, bne_iff_ne, beq_iff_eq]
  exact ⟨fun h x hx y hy e => (h x hx y hy).resolve_left fun ne => ne e,
    fun h x hx y hy => (Decidable.em (x.1 = y.1)).elim (fun e => Or.inr (h x hx y hy e)) Or.inl⟩

theorem mergePairs_cons (acc : PA) (x : Nat × Bool) (ps : List (Nat × Bool)) :
    mergePairs acc (x :: ps) = mergePairs (setAt acc x.1 x.2) ps := rfl

theorem pairs_cons_iff {acc : PA} {i : Nat} {v : Bool} {ps : List (Nat × Bool)} :
    PairsCons ((i, v) :: ps) ∧ PairsCompat acc ((i, v) :: ps) ↔
    (∀ w, pget acc i = some w → w = v) ∧ PairsCons ps ∧ PairsCompat (setAt acc i v) ps := by
  constructor
  · rintro ⟨hc, hk⟩
    refine ⟨hk (i, v) (List.mem_cons_self ..), fun a ha b hb => hc a (List.mem_cons_of_mem _ ha) b (List.mem_cons_of_mem _ hb),
      fun y hy w hw => ?_⟩
    rw [pget_setAt] at hw
    split at hw
    next c => rw [← hc (i, v) (List.mem_cons_self ..) y (List.mem_cons_of_mem _ hy) c.symm]; exact (Option.some.inj hw).symm
    next => exact hk y (List.mem_cons_of_mem _ hy) w hw
  · rintro ⟨h1, hc, hk⟩
    have hset : ∀ y ∈ ps, y.1 = i → v = y.2 := fun y hy hyi => hk y hy v (by rw [pget_setAt, if_pos hyi])
    constructor
    · intro a ha b hb hab
      rcases List.mem_cons.mp ha with rfl | ha <;> rcases List.mem_cons.mp hb with rfl | hb
      · rfl
      · exact hset b hb hab.symm
      · exact (hset a ha hab).symm
      · exact hc a ha b hb hab
    · intro y hy w hw
      rcases List.mem_cons.mp hy with rfl | hy
      · exact h1 w hw
      · by_cases c : y.1 = i
        · rw [c] at hw; rw [h1 w hw]; exact hset y hy c
        · exact hk y hy w (by rw [pget_setAt, if_neg c]; exact hw)

theorem tryFromPairsAux_eq : ∀ (ps : List (Nat × Bool)) (acc : PA),
    (PairsCons ps ∧ PairsCompat acc ps → tryFromPairsAux acc ps = some (mergePairs acc ps)) ∧
    (¬ (PairsCons ps ∧ PairsCompat acc ps) → tryFromPairsAux acc ps = none) := by
  intro ps acc
  fun_induction tryFromPairsAux acc ps with
  | case1 acc => exact ⟨fun _ => rfl, fun h => absurd ⟨nofun, nofun⟩ h⟩
  | case2 acc i v ps w hp hw =>
    rw [pairs_cons_iff, hp]
    exact ⟨fun h => absurd (h.1 w rfl) (bne_iff_ne.mp hw), fun _ => rfl⟩
  | case3 acc i v ps w hp hw ih =>
    obtain rfl : w = v := by simpa using hw
    rw [pairs_cons_iff, mergePairs_cons, setAt_same hp, hp]
    exact ⟨fun h => ih.1 h.2, fun h => ih.2 fun h' => h ⟨fun _ e => (Option.some.inj e).symm, h'⟩⟩
  | case4 acc i v ps hp ih =>
    rw [pairs_cons_iff, mergePairs_cons, hp]
    exact ⟨fun h => ih.1 h.2, fun h => ih.2 fun h' => h ⟨nofun, h'⟩⟩

/-- `try_from_pair_iter` in closed form -/
theorem tryFromPairs_eq (ps : List (Nat × Bool)) :
    tryFromPairs ps = if ps.isEmpty || !consistentPairs ps then none else some (mergePairs [] ps) := by
  have hcompat : PairsCompat [] ps := fun x _ w hw => nomatch hw
  unfold tryFromPairs
  cases ps.isEmpty with
  | true => rfl
  | false =>
    cases hc : consistentPairs ps with
    | true => exact (tryFromPairsAux_eq ps []).1 ⟨(consistentPairs_iff ps).mp hc, hcompat⟩
    | false =>
      refine (tryFromPairsAux_eq ps []).2 fun h => ?_
      rw [(consistentPairs_iff ps).mpr h.1] at hc; cases hc

theorem pget_mergePairs_sub : ∀ (ps : List (Nat × Bool)) (acc : PA) (i : Nat) (v : Bool),
    pget (mergePairs acc ps) i = some v → pget acc i = some v ∨ (i, v) ∈ ps
  | [], acc, i, v, h => Or.inl h
  | x :: ps, acc, i, v, h => by
    rcases pget_mergePairs_sub ps _ i v h with h1 | h1
    · rw [pget_setAt] at h1
      split at h1
      next c => rw [c, ← Option.some.inj h1]; exact Or.inr (List.mem_cons_self ..)
      next => exact Or.inl h1
    · exact Or.inr (List.mem_cons_of_mem _ h1)

theorem pget_mergePairs_of : ∀ (ps : List (Nat × Bool)) (acc : PA) (i : Nat) (v : Bool),
    (∀ y ∈ ps, y.1 = i → y.2 = v) → (pget acc i = some v ∨ (i, v) ∈ ps) →
    pget (mergePairs acc ps) i = some v
  | [], acc, i, v, _, h => h.resolve_right nofun
  | x :: ps, acc, i, v, hall, h => by
    apply pget_mergePairs_of ps _ i v (fun y hy => hall y (List.mem_cons_of_mem _ hy))
    rw [pget_setAt]
    split
    next c => rw [hall x (List.mem_cons_self ..) c.symm]; exact Or.inl rfl
    next c =>
      refine h.imp_right fun h => (List.mem_cons.mp h).resolve_left fun e => c ?_
      rw [← e]

theorem pget_mergePairs_nil {ps : List (Nat × Bool)} (hc : PairsCons ps) (i : Nat) (v : Bool) :
    pget (mergePairs [] ps) i = some v ↔ (i, v) ∈ ps :=
  ⟨fun h => (pget_mergePairs_sub ps [] i v h).resolve_left nofun,
   fun h => pget_mergePairs_of ps [] i v (fun y hy hyi => hc y hy (i, v) h hyi) (Or.inr h)⟩

theorem mismatch_mergePairs {ps : List (Nat × Bool)} (hc : PairsCons ps) (acc : PA) :
    mismatch (mergePairs [] ps) acc = ps.any (fun x => pget acc x.1 == some (!x.2)) := by
  rw [Bool.eq_iff_iff, mismatch_iff, List.any_eq_true]
  constructor
  · rintro ⟨i, c, hi, ha⟩
    exact ⟨(i, c), (pget_mergePairs_nil hc i c).mp hi, beq_iff_eq.mpr ha⟩
  · rintro ⟨x, hx, ha⟩
    exact ⟨x.1, x.2, (pget_mergePairs_nil hc x.1 x.2).mpr hx, beq_iff_eq.mp ha⟩

/-! `disjunction` after `try_from_pair_iter` writes the pairs into the accumulator -/

theorem disjPA_length (a b : PA) : (disjPA a b).length = max a.length b.length := by
  rw [disjPA, List.length_map, List.length_range]

theorem pget_disjPA (a b : PA) (i : Nat) :
    pget (disjPA a b) i = (match pget a i, pget b i with
      | some x, some y => some (x || y)
      | some x, none => some x
      | none, some y => some y
      | none, none => none) := by
  rcases Nat.lt_or_ge i (max a.length b.length) with h | h
  · rw [pget, disjPA, List.getElem?_map, List.getElem?_range h]; rfl
  · rw [pget_of_le (g := disjPA a b) (by rw [disjPA_length]; exact h), pget_of_le (g := a) (by omega),
      pget_of_le (g := b) (by omega)]

theorem setAt_length_max (g : PA) (i : Nat) (v : Bool) : (setAt g i v).length = max g.length (i + 1) := by
  unfold setAt
  split
  next h => rw [List.length_set, Nat.max_eq_left (Nat.succ_le_of_lt h)]
  next h =>
    have h := Nat.le_of_not_lt h
    rw [List.length_append, List.length_append, List.length_replicate, List.length_singleton,
      Nat.add_sub_cancel' h, Nat.max_eq_right (Nat.le_succ_of_le h)]

theorem disjPA_nil (a : PA) : disjPA a [] = a := by
  apply list_ext_pget (by rw [disjPA_length]; exact Nat.max_zero _)
  intro j _
  rw [pget_disjPA, pget_of_le (g := []) (Nat.zero_le j)]
  cases pget a j <;> rfl

theorem disjPA_setAt {acc base : PA} {i : Nat} {v : Bool} (h : ∀ w, pget acc i = some w → w = v) :
    disjPA acc (setAt base i v) = setAt (disjPA acc base) i v := by
  apply list_ext_pget
  · rw [disjPA_length, setAt_length_max, setAt_length_max, disjPA_length, Nat.max_assoc]
  · intro j _
    rw [pget_setAt, pget_disjPA, pget_disjPA, pget_setAt]
    by_cases c : j = i
    · rw [if_pos c, if_pos c]
      cases ha : pget acc j with
      | none => rfl
      | some w => rw [h w (c ▸ ha)]; exact congrArg some (Bool.or_self v)
    · rw [if_neg c, if_neg c]

theorem disjPA_mergePairs : ∀ (ps : List (Nat × Bool)) (acc base : PA), PairsCompat acc ps →
    disjPA acc (mergePairs base ps) = mergePairs (disjPA acc base) ps
  | [], _, _, _ => rfl
  | x :: ps, acc, base, hk => by
    rw [mergePairs_cons, mergePairs_cons, disjPA_mergePairs ps acc _ (fun y hy => hk y (List.mem_cons_of_mem _ hy)),
      disjPA_setAt (hk x (List.mem_cons_self ..))]

/-- one fold step: the bitmap-level step of the code is the step of `NoGood.lean` -/
theorem bucketStepR_eq : bucketStepR = bucketStep := by
  funext interp acc bucket
  cases acc with
  | none => rfl
  | some acc =>
    unfold bucketStepR bucketStep
    dsimp only
    generalize bucket.filterMap (fun g => conclude g interp) = pairs
    rw [tryFromPairs_eq]
    by_cases c1 : (pairs.isEmpty || !consistentPairs pairs) = true
    · rw [if_pos c1, if_pos c1]
    · rw [if_neg c1, if_neg c1]
      have hcons : PairsCons pairs := by
        apply (consistentPairs_iff pairs).mp
        cases hh : consistentPairs pairs with
        | true => rfl
        | false => exact absurd (by rw [hh]; exact Bool.or_true _) c1
      dsimp only
      rw [mismatch_mergePairs hcons]
      by_cases c2 : pairs.any (fun x => pget acc x.1 == some (!x.2)) = true
      · rw [if_pos c2, if_pos c2]
      · -- no pair contradicts the accumulator
        have hcompat : PairsCompat acc pairs := by
          intro x hx w hw
          have := List.any_eq_false.mp (Bool.eq_false_iff.mpr c2) x hx
          rw [hw] at this
          revert this
          generalize x.2 = b
          cases w <;> cases b <;> decide
        rw [if_neg c2, if_neg c2, disjPA_mergePairs pairs acc [] hcompat, disjPA_nil]

/-- **the line-by-line `conclusions` is the function the laws are proved for** -/
theorem conclusionsR_eq (store : List (List PA)) (interp : PA) :
    conclusionsR store interp = conclusions store interp := by
  unfold conclusionsR conclusions
  rw [relevant_eq_filter, bucketStepR_eq]
  rfl

theorem closureLoopR_eq (store : List (List PA)) (fuel : Nat) (r : PA) :
    closureLoopR store fuel r = closureLoop store fuel r := by
  fun_induction closureLoop store fuel r with
  | case1 r => rfl
  | case2 f r hc => rw [closureLoopR, conclusionsR_eq, hc]
  | case3 f r val hc u hflag ih => rw [closureLoopR, conclusionsR_eq, hc]; dsimp only; rw [if_pos hflag, ih]
  | case4 f r val hc u hflag => rw [closureLoopR, conclusionsR_eq, hc]; dsimp only; rw [if_neg hflag]

/-- the line-by-line `conclusion_closure` is the function the laws are proved for -/
theorem closureR_eq (store : List (List PA)) (interp : PA) :
    closureR store interp = conclusionClosure store interp := by
  unfold closureR conclusionClosure
  rw [conclusionsR_eq]
  cases conclusions store interp with
  | none => rfl
  | some val => dsimp only; rw [closureLoopR_eq]

theorem mergePairs_length (n : Nat) (ps : List (Nat × Bool)) (acc : PA) (hx : ∀ x ∈ ps, x.1 < n)
    (ha : acc.length = n) : (mergePairs acc ps).length = n :=
  List.foldlRecOn (motive := fun a : PA => a.length = n) ps _ ha fun a h x hm => by
    rw [setAt_length a x.1 x.2 (h ▸ hx x hm), h]

theorem conclude_pos_lt {g interp : PA} {x : Nat × Bool} (h : conclude g interp = some x) : x.1 < g.length :=
  pget_lt (conclude_some (p := x.1) (b := x.2) h).2.2

theorem bucketStep_length {n : Nat} (interp acc r : PA) (bucket : List PA) (hacc : acc.length = n)
    (hb : ∀ g ∈ bucket, g.length = n) (h : bucketStep interp (some acc) bucket = some r) : r.length = n := by
  unfold bucketStep at h
  dsimp only at h
  split at h
  · cases h; exact hacc
  · split at h
    · cases h
    · cases h
      refine mergePairs_length n _ acc (fun x hx => ?_) hacc
      obtain ⟨g, hg, hc⟩ := List.mem_filterMap.mp hx
      rw [← hb g hg]; exact conclude_pos_lt hc

theorem conclusions_length {n : Nat} (store : List (List PA)) (interp r : PA)
    (hs : ∀ b ∈ store, ∀ g ∈ b, g.length = n) (hi : interp.length = n)
    (h : conclusions store interp = some r) : r.length = n := by
  refine List.foldlRecOn (motive := fun o => ∀ a, o = some a → a.length = n) (relevant store interp)
    (bucketStep interp) (fun a ha => by cases ha; exact hi) ?_ r (fold_of_conclusions h)
  intro o ho b hb a ha
  cases o with
  | none => cases ha
  | some a' => exact bucketStep_length interp a' a b (ho a' rfl) (hs b (relevant_sub hb)) ha

/-! ### the laws on every store a history reaches

stated for any store `st` with `Reach n st gs` (`gs` = the added nogoods), so for every history by `run_spec` -/

namespace NgStore

theorem conclusions_eq (st : NgStore) (A : PA) : st.conclusions A = _root_.conclusions st.buckets A :=
  conclusionsR_eq _ _

theorem closure_eq (st : NgStore) (A : PA) : st.closure A = conclusionClosure st.buckets A :=
  closureR_eq _ _

namespace Reach
variable {n : Nat} {st : NgStore} {gs : List PA}

theorem avoids (h : Reach n st gs) {σ : Asg} (ha : AvoidsL gs σ) : AvoidsAll st.buckets σ := by
  rw [avoidsAll_iff, h.excl σ, ← avoidsL_iff]; exact ha

theorem conclusions_sound (h : Reach n st gs) {A r : PA} (hA : A.length = n) (hr : st.conclusions A = some r) :
    PSub A r ∧ r.length = n ∧ ∀ σ, Matches A σ → AvoidsL gs σ → Matches r σ := by
  rw [conclusions_eq] at hr
  have hF := (_root_.conclusions_sound st.buckets A).1 r hr
  exact ⟨hF.keep, conclusions_length _ A r h.inv.lengths hA hr, fun σ hm ha => hF.forced σ hm (h.avoids ha)⟩

theorem conflict_sound (h : Reach n st gs) {A : PA} (hc : st.conclusions A = none) :
    ∀ σ, Matches A σ → ¬ AvoidsL gs σ := by
  rw [conclusions_eq] at hc
  exact fun σ hm ha => (_root_.conclusions_sound st.buckets A).2 hc σ hm (h.avoids ha)

/-- an interpretation that contains an added nogood contains the stored nogood covering it -/
theorem conflict_direct (h : Reach n st gs) {A g : PA} (hA : A.length = n) (hg : g ∈ gs) (hp : PSub g A) :
    st.conclusions A = none := by
  obtain ⟨g', hst, hsub⟩ := h.cover g hg
  rw [conclusions_eq]
  exact conclusions_direct_inv h.inv hst (hsub.trans hp) hA

theorem closure_direct (h : Reach n st gs) {A g : PA} (hA : A.length = n) (hg : g ∈ gs) (hp : PSub g A) :
    st.closure A = Closure.inconsistent := by
  rw [closure_eq]
  exact closure_of_conflict (conclusions_eq st A ▸ h.conflict_direct hA hg hp)

theorem closure_sound (h : Reach n st gs) {A : PA} (hA : A.length = n) :
    (∀ R, st.closure A = Closure.update R →
        PSub A R ∧ size A < size R ∧ R.length = n ∧
        (∀ σ, Matches A σ → AvoidsL gs σ → Matches R σ) ∧ ∀ g ∈ gs, ¬ PSub g R) ∧
    (st.closure A = Closure.inconsistent → ∀ σ, Matches A σ → ¬ AvoidsL gs σ) ∧
    (st.closure A = Closure.noUpdate → ∀ g ∈ gs, ¬ PSub g A) := by
  -- an interpretation on which `conclusions` answers `Some` contains no added nogood
  have hdirect : ∀ (B : PA), B.length = n → (∃ val, _root_.conclusions st.buckets B = some val) →
      ∀ g ∈ gs, ¬ PSub g B := by
    intro B hB ⟨val, hval⟩ g hg hp
    rw [← conclusions_eq, h.conflict_direct hB hg hp] at hval
    cases hval
  rw [closure_eq]
  have ⟨c1, c2, c3⟩ := closure_cases st.buckets A
  refine ⟨fun R hR => ?_, fun hI σ hm ha => ?_, fun hN => hdirect A hA (c3 hN)⟩
  · -- `R` is a fixed point of `conclusions`, which therefore answers `Some` on it
    have ⟨a, b, val, hval, _⟩ := c1 R hR
    have hRlen := a.grows.2.2.trans hA
    exact ⟨a.grows.1, b, hRlen, fun σ hm ha => a.matches (h.avoids ha) hm, hdirect R hRlen ⟨val, hval⟩⟩
  · have ⟨R, a, b⟩ := c2 hI
    exact (_root_.conclusions_sound _ R).2 b σ (a.matches (h.avoids ha) hm) (h.avoids ha)

theorem closure_flip (h : Reach n st gs) {H : PA} {v : Nat} {b : Bool} (hp : FlipPre n gs H v b) :
    st.closure H = Closure.update (setAt H v (!b)) := by
  rw [closure_eq]
  -- the fresh nogood itself is stored: the stored nogood that covers it can neither be complemented in `H`
  -- nor be a proper part of it
  obtain ⟨g, hs, hq⟩ := h.cover _ hp.cmem
  have hvH : v < H.length := by rw [hp.hlen]; exact hp.hv
  refine closure_flip_sized hp h.inv.sized h.sub ?_
  rcases hp.cls g (h.sub g hs) with hc | hs'
  · exact absurd hc (not_closed_of_psub_setAt hp.hn hq)
  · have heq : g = setAt H v b := by
      apply list_ext_pget (by rw [h.inv.width hs, setAt_length H v b hvH, hp.hlen])
      exact fun i _ => Option.ext fun x => ⟨hq i x, hs' i x⟩
    rw [← heq]; exact hs

end Reach

/-- **termination of `conclusion_closure`**, on any buckets: with fuel beyond the number of undecided positions
the loop of the line-by-line model does not depend on the fuel and ends in a conflict or a fixed point -/
theorem closure_terminates (bs : List (List PA)) (r : PA) (fuel : Nat) (hf : r.length - size r < fuel) :
    (∀ fuel', fuel ≤ fuel' → closureLoopR bs fuel' r = closureLoopR bs fuel r) ∧
    (closureLoopR bs fuel r = Closure.inconsistent ∨
     ∃ R val, closureLoopR bs fuel r = Closure.update R ∧
       conclusionsR bs R = some val ∧ (updateVec val R).2 = false) := by
  simp only [closureLoopR_eq, conclusionsR_eq]
  have ⟨l1, l2, l3⟩ := closureLoop_rounds bs fuel r
  refine ⟨closureLoop_fuel bs fuel r hf, ?_⟩
  cases hc : closureLoop bs fuel r with
  | inconsistent => exact Or.inl rfl
  | noUpdate => exact absurd hc l3
  | update R => exact Or.inr ⟨R, ((l1 R hc).2 hf).imp fun val h => ⟨rfl, h⟩⟩

end NgStore

/-! ### decidable versions of the semantic notions (for the concrete witnesses and the
executable specification) -/

def matchesB (g : PA) (σ : Asg) : Bool :=
  (List.range g.length).all (fun i => match pget g i with | none => true | some b => σ i == b)

theorem matchesB_iff (g : PA) (σ : Asg) : matchesB g σ = true ↔ Matches g σ :=
  all_decided_iff g fun _ _ _ => beq_iff_eq

def excludedB (bs : List (List PA)) (σ : Asg) : Bool := bs.any (fun b => b.any (fun g => matchesB g σ))

theorem excludedB_iff (bs : List (List PA)) (σ : Asg) : excludedB bs σ = true ↔ Excluded bs σ := by
  simp only [excludedB, Excluded, stored_iff_mem, List.any_eq_true, matchesB_iff]
  constructor
  · rintro ⟨b, hb, g, hg, hm⟩; exact ⟨g, ⟨b, hb, hg⟩, hm⟩
  · rintro ⟨g, ⟨b, hb, hg⟩, hm⟩; exact ⟨b, hb, g, hg, hm⟩

/-! ### the code before the repairs (defects D8a, D8b, D10) -/

namespace NgOrig

/-- unrepaired `NoGoodStore::new`: `size` buckets, bucket `k` for the nogoods of size `k + 1` -/
def new (n : Nat) : NgStore := ⟨List.replicate n [], .equiv⟩

/-- unrepaired per-bucket function; `idx = size g - 1` -/
def addFn (m : DupMode) (g : PA) (i : Nat) (b : List PA) : List PA :=
  let idx := size g - 1
  match m with
  | .none => if i == idx then b ++ [g] else b
  | .equiv => if i == idx then (if b.contains g then b else b ++ [g]) else b
  | .subsume =>
    -- D8b: `if idx >= cur_idx { ng_vec.retain(|ng| !ng.is_violating(&nogood)) }`, then push: the
    -- stored nogoods CONTAINED IN the new one are removed and the new, weaker one is kept
    let b' := if i ≤ idx then b.filter (fun h => !violating h g) else b
    if i == idx then b' ++ [g] else b'

/-- unrepaired `add_ng`: D10 — `if idx > 0 { idx -= 1; … }` drops the empty nogood -/
def addNg (st : NgStore) (g : PA) : NgStore :=
  if size g == 0 then st else { st with buckets := st.buckets.mapIdx (addFn st.mode g) }

/-- unrepaired fold step: D8a — `if ng.is_violating(acc)` (agreement instead of contradiction) -/
def bucketStep (interp : PA) (acc : Option PA) (bucket : List PA) : Option PA :=
  match acc with
  | none => none
  | some acc =>
    match tryFromPairs (bucket.filterMap (fun g => conclude g interp)) with
    | none => some acc
    | some ng => if violating ng acc then none else some (disjPA acc ng)

/-- unrepaired bucket selection `*len <= nogood.len()` -/
def relevant (store : List (List PA)) (interp : PA) : List (List PA) :=
  (store.zipIdx.filter (fun p => p.2 ≤ size interp)).map Prod.fst

def conclusions (store : List (List PA)) (interp : PA) : Option PA :=
  match (relevant store interp).foldl (bucketStep interp) (some interp) with
  | none => none
  | some result =>
    if (relevant store interp).any (fun b => b.any (fun e => violating e result || violating e interp))
    then none else some result

def step (st : NgStore) : NgStore.Cmd → NgStore
  | .add g => addNg st g
  | .mode m => st.setMode m

def run (st : NgStore) (cs : List NgStore.Cmd) : NgStore := cs.foldl step st

end NgOrig

/-- the repaired code with only the D8a fix reverted (the contradiction test of the fold) -/
def bucketStepD8a (interp : PA) (acc : Option PA) (bucket : List PA) : Option PA :=
  match acc with
  | none => none
  | some acc =>
    match tryFromPairs (bucket.filterMap (fun g => conclude g interp)) with
    | none => some acc
    | some ng => if violating ng acc then none else some (disjPA acc ng)

def conclusionsD8a (store : List (List PA)) (interp : PA) : Option PA :=
  match (relevantR store interp).foldl (bucketStepD8a interp) (some interp) with
  | none => none
  | some result =>
    if (relevantR store interp).any (fun b => b.any (fun e => violating e result || violating e interp))
    then none else some result
