import AdfObdd.Channel
/-! # The receiver is dropped before the last result was sent: the producer panics

`Chan.send_after_drop_panics` is about ONE producer step with a message pending.  Here the consequence over
whole schedules: if the receiver is gone while fewer results have been handed to the channel than the loop
emits in total, then every continuation of the schedule with enough producer steps (at most the remaining
loop iterations + 1) ends in the panic of `expect` (`adf.rs:922`); the consumer receives nothing more. -/
namespace Chan
variable {σ α : Type}

theorem dstep_panicked_stays (P : Producer σ α) (cap : Option Nat) (c : DCfg σ α) (e : DEv)
    (h : c.panicked = true) : (dstep P cap c e).panicked = true := by
  cases e with
  | prod => rw [dstep, if_pos h]; exact h
  | cons => rw [dstep]; split <;> exact h
  | dropRecv => exact h

theorem drun_panicked_stays (P : Producer σ α) (cap : Option Nat) (sched : List DEv) (c : DCfg σ α)
    (h : c.panicked = true) : (drun P cap sched c).panicked = true :=
  List.foldlRecOn (motive := fun c' => c'.panicked = true) sched (dstep P cap) h
    (fun c' h' e _ => dstep_panicked_stays P cap c' e h')

theorem drun_got_frozen (P : Producer σ α) (cap : Option Nat) (sched : List DEv) :
    ∀ c : DCfg σ α, c.recvGone = true →
      (drun P cap sched c).base.got = c.base.got ∧ (drun P cap sched c).recvGone = true := by
  intro c h
  refine List.foldlRecOn (motive := fun c' => c'.base.got = c.base.got ∧ c'.recvGone = true) sched (dstep P cap)
    ⟨rfl, h⟩ ?_
  intro c' ⟨h1, h2⟩ e _
  cases e with
  | prod =>
    rw [dstep]
    split
    · exact ⟨h1, h2⟩
    · split
      · exact ⟨h1, h2⟩
      · exact ⟨(prodStep_cons_end P cap c'.base).1.trans h1, h2⟩
  | cons => rw [dstep, if_pos h2]; exact ⟨h1, h2⟩
  | dropRecv => exact ⟨h1, rfl⟩

theorem Inv.sent_final {P : Producer σ α} {cap : Option Nat} {p0 : σ} {N : Nat} (hN : P.done (runG P N p0) = true)
    {c : Cfg σ α} (h : Inv P cap p0 c) (hd : P.done c.p = true) (hs : (P.out c.p).length ≤ c.sent) :
    (P.out (runG P N p0)).length ≤ c.sent := by
  rw [h.hp] at hd hs
  rwa [done_final hN hd] at hs

/-- **receiver dropped before the last result: panic.** `c` is any configuration reachable with the
invariant in which the receiver is gone and fewer results were handed to the channel than the loop emits in
total.  Then every schedule containing more than `N - iters` producer steps leaves the producer panicked. -/
theorem recv_dropped_panics {P : Producer σ α} (hm : Mono P) {cap : Option Nat} {p0 : σ} {N : Nat}
    (hN : P.done (runG P N p0) = true) (sched : List DEv) :
    ∀ c : DCfg σ α, Inv P cap p0 c.base → c.recvGone = true →
      c.base.sent < (P.out (runG P N p0)).length → N - c.base.iters < sched.count DEv.prod →
      (drun P cap sched c).panicked = true := by
  induction sched with
  | nil => intro c _ _ _ h; exact absurd h (Nat.not_lt_zero _)
  | cons e es ih =>
    intro c hi hg hlt hcnt
    show (drun P cap es (dstep P cap c e)).panicked = true
    cases hpk : c.panicked with
    | true => exact drun_panicked_stays P cap es _ (dstep_panicked_stays P cap c e hpk)
    | false =>
      cases e with
      | cons =>
        rw [List.count_cons_of_ne (by decide : DEv.cons ≠ DEv.prod)] at hcnt
        rw [show dstep P cap c .cons = c by rw [dstep, if_pos hg]]
        exact ih c hi hg hlt hcnt
      | dropRecv =>
        rw [List.count_cons_of_ne (by decide : DEv.dropRecv ≠ DEv.prod)] at hcnt
        rw [show dstep P cap c .dropRecv = c by rw [dstep, ← hg]]
        exact ih c hi hg hlt hcnt
      | prod =>
        -- the sender has not been dropped and the loop has not ended: either would mean everything was sent
        have hcl : c.base.closed = false := by
          cases hc : c.base.closed with
          | false => rfl
          | true =>
            have ⟨hd, hs⟩ := hi.hc hc
            exact absurd hlt (Nat.not_lt_of_le (hi.sent_final hN hd (Nat.le_of_eq hs.symm)))
        cases hv : (P.out c.base.p)[c.base.sent]? with
        | some v =>
          exact drun_panicked_stays P cap es _ (send_after_drop_panics P cap c v hg hpk hcl hv).1
        | none =>
          rw [no_pending_no_panic P cap c hpk hv]
          rcases prodStep_cases P cap c.base with ⟨_, hw⟩ | ⟨v, _, hv', _⟩ | ⟨_, _, hdn, _⟩ | ⟨_, _, hdn, e⟩
          · obtain ⟨v, hv', _⟩ := hw.resolve_left (by rw [hcl]; nofun)
            rw [hv] at hv'; cases hv'
          · rw [hv] at hv'; cases hv'
          · exact absurd hlt (Nat.not_lt_of_le (hi.sent_final hN hdn (List.getElem?_eq_none_iff.mp hv)))
          · have hit : c.base.iters < N := not_done_lt hN (by rw [← hi.hp]; exact hdn)
            rw [List.count_cons_self] at hcnt
            exact ih _ (e ▸ prodStep_inv hm hi) hg (e ▸ hlt) (by rw [e]; show N - (c.base.iters + 1) < _; omega)

/-- the toy producer: the receiver is dropped after the first of three results; three more producer steps
and the thread has panicked, the consumer keeps `[0]` -/
example :
    let c := drun toy (some 1) [.prod, .prod, .cons, .dropRecv, .cons, .prod, .prod, .cons] ⟨init 0, false, false⟩
    c.panicked = true ∧ c.base.got = [0] := by decide +kernel

end Chan
