import AdfObdd.BioModel
import AdfObdd.StableExact
import AdfObdd.TTSpec
import AdfObdd.Props.C20
import AdfObdd.Spec.Adf
/-! # The biodivine back-end's own algorithms are exact, for every lawful library

`Bio.Lawful` (BioModel.lean) is the assumption about `biodivine_lib_bdd`; everything else is proved:
`grounded_internal` computes the least fixpoint of Γ and its unbounded `loop` reaches the `break`
within `length + 1` rounds; the filter of `complete` is "fixpoint of Γ", the filter of `stable` /
`stable_bdd_representation` is the definition of a stable model; the satisfying valuations of
`stable_representation()` are exactly the two-valued models, the rewriting prepared at construction
is implied by "is a model" when no statement has two conditions and is the same function when every
statement has exactly one; the enumerations are exact and duplicate free; the computable truth-table
library satisfies the assumption (`ttLawful`; the ideal `fnLawful` is in BioModel.lean). The
shadowed `BddRestrict::restrict` of the file (select, then project; dead code) denotes the same
cofactor as the library's `restrict` that runs (`restrictSE_den`). -/
open IterFull CompleteExact

namespace Bio

theorem all_congr_mem {α : Type} {p q : α → Bool} (l : List α) (h : ∀ x ∈ l, p x = q x) :
    l.all p = l.all q := by
  rw [Bool.eq_iff_iff, List.all_eq_true, List.all_eq_true]
  exact forall₂_congr fun x hx => by rw [h x hx]

theorem ex1_sel_cons (f : BoolFn) (v : Nat) (b : Bool) (l : List (Nat × Bool))
    (hv : ∀ p ∈ l, p.1 ≠ v) :
    ex1 (sel f ((v, b) :: l)) v = sel (fun σ => f (upd σ v b)) l := by
  funext σ
  have key : ∀ c, l.all (fun p => upd σ v c p.1 == p.2) = l.all (fun p => σ p.1 == p.2) :=
    fun c => all_congr_mem l fun p hp => by simp [upd, hv p hp]
  have e : ∀ c, upd σ v c v = c := fun c => by simp [upd]
  simp only [ex1, sel, List.all_cons, key, e]
  cases b <;> simp

theorem exL_sel : ∀ (l : List (Nat × Bool)) (f : BoolFn), (l.map (·.1)).Nodup →
    exL (sel f l) (l.map (·.1)) = fun σ => f (updL σ l) := by
  intro l
  induction l with
  | nil => intro f _; funext σ; simp [exL, sel, updL]
  | cons p l ih =>
    intro f hnd
    obtain ⟨v, b⟩ := p
    rw [List.map_cons, List.nodup_cons] at hnd
    have hv : ∀ p ∈ l, p.1 ≠ v := fun p hp he => hnd.1 (List.mem_map.mpr ⟨p, hp, he⟩)
    show exL (ex1 (sel f ((v, b) :: l)) v) (l.map (·.1)) = _
    rw [ex1_sel_cons f v b l hv, ih _ hnd.2]
    rfl

/-- the decided entries of a three-valued vector as a variable list, positions from `k` -/
def vlOf : Nat → I3 → List (Nat × Bool)
  | _, [] => []
  | k, none :: w => vlOf (k+1) w
  | k, some b :: w => (k, b) :: vlOf (k+1) w

theorem updL_vlOf : ∀ (w : I3) (k : Nat) (σ : Asg), updL σ (vlOf k w) = over σ k w := by
  intro w
  induction w with
  | nil => intro k σ; rfl
  | cons a w ih =>
    intro k σ
    cases a with
    | none => exact ih (k+1) σ
    | some b =>
      show upd (updL σ (vlOf (k+1) w)) k b = over (upd σ k b) (k+1) w
      rw [ih (k+1) σ, over_upd w σ k (k+1) b (Nat.lt_succ_self k)]

theorem vlOf_fst_sublist : ∀ (w : I3) (k : Nat), ((vlOf k w).map (·.1)).Sublist (List.range' k w.length)
  | [], _ => .slnil
  | none :: w, k => (vlOf_fst_sublist w (k+1)).cons k
  | some _ :: w, k => (vlOf_fst_sublist w (k+1)).cons_cons k

theorem vlOf_lt {w : I3} {k nv : Nat} (hk : k + w.length ≤ nv) (p : Nat × Bool) (hp : p ∈ vlOf k w) :
    p.1 < nv :=
  Nat.lt_of_lt_of_le (List.mem_range'_1.mp ((vlOf_fst_sublist w k).subset (List.mem_map_of_mem hp))).2 hk

theorem vlOf_nodup (w : I3) (k : Nat) : ((vlOf k w).map (·.1)).Nodup :=
  (List.nodup_range' 1).sublist (vlOf_fst_sublist w k)

/-- the shape of `var_list`, `var_list_from_term` and the `reduction_list` of `stable` -/
theorem zipIdx_filter_map {α : Type} {g : α → Option Bool} {p v : α → Bool}
    (hg : ∀ a, g a = if p a then some (v a) else none) : ∀ (l : List α) (k : Nat),
    ((l.zipIdx k).filter (fun q => p q.1)).map (fun q => (q.2, v q.1)) = vlOf k (l.map g) := by
  intro l
  induction l with
  | nil => intro k; rfl
  | cons a l ih =>
    intro k
    rw [List.zipIdx_cons, List.map_cons, List.filter_cons, hg a]
    cases p a
    · exact ih (k+1)
    · exact congrArg ((k, v a) :: ·) (ih (k+1))

theorem term_cases (x : Nat) :
    x = 0 ∨ x = 1 ∨ (isTV x = false ∧ (x == 1) = false ∧ storeIsConst x = none) := by
  match x with
  | 0 => exact .inl rfl
  | 1 => exact .inr (.inl rfl)
  | x + 2 =>
    exact .inr (.inr ⟨decide_eq_false (Nat.not_lt.mpr (Nat.le_add_left 2 x)),
      beq_eq_false_iff_ne.mpr (by omega), (sic_none _).mpr (Nat.le_add_left 2 x)⟩)

theorem storeIsConst_eq_ite (x : Nat) : storeIsConst x = if isTV x then some (x == 1) else none := by
  rcases term_cases x with rfl | rfl | ⟨h1, _, h3⟩
  · rfl
  · rfl
  · rw [h1, h3]; rfl

section lib
variable {T : Type} {L : Lib T} {nv : Nat} (W : Lawful L nv)

theorem isConst_eq_ite (t : T) : L.isConst t = if L.isTV t then some (L.isTrue t) else none := by
  unfold Lib.isConst Lib.isTV
  cases L.isTrue t <;> cases L.isFalse t <;> rfl

theorem isTV_eq (t : T) : L.isTV t = (L.isConst t).isSome := by
  rw [isConst_eq_ite]; cases L.isTV t <;> rfl

theorem isConst_eq (t : T) (hv : W.Valid t) : L.isConst t = constOf (W.den t) :=
  ite_eq_constOf (W.isTrue_spec t hv) (W.isFalse_spec t hv)

theorem map_isConst (v : List T) (hv : ∀ x ∈ v, W.Valid x) :
    v.map L.isConst = (v.map W.den).map constOf := by
  rw [List.map_map]
  exact List.map_congr_left fun x hx => isConst_eq W x (hv x hx)

theorem toTerm_info (t : T) : storeIsConst (toTerm L t) = L.isConst t := by
  unfold toTerm Lib.isConst
  cases L.isTrue t <;> cases L.isFalse t <;> rfl

theorem cmpInfo_eq (x : Nat) (t : T) : cmpInfo L x t = (storeIsConst x == L.isConst t) := by
  unfold cmpInfo Lib.isTV Lib.isConst
  rcases term_cases x with rfl | rfl | ⟨h1, h2, h3⟩
  · cases L.isTrue t <;> cases L.isFalse t <;> rfl
  · cases L.isTrue t <;> cases L.isFalse t <;> rfl
  · rw [h1, h2, h3]; cases L.isTrue t <;> cases L.isFalse t <;> rfl

theorem varList_eq (cur : List T) : varList L cur = vlOf 0 (cur.map L.isConst) :=
  zipIdx_filter_map isConst_eq_ite cur 0

theorem varListTerm_eq (c : List Nat) : varListTerm c = vlOf 0 (c.map storeIsConst) :=
  zipIdx_filter_map storeIsConst_eq_ite c 0

theorem falseList_eq (c : List Nat) : falseList c = vlOf 0 (falsePart (c.map storeIsConst)) := by
  have hg : ∀ x : Nat, ((fun o => if o = some false then some false else none) ∘ storeIsConst) x =
      if (isTV x && !(x == 1)) then some ((fun _ => false) x) else none := by
    intro x
    rcases term_cases x with rfl | rfl | ⟨h1, _, h3⟩
    · rfl
    · rfl
    · simp [h1, h3]
  rw [falsePart, List.map_map]
  exact zipIdx_filter_map hg c 0

/-- the shadowed `impl BddRestrict` (select, then project; never executed) by the decided entries of
`w` is the cofactor - derived from the laws of `select` and `exists` -/
theorem restrictSE_den (t : T) (w : I3) (k : Nat) (hv : W.Valid t) (hk : k + w.length ≤ nv) :
    W.Valid (restrictSE L t (vlOf k w)) ∧
    W.den (restrictSE L t (vlOf k w)) = fun σ => W.den t (over σ k w) := by
  have ⟨v1, d1⟩ := W.select_spec t (vlOf k w) hv (vlOf_lt hk)
  have ⟨v2, d2⟩ := W.exist_spec (L.select t (vlOf k w)) ((vlOf k w).map (·.1)) v1 (fun v hv' => by
    obtain ⟨p, hp, rfl⟩ := List.mem_map.mp hv'
    exact vlOf_lt hk p hp)
  refine ⟨v2, ?_⟩
  show W.den (L.exist (L.select t (vlOf k w)) ((vlOf k w).map (·.1))) = _
  rw [d2, d1, exL_sel _ _ (vlOf_nodup w k)]
  funext σ
  rw [updL_vlOf]

/-- `ac.restrict(..)` (the library's inherent `restrict`, law `restrict_spec`) by the decided entries
of `w` is the cofactor -/
theorem restrict_den (t : T) (w : I3) (k : Nat) (hv : W.Valid t) (hk : k + w.length ≤ nv) :
    W.Valid (restrict L t (vlOf k w)) ∧
    W.den (restrict L t (vlOf k w)) = fun σ => W.den t (over σ k w) := by
  have ⟨v1, d1⟩ := W.restrict_spec t (vlOf k w) hv (vlOf_lt hk) (vlOf_nodup w k)
  refine ⟨v1, ?_⟩
  show W.den (L.restrict t (vlOf k w)) = _
  rw [d1]
  funext σ
  rw [updL_vlOf]

/-- the executed operation and the shadowed composition denote the same function (for every lawful
library; on a function-canonical representation the diagrams then coincide) -/
theorem restrict_restrictSE_den (t : T) (w : I3) (k : Nat) (hv : W.Valid t) (hk : k + w.length ≤ nv) :
    W.den (restrict L t (vlOf k w)) = W.den (restrictSE L t (vlOf k w)) := by
  rw [(restrict_den W t w k hv hk).2, (restrictSE_den W t w k hv hk).2]

theorem restrict_eq_restrictSE (hc : ∀ a b, W.Valid a → W.Valid b → W.den a = W.den b → a = b)
    (t : T) (w : I3) (k : Nat) (hv : W.Valid t) (hk : k + w.length ≤ nv) :
    restrict L t (vlOf k w) = restrictSE L t (vlOf k w) :=
  hc _ _ (restrict_den W t w k hv hk).1 (restrictSE_den W t w k hv hk).1
    (restrict_restrictSE_den W t w k hv hk)

/-- a lawful step mapped over a vector (the library has no state to thread) -/
theorem map_den {g : T → T} {F : BoolFn → BoolFn} (v : List T)
    (h : ∀ x ∈ v, W.Valid (g x) ∧ W.den (g x) = F (W.den x)) :
    (∀ y ∈ v.map g, W.Valid y) ∧ (v.map g).map W.den = (v.map W.den).map F :=
  ⟨List.forall_mem_map.mpr fun x hx => (h x hx).1,
    by rw [List.map_map, List.map_map]; exact List.map_congr_left fun x hx => (h x hx).2⟩

theorem roundGo_fst (vl : List (Nat × Bool)) : ∀ xs : List T,
    (roundGo L vl xs).1 = xs.map (fun x => if L.isTV x then x else restrict L x vl) := by
  intro xs
  induction xs with
  | nil => rfl
  | cons x xs ih =>
    rw [List.map_cons, ← ih, roundGo]
    cases L.isTV x <;> rfl

/-- the number of decided entries never drops in a round, and the flag (`truth_extention`) is unset
exactly when it stays the same -/
theorem roundGo_count (vl : List (Nat × Bool)) : ∀ xs : List T,
    countSome (xs.map L.isConst) ≤ countSome ((roundGo L vl xs).1.map L.isConst) ∧
    ((roundGo L vl xs).2 = false ↔
      countSome ((roundGo L vl xs).1.map L.isConst) = countSome (xs.map L.isConst)) := by
  intro xs
  induction xs with
  | nil => exact ⟨Nat.le_refl _, iff_of_true rfl rfl⟩
  | cons x xs ih =>
    obtain ⟨i1, i2⟩ := ih
    rw [roundGo]
    cases ht : L.isTV x
    · cases hy : L.isTV (restrict L x vl)
      · simp only [Bool.false_eq_true, if_false, List.map_cons, countSome_cons, ← isTV_eq, ht, hy,
          Bool.false_or, Nat.zero_add]
        exact ⟨i1, i2⟩
      · simp only [Bool.false_eq_true, if_false, if_true, List.map_cons, countSome_cons, ← isTV_eq,
          ht, hy, Bool.true_or, Nat.zero_add]
        exact ⟨Nat.le_trans i1 (Nat.le_add_left _ 1), fun h => Bool.noConfusion h, fun h => by omega⟩
    · simp only [if_true, List.map_cons, countSome_cons]
      exact ⟨Nat.add_le_add_left i1 _, i2.trans Nat.add_left_cancel_iff.symm⟩

theorem bioRound_count (v : List T) :
    countSome (v.map L.isConst) ≤ countSome ((bioRound L v).1.map L.isConst) ∧
    ((bioRound L v).2 = false ↔
      countSome ((bioRound L v).1.map L.isConst) = countSome (v.map L.isConst)) :=
  roundGo_count (varList L v) v

theorem bioRound_length (v : List T) : (bioRound L v).1.length = v.length := by
  rw [bioRound, roundGo_fst, List.length_map]

/-- a decided entry denotes a constant, so substituting the round's snapshot `w` changes nothing -/
theorem roundStep_den (w : I3) (hw : w.length ≤ nv) (x : T) (hx : W.Valid x) :
    W.Valid (if L.isTV x then x else restrict L x (vlOf 0 w)) ∧
    W.den (if L.isTV x then x else restrict L x (vlOf 0 w)) = fun σ => W.den x (over σ 0 w) := by
  cases ht : L.isTV x
  · exact restrict_den W x w 0 hx (by rwa [Nat.zero_add])
  · refine ⟨hx, ?_⟩
    rw [isTV_eq, isConst_eq W x hx, Option.isSome_iff_exists] at ht
    obtain ⟨b, hb⟩ := ht
    funext σ
    rw [if_pos rfl, constOf_some.mp hb, constOf_some.mp hb]

theorem bioRound_sem (v : List T) (hv : ∀ x ∈ v, W.Valid x) (hl : v.length ≤ nv) :
    (∀ y ∈ (bioRound L v).1, W.Valid y) ∧
    (bioRound L v).1.map W.den = semRound (v.map W.den) ∧
    ((bioRound L v).2 = false ↔
      countSome ((semRound (v.map W.den)).map constOf) = countSome ((v.map W.den).map constOf)) := by
  have ⟨a, b⟩ : (∀ y ∈ (bioRound L v).1, W.Valid y) ∧ (bioRound L v).1.map W.den = semRound (v.map W.den) := by
    rw [bioRound, roundGo_fst, varList_eq, semRound, ← map_isConst W v hv]
    exact map_den W v fun x hx => roundStep_den W (v.map L.isConst) (by rwa [List.length_map]) x (hv x hx)
  refine ⟨a, b, ?_⟩
  rw [← b, ← map_isConst W _ a, ← map_isConst W v hv]
  exact (bioRound_count v).2

theorem groundedLoopB_step (f : Nat) (v : List T) :
    groundedLoopB L (f+1) v =
      if (bioRound L v).2 = true then groundedLoopB L f (bioRound L v).1 else (bioRound L v).1 := rfl

theorem groundedLoopB_sem : ∀ (fuel : Nat) (v : List T), (∀ x ∈ v, W.Valid x) → v.length ≤ nv →
    (∀ y ∈ groundedLoopB L fuel v, W.Valid y) ∧ (groundedLoopB L fuel v).length = v.length ∧
    (groundedLoopB L fuel v).map W.den = semLoop fuel (v.map W.den) := by
  intro fuel
  induction fuel with
  | zero => intro v hv _; exact ⟨hv, rfl, rfl⟩
  | succ f ih =>
    intro v hv hl
    have ⟨a, b, c⟩ := bioRound_sem W v hv hl
    have hlen := bioRound_length (L := L) v
    rw [groundedLoopB_step, semLoop]
    cases hf : (bioRound L v).2
    · rw [if_neg Bool.false_ne_true, if_pos (c.mp hf)]
      exact ⟨a, hlen, b⟩
    · rw [if_pos rfl, if_neg (fun h => by rw [← c, hf] at h; cases h), ← b, ← hlen]
      exact ih _ a (hlen ▸ hl)

theorem groundedInternal_lfp (ac : List T) (hv : ∀ x ∈ ac, W.Valid x) (hl : ac.length ≤ nv) :
    (∀ y ∈ groundedInternal L ac, W.Valid y) ∧ (groundedInternal L ac).length = ac.length ∧
    IsLfp (ac.map W.den) ((groundedInternal L ac).map L.isConst) := by
  have ⟨a, b, c⟩ := groundedLoopB_sem W (ac.length + 1) ac hv hl
  refine ⟨a, b, ?_⟩
  rw [groundedInternal, map_isConst W _ a, c]
  exact grounded_sem (ac.map W.den) (ac.length + 1) (by rw [List.length_map]; exact Nat.lt_succ_self _)

/-! the bound on the number of rounds is no restriction: every larger bound gives the same vector,
i.e. the unbounded `loop` of the Rust code reaches its `break` within `length + 1` rounds, because
every round but the last decides at least one more entry -/

theorem groundedLoopB_succ : ∀ (f : Nat) (v : List T), v.length - countSome (v.map L.isConst) < f →
    groundedLoopB L (f+1) v = groundedLoopB L f v := by
  intro f
  induction f with
  | zero => intro v h; exact absurd h (Nat.not_lt_zero _)
  | succ f ih =>
    intro v h
    rw [groundedLoopB_step (f+1) v, groundedLoopB_step f v]
    cases hf : (bioRound L v).2
    · rfl
    · rw [if_pos rfl, if_pos rfl]
      -- the flag is set: the round has decided one more entry
      have ⟨h1, h2⟩ := bioRound_count (L := L) v
      have hne : countSome ((bioRound L v).1.map L.isConst) ≠ countSome (v.map L.isConst) :=
        fun e => Bool.noConfusion ((h2.mpr e).symm.trans hf)
      apply ih
      rw [bioRound_length]
      exact undecided_drop ((List.length_map _).trans (bioRound_length v)) (Nat.lt_of_le_of_ne h1 hne.symm) h

theorem groundedLoopB_fuel (v : List T) (fuel : Nat) (hf : v.length < fuel) :
    groundedLoopB L fuel v = groundedInternal L v := by
  rw [groundedInternal, ← Nat.add_sub_of_le (Nat.succ_le_of_lt hf)]
  generalize fuel - (v.length + 1) = d
  induction d with
  | zero => rfl
  | succ d ih =>
    rw [← Nat.add_assoc, groundedLoopB_succ _ v (Nat.lt_of_le_of_lt (Nat.sub_le _ _)
      (Nat.lt_of_lt_of_le (Nat.lt_succ_self _) (Nat.le_add_right _ d))), ih]

theorem map_restrict_den (ac : List T) (w : I3) (hv : ∀ x ∈ ac, W.Valid x) (hw : w.length ≤ nv) :
    (∀ x ∈ ac.map (fun a => restrict L a (vlOf 0 w)), W.Valid x) ∧
    (ac.map (fun a => restrict L a (vlOf 0 w))).map W.den =
      (ac.map W.den).map (fun f σ => f (over σ 0 w)) :=
  map_den W ac fun a ha => restrict_den W a w 0 (hv a ha) (by rwa [Nat.zero_add])

theorem zipIdx_all_getD {α β γ : Type} (F : β → γ → Bool) (g : α → γ) (d : β) :
    ∀ (l : List α) (c : List β), c.length = l.length →
    l.zipIdx.all (fun p => F (c.getD p.2 d) (g p.1)) = (c.zip (l.map g)).all (fun q => F q.1 q.2) := by
  intro l
  induction l with
  | nil => intro c h; rw [List.length_eq_zero_iff.mp h]; rfl
  | cons a l ih =>
    intro c h
    cases c with
    | nil => cases h
    | cons b c =>
      rw [List.zipIdx_cons', List.all_cons, List.all_map, List.map_cons, List.zip_cons_cons,
        List.all_cons, ← ih c (Nat.succ.inj h)]
      rfl

theorem zip_all_cmp (l1 : List Nat) (l2 : List T) (hl : l1.length = l2.length) :
    ((l1.zip l2).all (fun p => cmpInfo L p.1 p.2) = true ↔ l1.map storeIsConst = l2.map L.isConst) :=
  zip_all_iff_map_eq (fun x t => by rw [cmpInfo_eq, beq_iff_eq]) l1 l2 hl

theorem completeTest_iff (ac : List T) (c : List Nat) (hv : ∀ x ∈ ac, W.Valid x) (hn : ac.length ≤ nv)
    (hl : c.length = ac.length) :
    completeTest L ac c = true ↔ Gam (ac.map W.den) (c.map storeIsConst) = c.map storeIsConst := by
  have ⟨rv, rd⟩ := map_restrict_den W ac (c.map storeIsConst) hv (by rw [List.length_map, hl]; exact hn)
  rw [← varListTerm_eq] at rv rd
  rw [completeTest, zipIdx_all_getD (cmpInfo L) (fun a => restrict L a (varListTerm c)) 2 ac c hl,
    zip_all_cmp c _ (by rw [List.length_map]; exact hl), map_isConst W _ rv, rd, List.map_map]
  exact eq_comm

theorem stableTest_iff (ac : List T) (c : List Nat) (hv : ∀ x ∈ ac, W.Valid x) (hn : ac.length ≤ nv)
    (hl : c.length = ac.length) (ht : ∀ i, i < c.length → c.getD i 0 < 2) :
    stableTest L ac c = true ↔ StableExact.StableI (ac.map W.den) (c.map storeIsConst) := by
  have ⟨rv, rd⟩ := map_restrict_den W ac (falsePart (c.map storeIsConst)) hv
    (by rw [falsePart, List.length_map, List.length_map, hl]; exact hn)
  rw [← falseList_eq] at rv rd
  have ⟨_, gl, glfp⟩ := groundedInternal_lfp W _ rv (by rw [List.length_map]; exact hn)
  rw [rd] at glfp
  show (c.zip (groundedInternal L (ac.map fun a => restrict L a (falseList c)))).all
    (fun p => cmpInfo L p.1 p.2) = true ↔ _
  rw [zip_all_cmp c _ (by rw [gl, List.length_map]; exact hl),
    StableExact.StableI_iff (by rw [List.length_map, List.length_map]; exact hl),
    and_iff_right (StableExact.total_of_lt2 c ht)]
  exact eq_comm.trans glfp.eq_iff

end lib

/-- the assumed behaviour of `sat_valuations`, for the function `R` of the formula: every
satisfying valuation of the `n` declared variables, each exactly once, in any order -/
def SatEnum (R : BoolFn) (n : Nat) (vals : List (List Bool)) : Prop :=
  vals.Nodup ∧ ∀ val : List Bool, val ∈ vals ↔ (val.length = n ∧ R (asgOf val) = true)

def ModelOf (D : List BoolFn) (σ : Asg) : Prop := ∀ (i : Nat) (f : BoolFn), D[i]? = some f → f σ = σ i

theorem toTerms_info (val : List Bool) : (toTerms val).map storeIsConst = val.map some := by
  rw [toTerms, List.map_map]
  exact List.map_congr_left fun b _ => by cases b <;> rfl

theorem toTerms_total (val : List Bool) : ∀ i, i < (toTerms val).length → (toTerms val).getD i 0 < 2 := by
  intro i hi
  rw [List.getD_eq_getElem?_getD, List.getElem?_eq_getElem hi, Option.getD_some]
  obtain ⟨b, _, hb⟩ := List.mem_map.mp (List.getElem_mem hi)
  rw [← hb]; split <;> omega

theorem toTerms_of_satEnum {R : BoolFn} {n : Nat} {vals : List (List Bool)} (hs : SatEnum R n vals) :
    ∀ c ∈ vals.map toTerms, c.length = n ∧ ∀ i, i < c.length → c.getD i 0 < 2 := by
  intro c hc
  obtain ⟨val, hval, rfl⟩ := List.mem_map.mp hc
  exact ⟨by rw [toTerms, List.length_map]; exact ((hs.2 val).mp hval).1, toTerms_total val⟩

theorem total_val (v : I3) (ht : TotalI v) : (v.map (fun o => o.getD false)).map some = v := by
  rw [List.map_map]
  conv => rhs; rw [← List.map_id v]
  apply List.map_congr_left
  intro o ho
  obtain ⟨i, hi, rfl⟩ := List.getElem_of_mem ho
  obtain ⟨b, hb⟩ := ht i hi
  rw [List.getElem?_eq_getElem hi] at hb
  rw [Option.some.inj hb]; rfl

/-- filtering the candidates of a formula that is implied by "is a two-valued model" with a test
that decides stability: exactly the stable models, each once -/
theorem rep_answers (D : List BoolFn) (n : Nat) (hD : D.length = n) (R : BoolFn)
    (hR : ∀ σ, ModelOf D σ → R σ = true) (vals : List (List Bool)) (hs : SatEnum R n vals)
    (p : List Nat → Bool)
    (hp : ∀ c : List Nat, c.length = n → (∀ i, i < c.length → c.getD i 0 < 2) →
      (p c = true ↔ StableExact.StableI D (c.map storeIsConst))) :
    ((((vals.map toTerms).filter p)).map (fun v => v.map storeIsConst)).Nodup ∧
    ∀ v : I3, v ∈ ((vals.map toTerms).filter p).map (fun v => v.map storeIsConst) ↔
      (v.length = n ∧ StableExact.StableI D v) := by
  have hinj : ∀ a b : List Bool, (toTerms a).map storeIsConst = (toTerms b).map storeIsConst → a = b :=
    fun a b h => by
      rwa [toTerms_info, toTerms_info, List.map_inj_right fun _ _ => Option.some.inj] at h
  refine filter_map_answers (E := (· ∈ vals.map toTerms)) (f := fun v => v.map storeIsConst)
    (P := fun v => v.length = n ∧ StableExact.StableI D v) (p := p)
    (nodup_map_on _ _ hs.1 fun a _ b _ h => hinj a b (congrArg _ h)) (fun _ => Iff.rfl) ?_ ?_ ?_
  · intro a b ha hb he
    obtain ⟨x, _, rfl⟩ := List.mem_map.mp ha
    obtain ⟨y, _, rfl⟩ := List.mem_map.mp hb
    rw [hinj x y he]
  · intro c hc
    have ⟨hlen, htot⟩ := toTerms_of_satEnum hs c hc
    rw [hp c hlen htot, List.length_map]
    exact (and_iff_right hlen).symm
  · intro v ⟨hl, hst⟩
    refine ⟨toTerms (v.map (fun o => o.getD false)), List.mem_map_of_mem ?_, ?_⟩
    · rw [hs.2, List.length_map]
      exact ⟨hl, hR _ (value_of_total_fix hst.2.1 hst.1 (hl.trans hD.symm) fun j c hj => by
        rw [asgOf, List.getD_eq_getElem?_getD, List.getElem?_map, hj]; rfl)⟩
    · rw [toTerms_info, total_val v hst.1]

section rewriting
variable {T : Type} {L : Lib T} {nv : Nat} (W : Lawful L nv)

/-- the function of `stable_representation`: every condition has the value of its statement -/
def repFn (ac : List T) : BoolFn := fun σ => ac.zipIdx.all (fun p => W.den p.1 σ == σ p.2)

theorem stableRepresentation_den (ac : List T) (hv : ∀ x ∈ ac, W.Valid x) (hn : ac.length ≤ nv) :
    W.Valid (stableRepresentation L ac) ∧ W.den (stableRepresentation L ac) = repFn W ac := by
  have ⟨tv, td⟩ := W.evalExpr_spec (.const true) rfl
  -- one step of the fold: conjunction with `condition ↔ its statement's variable`
  have step : ∀ (acc : T) (p : T × Nat), W.Valid acc → (W.Valid p.1 ∧ p.2 < nv) →
      W.Valid (L.and acc (L.iff p.1 (L.evalExpr (.var p.2)))) ∧
      W.den (L.and acc (L.iff p.1 (L.evalExpr (.var p.2)))) =
        andWith (fun (p : T × Nat) σ => W.den p.1 σ == σ p.2) (W.den acc) p := by
    intro acc p ha ⟨hx, hk⟩
    have ⟨vv, vd⟩ := W.evalExpr_spec (.var p.2) (decide_eq_true hk)
    have ⟨iv, id'⟩ := W.iff_spec p.1 _ hx vv
    have ⟨av, ad⟩ := W.and_spec acc _ ha iv
    exact ⟨av, by rw [ad, id', vd]; rfl⟩
  have ⟨a, b⟩ := foldl_lawful step ac.zipIdx _ tv (fun p hp => by
    have hp := List.mem_zipIdx_iff_getElem?.mp hp
    exact ⟨hv _ (List.mem_of_getElem? hp), Nat.lt_of_lt_of_le (lt_length_of_get? hp) hn⟩)
  refine ⟨a, b.trans ?_⟩
  rw [foldl_and_eq_all, td]
  funext σ
  exact Bool.true_and _

theorem repFn_iff_model (ac : List T) (σ : Asg) : repFn W ac σ = true ↔ ModelOf (ac.map W.den) σ := by
  simp only [repFn, ModelOf, List.all_eq_true, List.mem_zipIdx_iff_getElem?, beq_iff_eq, List.getElem?_map,
    Option.map_eq_some_iff, Prod.forall]
  exact ⟨fun h i f ⟨a, ha, e⟩ => e ▸ h a i ha, fun h a i ha => h i _ ⟨a, ha, rfl⟩⟩

/-- the function of the rewriting prepared at construction: one equivalence per condition of the file -/
def rewFn (order : List Nat) (fs : List BExpr) : BoolFn :=
  fun σ => (order.zip fs).all (fun p => σ p.1 == p.2.sem σ)

theorem rewriteExpr_spec (order : List Nat) (fs : List BExpr) (ho : ∀ o ∈ order, o < nv)
    (hf : ∀ φ ∈ fs, φ.closed nv = true) :
    (rewriteExpr order fs).closed nv = true ∧ (rewriteExpr order fs).sem = rewFn order fs := by
  have step : ∀ (e : BExpr) (p : Nat × BExpr), e.closed nv = true → (p.1 < nv ∧ p.2.closed nv = true) →
      (BExpr.and e (.iff (.var p.1) p.2)).closed nv = true ∧
      (BExpr.and e (.iff (.var p.1) p.2)).sem =
        andWith (fun (p : Nat × BExpr) σ => σ p.1 == p.2.sem σ) e.sem p :=
    fun e p he hp => ⟨by simp [BExpr.closed, he, hp.1, hp.2], rfl⟩
  have ⟨a, b⟩ := foldl_lawful step (order.zip fs) (.const true) rfl
    (fun p hp => ⟨ho _ (List.of_mem_zip hp).1, hf _ (List.of_mem_zip hp).2⟩)
  refine ⟨a, b.trans ?_⟩
  rw [foldl_and_eq_all]
  funext σ
  exact Bool.true_and _

theorem stmRewriting_den (order : List Nat) (fs : List BExpr) (ho : ∀ o ∈ order, o < nv)
    (hf : ∀ φ ∈ fs, φ.closed nv = true) :
    W.Valid (stmRewriting L order fs) ∧ W.den (stmRewriting L order fs) = rewFn order fs := by
  have ⟨hc, hs⟩ := rewriteExpr_spec (nv := nv) order fs ho hf
  have ⟨a, b⟩ := W.evalExpr_spec _ hc
  exact ⟨a, b.trans hs⟩

/-- the writes of `from_parser`: an unwritten position keeps its entry; if none is written twice, a written one holds what was written -/
theorem foldl_set_get {α β : Type} (e : β → α) : ∀ (l : List (Nat × β)) (acc : List α),
    (∀ j, j ∉ l.map (·.1) → (l.foldl (fun ac p => ac.set p.1 (e p.2)) acc)[j]? = acc[j]?) ∧
    ((l.map (·.1)).Nodup → ∀ p ∈ l, p.1 < acc.length →
      (l.foldl (fun ac p => ac.set p.1 (e p.2)) acc)[p.1]? = some (e p.2)) := by
  intro l
  induction l with
  | nil => intro acc; exact ⟨fun _ _ => rfl, fun _ p hp => nomatch hp⟩
  | cons q l ih =>
    intro acc
    have ⟨i3, i4⟩ := ih (acc.set q.1 (e q.2))
    rw [List.map_cons, List.nodup_cons, List.foldl_cons]
    refine ⟨fun j hj => ?_, fun hnd p hp hlt => ?_⟩
    · rw [List.mem_cons, not_or] at hj
      rw [i3 j hj.2, List.getElem?_set_ne (fun h => hj.1 h.symm)]
    · rcases List.mem_cons.mp hp with rfl | h
      · rw [i3 _ hnd.1, List.getElem?_set_self hlt]
      · exact i4 hnd.2 p h (by rwa [List.length_set])

/-- `from_parser`: `n` valid conditions; when no statement has two conditions in the file, the
condition of statement `o` is the one written for it -/
theorem acOf_spec (n : Nat) (order : List Nat) (fs : List BExpr) (hf : ∀ φ ∈ fs, φ.closed nv = true) :
    (acOf L n order fs).length = n ∧ (∀ x ∈ acOf L n order fs, W.Valid x) ∧
    (order.Nodup → order.length = fs.length → ∀ p ∈ order.zip fs, p.1 < n →
      (acOf L n order fs)[p.1]? = some (L.evalExpr p.2)) := by
  refine ⟨?_, ?_, fun hnd hl p hp hlt => ?_⟩
  · exact List.foldlRecOn (motive := fun ac : List T => ac.length = n) _ _ List.length_replicate
      fun ac h _ _ => List.length_set.trans h
  · exact List.foldlRecOn (motive := fun ac : List T => ∀ x ∈ ac, W.Valid x) _ _
      (fun x hx => (List.mem_replicate.mp hx).2 ▸ W.mkFalse_spec.1)
      fun ac h p hp x hx => (List.mem_or_eq_of_mem_set hx).elim (h x)
        fun e => e ▸ (W.evalExpr_spec _ (hf _ (List.of_mem_zip hp).2)).1
  · apply (foldl_set_get L.evalExpr _ _).2 _ p hp (by rwa [List.length_replicate])
    rw [List.map_fst_zip (Nat.le_of_eq hl)]; exact hnd

theorem acOf_den_get (n : Nat) (order : List Nat) (fs : List BExpr) (hf : ∀ φ ∈ fs, φ.closed nv = true)
    (hnd : order.Nodup) (hl : order.length = fs.length) (p : Nat × BExpr) (hp : p ∈ order.zip fs)
    (hlt : p.1 < n) : ((acOf L n order fs).map W.den)[p.1]? = some p.2.sem := by
  rw [List.getElem?_map, (acOf_spec W n order fs hf).2.2 hnd hl p hp hlt, Option.map_some,
    (W.evalExpr_spec _ (hf _ (List.of_mem_zip hp).2)).2]

theorem rewFn_of_model (n : Nat) (order : List Nat) (fs : List BExpr)
    (hf : ∀ φ ∈ fs, φ.closed nv = true) (ho : ∀ o ∈ order, o < n) (hnd : order.Nodup)
    (hl : order.length = fs.length) (σ : Asg)
    (hm : ModelOf ((acOf L n order fs).map W.den) σ) : rewFn order fs σ = true := by
  rw [rewFn, List.all_eq_true]
  intro p hp
  have hget := acOf_den_get W n order fs hf hnd hl p hp (ho _ (List.of_mem_zip hp).1)
  exact beq_iff_eq.mpr (hm p.1 _ hget).symm

def ExactlyOne (n : Nat) (order : List Nat) : Prop :=
  order.Nodup ∧ (∀ o ∈ order, o < n) ∧ ∀ j, j < n → j ∈ order

theorem rewFn_eq_repFn (n : Nat) (order : List Nat) (fs : List BExpr)
    (hf : ∀ φ ∈ fs, φ.closed nv = true) (h1 : ExactlyOne n order) (hl : order.length = fs.length) :
    rewFn order fs = repFn W (acOf L n order fs) := by
  funext σ
  rw [Bool.eq_iff_iff, repFn_iff_model]
  constructor
  · -- every statement `i` is some `order[k]`, and the equivalence written for it holds
    intro h i f hfi
    have hi : i < n := by
      have := (List.getElem?_eq_some_iff.mp hfi).1
      rwa [List.length_map, (acOf_spec W n order fs hf).1] at this
    obtain ⟨k, hk, rfl⟩ := List.getElem_of_mem (h1.2.2 i hi)
    have hkz : k < (order.zip fs).length := by rw [List.length_zip, ← hl, Nat.min_self]; exact hk
    have hp := List.getElem_mem hkz
    rw [List.getElem_zip] at hp
    rw [acOf_den_get W n order fs hf h1.1 hl _ hp hi] at hfi
    cases hfi
    exact (beq_iff_eq.mp (List.all_eq_true.mp h _ hp)).symm
  · exact rewFn_of_model W n order fs hf h1.2.1 h1.1 hl σ

/-- the rewriting prepared at construction (`stm_rewriting`, over the parser's formulas in file
order) and `stable_representation()` (folded over `ac`) are the same Boolean function -/
theorem rewritings_same_function (n : Nat) (order : List Nat) (fs : List BExpr) (hn : n ≤ nv)
    (hf : ∀ φ ∈ fs, φ.closed nv = true) (h1 : ExactlyOne n order) (hl : order.length = fs.length) :
    W.den (stmRewriting L order fs) = W.den (stableRepresentation L (acOf L n order fs)) := by
  have ⟨alen, aval, _⟩ := acOf_spec W n order fs hf
  rw [(stmRewriting_den W order fs (fun o ho => Nat.lt_of_lt_of_le (h1.2.1 o ho) hn) hf).2,
    (stableRepresentation_den W _ aval (by rw [alen]; exact hn)).2]
  exact rewFn_eq_repFn W n order fs hf h1 hl

end rewriting

theorem nativeStableRep_filter (s : Store) (n : Nat) (ac : List Nat) (hw : WF s) (hn : ac.length = n)
    (hv : ∀ t ∈ ac, t < s.nodes.size) (cands : List (List Nat))
    (hc : ∀ c ∈ cands, c.length = n ∧ ∀ i, i < c.length → c.getD i 0 < 2) :
    (WF (nativeStableRep s n ac cands).1 ∧ Ext s (nativeStableRep s n ac cands).1) ∧
    (nativeStableRep s n ac cands).2 = cands.filter (StableExact.verdict (ac.map (eval s))) :=
  StableExact.sstep_fold_filter s n ac hw hn hv cands hc s ⟨hw, Ext.refl _⟩

/-- the native filter over the satisfying valuations of a function `R` that every two-valued model
of a framework `D` satisfies, run on a store whose handles have the stable models of `D` (they need
not denote `D`: the hybrid arm of the CLI pairs pre-grounded handles with candidates of the original
conditions): exactly the stable models of `D`, each once -/
theorem nativeStableRep_answers (s : Store) (n : Nat) (ac : List Nat) (hw : WF s) (hn : ac.length = n)
    (hv : ∀ t ∈ ac, t < s.nodes.size) (D : List BoolFn) (hD : D.length = n)
    (hsame : ∀ v : I3, StableExact.StableI (ac.map (eval s)) v ↔ StableExact.StableI D v)
    (R : BoolFn) (hR : ∀ σ, ModelOf D σ → R σ = true) (vals : List (List Bool)) (hs : SatEnum R n vals) :
    let r := nativeStableRep s n ac (vals.map toTerms)
    (WF r.1 ∧ Ext s r.1) ∧ (r.2.map (fun v => v.map storeIsConst)).Nodup ∧
    ∀ v : I3, v ∈ r.2.map (fun v => v.map storeIsConst) ↔ (v.length = n ∧ StableExact.StableI D v) := by
  have ⟨a, b⟩ := nativeStableRep_filter s n ac hw hn hv _ (toTerms_of_satEnum hs)
  refine ⟨a, ?_⟩
  rw [b]
  exact rep_answers D n hD R hR vals hs _ (fun c _ _ => by rw [StableExact.verdict_iff, hsame])

section main
variable {T : Type} {L : Lib T} {n : Nat} (W : Lawful L n)

theorem bioGrounded_info (ac : List T) :
    (bioGrounded L ac).map storeIsConst = (groundedInternal L ac).map L.isConst := by
  rw [bioGrounded, List.map_map]
  exact List.map_congr_left fun t _ => toTerm_info t

/-- `Adf::grounded` of the biodivine back-end: the least fixpoint of Γ -/
theorem bioGrounded_lfp (ac : List T) (hv : ∀ x ∈ ac, W.Valid x) (hn : ac.length = n) :
    (bioGrounded L ac).length = n ∧ IsLfp (ac.map W.den) ((bioGrounded L ac).map storeIsConst) := by
  have ⟨_, b, c⟩ := groundedInternal_lfp W ac hv (Nat.le_of_eq hn)
  rw [bioGrounded_info]
  exact ⟨by rw [bioGrounded, List.length_map, b, hn], c⟩

/-- `Adf::complete` of the biodivine back-end: the three-valued iterator over the grounded vector,
filtered by "fixpoint of Γ" -/
theorem bioComplete_exact (ac : List T) (hv : ∀ x ∈ ac, W.Valid x) (hn : ac.length = n) :
    ((bioComplete L ac).map (fun v => v.map storeIsConst)).Nodup ∧
    (∀ w : I3, w ∈ (bioComplete L ac).map (fun v => v.map storeIsConst) ↔
      (w.length = n ∧ Gam (ac.map W.den) w = w)) ∧
    (bioComplete L ac).head? = some (bioGrounded L ac) ∧
    IsLfp (ac.map W.den) ((bioGrounded L ac).map storeIsConst) := by
  have ⟨gl, glfp⟩ := bioGrounded_lfp W ac hv hn
  have ⟨a, b, c⟩ := complete_answers gl glfp (p := completeTest L ac)
    fun c hc => completeTest_iff W ac c hv (Nat.le_of_eq hn) (by rw [hc.1, gl, hn])
  exact ⟨a, b, c, glfp⟩

/-- `Adf::stable` of the biodivine back-end: the two-valued iterator over the grounded vector,
filtered by the definition of a stable model -/
theorem bioStable_exact (ac : List T) (hv : ∀ x ∈ ac, W.Valid x) (hn : ac.length = n) :
    ((bioStable L ac).map (fun v => v.map storeIsConst)).Nodup ∧
    ∀ v : I3, v ∈ (bioStable L ac).map (fun v => v.map storeIsConst) ↔
      (v.length = n ∧ StableExact.StableI (ac.map W.den) v) := by
  have ⟨gl, glfp⟩ := bioGrounded_lfp W ac hv hn
  exact StableExact.stable_answers gl glfp fun c hc =>
    stableTest_iff W ac c hv (Nat.le_of_eq hn) (by rw [hc.1, gl, hn]) (StableExact.completion_total hc)

/-- a usable rewriting: a diagram of the variable set whose function is implied by "is a model" -/
def GoodRewrite (ac : List T) : Option T → Prop
  | none => True
  | some r => W.Valid r ∧ ∀ σ, ModelOf (ac.map W.den) σ → W.den r σ = true

/-- the candidates of `stable_model_candidates` satisfy the hypotheses of `rep_answers` -/
theorem candidates_enum (rw : Option T) (ac : List T) (hv : ∀ x ∈ ac, W.Valid x) (hn : ac.length = n)
    (hg : GoodRewrite W ac rw) :
    ∃ (R : BoolFn) (vals : List (List Bool)), (∀ σ, ModelOf (ac.map W.den) σ → R σ = true) ∧
      SatEnum R n vals ∧ stableModelCandidates L rw ac = vals.map toTerms := by
  cases rw with
  | none =>
    have ⟨a, b⟩ := stableRepresentation_den W ac hv (Nat.le_of_eq hn)
    refine ⟨repFn W ac, L.satVals (stableRepresentation L ac),
      fun σ h => (repFn_iff_model W ac σ).mpr h, ?_, rfl⟩
    have := W.sat_spec _ a
    rw [b] at this
    exact this
  | some r =>
    exact ⟨W.den r, L.satVals r, hg.2, W.sat_spec r hg.1, rfl⟩

/-- `Adf::stable_bdd_representation` of the biodivine back-end, with or without prepared rewriting -/
theorem bioStableRep_exact (rw : Option T) (ac : List T) (hv : ∀ x ∈ ac, W.Valid x) (hn : ac.length = n)
    (hg : GoodRewrite W ac rw) :
    ((bioStableRep L rw ac).map (fun v => v.map storeIsConst)).Nodup ∧
    ∀ v : I3, v ∈ (bioStableRep L rw ac).map (fun v => v.map storeIsConst) ↔
      (v.length = n ∧ StableExact.StableI (ac.map W.den) v) := by
  obtain ⟨R, vals, hR, hs, he⟩ := candidates_enum W rw ac hv hn hg
  unfold bioStableRep
  rw [he]
  exact rep_answers (ac.map W.den) n (by rw [List.length_map, hn]) R hR vals hs (stableTest L ac)
    (fun c hc ht => stableTest_iff W ac c hv (Nat.le_of_eq hn) (hc.trans hn.symm) ht)

/-- the rewriting prepared by `from_parser_with_stm_rewrite` is usable whenever no statement has
two conditions in the file -/
theorem stmRewriting_good (order : List Nat) (fs : List BExpr) (hf : ∀ φ ∈ fs, φ.closed n = true)
    (ho : ∀ o ∈ order, o < n) (hnd : order.Nodup) (hl : order.length = fs.length) :
    GoodRewrite W (acOf L n order fs) (some (stmRewriting L order fs)) := by
  have ⟨a, b⟩ := stmRewriting_den W order fs ho hf
  refine ⟨a, ?_⟩
  intro σ hm
  rw [b]
  exact rewFn_of_model W n order fs hf ho hnd hl σ hm

/-- `Adf::stable_bdd_representation(&biodivine)` of the native back-end -/
theorem nativeStableRep_exact (s : Store) (ac : List Nat) (hw : WF s) (hn : ac.length = n)
    (hvs : ∀ t ∈ ac, t < s.nodes.size) (rw : Option T) (acB : List T) (hv : ∀ x ∈ acB, W.Valid x)
    (hnB : acB.length = n) (hsame : acB.map W.den = ac.map (eval s)) (hg : GoodRewrite W acB rw) :
    let r := nativeStableRep s n ac (stableModelCandidates L rw acB)
    (WF r.1 ∧ Ext s r.1) ∧
    (r.2.map (fun v => v.map storeIsConst)).Nodup ∧
    ∀ v : I3, v ∈ r.2.map (fun v => v.map storeIsConst) ↔
      (v.length = n ∧ StableExact.StableI (ac.map (eval s)) v) := by
  obtain ⟨R, vals, hR, hs, he⟩ := candidates_enum W rw acB hv hnB hg
  rw [he]
  rw [hsame] at hR
  exact nativeStableRep_answers s n ac hw hn hvs _ (by rw [List.length_map, hn]) (fun _ => Iff.rfl)
    R hR vals hs

/-- no stable model ⇒ every variant answers with the empty list -/
theorem nil_of_none {α : Type} (out : List α) (f : α → I3) (P : I3 → Prop)
    (h : ∀ v, v ∈ out.map f ↔ P v) (hnone : ∀ v, ¬ P v) : out = [] := by
  cases out with
  | nil => rfl
  | cons a l => exact absurd ((h (f a)).mp (List.mem_map_of_mem (List.mem_cons_self ..))) (hnone _)

end main
end Bio

namespace Bio
open TT (Rep DetBy bitsAsg numOf)

/-- the function of a table: its bit at the code of the assignment -/
def ttDen (nv t : Nat) : BoolFn := fun σ => t.testBit (numOf nv σ)
/-- a table over `nv` variables: no bit at or above `2^nv` -/
def ttValid (nv t : Nat) : Prop := ∀ a, 2 ^ nv ≤ a → t.testBit a = false

theorem ttValid_of_lt {nv t : Nat} (h : t < 2 ^ (2 ^ nv)) : ttValid nv t := by
  intro a ha
  exact Nat.testBit_lt_two_pow (Nat.lt_of_lt_of_le h (Nat.pow_le_pow_right (by decide) ha))

theorem numOf_bitsAsg {nv a : Nat} (ha : a < 2 ^ nv) : numOf nv (bitsAsg a) = a := by
  apply Nat.eq_of_testBit_eq
  intro x
  rw [TT.numOf_testBit]
  by_cases hx : x < nv
  · simp [hx, bitsAsg]
  · have : a.testBit x = false :=
      Nat.testBit_lt_two_pow (Nat.lt_of_lt_of_le ha (Nat.pow_le_pow_right (by decide) (by omega)))
    simp [hx, this]

theorem numOf_congr {nv : Nat} {σ σ' : Asg} (h : ∀ x, x < nv → σ x = σ' x) : numOf nv σ = numOf nv σ' := by
  apply Nat.eq_of_testBit_eq
  intro x
  rw [TT.numOf_testBit, TT.numOf_testBit]
  by_cases hx : x < nv
  · simp [hx, h x hx]
  · simp [hx]

theorem ttDen_det (nv t : Nat) : DetBy nv (ttDen nv t) := fun σ σ' h => by
  unfold ttDen; rw [numOf_congr h]

theorem rep_ttDen {nv t : Nat} (hv : ttValid nv t) : Rep nv t (ttDen nv t) := by
  intro a
  by_cases ha : a < 2 ^ nv
  · simp [ha, ttDen, numOf_bitsAsg ha]
  · simp [ha, hv a (by omega)]

theorem valid_of_rep {nv t : Nat} {f : BoolFn} (h : Rep nv t f) : ttValid nv t := by
  intro a ha
  rw [h a]
  have : ¬ a < 2 ^ nv := by omega
  simp [this]

theorem den_of_rep {nv t : Nat} {f : BoolFn} (h : Rep nv t f) (hd : DetBy nv f) : ttDen nv t = f := by
  funext σ
  unfold ttDen
  rw [h (numOf nv σ)]
  simp only [TT.numOf_lt, decide_true, Bool.true_and]
  exact hd _ _ (fun x hx => TT.bitsAsg_numOf nv σ x hx)

theorem tt_of_rep {nv t : Nat} {f : BoolFn} (h : Rep nv t f) (hd : DetBy nv f) :
    ttValid nv t ∧ ttDen nv t = f := ⟨valid_of_rep h, den_of_rep h hd⟩

theorem det_bin {nv : Nat} {f g : BoolFn} (op : Bool → Bool → Bool) (hf : DetBy nv f) (hg : DetBy nv g) :
    DetBy nv (fun σ => op (f σ) (g σ)) := fun σ σ' h => by
  show op (f σ) (g σ) = op (f σ') (g σ')
  rw [hf σ σ' h, hg σ σ' h]

theorem ttEval_bin {nv ta tb t : Nat} {a b : BExpr} (op : Bool → Bool → Bool)
    (rep : Rep nv ta a.sem → Rep nv tb b.sem → Rep nv t (fun σ => op (a.sem σ) (b.sem σ)))
    (iha : a.closed nv = true → Rep nv ta a.sem ∧ DetBy nv a.sem)
    (ihb : b.closed nv = true → Rep nv tb b.sem ∧ DetBy nv b.sem)
    (h : (a.closed nv && b.closed nv) = true) :
    Rep nv t (fun σ => op (a.sem σ) (b.sem σ)) ∧ DetBy nv (fun σ => op (a.sem σ) (b.sem σ)) :=
  have ⟨ha, hb⟩ := Bool.and_eq_true_iff.mp h
  ⟨rep (iha ha).1 (ihb hb).1, det_bin op (iha ha).2 (ihb hb).2⟩

theorem ttEval_spec (nv : Nat) : ∀ e : BExpr, e.closed nv = true →
    Rep nv (ttEval nv e) e.sem ∧ DetBy nv e.sem := by
  intro e
  induction e with
  | const b => intro _; exact ⟨TT.rep_const nv b, fun _ _ _ => rfl⟩
  | var i => intro h; exact ⟨TT.rep_var nv i, fun σ σ' h' => h' i (of_decide_eq_true h)⟩
  | not a ih =>
    intro h
    exact ⟨TT.rep_not (ih h).1, fun σ σ' h' => congrArg (!·) ((ih h).2 σ σ' h')⟩
  | and a b iha ihb => exact ttEval_bin (· && ·) TT.rep_and iha ihb
  | or a b iha ihb => exact ttEval_bin (· || ·) TT.rep_or iha ihb
  | xor a b iha ihb => exact ttEval_bin (· != ·) TT.rep_xor iha ihb
  | imp a b iha ihb => exact ttEval_bin (fun x y => !x || y) TT.rep_imp iha ihb
  | iff a b iha ihb => exact ttEval_bin (· == ·) TT.rep_iff iha ihb

theorem tt_const_iff {nv t : Nat} (hv : ttValid nv t) (b : Bool) :
    t = TT.const nv b ↔ ∀ σ, ttDen nv t σ = b := by
  constructor
  · rintro rfl σ
    rw [den_of_rep (TT.rep_const nv b) (fun _ _ _ => rfl)]
  · exact fun h => TT.rep_unique (rep_ttDen hv) (TT.rep_const nv b) (fun a _ => h _)

theorem tt_isTrue (nv t : Nat) (hv : ttValid nv t) :
    ((t == TT.mask nv) = true ↔ ∀ σ, ttDen nv t σ = true) := by
  rw [beq_iff_eq]; exact tt_const_iff hv true

theorem tt_isFalse (nv t : Nat) (hv : ttValid nv t) :
    ((t == 0) = true ↔ ∀ σ, ttDen nv t σ = false) := by
  rw [beq_iff_eq]; exact tt_const_iff hv false

theorem tt_select_step (nv t : Nat) (p : Nat × Bool) (hv : ttValid nv t) (hp : p.1 < nv) :
    ttValid nv (TT.and t (if p.2 then TT.var nv p.1 else TT.not nv (TT.var nv p.1))) ∧
    ttDen nv (TT.and t (if p.2 then TT.var nv p.1 else TT.not nv (TT.var nv p.1))) =
      sel1 (ttDen nv t) p := by
  obtain ⟨v, b⟩ := p
  have hlit : Rep nv (if b then TT.var nv v else TT.not nv (TT.var nv v)) (fun σ => σ v == b) := by
    cases b
    · rw [show (fun σ : Asg => σ v == false) = (fun σ => !σ v) from funext fun σ => by simp]
      exact TT.rep_not (TT.rep_var nv v)
    · rw [show (fun σ : Asg => σ v == true) = (fun σ => σ v) from funext fun σ => by simp]
      exact TT.rep_var nv v
  exact tt_of_rep (TT.rep_and (rep_ttDen hv) hlit)
    (det_bin (· && ·) (ttDen_det nv t) fun σ σ' h => congrArg (· == b) (h v hp))

theorem tt_select (nv : Nat) (l : List (Nat × Bool)) (t : Nat) (hv : ttValid nv t)
    (hl : ∀ p ∈ l, p.1 < nv) :
    ttValid nv ((ttLib nv).select t l) ∧ ttDen nv ((ttLib nv).select t l) = sel (ttDen nv t) l := by
  rw [sel_eq_foldl]
  exact foldl_lawful (tt_select_step nv) l t hv hl

theorem tt_exist_step (nv t v : Nat) (hv : ttValid nv t) (hlt : v < nv) :
    ttValid nv (TT.or (TT.restrict nv t v false) (TT.restrict nv t v true)) ∧
    ttDen nv (TT.or (TT.restrict nv t v false) (TT.restrict nv t v true)) = ex1 (ttDen nv t) v :=
  tt_of_rep
    (TT.rep_or (TT.rep_restrict (rep_ttDen hv) v false hlt) (TT.rep_restrict (rep_ttDen hv) v true hlt))
    (det_bin (· || ·) (TT.detBy_upd (ttDen_det nv t) v false) (TT.detBy_upd (ttDen_det nv t) v true))

theorem tt_exist (nv : Nat) (vs : List Nat) (t : Nat) (hv : ttValid nv t) (hl : ∀ v ∈ vs, v < nv) :
    ttValid nv ((ttLib nv).exist t vs) ∧ ttDen nv ((ttLib nv).exist t vs) = exL (ttDen nv t) vs :=
  foldl_lawful (tt_exist_step nv) vs t hv hl

theorem tt_restrict_step (nv t : Nat) (p : Nat × Bool) (hv : ttValid nv t) (hp : p.1 < nv) :
    ttValid nv (TT.restrict nv t p.1 p.2) ∧ ttDen nv (TT.restrict nv t p.1 p.2) = cof1 (ttDen nv t) p :=
  tt_of_rep (TT.rep_restrict (rep_ttDen hv) p.1 p.2 hp) (TT.detBy_upd (ttDen_det nv t) p.1 p.2)

theorem tt_restrict (nv : Nat) (l : List (Nat × Bool)) (t : Nat) (hv : ttValid nv t)
    (hl : ∀ p ∈ l, p.1 < nv) :
    ttValid nv ((ttLib nv).restrict t l) ∧
    ttDen nv ((ttLib nv).restrict t l) = fun σ => ttDen nv t (updL σ l) := by
  have h := foldl_lawful (tt_restrict_step nv) l t hv hl
  exact ⟨h.1, h.2.trans (cofactor_eq_foldl (ttDen nv t) l).symm⟩

theorem asgOf_bitsList (nv a x : Nat) (hx : x < nv) : asgOf (bitsList nv a) x = a.testBit x := by
  simp [asgOf, bitsList, List.getD, hx]

theorem numOf_bitsList {nv a : Nat} (ha : a < 2 ^ nv) : numOf nv (asgOf (bitsList nv a)) = a := by
  rw [numOf_congr (σ' := bitsAsg a) (fun x hx => asgOf_bitsList nv a x hx)]
  exact numOf_bitsAsg ha

theorem bitsList_numOf {nv : Nat} (val : List Bool) (hl : val.length = nv) :
    bitsList nv (numOf nv (asgOf val)) = val := by
  apply List.ext_getElem
  · rw [bitsList, List.length_map, List.length_range, hl]
  · intro i h1 h2
    have hi : i < nv := hl ▸ h2
    simp [bitsList, TT.numOf_testBit, hi, asgOf, List.getD, List.getElem?_eq_getElem h2]

theorem tt_sat (nv t : Nat) :
    ((ttLib nv).satVals t).Nodup ∧
    ∀ val : List Bool, val ∈ (ttLib nv).satVals t ↔ (val.length = nv ∧ ttDen nv t (asgOf val) = true) :=
  filter_map_answers (E := (· < 2 ^ nv)) (f := bitsList nv) (p := fun a => t.testBit a)
    (P := fun val => val.length = nv ∧ ttDen nv t (asgOf val) = true) List.nodup_range
    (fun _ => List.mem_range)
    (fun a b ha hb he => by rw [← numOf_bitsList ha, ← numOf_bitsList hb, he])
    (fun a ha => by
      rw [ttDen, numOf_bitsList ha, bitsList, List.length_map, List.length_range]
      exact (and_iff_right rfl).symm)
    (fun val hv => ⟨_, TT.numOf_lt nv _, bitsList_numOf val hv.1⟩)

def ttLawful (nv : Nat) : Lawful (ttLib nv) nv where
  Valid := ttValid nv
  den := ttDen nv
  evalExpr_spec := fun e he => by
    have ⟨r, d⟩ := ttEval_spec nv e he
    exact tt_of_rep r d
  mkFalse_spec := ⟨fun a _ => Nat.zero_testBit a, by funext σ; exact Nat.zero_testBit _⟩
  isTrue_spec := fun t hv => tt_isTrue nv t hv
  isFalse_spec := fun t hv => tt_isFalse nv t hv
  select_spec := fun t l hv hl => tt_select nv l t hv hl
  exist_spec := fun t vs hv hl => tt_exist nv vs t hv hl
  restrict_spec := fun t l hv hl _ => tt_restrict nv l t hv hl
  and_spec := fun a b ha hb =>
    tt_of_rep (TT.rep_and (rep_ttDen ha) (rep_ttDen hb)) (det_bin (· && ·) (ttDen_det nv a) (ttDen_det nv b))
  iff_spec := fun a b ha hb =>
    tt_of_rep (TT.rep_iff (rep_ttDen ha) (rep_ttDen hb)) (det_bin (· == ·) (ttDen_det nv a) (ttDen_det nv b))
  sat_spec := fun t _ => tt_sat nv t

/-- on the truth-table library (one table per function) the executed `restrict` (cofactor fold) and
the shadowed composition `select`-then-`exists` are THE SAME TABLE for every variable list the
back-end builds: the model driver prints the same with either -/
theorem tt_restrict_eq_SE (nv t : Nat) (w : I3) (k : Nat) (hv : ttValid nv t) (hk : k + w.length ≤ nv) :
    restrict (ttLib nv) t (vlOf k w) = restrictSE (ttLib nv) t (vlOf k w) :=
  restrict_eq_restrictSE (ttLawful nv)
    (fun _ _ ha hb h => TT.rep_unique (rep_ttDen ha) (rep_ttDen hb) (fun _ _ => congrFun h _)) t w k hv hk

end Bio

#print axioms Bio.bioComplete_exact
#print axioms Bio.bioStable_exact
#print axioms Bio.bioStableRep_exact
#print axioms Bio.nativeStableRep_exact
#print axioms Bio.rewritings_same_function
#print axioms Bio.ttLawful

/-! evaluation checks (not proofs): `Bio.runTT` against the brute-force specification `Spec/Adf.lean`
(proved equal to the Prop-level semantics in SpecSound.lean) -/
namespace Bio
/-- same answers as the specification: grounded vector, complete set (grounded first, no
duplicate), stable set for the enumerate-and-check and the rewriting variant -/
def agreesWithSpec (n : Nat) (tts : List Nat) : Bool :=
  let co := (runTT "complete" n tts).getD []
  let sb := (runTT "stable" n tts).getD []
  let rw := (runTT "stablerew" n tts).getD []
  runTT "grounded" n tts == some [Spec.grounded n tts] &&
  Spec.showSet co == Spec.showSet (Spec.completeAll n tts) &&
  co.length == (Spec.completeAll n tts).length && co.head? == some (Spec.grounded n tts) &&
  Spec.showSet sb == Spec.showSet (Spec.stableAll n tts) && sb.length == (Spec.stableAll n tts).length &&
  Spec.showSet rw == Spec.showSet (Spec.stableAll n tts) && rw.length == (Spec.stableAll n tts).length

#guard agreesWithSpec 2 [3, 5]
#guard agreesWithSpec 3 [51, 85, 34]
#guard agreesWithSpec 3 [TT.const 3 true, TT.var 3 0, TT.and (TT.var 3 2) (TT.var 3 1)]
#guard agreesWithSpec 3 [TT.or (TT.var 3 1) (TT.not 3 (TT.var 3 2)), TT.var 3 1, TT.iff 3 (TT.var 3 0) (TT.var 3 1)]
#guard (List.range 256).all (fun k => agreesWithSpec 2 [k % 16, k / 16])
#guard runTT "stable" 2 [3, 5] == some [[some false, some true], [some true, some false]]
#guard runTT "nonsense" 2 [3, 5] == none
end Bio
