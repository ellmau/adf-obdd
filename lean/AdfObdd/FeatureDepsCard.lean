import AdfObdd.FeatureQueries
/-! # cardinality of `var_dependencies` (C12 / C13)

`Bdd::var_dependencies` returns a `HashSet<Var>` in both builds (obdd.rs); `facet_count`
(adf.rs:741) and the heuristics read its `.len()`. The model returns a LIST: with `variablelist`
the maintained table entry (built by `setInsert`/`setUnion`), without it `depsOf`, the raw
recursion `var :: (lo ++ hi)` — which lists a variable once per occurrence on the way down
(`x0 ⊕ x1`: `[0, 1, 1]`). The `HashSet` the code builds from the same recursion has as many
elements as the list has DISTINCT entries, `l.eraseDups.length`. This file proves that this number
is the number of variables the function depends on. -/

namespace DepsCard

theorem nodup_eraseDups : ∀ l : List Nat, l.eraseDups.Nodup
  | [] => by simp
  | a :: as => by
    rw [List.eraseDups_cons, List.nodup_cons]
    refine ⟨fun hm => ?_, nodup_eraseDups _⟩
    rw [List.mem_eraseDups, List.mem_filter] at hm
    simp at hm
termination_by l => l.length
decreasing_by
  have := List.length_filter_le (fun b => !b == a) as
  simp only [List.length_cons]
  omega

theorem distinct_length {l L : List Nat} (hL : L.Nodup) (h : ∀ x, x ∈ l ↔ x ∈ L) : l.eraseDups.length = L.length := by
  apply List.Perm.length_eq
  rw [List.perm_ext_iff_of_nodup (nodup_eraseDups _) hL]
  intro x
  rw [List.mem_eraseDups]
  exact h x

theorem nodup_setUnion {a b : List Nat} (ha : a.Nodup) (hb : b.Nodup) : (setUnion a b).Nodup := by
  unfold setUnion
  rw [List.nodup_append]
  refine ⟨ha, hb.sublist List.filter_sublist, ?_⟩
  intro x hx y hy e
  subst e
  rw [List.mem_filter] at hy
  simp at hy
  exact hy.2 hx

theorem nodup_setInsert {a : List Nat} (v : Nat) (ha : a.Nodup) : (setInsert v a).Nodup := by
  fun_cases setInsert v a with
  | case1 => exact ha
  | case2 hc =>
    rw [List.nodup_cons]
    exact ⟨fun hm => hc (List.contains_iff_mem.mpr hm), ha⟩

theorem nodup_getD (tbl : Array (List Nat)) (h : ∀ l ∈ tbl.toList, l.Nodup) (i : Nat) : (tbl.getD i []).Nodup := by
  unfold Array.getD
  split
  · next hi => exact h _ (by simp)
  · simp

theorem nodup_depsEntry (tbl : Array (List Nat)) (h : ∀ l ∈ tbl.toList, l.Nodup) (v lo hi : Nat) :
    (depsEntry tbl v lo hi).Nodup :=
  nodup_setInsert v (nodup_setUnion (nodup_getD tbl h lo) (nodup_getD tbl h hi))

theorem nodup_push (tbl : Array (List Nat)) (h : ∀ l ∈ tbl.toList, l.Nodup) (e : List Nat) (he : e.Nodup) :
    ∀ l ∈ (tbl.push e).toList, l.Nodup := by
  intro l hl
  rw [Array.toList_push, List.mem_append, List.mem_singleton] at hl
  rcases hl with hl | rfl
  · exact h l hl
  · exact he

theorem nodup_genDepsStep (tbl : Array (List Nat)) (h : ∀ l ∈ tbl.toList, l.Nodup) (n : Node) :
    ∀ l ∈ (genDepsStep tbl n).toList, l.Nodup := by
  unfold genDepsStep
  split
  · exact nodup_push tbl h [] List.nodup_nil
  · exact nodup_push tbl h _ (nodup_depsEntry tbl h _ _ _)

theorem nodup_genDeps (ns : Array Node) (tbl : Array (List Nat)) (h : ∀ l ∈ tbl.toList, l.Nodup) :
    ∀ l ∈ (genDeps tbl ns).toList, l.Nodup :=
  Array.foldl_induction (fun _ (tbl : Array (List Nat)) => ∀ l ∈ tbl.toList, l.Nodup) h
    fun i tbl hi => nodup_genDepsStep tbl hi ns[i]

theorem depsOf_card (s : Store) (w : WF s) (t : Nat) (ht : t < s.nodes.size) (L : List Nat) (hL : L.Nodup)
    (hE : ∀ x, x ∈ L ↔ Essential (eval s t) x) : (depsOf s t).eraseDups.length = L.length :=
  distinct_length hL fun x => (deps_exact s w t x ht).trans (hE x).symm

open Classical in
/-- the essential variables below `n`, as a list (classical: `Essential` quantifies over all
assignments) -/
noncomputable def essentialBelow (f : Asg → Bool) (n : Nat) : List Nat :=
  (List.range n).filter (fun x => decide (Essential f x))

theorem essentialBelow_nodup (f : Asg → Bool) (n : Nat) : (essentialBelow f n).Nodup :=
  List.nodup_range.sublist List.filter_sublist

theorem mem_essentialBelow (f : Asg → Bool) (n : Nat) (hn : ∀ x, Essential f x → x < n) (x : Nat) :
    x ∈ essentialBelow f n ↔ Essential f x := by
  unfold essentialBelow
  rw [List.mem_filter, List.mem_range]
  constructor
  · intro ⟨_, h⟩; simpa using h
  · intro h; exact ⟨hn x h, by simpa using h⟩

end DepsCard
