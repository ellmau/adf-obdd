import AdfObdd.JsonProofs
import AdfObdd.PersistAnswers
/-! # export / import through the JSON TEXT, composed with the persistence model

`exportText` = `serde_json::to_string(&adf)` (with any whitespace: `print` is the case without),
`importText` = `serde_json::from_str::<Adf>`: `Json.parse`, then the two hash maps are collected
from the lists read (`vectorize::deserialize` = `from_iter`; serde's own map visitor inserts in
order) and the skipped fields get their defaults (`importB`).  The iteration orders of the two hash
maps are parameters `ml`, `cl`: any permutation of the map's entries. -/
namespace Json
open Persist Std

/-- the object as serde sees it, the two maps in the orders `ml`, `cl` -/
def textOf (a : PAdf) (ml : List (String × Nat)) (cl : List (Node × Nat)) : TextAdf :=
  { names := a.names, mapping := ml, nodes := a.bdd.st.nodes.toList, cache := cl, ac := a.ac }

/-- `serde_json::to_string(&adf)`, whitespace `w` between the tokens (`noWs` = what serde writes) -/
def exportText (w : Nat → List Char) (a : PAdf) (ml : List (String × Nat)) (cl : List (Node × Nat)) : List Char :=
  render w 0 (toks (textOf a ml cl))

/-- `serde_json::from_str::<Adf>`: the object and its `mapping` -/
def importText (text : List Char) : Option (PAdf × HashMap String Nat) :=
  (parse text).map fun e =>
    ({ names := e.names, bdd := importB ⟨e.nodes.toArray, e.cache⟩, ac := e.ac }, HashMap.ofList e.mapping)

def FitsA (a : PAdf) (ml : List (String × Nat)) (cl : List (Node × Nat)) : Prop := Fits (textOf a ml cl)

theorem fitsA_of_wf (a : PAdf) (m : HashMap String Nat) (ml : List (String × Nat)) (cl : List (Node × Nat))
    (w : WF a.bdd.st) (hsz : a.bdd.st.nodes.size ≤ B64) (hv : ∀ t ∈ a.ac, t < a.bdd.st.nodes.size)
    (hm : ∀ (k : String) (v : Nat), m[k]? = some v → v < B64) (hml : ml.Perm m.toList) (hcl : cl.Perm a.bdd.st.uniq.toList) :
    FitsA a ml cl := by
  have node_fits : ∀ (i : Nat) (n : Node), a.bdd.st.nodes[i]? = some n → NodeFits n := by
    intro i n h
    have hi := lt_of_get h
    have hb : VBOT < B64 := by decide
    by_cases h2 : i < 2
    · match i, h2 with
      | 0, _ => rw [w.bot] at h; cases h; exact ⟨hb, by decide, by decide⟩
      | 1, _ => rw [w.top] at h; cases h; exact ⟨by decide, by decide, by decide⟩
    · have ⟨hv, hlo, hhi, _⟩ := w.inner i n (by omega) h
      have hi' := Nat.le_trans (Nat.le_of_lt hi) hsz
      exact ⟨Nat.lt_trans hv hb, Nat.lt_of_lt_of_le hlo hi', Nat.lt_of_lt_of_le hhi hi'⟩
  refine ⟨fun kv hkv => hm kv.1 kv.2 (HashMap.mem_toList_iff_getElem?_eq_some.mp (hml.mem_iff.mp hkv)),
    fun n hn => ?_, fun q hq => ?_, fun t ht => Nat.lt_of_lt_of_le (hv t ht) hsz⟩
  · have ⟨i, hi, e⟩ := List.getElem_of_mem (show n ∈ a.bdd.st.nodes.toList from hn)
    exact node_fits i n (by rw [← e, ← Array.getElem?_toList, List.getElem?_eq_getElem hi])
  · have h2 := ((w.uniqOK q.1 q.2).mp (HashMap.mem_toList_iff_getElem?_eq_some.mp (hcl.mem_iff.mp hq))).2
    exact ⟨node_fits q.2 q.1 h2, Nat.lt_of_lt_of_le (lt_of_get h2) hsz⟩

/-- **the round trip through the text is the identity on the persisted state**: for every order
of the two hash maps, every whitespace between the tokens, every label (any Unicode strings) the
text is read back, and the object read has the names, the root handles and the node table of the
original, `mapping` and the unique table with the same lookups, and the skipped fields empty -/
theorem text_roundtrip (w : Nat → List Char) (hw : WsOnly w) (a : PAdf) (m : HashMap String Nat)
    (ml : List (String × Nat)) (cl : List (Node × Nat)) (hml : ml.Perm m.toList)
    (hcl : cl.Perm a.bdd.st.uniq.toList) (f : FitsA a ml cl) :
    ∃ a' m', importText (exportText w a ml cl) = some (a', m') ∧
      a'.names = a.names ∧ a'.ac = a.ac ∧ a'.bdd.st.nodes = a.bdd.st.nodes ∧
      (∀ n : Node, a'.bdd.st.uniq[n]? = a.bdd.st.uniq[n]?) ∧ (∀ k : String, m'[k]? = m[k]?) ∧
      a'.bdd.deps = #[] ∧ (∀ k : Nat, a'.bdd.cnt[k]? = none) ∧
      (∀ k : Nat × Nat × Bool, a'.bdd.st.resC[k]? = none) ∧ (∀ k : Nat × Nat × Nat, a'.bdd.st.iteC[k]? = none) := by
  refine ⟨{ names := a.names, bdd := importB ⟨a.bdd.st.nodes.toList.toArray, cl⟩, ac := a.ac }, HashMap.ofList ml,
    by simp only [importText, exportText, parse_render w hw _ f]; rfl, rfl, rfl, ?_, ?_, ?_, rfl,
    fun _ => HashMap.getElem?_empty, fun _ => HashMap.getElem?_empty, fun _ => HashMap.getElem?_empty⟩
  · simp [importB]
  · intro n; exact ofList_perm_get _ cl hcl n
  · intro k; exact ofList_perm_get m ml hml k

def importFixText (text : List Char) : Option PAdf := (importText text).map (fun p => fixImportA p.1)

/-- **import_fix from the text**: `to_string → from_str → fix_import` reproduces the node table
(same numbering), a unique table with the same lookups, empty memo tables, a well-formed store and
sound recomputed bookkeeping; names, `mapping` and root handles are the original's -/
theorem text_import_fix (w : Nat → List Char) (hw : WsOnly w) (a : PAdf) (m : HashMap String Nat)
    (ml : List (String × Nat)) (cl : List (Node × Nat)) (hml : ml.Perm m.toList)
    (hcl : cl.Perm a.bdd.st.uniq.toList) (f : FitsA a ml cl) (wf : WF a.bdd.st) :
    ∃ a' m', importText (exportText w a ml cl) = some (a', m') ∧
      importFixText (exportText w a ml cl) = some (fixImportA a') ∧
      (∀ k : String, m'[k]? = m[k]?) ∧
      let r := fixImportA a'
      r.names = a.names ∧ r.ac = a.ac ∧ r.bdd.st.nodes = a.bdd.st.nodes ∧
      (∀ n : Node, r.bdd.st.uniq[n]? = a.bdd.st.uniq[n]?) ∧
      (∀ k : Nat × Nat × Bool, r.bdd.st.resC[k]? = none) ∧ (∀ k : Nat × Nat × Nat, r.bdd.st.iteC[k]? = none) ∧
      Healthy r.bdd := by
  obtain ⟨a', m', h, hnm, hac, hn, hu, hmm, hd, hc, hr, hi⟩ := text_roundtrip w hw a m ml cl hml hcl f
  exact ⟨a', m', h, by rw [importFixText, h]; rfl, hmm, hnm, hac, hn, hu, hr, hi,
    fixImport_healthy a'.bdd (WF_of_same a.bdd.st _ wf hn hu hr hi) hd hc⟩

/-- the object after the text round trip and the original have well-formed stores in which the
root handles denote the same Boolean functions: the hypothesis of every `SameFns.…` answer theorem -/
theorem text_sameFns (w : Nat → List Char) (hw : WsOnly w) (a : PAdf) (m : HashMap String Nat)
    (ml : List (String × Nat)) (cl : List (Node × Nat)) (hml : ml.Perm m.toList)
    (hcl : cl.Perm a.bdd.st.uniq.toList) (f : FitsA a ml cl) (wf : WF a.bdd.st)
    (hv : ∀ t ∈ a.ac, t < a.bdd.st.nodes.size) :
    ∃ r, importFixText (exportText w a ml cl) = some r ∧ r.names = a.names ∧ r.ac = a.ac ∧
      r.bdd.st.nodes = a.bdd.st.nodes ∧ SameFns a.bdd.st r.bdd.st a.ac := by
  obtain ⟨a', _, _, h, _, hnm, hac, hn, _, _, _, hh⟩ := text_import_fix w hw a m ml cl hml hcl f wf
  exact ⟨_, h, hnm, hac, hn, SameFns.ofNodes wf hh.wf hn hv⟩

end Json
