import AdfObdd.OpsProofs
/-! C19: the streaming mirror of the node table (`Bdd::with_sender`, `with_receiver`,
    `with_sender_receiver`, `Bdd::recv` of `obdd/frontend.rs`; the `send` in `Bdd::node`).

    producer --pend--> (scheduler) --q1--> relay --q2--> receiver

    * `recvLoop` / `recv` are literal models of `Bdd::recv`: answer `true` at once if the handle
      is present; otherwise `try_recv` message after message — push, forward if there is a
      sender, stop with `true` when the pushed node got the requested handle, stop with `false`
      when `try_recv` fails (`Empty` and `Disconnected` are the same arm in the code, and crossbeam
      reports `Disconnected` only on an empty queue, so "queue is `[]`" models both).
    * channels are FIFO lists (crossbeam: FIFO, lossless — assumption of DESIGN §4).
    * `pend` is the part of the stream that the producer has sent (or is blocked sending) and the
      scheduler has not yet put into the relay's channel; `deliver k` moves `k` messages.  With it
      every cut of the message stream can be placed before every poll.
    * the node type is a parameter: nothing in `recv` looks inside a node. -/
namespace StreamF

variable {α : Type}

/-- result of one `recv` call -/
structure PollRes (α : Type) where
  q : List α          -- what is left in the own receiving channel
  tbl : List α        -- own node table afterwards
  fwd : List α        -- what was sent on through the own sender, in order
  consumed : Nat      -- messages taken from the channel
  found : Bool        -- return value

/-- the `loop { match recv.try_recv() … }` of `Bdd::recv` -/
def recvLoop : List α → List α → Nat → PollRes α
  | [], tbl, _ => { q := [], tbl := tbl, fwd := [], consumed := 0, found := false }
  | n :: q, tbl, t =>
    -- `new_term = Term(self.nodes.len()); self.nodes.push(node); send.send(node)`
    if tbl.length = t then { q := q, tbl := tbl ++ [n], fwd := [n], consumed := 1, found := true }
    else
      let r := recvLoop q (tbl ++ [n]) t
      { q := r.q, tbl := r.tbl, fwd := n :: r.fwd, consumed := r.consumed + 1, found := r.found }

/-- `Bdd::recv(term)`; `hasRecv = false` is a store without a receiving end (the producer) -/
def recv (hasRecv : Bool) (q tbl : List α) (t : Nat) : PollRes α :=
  if t < tbl.length then { q := q, tbl := tbl, fwd := [], consumed := 0, found := true }
  else if hasRecv then recvLoop q tbl t
  else { q := q, tbl := tbl, fwd := [], consumed := 0, found := false }

theorem recvLoop_spec : ∀ (q tbl : List α) (t : Nat), tbl.length ≤ t →
    let r := recvLoop q tbl t
    r.tbl ++ r.q = tbl ++ q ∧ r.tbl = tbl ++ r.fwd ∧ r.fwd.length = r.consumed ∧
    (r.found = true ↔ t < r.tbl.length) ∧
    (r.found = true → r.tbl.length = t + 1) ∧ (r.found = false → r.q = []) := by
  intro q tbl t h
  fun_induction recvLoop q tbl t with
  | case1 => simp; omega
  | case2 => simp
  | case3 n q tbl t he r ih =>
    have ⟨a, b, c, d, e, f⟩ := ih (by simp; omega)
    simp only [r]
    exact ⟨by rw [a]; simp, by rw [b]; simp, by simp [c], d, e, f⟩

theorem recv_spec (q tbl : List α) (t : Nat) :
    let r := recv true q tbl t
    r.tbl ++ r.q = tbl ++ q ∧ r.tbl = tbl ++ r.fwd ∧ r.fwd.length = r.consumed ∧
    (r.found = true ↔ t < r.tbl.length) := by
  unfold recv
  by_cases h : t < tbl.length
  · rw [if_pos h]; simp [h]
  · rw [if_neg h]
    have ⟨a, b, c, d, _, _⟩ := recvLoop_spec q tbl t (by omega)
    exact ⟨a, b, c, d⟩

theorem recv_exact (q tbl : List α) (t : Nat) :
    let r := recv true q tbl t
    (t < tbl.length → r.tbl = tbl ∧ r.q = q ∧ r.found = true) ∧
    (tbl.length ≤ t → r.found = true → r.tbl.length = t + 1) ∧
    (r.found = false → r.q = [] ∧ r.tbl = tbl ++ q) := by
  unfold recv
  by_cases h : t < tbl.length
  · rw [if_pos h]
    exact ⟨fun _ => ⟨rfl, rfl, rfl⟩, fun h' => by omega, fun hf => by simp at hf⟩
  · rw [if_neg h]
    have ⟨a, _, _, _, e, f⟩ := recvLoop_spec q tbl t (by omega)
    refine ⟨fun h' => absurd h' h, fun _ => e, ?_⟩
    intro hf
    have hq := f hf
    simp only [if_true] at hq a ⊢
    rw [hq, List.append_nil] at a
    exact ⟨hq, a⟩

theorem recv_beyond (q tbl : List α) (t : Nat) (h : tbl.length + q.length ≤ t) :
    let r := recv true q tbl t
    r.found = false ∧ r.q = [] ∧ r.tbl = tbl ++ q := by
  intro r
  have ⟨a, _, _, d⟩ := recv_spec q tbl t
  have hf : r.found = false := by
    cases hf : r.found with
    | false => rfl
    | true =>
      have l := congrArg List.length a
      have := d.mp hf
      simp only [List.length_append] at l
      omega
  exact ⟨hf, (recv_exact q tbl t).2.2 hf⟩

theorem recv_noReceiver (q tbl : List α) (t : Nat) :
    let r := recv false q tbl t
    r.tbl = tbl ∧ r.q = q ∧ (r.found = true ↔ t < tbl.length) := by
  unfold recv
  by_cases h : t < tbl.length
  · rw [if_pos h]; simp [h]
  · rw [if_neg h]; simp [h]

structure Sys (α : Type) where
  prod : List α     -- producer's node table
  pend : List α     -- sent by the producer, not yet in the relay's channel
  q1 : List α       -- channel producer → relay
  relay : List α    -- relay's node table
  q2 : List α       -- channel relay → receiver
  recv : List α     -- receiver's node table
  k1 : Nat          -- messages the relay has consumed so far
  k2 : Nat          -- messages the receiver has consumed so far

inductive Ev (α : Type) where
  | create (ns : List α)     -- a producer operation inserts these fresh nodes (0..many), sending each
  | deliver (k : Nat)        -- `k` pending messages reach the relay's channel
  | relayPoll (t : Nat)      -- `relay.recv(t)`
  | recvPoll (t : Nat)       -- `receiver.recv(t)`
  | prodPoll (t : Nat)       -- `producer.recv(t)` (no receiving end)

/-- all three stores start as `Bdd::new()`: the same constants `c` (two nodes), nothing in flight -/
def Sys.init (c : List α) : Sys α :=
  { prod := c, pend := [], q1 := [], relay := c, q2 := [], recv := c, k1 := 0, k2 := 0 }

def stepEv (s : Sys α) : Ev α → Sys α × Option Bool
  | .create ns => ({ s with prod := s.prod ++ ns, pend := s.pend ++ ns }, none)
  | .deliver k => ({ s with pend := s.pend.drop k, q1 := s.q1 ++ s.pend.take k }, none)
  | .relayPoll t =>
    let r := recv true s.q1 s.relay t
    ({ s with q1 := r.q, relay := r.tbl, q2 := s.q2 ++ r.fwd, k1 := s.k1 + r.consumed }, some r.found)
  | .recvPoll t =>
    let r := recv true s.q2 s.recv t
    ({ s with q2 := r.q, recv := r.tbl, k2 := s.k2 + r.consumed }, some r.found)
  | .prodPoll t => (s, some (recv false [] s.prod t).found)

def run (evs : List (Ev α)) (s : Sys α) : Sys α := evs.foldl (fun s e => (stepEv s e).1) s

/-- nothing is lost, duplicated or reordered; the counters count the mirrored nodes. Its preservation (`step_inv`,
`run_inv`, `Inv.mirror`) is stated in StreamChain.lean, where this system is the chain of length 2. -/
structure Inv (c : List α) (s : Sys α) : Prop where
  up : s.relay ++ s.q1 ++ s.pend = s.prod
  down : s.recv ++ s.q2 = s.relay
  len1 : s.relay.length = c.length + s.k1
  len2 : s.recv.length = c.length + s.k2

theorem Inv.init (c : List α) : Inv c (Sys.init c) := ⟨by simp [Sys.init], by simp [Sys.init], rfl, rfl⟩

theorem Inv.drained {c : List α} {s : Sys α} (h : Inv c s) (h0 : s.pend = []) (h1 : s.q1 = []) :
    s.relay = s.prod ∧ (s.q2 = [] → s.recv = s.prod) := by
  have hu := h.up
  rw [h0, h1, List.append_nil, List.append_nil] at hu
  refine ⟨hu, fun h2 => ?_⟩
  have hd := h.down
  rwa [h2, List.append_nil, hu] at hd

/-! ## the producer is a real diagram store -/

/-- the nodes an operation appended to the table, in creation order: what `Bdd::node` sent -/
def created (s s' : Store) : List Node := s'.nodes.toList.drop s.nodes.size

theorem ext_toList {s s' : Store} (h : Ext s s') : s'.nodes.toList = s.nodes.toList ++ created s s' :=
  have p : s.nodes.toList <+: s'.nodes.toList := List.prefix_iff_getElem?.mpr fun i hi => by
    rw [Array.getElem?_toList, Array.getElem_toList]
    exact h.2 i _ (Array.getElem?_eq_getElem _)
  (List.prefix_iff_eq_append.mp p).symm

/-- one producer operation: the table grows by exactly the nodes it sent -/
theorem stepOp_sends {st : Store} {hist : List Nat} {fs : List BoolFn} {o : Op} (w : WF st) (hh : HistOK st hist fs)
    (hv : o.valid hist.length) :
    WF (stepOp st hist o).1 ∧ (∃ fs', HistOK (stepOp st hist o).1 (hist ++ [(stepOp st hist o).2]) fs') ∧
    (stepOp st hist o).1.nodes.toList = st.nodes.toList ++ created st (stepOp st hist o).1 :=
  have g := stepOp_good st hist fs o w hh hv
  ⟨g.wf, ⟨_, HistOK.step st hist fs o w hh hv⟩, ext_toList g.ext⟩

structure PSys where
  st : Store
  hist : List Nat
  sys : Sys Node

inductive PEv where
  | op (o : Op)            -- the producer performs a diagram-building operation
  | ev (e : Ev Node)       -- `deliver`, polls (a `create` here stands for nothing the code does)

def PSys.init : PSys := { st := Store.init, hist := [0, 1], sys := Sys.init Store.init.nodes.toList }

def pstep (p : PSys) : PEv → PSys × Option Bool
  | .op o =>
    let r := stepOp p.st p.hist o
    ({ st := r.1, hist := p.hist ++ [r.2], sys := (stepEv p.sys (.create (created p.st r.1))).1 }, none)
  | .ev e => let r := stepEv p.sys e; ({ p with sys := r.1 }, r.2)

def prun (evs : List PEv) (p : PSys) : PSys := evs.foldl (fun p e => (pstep p e).1) p

/-- operations refer to issued history positions; the scheduler events are unconstrained except
that only the producer creates nodes -/
def pevsValid : List PEv → Nat → Prop
  | [], _ => True
  | .op o :: es, len => o.valid len ∧ pevsValid es (len + 1)
  | .ev (.create _) :: _, _ => False
  | .ev _ :: es, len => pevsValid es len

structure PInv (p : PSys) : Prop where
  wf : WF p.st
  hist : ∃ fs, HistOK p.st p.hist fs
  tbl : p.sys.prod = p.st.nodes.toList
  inv : Inv Store.init.nodes.toList p.sys

end StreamF
