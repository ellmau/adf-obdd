import AdfObdd.Base
/-! generic restriction algebra, passes over a vector that thread the state (`mapS`), and the round of the
    grounded loop as such a pass -/

/-- What the semantics algorithms need of a diagram library: a state `S` that is threaded through and only grows (`Le`),
terms `T` that denote Boolean functions in a state (`den`, unchanged along `Le` for terms that are `Valid`), the
cofactor and exact constant detection. `groundedLoop`, `completeCheck` and the enumerations `completeAllG`, `stableAllG`
are written once over it; the instances are `StoreRA` (the crate's own store), `CfgRA c` (the same under a feature configuration)
and `FnRA` (Boolean functions themselves, standing for biodivine). -/
structure RA (S T : Type) where
  Inv : S → Prop
  Valid : S → T → Prop
  den : S → T → BoolFn
  Le : S → S → Prop
  le_refl : ∀ s, Le s s
  le_trans : ∀ {a b c}, Le a b → Le b c → Le a c
  valid_mono : ∀ {s s' t}, Le s s' → Valid s t → Valid s' t
  den_mono : ∀ {s s' t}, Inv s → Le s s' → Valid s t → den s' t = den s t
  restrict : S → T → Nat → Bool → S × T
  restrict_spec : ∀ {s t} v b, Inv s → Valid s t →
      Inv (restrict s t v b).1 ∧ Le s (restrict s t v b).1 ∧ Valid (restrict s t v b).1 (restrict s t v b).2 ∧
      den (restrict s t v b).1 (restrict s t v b).2 = fun σ => den s t (upd σ v b)
  isConst : T → Option Bool
  isConst_spec : ∀ {s t} b, Inv s → Valid s t → (isConst t = some b ↔ ∀ σ, den s t σ = b)

variable {S T : Type} (A : RA S T)

def asg3 (v : List T) : List (Option Bool) := v.map A.isConst

/-- override σ by the decided part of `w`, positions `k, k+1, …` of the statement numbering -/
def over (σ : Asg) : Nat → List (Option Bool) → Asg
  | _, [] => σ
  | k, none :: w => over σ (k+1) w
  | k, some b :: w => over (upd σ k b) (k+1) w

/-- the `fold` inside `grounded_internal` (adf.rs): restrict `t` by every decided entry of `curr` -/
def restrictBy (s : S) (t : T) : Nat → List T → S × T
  | _, [] => (s, t)
  | k, c :: cs =>
    match A.isConst c with
    | some b => let r := A.restrict s t k b; restrictBy r.1 r.2 (k+1) cs
    | none => restrictBy s t (k+1) cs

theorem upd_comm (σ : Asg) {k j : Nat} (h : k ≠ j) (b c : Bool) :
    upd (upd σ k b) j c = upd (upd σ j c) k b := by
  funext x; simp only [upd]; split <;> split <;> first | rfl | omega

theorem over_upd : ∀ (w : List (Option Bool)) (σ : Asg) (k j : Nat) (b : Bool), k < j →
    over (upd σ k b) j w = upd (over σ j w) k b := by
  intro w σ k j b
  fun_induction over σ j w with
  | case1 => intro _; rfl
  | case2 σ j w ih => intro h; rw [over]; exact ih (by omega)
  | case3 σ j c w ih =>
    intro h
    rw [over, upd_comm σ (by omega : k ≠ j) b c]
    exact ih (by omega)

theorem restrictBy_spec : ∀ (cs : List T) (k : Nat) (s : S) (t : T), A.Inv s → A.Valid s t →
    A.Inv (restrictBy A s t k cs).1 ∧ A.Le s (restrictBy A s t k cs).1 ∧
    A.Valid (restrictBy A s t k cs).1 (restrictBy A s t k cs).2 ∧
    A.den (restrictBy A s t k cs).1 (restrictBy A s t k cs).2 = fun σ => A.den s t (over σ k (asg3 A cs)) := by
  intro cs k s t
  fun_induction restrictBy A s t k cs with
  | case1 s t => exact fun hi hv => ⟨hi, A.le_refl s, hv, rfl⟩
  | case2 s t k c cs b hc r ih =>
    intro hi hv
    have ⟨i1, l1, v1, d1⟩ := A.restrict_spec k b hi hv
    have ⟨i2, l2, v2, d2⟩ := ih i1 v1
    refine ⟨i2, A.le_trans l1 l2, v2, ?_⟩
    rw [d2, d1]; funext σ; simp only [asg3, List.map_cons, hc, over]
    rw [over_upd _ σ k (k+1) b (by omega)]
  | case3 s t k c cs hc ih =>
    intro hi hv
    have ⟨a, b, c', d⟩ := ih hi hv
    refine ⟨a, b, c', ?_⟩
    rw [d]; funext σ; simp [asg3, over, hc]

open Classical in
noncomputable def constOf (f : BoolFn) : Option Bool :=
  if ∀ σ, f σ = true then some true else if ∀ σ, f σ = false then some false else none

theorem constOf_some {f : BoolFn} {b : Bool} : constOf f = some b ↔ ∀ σ, f σ = b := by
  fun_cases constOf f with
  | case1 h1 =>
    constructor
    · intro h; cases h; exact h1
    · intro h; have h' := h (fun _ => true); rw [h1] at h'; rw [h']
  | case2 h1 h2 =>
    constructor
    · intro h; cases h; exact h2
    · intro h; have h' := h (fun _ => true); rw [h2] at h'; rw [h']
  | case3 h1 h2 =>
    constructor
    · intro h; cases h
    · intro h; cases b
      · exact absurd h h2
      · exact absurd h h1

theorem eq_constOf {o : Option Bool} {f : BoolFn} (h : ∀ b, o = some b ↔ ∀ σ, f σ = b) : o = constOf f := by
  cases o with
  | some b => exact (constOf_some.mpr ((h b).mp rfl)).symm
  | none =>
    cases hc : constOf f with
    | none => rfl
    | some b => exact nomatch (h b).mpr (constOf_some.mp hc)

/-- the shape in which `Lib.isConst` (biodivine side) and `Spec.gamma` compute it: two exact tests, "always true"
first -/
theorem ite_eq_constOf {p q : Prop} [Decidable p] [Decidable q] {f : BoolFn} (hp : p ↔ ∀ σ, f σ = true)
    (hq : q ↔ ∀ σ, f σ = false) : (if p then some true else if q then some false else none) = constOf f := by
  fun_cases constOf f with
  | case1 h1 => rw [if_pos (hp.mpr h1)]
  | case2 h1 h2 => rw [if_neg (mt hp.mp h1), if_pos (hq.mpr h2)]
  | case3 h1 h2 => rw [if_neg (mt hp.mp h1), if_neg (mt hq.mp h2)]

/-- the round (and, below, the loop) on plain lists of Boolean functions, no state in sight: what `roundAux` and
`groundedLoop` commute with under `den` (`round_sem`, `groundedLoop_sem`); their theory is Lfp.lean -/
noncomputable def semRound (V : List BoolFn) : List BoolFn :=
  V.map (fun f σ => f (over σ 0 (V.map constOf)))

def countSome (w : List (Option Bool)) : Nat := (w.filter Option.isSome).length

noncomputable def semLoop : Nat → List BoolFn → List BoolFn
  | 0, V => V
  | f+1, V => if countSome ((semRound V).map constOf) = countSome (V.map constOf) then semRound V
              else semLoop f (semRound V)

def roundAux (s : S) (curr : List T) : List T → S × List T
  | [] => (s, [])
  | x :: xs =>
    match A.isConst x with
    | some _ => let r := roundAux s curr xs; (r.1, x :: r.2)
    | none =>
      let r1 := restrictBy A s x 0 curr
      let r := roundAux r1.1 curr xs
      (r.1, r1.2 :: r.2)

def AllValid (s : S) (v : List T) : Prop := ∀ x ∈ v, A.Valid s x

theorem AllValid.mono {s s' : S} {v : List T} (h : AllValid A s v) (l : A.Le s s') : AllValid A s' v :=
  fun x hx => A.valid_mono l (h x hx)

theorem map_den_mono {s s' : S} {v : List T} (hi : A.Inv s) (l : A.Le s s') (h : AllValid A s v) :
    v.map (A.den s') = v.map (A.den s) := by
  apply List.map_congr_left
  intro x hx; exact A.den_mono hi l (h x hx)

theorem isConst_eq_constOf {s : S} {t : T} (hi : A.Inv s) (hv : A.Valid s t) :
    A.isConst t = constOf (A.den s t) :=
  eq_constOf fun b => A.isConst_spec b hi hv

theorem asg3_eq {s : S} {v : List T} (hi : A.Inv s) (h : AllValid A s v) :
    asg3 A v = (v.map (A.den s)).map constOf := by
  rw [asg3, List.map_map]
  exact List.map_congr_left (fun x hx => isConst_eq_constOf A hi (h x hx))

/-- `f` extends the state and returns a term denoting `F` of what its argument denotes -/
def RA.Computes (f : S → T → S × T) (F : BoolFn → BoolFn) : Prop :=
  ∀ s t, A.Inv s → A.Valid s t →
    A.Inv (f s t).1 ∧ A.Le s (f s t).1 ∧ A.Valid (f s t).1 (f s t).2 ∧ A.den (f s t).1 (f s t).2 = F (A.den s t)

def mapS {X Y : Type} (f : S → X → S × Y) : S → List X → S × List Y
  | s, [] => (s, [])
  | s, x :: xs => let r := f s x; let m := mapS f r.1 xs; (m.1, r.2 :: m.2)

theorem mapS_length {X Y : Type} (f : S → X → S × Y) : ∀ (xs : List X) (s : S), (mapS f s xs).2.length = xs.length
  | [], _ => rfl
  | x :: xs, s => by simp only [mapS, List.length_cons, mapS_length f xs]

/-- the binary companion of `mapS_yields` below: two passes whose steps return the same and keep the states related
return the same list and end related; every simulation lemma about a pass over a vector is this with the step's lemma -/
theorem mapS_sim {S' X Y : Type} {R : S → S' → Prop} {f : S → X → S × Y} {f' : S' → X → S' × Y}
    (h : ∀ s s' x, R s s' → (f s x).2 = (f' s' x).2 ∧ R (f s x).1 (f' s' x).1) :
    ∀ (xs : List X) (s : S) (s' : S'), R s s' →
    (mapS f s xs).2 = (mapS f' s' xs).2 ∧ R (mapS f s xs).1 (mapS f' s' xs).1
  | [], _, _, r => ⟨rfl, r⟩
  | x :: xs, s, s', r =>
    have ⟨q0, r0⟩ := h s s' x r
    have ⟨q1, r1⟩ := mapS_sim h xs _ _ r0
    ⟨by simp only [mapS, q0, q1], r1⟩

/-- `f` turns an element that is `P` into a term denoting its `d`; `P` and `d` survive extension of the state, so
earlier results keep their denotation and later elements their meaning -/
theorem mapS_yields {X : Type} {f : S → X → S × T} {P : S → X → Prop} {d : S → X → BoolFn}
    (mono : ∀ s s' x, A.Inv s → A.Le s s' → P s x → P s' x ∧ d s' x = d s x)
    (hf : ∀ s x, A.Inv s → P s x →
      A.Inv (f s x).1 ∧ A.Le s (f s x).1 ∧ A.Valid (f s x).1 (f s x).2 ∧ A.den (f s x).1 (f s x).2 = d s x) :
    ∀ (xs : List X) (s : S), A.Inv s → (∀ x ∈ xs, P s x) →
    A.Inv (mapS f s xs).1 ∧ A.Le s (mapS f s xs).1 ∧ AllValid A (mapS f s xs).1 (mapS f s xs).2 ∧
    (mapS f s xs).2.map (A.den (mapS f s xs).1) = xs.map (d s)
  | [], s, hi, _ => ⟨hi, A.le_refl s, fun _ h => (List.not_mem_nil h).elim, rfl⟩
  | x :: xs, s, hi, hp => by
    have ⟨hx, hxs⟩ : P s x ∧ ∀ y ∈ xs, P s y := List.forall_mem_cons.mp hp
    have ⟨i1, l1, v1, d1⟩ := hf s x hi hx
    have ⟨i2, l2, v2, d2⟩ := mapS_yields mono hf xs (f s x).1 i1 fun y hy => (mono s _ y hi l1 (hxs y hy)).1
    refine ⟨i2, A.le_trans l1 l2, List.forall_mem_cons.mpr ⟨A.valid_mono l2 v1, v2⟩, ?_⟩
    simp only [mapS, List.map_cons, List.cons.injEq]
    exact ⟨(A.den_mono i1 l2 v1).trans d1, d2.trans (List.map_congr_left fun y hy => (mono s _ y hi l1 (hxs y hy)).2)⟩

theorem mapS_spec {f : S → T → S × T} {F : BoolFn → BoolFn} (hf : A.Computes f F) (xs : List T) (s : S)
    (hi : A.Inv s) (hv : AllValid A s xs) :
    A.Inv (mapS f s xs).1 ∧ A.Le s (mapS f s xs).1 ∧ AllValid A (mapS f s xs).1 (mapS f s xs).2 ∧
    (mapS f s xs).2.map (A.den (mapS f s xs).1) = (xs.map (A.den s)).map F := by
  rw [List.map_map]
  exact mapS_yields A (P := A.Valid) (d := fun s t => F (A.den s t))
    (fun _ _ _ hi l hv => ⟨A.valid_mono l hv, by rw [A.den_mono hi l hv]⟩) hf xs s hi hv

theorem RA.computes_restrictBy (cs : List T) (k : Nat) :
    A.Computes (fun s t => restrictBy A s t k cs) (fun g σ => g (over σ k (asg3 A cs))) :=
  fun s t hi hv => restrictBy_spec A cs k s t hi hv

/-- one entry in a round of `grounded_internal`: the `filter(|term| !term.is_truth_value())` skips decided entries -/
def roundStep (curr : List T) (s : S) (x : T) : S × T :=
  match A.isConst x with
  | some _ => (s, x)
  | none => restrictBy A s x 0 curr

theorem roundAux_eq (curr : List T) : ∀ (xs : List T) (s : S), roundAux A s curr xs = mapS (roundStep A curr) s xs
  | [], _ => rfl
  | x :: xs, s => by
    simp only [roundAux, mapS, roundStep]
    cases A.isConst x <;> simp only [roundAux_eq curr xs]

/-- a decided entry denotes a constant, so the substitution it is spared would not change it -/
theorem computes_roundStep (curr : List T) :
    A.Computes (roundStep A curr) (fun g σ => g (over σ 0 (asg3 A curr))) := by
  intro s x hi hv
  fun_cases roundStep A curr s x with
  | case1 b hc =>
    have := (A.isConst_spec b hi hv).mp hc
    exact ⟨hi, A.le_refl s, hv, funext fun σ => (this σ).trans (this _).symm⟩
  | case2 hc => exact restrictBy_spec A curr 0 s x hi hv

theorem roundAux_spec (curr xs : List T) (s : S) (hi : A.Inv s) (hx : AllValid A s xs) :
    A.Inv (roundAux A s curr xs).1 ∧ A.Le s (roundAux A s curr xs).1 ∧
    AllValid A (roundAux A s curr xs).1 (roundAux A s curr xs).2 ∧
    (roundAux A s curr xs).2.map (A.den (roundAux A s curr xs).1) =
      (xs.map (A.den s)).map (fun g σ => g (over σ 0 (asg3 A curr))) := by
  rw [roundAux_eq]
  exact mapS_spec A (computes_roundStep A curr) xs s hi hx

theorem round_sem (s : S) (v : List T) (hi : A.Inv s) (hv : AllValid A s v) :
    A.Inv (roundAux A s v v).1 ∧ A.Le s (roundAux A s v v).1 ∧ AllValid A (roundAux A s v v).1 (roundAux A s v v).2 ∧
    (roundAux A s v v).2.map (A.den (roundAux A s v v).1) = semRound (v.map (A.den s)) := by
  have ⟨i1, l1, v1, d1⟩ := roundAux_spec A v v s hi hv
  refine ⟨i1, l1, v1, ?_⟩
  rw [d1, semRound, asg3_eq A hi hv]
