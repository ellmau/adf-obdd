import AdfObdd.NgBound
import AdfObdd.NgStore
import AdfObdd.Stable
import AdfObdd.PreGround2
import AdfObdd.NgModel
/-! # The semantic instance of the generic nogood search

`V := List BoolFn` (the Boolean functions denoted by the entries of the interpretation vector),
`Sto := List (List PA)` (the size-indexed buckets with `addNg`), closure := the concrete
`conclusionClosure`, propagation := `semRound` (every entry restricted by the decided part),
consistency / leaf tests := the semantic conditions on `D`. No free parameter is left except the
raw heuristic answers `raw : Nat → Option (Nat × Bool)` (any function at all: an answer that is not
an undecided statement is replaced by a valid one, so the laws hold for every oracle; the
concrete heuristics never need the replacement).

Result: `sem_exact` + `sem_halts` — the abstract machine with the concrete closure and the
concrete semantics of `D` halts and emits exactly the target models, each once. -/
namespace NSem
open NGen

theorem pget_eq_none {g : PA} {i : Nat} : pget g i = none ↔ (g[i]? = none ∨ g[i]? = some none) := by
  unfold pget
  cases g[i]? <;> simp

theorem matches_iff_agree {g : PA} {σ : Asg} : Matches g σ ↔ Agree σ g :=
  ⟨fun h i b hi => h i b (pget_eq_some.mpr hi), fun h i b hi => h i b (pget_eq_some.mp hi)⟩

theorem psub_iff_le3 {g h : PA} : PSub g h ↔ Le3 g h :=
  ⟨fun s i b hi => pget_eq_some.mp (s i b (pget_eq_some.mpr hi)),
   fun s i b hi => pget_eq_some.mpr (s i b (pget_eq_some.mp hi))⟩

theorem size_eq_countSome (g : PA) : size g = countSome g := rfl

theorem constOf_const (b : Bool) : constOf (fun _ => b) = some b := constOf_some.mpr (fun _ => rfl)

theorem cv_get (V : List BoolFn) (i : Nat) : (cv V)[i]? = (V[i]?).map constOf := by simp [cv]

theorem pget_cv_some {V : List BoolFn} {i : Nat} {b : Bool} :
    pget (cv V) i = some b ↔ ∃ f, V[i]? = some f ∧ ∀ σ, f σ = b := by
  rw [pget_eq_some]; exact cv_decided

theorem over_matches {σ : Asg} {A : PA} (h : Matches A σ) : over σ 0 A = σ := over_of_agree (matches_iff_agree.mp h)

theorem matches_over (σ : Asg) (A : PA) : Matches A (over σ 0 A) := matches_iff_agree.mpr (agree_over σ A)

def vOf (n : Nat) (σ : Asg) : I3 := (List.range n).map (fun i => some (σ i))

theorem vOf_length (n : Nat) (σ : Asg) : (vOf n σ).length = n := by simp [vOf]

theorem vOf_get {n : Nat} {σ : Asg} {i : Nat} (hi : i < n) : (vOf n σ)[i]? = some (some (σ i)) := by
  simp [vOf, hi]

theorem vOf_total (n : Nat) (σ : Asg) : TotalI (vOf n σ) := by
  intro i hi
  rw [vOf_length] at hi
  exact ⟨σ i, vOf_get hi⟩

theorem agree_vOf (n : Nat) (σ : Asg) : Agree σ (vOf n σ) := by
  intro i b h
  rcases Nat.lt_or_ge i n with hi | hi
  · rw [vOf_get hi] at h; simp at h; exact h
  · rw [List.getElem?_eq_none (by rw [vOf_length]; exact hi)] at h; cases h

/-- `σ` (on the first `n` statements) is a two-valued model of `D`, and in stable mode the least
fixpoint of its reduct is the model itself (which by `stable_check_iff` is the definition) -/
def Target (D : List BoolFn) (n : Nat) (stable : Bool) (σ : Asg) : Prop :=
  Gam D (vOf n σ) = vOf n σ ∧ (stable = true → ∀ w, IsLfp (redu D (vOf n σ)) w → w = vOf n σ)

def Supp (n : Nat) (f : BoolFn) : Prop := ∀ σ τ, (∀ i, i < n → σ i = τ i) → f σ = f τ

theorem target_model {D : List BoolFn} {n : Nat} {stable : Bool} {σ : Asg} (hD : D.length = n)
    (hT : Target D n stable σ) {i : Nat} {f : BoolFn} (hf : D[i]? = some f) : f σ = σ i := by
  have hi : i < n := hD ▸ lt_length_of_get? hf
  exact Gam_value (by rw [hT.1]; exact vOf_get hi) (agree_vOf n σ) hf

/-- consistency test with the acceptance conditions: some decided value contradicts the value its
condition has under the decided part -/
noncomputable def acInc (D : List BoolFn) (A : PA) : Bool :=
  open Classical in decide (∃ i b c, pget A i = some b ∧ pget (Gam D A) i = some c ∧ b ≠ c)

noncomputable def isTgt (D : List BoolFn) (stable : Bool) (A : PA) : Bool :=
  open Classical in if stable then decide (∀ w, IsLfp (redu D A) w → w = A) else true

def twoV (A : PA) : Bool := A.all Option.isSome

def setF (V : List BoolFn) (v : Nat) (b : Bool) : List BoolFn := V.set v (fun _ => b)

/-- `update_term_vec` on functions -/
def updF (V : List BoolFn) (R : PA) : List BoolFn :=
  (List.range V.length).map (fun i => match pget R i with
    | some b => fun _ => b
    | none => V.getD i (fun _ => false))

noncomputable def fallback (V : List BoolFn) : Option (Nat × Bool) :=
  ((List.range V.length).find? (fun i => (pget (cv V) i).isNone)).map (fun i => (i, true))

/-- the heuristic oracle: the raw answer of iteration `k` if it is an undecided statement, a valid
default otherwise -/
noncomputable def heuO (raw : Nat → Option (Nat × Bool)) (k : Nat) (V : List BoolFn) : Option (Nat × Bool) :=
  match raw k with
  | some (v, b) => if pget (cv V) v = none ∧ v < V.length then some (v, b) else fallback V
  | none => fallback V

open Classical in
theorem acInc_true_iff {D : List BoolFn} {A : PA} :
    acInc D A = true ↔ ∃ i b c, pget A i = some b ∧ pget (Gam D A) i = some c ∧ b ≠ c := by
  unfold acInc; exact decide_eq_true_iff

open Classical in
theorem isTgt_true_iff {D : List BoolFn} {stable : Bool} {A : PA} :
    isTgt D stable A = true ↔ (stable = true → ∀ w, IsLfp (redu D A) w → w = A) := by
  unfold isTgt
  cases stable with
  | false => simp
  | true => simp only [if_true, true_implies]; exact decide_eq_true_iff

/-- width `n`, and the semantic invariant of the vector: on a target model that extends the decided part every entry,
decided or residual, evaluates to the model's value at its own position -/
def OkV (D : List BoolFn) (n : Nat) (stable : Bool) (V : List BoolFn) : Prop :=
  V.length = n ∧ ∀ σ, Target D n stable σ → Matches (cv V) σ → ∀ i f, V[i]? = some f → f σ = σ i

noncomputable def semP (D : List BoolFn) (n : Nat) (stable : Bool) (raw : Nat → Option (Nat × Bool)) :
    GParams (List BoolFn) (List (List PA)) where
  dec := cv
  Ok := OkV D n stable
  OkG := fun g => g.length = n
  OkS := NgInv n
  Mem := Stored
  add := addNg
  gam := semRound
  setV := setF
  updV := updF
  acIncons := acInc D
  isTarget := isTgt D stable
  twoVal := twoV
  heu := heuO raw
  closure := conclusionClosure

theorem fallback_valid {V : List BoolFn} {v : Nat} {b : Bool} (h : fallback V = some (v, b)) :
    pget (cv V) v = none ∧ v < V.length := by
  unfold fallback at h
  rw [Option.map_eq_some_iff] at h
  obtain ⟨i, hi, he⟩ := h
  cases he
  have h1 := List.find?_some hi
  have h2 := List.mem_of_find?_eq_some hi
  exact ⟨by simpa using h1, List.mem_range.mp h2⟩

theorem heuO_valid {raw : Nat → Option (Nat × Bool)} {k : Nat} {V : List BoolFn} {v : Nat} {b : Bool}
    (h : heuO raw k V = some (v, b)) : pget (cv V) v = none ∧ v < V.length := by
  revert h
  fun_cases heuO raw k V
  · intro h; cases h; assumption
  · exact fallback_valid
  · exact fallback_valid

theorem twoV_false {A : PA} (h : twoV A = false) : ∃ i, i < A.length ∧ pget A i = none := by
  obtain ⟨x, hx, hn⟩ := List.all_eq_false.mp h
  obtain ⟨i, hi, rfl⟩ := List.getElem_of_mem hx
  refine ⟨i, hi, ?_⟩
  rw [pget, List.getElem?_eq_getElem hi, Option.not_isSome_iff_eq_none.mp hn]; rfl

theorem twoV_true {A : PA} (h : twoV A = true) : TotalI A := (all_isSome_iff_total A).mp h

theorem twoV_of_total {A : PA} (h : TotalI A) : twoV A = true := (all_isSome_iff_total A).mpr h

theorem fallback_total {V : List BoolFn} (h : twoV (cv V) = false) : (fallback V).isSome = true := by
  obtain ⟨i, hi, hn⟩ := twoV_false h
  unfold fallback
  rw [Option.isSome_map]
  rw [List.find?_isSome]
  refine ⟨i, List.mem_range.mpr (by simpa [cv] using hi), by simp [hn]⟩

theorem heuO_total {raw : Nat → Option (Nat × Bool)} {k : Nat} {V : List BoolFn} (h : twoV (cv V) = false) :
    (heuO raw k V).isSome = true := by
  fun_cases heuO raw k V
  · rfl
  · exact fallback_total h
  · exact fallback_total h

theorem fallback_none {V : List BoolFn} (h : twoV (cv V) = true) : fallback V = none := by
  unfold fallback
  rw [Option.map_eq_none_iff, List.find?_eq_none]
  intro i hi
  obtain ⟨b, hb⟩ := twoV_true h i (by simpa [cv] using hi)
  rw [pget_eq_some.mpr hb]; simp

theorem heuO_of_none {raw : Nat → Option (Nat × Bool)} {k : Nat} {V : List BoolFn} (hr : raw k = none)
    (h : twoV (cv V) = true) : heuO raw k V = none := by
  unfold heuO; rw [hr]; exact fallback_none h

theorem heuO_of_some {raw : Nat → Option (Nat × Bool)} {k : Nat} {V : List BoolFn} {v : Nat} {b : Bool}
    (hr : raw k = some (v, b)) (hn : pget (cv V) v = none) (hv : v < V.length) : heuO raw k V = some (v, b) := by
  unfold heuO; rw [hr]; exact if_pos ⟨hn, hv⟩

theorem cv_length (V : List BoolFn) : (cv V).length = V.length := by simp [cv]

theorem cv_setF {V : List BoolFn} {v : Nat} (b : Bool) (hv : v < V.length) :
    cv (setF V v b) = setAt (cv V) v b := by
  unfold setF setAt
  rw [if_pos (by rw [cv_length]; exact hv)]
  simp [cv, List.map_set, constOf_const]

theorem stored_addNg {n : Nat} {bs : List (List PA)} (hi : NgInv n bs) {g : PA} (hg : g.length = n) (x : PA) :
    Stored (addNg bs g) x ↔ (x = g ∨ Stored bs x) := by
  have hsz : size g < bs.length := by
    have := size_le_of_length hg
    rw [hi.len]; omega
  show Stored (bs.mapIdx (NgStore.addFn .equiv g)) x ↔ _
  rw [stored_mapIdx]
  constructor
  · rintro ⟨k, b, hb, hx⟩
    exact (NgStore.addFn_sub _ _ _ _ _ hx).symm.imp And.left fun h => ⟨k, b, hb, h⟩
  · rintro (rfl | ⟨k, b, hb, hx⟩)
    · exact ⟨size x, _, List.getElem?_eq_getElem hsz, NgStore.addFn_new _ _ _⟩
    · exact ⟨k, b, hb, NgStore.mem_addFn.mpr (Or.inl ⟨hx, fun c => nomatch c.1⟩)⟩

theorem avoidsAll_of_stored {bs : List (List PA)} {σ : Asg} (h : ∀ g, Stored bs g → ¬ Matches g σ) :
    AvoidsAll bs σ := fun b hb g hg => h g (stored_iff_mem.mpr ⟨b, hb, hg⟩)

theorem updF_length (V : List BoolFn) (R : PA) : (updF V R).length = V.length := by simp [updF]

theorem updF_get {V : List BoolFn} {R : PA} {i : Nat} (hi : i < V.length) :
    (updF V R)[i]? = some (match pget R i with | some b => fun _ => b | none => V[i]) := by
  unfold updF
  rw [List.getElem?_map, List.getElem?_range hi]
  simp only [Option.map_some]
  congr 1
  cases pget R i with
  | some b => rfl
  | none => simp [List.getD_eq_getElem?_getD, List.getElem?_eq_getElem hi]

theorem cv_updF {V : List BoolFn} {R : PA} (hl : R.length = V.length) (hs : PSub (cv V) R) : cv (updF V R) = R := by
  apply list_ext_pget (by rw [cv_length, updF_length, hl])
  intro i hi
  rw [cv_length, updF_length] at hi
  have hg : (cv (updF V R))[i]? = some (constOf (match pget R i with | some b => fun _ => b | none => V[i])) := by
    rw [cv_get, updF_get hi]; rfl
  rw [pget_of_get hg]
  cases hr : pget R i with
  | some b => simp only; exact constOf_const b
  | none =>
    simp only
    cases hc : constOf V[i] with
    | none => rfl
    | some c =>
      have : pget (cv V) i = some c := by
        rw [pget_cv_some]; exact ⟨V[i], List.getElem?_eq_getElem hi, constOf_some.mp hc⟩
      rw [hs i c this] at hr; cases hr

theorem psub_round (V : List BoolFn) : PSub (cv V) (cv (semRound V)) := psub_iff_le3.mpr (cv_le_round V)

theorem semRound_length (V : List BoolFn) : (semRound V).length = V.length := by simp [semRound]

theorem semRound_idem {V : List BoolFn} (h : cv (semRound V) = cv V) : semRound (semRound V) = semRound V := by
  apply List.ext_getElem?
  intro i
  rw [semRound_get (semRound V) i, semRound_get V i]
  cases hv : V[i]? with
  | none => rfl
  | some f =>
    simp only [Option.map_some, Option.some.injEq]
    funext σ
    rw [h, over_of_agree (agree_over σ (cv V))]

variable {D : List BoolFn} {n : Nat} {stable : Bool}

theorem okV_round {V : List BoolFn} (h : OkV D n stable V) : OkV D n stable (semRound V) := by
  refine ⟨by rw [semRound_length]; exact h.1, ?_⟩
  intro σ hT hm i f' hf'
  have hm0 : Matches (cv V) σ := fun j b hj => hm j b (psub_round V j b hj)
  rw [semRound_get] at hf'
  obtain ⟨f, hv, rfl⟩ := Option.map_eq_some_iff.mp hf'
  simp only [over_matches hm0]
  exact h.2 σ hT hm0 i f hv

theorem round_sound {V : List BoolFn} (h : OkV D n stable V) {σ : Asg} (hT : Target D n stable σ)
    (hm : Matches (cv V) σ) : Matches (cv (semRound V)) σ := by
  intro i b hi
  obtain ⟨f', hf', hc⟩ := pget_cv_some.mp hi
  rw [semRound_get] at hf'
  obtain ⟨f, hv, rfl⟩ := Option.map_eq_some_iff.mp hf'
  have := hc σ
  simp only [over_matches hm] at this
  rw [← h.2 σ hT hm i f hv]; exact this

theorem size_round_lt {V : List BoolFn} (h : cv (semRound V) ≠ cv V) : size (cv V) < size (cv (semRound V)) :=
  countSome_lt_of_ne (by rw [cv_length, cv_length, semRound_length]) (cv_le_round V) h

theorem okV_setF {V : List BoolFn} (h : OkV D n stable V) {v : Nat} {b : Bool} (hn : pget (cv V) v = none)
    (hv : v < V.length) : OkV D n stable (setF V v b) := by
  refine ⟨by simp [setF, h.1], ?_⟩
  intro σ hT hm i f hf
  rw [cv_setF b hv] at hm
  have hm0 : Matches (cv V) σ := matches_of_setAt hn hm
  have hσv : σ v = b := hm v b (by rw [pget_setAt]; simp)
  unfold setF at hf
  by_cases e : i = v
  · subst e
    rw [List.getElem?_set_self hv] at hf
    cases hf; exact hσv.symm
  · rw [List.getElem?_set_ne (Ne.symm e)] at hf
    exact h.2 σ hT hm0 i f hf

theorem okV_updF {V : List BoolFn} (h : OkV D n stable V) {R : PA} (hl : R.length = V.length)
    (hs : PSub (cv V) R) : OkV D n stable (updF V R) := by
  refine ⟨by rw [updF_length]; exact h.1, ?_⟩
  intro σ hT hm i f hf
  rw [cv_updF hl hs] at hm
  have hm0 : Matches (cv V) σ := fun j b hj => hm j b (hs j b hj)
  have hi : i < V.length := by
    rcases Nat.lt_or_ge i V.length with c | c
    · exact c
    · rw [List.getElem?_eq_none (by rw [updF_length]; exact c)] at hf; cases hf
  rw [updF_get hi] at hf
  cases hr : pget R i with
  | some b =>
    rw [hr] at hf; simp only [Option.some.injEq] at hf
    subst hf
    exact (hm i b hr).symm
  | none =>
    rw [hr] at hf; simp only [Option.some.injEq] at hf
    subst hf
    exact h.2 σ hT hm0 i V[i] (List.getElem?_eq_getElem hi)

theorem acInc_sound (hD : D.length = n) {A : PA} (h : acInc D A = true) {σ : Asg} (hT : Target D n stable σ) :
    ¬ Matches A σ := by
  intro hm
  obtain ⟨i, b, c, hb, hc, hne⟩ := acInc_true_iff.mp h
  obtain ⟨f, hf, _⟩ := Gam_decided.mp (pget_eq_some.mp hc)
  exact hne (by rw [← hm i b hb, ← target_model hD hT hf, Gam_value (pget_eq_some.mp hc) (matches_iff_agree.mp hm) hf])

theorem over_total_supp {A : PA} {f : BoolFn} (hA : A.length = n) (htv : twoV A = true) (hf : Supp n f) (τ τ' : Asg) :
    f (over τ 0 A) = f (over τ' 0 A) := by
  apply hf
  intro i hi
  obtain ⟨b, hb⟩ := twoV_true htv i (by rw [hA]; exact hi)
  have h1 := agree_over τ A i b hb
  have h2 := agree_over τ' A i b hb
  rw [h1, h2]

theorem vOf_of_matches {A : PA} (hA : A.length = n) (htv : twoV A = true) {σ : Asg} (hm : Matches A σ) :
    vOf n σ = A := by
  apply List.ext_getElem?
  intro i
  rcases Nat.lt_or_ge i n with hi | hi
  · obtain ⟨b, hb⟩ := twoV_true htv i (by rw [hA]; exact hi)
    rw [vOf_get hi, hb, hm i b (pget_eq_some.mpr hb)]
  · rw [List.getElem?_eq_none (by rw [vOf_length]; exact hi), List.getElem?_eq_none (by rw [hA]; exact hi)]

theorem gam_fix_of_leaf (hD : D.length = n) (hS : ∀ f ∈ D, Supp n f) {A : PA} (hA : A.length = n)
    (htv : twoV A = true) (hac : acInc D A = false) : Gam D A = A := by
  apply List.ext_getElem?
  intro i
  rcases Nat.lt_or_ge i n with hi | hi
  · obtain ⟨b, hb⟩ := twoV_true htv i (by rw [hA]; exact hi)
    obtain ⟨f, hf⟩ : ∃ f, D[i]? = some f := ⟨_, List.getElem?_eq_getElem (by rw [hD]; exact hi)⟩
    -- under a total interpretation a condition with support `< n` is constant
    have hg : (Gam D A)[i]? = some (some (f (over (fun _ => false) 0 A))) :=
      Gam_decided.mpr ⟨f, hf, fun τ => over_total_supp hA htv (hS f (List.mem_of_getElem? hf)) τ _⟩
    -- and its value is the decided one, or the consistency test would have fired
    have hbc : b = f (over (fun _ => false) 0 A) := Classical.byContradiction fun hne =>
      Bool.eq_false_iff.mp hac (acInc_true_iff.mpr ⟨i, b, _, pget_eq_some.mpr hb, pget_eq_some.mpr hg, hne⟩)
    rw [hg, hb, hbc]
  · rw [List.getElem?_eq_none (by rw [Gam_length, hD]; exact hi), List.getElem?_eq_none (by rw [hA]; exact hi)]

/-- at a leaf (total interpretation, no contradicted value) the leaf test decides membership in the
target set. In two-valued mode this needs the conditions to depend on the statements only (a
condition that still depends on a foreign variable under a total interpretation is not noticed by
the consistency test); in stable mode the stability test re-derives every value, so nothing is needed -/
theorem leaf_iff (hD : D.length = n) (hS : stable = false → ∀ f ∈ D, Supp n f) {A : PA} (hA : A.length = n)
    (htv : twoV A = true) (hac : acInc D A = false) {σ : Asg} (hm : Matches A σ) :
    Target D n stable σ ↔ isTgt D stable A = true := by
  have hv := vOf_of_matches hA htv hm
  rw [isTgt_true_iff]
  unfold Target
  rw [hv]
  cases hst : stable with
  | false =>
    have hfix := gam_fix_of_leaf hD (hS hst) hA htv hac
    exact ⟨fun h => h.2, fun h => ⟨hfix, h⟩⟩
  | true =>
    refine ⟨fun h => h.2, fun h => ⟨?_, h⟩⟩
    obtain ⟨w0, hw0⟩ := exists_lfp (redu D A)
    have e := h rfl w0 hw0
    rw [← Gam_redu_total]
    have := hw0.1
    rw [e] at this
    exact this

theorem flip_law {bs : List (List PA)} (hi : NgInv n bs) {H : PA} {v : Nat} {b : Bool} (hH : H.length = n)
    (hC : (setAt H v b).length = n) (hn : pget H v = none) (hmem : Stored bs (setAt H v b))
    (hcls : ∀ g, Stored bs g → Closed g H ∨ PSub (setAt H v b) g) :
    ∃ R, conclusionClosure bs H = Closure.update R ∧ pget R v = some (!b) := by
  have hv : v < n := by
    rw [setAt_length_max, hH] at hC; omega
  have hpre : FlipPre n bs.flatten H v b :=
    ⟨hH, hv, hn, fun _ hg => hi.width (stored_iff_flatten.mpr hg), stored_iff_flatten.mp hmem,
      fun g hg => hcls g (stored_iff_flatten.mpr hg)⟩
  exact ⟨setAt H v (!b), closure_flip_sized hpre hi.sized (fun _ => stored_iff_flatten.mp) hmem,
    by rw [pget_setAt]; simp⟩

theorem size_lt_of_none {g : PA} {i : Nat} (hi : i < g.length) (hn : pget g i = none) : size g < g.length := by
  have h1 := size_setAt g i true hi hn
  have h2 := size_le_length (setAt g i true)
  rw [setAt_length g i true hi] at h2
  omega

theorem law_okg {X : List BoolFn} (h : OkV D n stable X) : (cv X).length = n := by
  rw [cv_length]; exact h.1

theorem law_heu_valid {raw : Nat → Option (Nat × Bool)} {k : Nat} {X : List BoolFn} {v : Nat} {b : Bool}
    (hh : heuO raw k X = some (v, b)) : pget (cv X) v = none ∧ size (cv X) < size (setAt (cv X) v b) := by
  have ⟨h1, h2⟩ := heuO_valid hh
  refine ⟨h1, ?_⟩
  have := size_setAt (cv X) v b (by rw [cv_length]; exact h2) h1
  omega

theorem law_heu_total {raw : Nat → Option (Nat × Bool)} {k : Nat} {X : List BoolFn} (h : OkV D n stable X)
    (htv : twoV (cv X) = false) : (heuO raw k X).isSome = true ∧ size (cv X) < n := by
  refine ⟨heuO_total htv, ?_⟩
  obtain ⟨i, hi, hn⟩ := twoV_false htv
  have := size_lt_of_none hi hn
  have hl : (cv X).length = n := law_okg h
  omega

theorem sem_shape (raw : Nat → Option (Nat × Bool)) : Shape (semP D n stable raw) where
  ok_gam := fun _ h => okV_round h
  ok_set := fun _ _ _ _ h hh => okV_setF h (heuO_valid hh).1 (heuO_valid hh).2
  ok_upd := fun _ _ _ _ h hc => okV_updF h ((closure_length hc).trans (cv_length _)) (closure_upd_sub _ _ _ hc).1
  dec_set := fun _ _ _ b _ hh => cv_setF b (heuO_valid hh).2
  dec_upd := fun _ _ _ _ _ hc => cv_updF ((closure_length hc).trans (cv_length _)) (closure_upd_sub _ _ _ hc).1
  okg := fun _ h => law_okg h
  oks_add := fun bs g hs hg => NgStore.addNg_inv ⟨bs, .equiv⟩ g hs hg
  mem_add := fun _ _ x hs hg => stored_addNg hs hg x

theorem sem_sound (hD : D.length = n) (hS : stable = false → ∀ f ∈ D, Supp n f) (raw : Nat → Option (Nat × Bool)) :
    GSound (Target D n stable) (semP D n stable raw) :=
  { sem_shape raw with
  gam_sound := fun _ _ h hT hm => round_sound h hT hm
  ac_sound := fun _ _ hac _ hT => acInc_sound hD hac hT
  leaf_pos := fun _ h htv hac hit _ hm => (leaf_iff hD hS (law_okg h) htv hac hm).mpr hit
  leaf_neg := fun _ h htv hac hit _ hm hT =>
    Bool.eq_false_iff.mp hit ((leaf_iff hD hS (law_okg h) htv hac hm).mp hT)
  heu_valid := fun _ _ _ _ _ hh => (heuO_valid hh).1
  heu_total := fun _ _ _ htv => heuO_total htv
  cl_upd := fun st A R _ _ hc σ hm ha => (closure_sound_gen st A σ hm (avoidsAll_of_stored ha)).1 R hc
  cl_inc := fun st A _ _ hc σ hm ha => (closure_sound_gen st A σ hm (avoidsAll_of_stored ha)).2 hc
  cl_no := fun _ _ hs hA hc g hg e => by
    subst e
    cases (closure_direct_inv hs hg (PSub.refl _) hA).symm.trans hc }

theorem sem_live (raw : Nat → Option (Nat × Bool)) : GLive (semP D n stable raw) n size :=
  { sem_shape raw with
  heu_valid := fun _ _ _ _ _ hh => law_heu_valid hh
  heu_total := fun _ _ h htv => law_heu_total h htv
  gam_sub := fun X _ => psub_round X
  gam_grow := fun _ _ hne => size_round_lt hne
  gam_idem := fun _ _ h => semRound_idem h
  upd_sub := fun st A R _ _ hc => closure_upd_sub st A R hc
  mu_le := fun _ hA => size_le_of_length hA
  cl_flip := fun _ _ _ _ hs hH hC hn hmem hcls => flip_law hs hH hC hn hmem hcls
  cl_direct := fun _ _ hs hA ⟨_, hg, hp⟩ => closure_direct_inv hs hg hp hA }

def initSt (V0 : List BoolFn) (n : Nat) : St (List BoolFn) (List (List PA)) :=
  { cur := V0, store := List.replicate (n + 1) [], stack := [], backtrack := false, choice := false, out := [] }

theorem sem_exact (hD : D.length = n) (hS : stable = false → ∀ f ∈ D, Supp n f) (raw : Nat → Option (Nat × Bool))
    (V0 : List BoolFn) (hok : OkV D n stable V0) (hg : ∀ σ, Target D n stable σ → Matches (cv V0) σ)
    (fuel : Nat) (s' : St (List BoolFn) (List (List PA)))
    (hr : run (semP D n stable raw) 0 fuel (initSt V0 n) = some s') :
    (∀ σ, Target D n stable σ → ∃ o ∈ s'.out, Matches o σ) ∧
    (∀ o ∈ s'.out, ∀ σ, Matches o σ → Target D n stable σ) ∧ s'.out.Nodup ∧
    (∀ o ∈ s'.out, twoV o = true ∧ o.length = n) :=
  run_exact (sem_sound hD hS raw) fuel 0 _ s'
    (inv_init (P := semP D n stable raw) V0 _ hg hok (NgStore.new_inv n) (NgStore.new_not_stored n)) hr

theorem sem_halts_within (raw : Nat → Option (Nat × Bool)) (V0 : List BoolFn) (hok : OkV D n stable V0) :
    ∃ fuel s', fuel ≤ stepsT n + 2 ∧ run (semP D n stable raw) 0 fuel (initSt V0 n) = some s' :=
  halts_within (sem_live raw) V0 _ hok (NgStore.new_inv n) (NgStore.new_not_stored n) 0

theorem sem_halts (raw : Nat → Option (Nat × Bool)) (V0 : List BoolFn) (hok : OkV D n stable V0) :
    ∃ fuel s', run (semP D n stable raw) 0 fuel (initSt V0 n) = some s' :=
  have ⟨fuel, s', _, h⟩ := sem_halts_within raw V0 hok
  ⟨fuel, s', h⟩

end NSem
#print axioms NSem.sem_exact
#print axioms NSem.sem_halts
