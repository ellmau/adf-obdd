import AdfObdd.ServerCmd
import AdfObdd.ServerProofs
import AdfObdd.ServerCred
import AdfObdd.ServerStale
/-! Facts about the command-granular concurrent semantics `ServerCmd`: the atomic model is the special
    case of sequential schedules (`atomic_is_sequential`); the invariants of ALL schedules (`Inv`: every
    request in flight keeps the shape of its handler, every logged command has the shape its source
    allows, account names are unique, every stored credential is a `hash salt pw`; `RInv`: problem data
    in a response comes from the request's own finds); isolation per command and per schedule; `add`
    keeps problem names unique when it is not interleaved. -/
namespace ServerCmd
open ServerM

section
variable {T H A R : Type} [DecidableEq T]

theorem runC_append (E : Env T H A R) : ∀ (as bs : List (Act T)) (s : CState T H A R),
    runC E s (as ++ bs) = runC E (runC E s as) bs := by
  intro as
  induction as with
  | nil => intro bs s; rfl
  | cons a as ih => intro bs s; exact ih bs _

theorem runC_inv (E : Env T H A R) (I : CState T H A R → Prop) (hstep : ∀ s a, I s → I (stepC E s a)) :
    ∀ (as : List (Act T)) (s : CState T H A R), I s → I (runC E s as) := by
  intro as
  induction as with
  | nil => intro s h; exact h
  | cons a as ih => intro s h; exact ih _ (hstep s a h)

theorem runLog_cmds (src : Src T) : ∀ (p : P T H A R) (db : Db T H A R),
    (runLog src p db).map (·.cmd) = (run p db).2.2 ∧ ∀ e ∈ runLog src p db, e.src = src := by
  intro p
  induction p with
  | ret a => intro db; exact ⟨rfl, by intro e he; cases he⟩
  | cmd c k ih =>
    intro db
    simp only [runLog, run, List.map_cons, List.cons.injEq, true_and, List.mem_cons]
    refine ⟨(ih _ _).1, ?_⟩
    intro e he
    rcases he with he | he
    · rw [he]
    · exact (ih _ _).2 e he

theorem runC_cmds (E : Env T H A R) (k jar : Nat) (id : Option T) (rq : Req T) :
    ∀ (p : P T H A R) (s : CState T H A R), s.pool[k]? = some ⟨jar, id, rq, p⟩ →
      runC E s (List.replicate (run p s.db).2.2.length (.cmd k)) =
        { s with db := (run p s.db).1,
                 pool := s.pool.set k ⟨jar, id, rq, .ret (run p s.db).2.1⟩,
                 log := s.log ++ runLog (.request jar id rq) p s.db } := by
  intro p
  induction p with
  | ret a =>
    intro s hk
    obtain ⟨hlt, hget⟩ := List.getElem?_eq_some_iff.mp hk
    simp only [run, List.length_nil, List.replicate_zero, runC, runLog, List.append_nil]
    rw [← hget, List.set_getElem_self hlt]
  | cmd c kk ih =>
    intro s hk
    obtain ⟨hlt, _⟩ := List.getElem?_eq_some_iff.mp hk
    simp only [run, List.length_cons, List.replicate_succ, runC]
    have hstep : stepC E s (.cmd k) =
        { s with db := (exec s.db c).1, pool := s.pool.set k ⟨jar, id, rq, kk (exec s.db c).2⟩,
                 log := s.log ++ [⟨.request jar id rq, c, foundBy c (exec s.db c).2⟩] } := by
      simp only [stepC, hk]
    rw [hstep]
    rw [ih (exec s.db c).2 _ (by simp only [List.getElem?_set_self hlt])]
    simp only [List.set_set, runLog, List.append_assoc, List.singleton_append]

theorem seqRequest_atomic (E : Env T H A R) (s : CState T H A R) (rq : Request T) :
    runC E s (seqRequest E ⟨s.db, s.sess⟩ s.pool.length rq) =
      { s with db := (stepT E ⟨s.db, s.sess⟩ rq).1.db,
               sess := (stepT E ⟨s.db, s.sess⟩ rq).1.sess,
               log := s.log ++ runLog (.request rq.jar (s.sess rq.jar) rq.req)
                  (handler E rq.jar (s.sess rq.jar) rq.req) s.db,
               out := s.out ++ [(rq.jar, (stepT E ⟨s.db, s.sess⟩ rq).2.1)] } := by
  simp only [seqRequest, runC_append, runC]
  have harr : stepC E s (.arrive rq) =
      { s with pool := s.pool ++ [⟨rq.jar, s.sess rq.jar, rq.req, handler E rq.jar (s.sess rq.jar) rq.req⟩] } := rfl
  rw [harr]
  have h := runC_cmds E s.pool.length rq.jar (s.sess rq.jar) rq.req (handler E rq.jar (s.sess rq.jar) rq.req)
    { s with pool := s.pool ++ [⟨rq.jar, s.sess rq.jar, rq.req, handler E rq.jar (s.sess rq.jar) rq.req⟩] }
    (by simp)
  simp only [stepT] at h ⊢
  rw [h]
  simp only [stepC, List.set_append_right _ _ (Nat.le_refl _), Nat.sub_self, List.set_cons_zero,
    List.getElem?_append_right (Nat.le_refl _), List.getElem?_cons_zero,
    List.eraseIdx_append_of_length_le (Nat.le_refl _), List.eraseIdx_cons_zero, List.append_nil]

def absState (s : CState T H A R) : State T H A R := ⟨s.db, s.sess⟩

/-- **the atomic model is the sequential special case.** Run a history of the atomic model
(`ServerM.runAll`) as the schedule in which every request arrives, executes all its commands and is
answered before anything else happens: the command-granular model ends with the same database, the
same cookie jars, nobody in flight, the same responses in the same order, and the atomic model's
command log.  Holds for every request kind (the proof is generic in the handler program). -/
theorem atomic_is_sequential (E : Env T H A R) : ∀ (es : List (Event T)) (st : State T H A R) (s : CState T H A R),
    s.pool = [] → s.db = st.db → s.sess = st.sess →
    runC E s (seqSchedule E st es) =
      { s with db := (runAll E st es).1.db, sess := (runAll E st es).1.sess,
               log := s.log ++ atomicLog E st es, out := s.out ++ (runAll E st es).2 } := by
  intro es
  induction es with
  | nil => intro st s _ hd hs; simp [seqSchedule, runC, runAll, atomicLog, ← hd, ← hs]
  | cons e es ih =>
    intro st s hp hd hs
    -- after the first event the hypotheses hold again; then both sides unfold to the same record
    cases e with
    | req rq =>
      have hst : st = ⟨s.db, s.sess⟩ := by cases st; simp_all
      have h := seqRequest_atomic E s rq
      rw [hp, List.length_nil] at h
      simp only [seqSchedule, runC_append]
      rw [hst, h]
      refine (ih _ _ ?_ ?_ ?_).trans ?_ <;> simp [hp, runAll, stepEv, step, atomicLog, Event.jar, List.append_assoc]
    | finish j n =>
      simp only [seqSchedule, runC]
      refine (ih _ _ ?_ ?_ ?_).trans ?_ <;> simp [hp, runAll, stepEv, stepC, atomicLog, taskEntries, hd, hs]
    | write j n =>
      simp only [seqSchedule, runC]
      refine (ih _ _ ?_ ?_ ?_).trans ?_ <;> simp [hp, runAll, stepEv, stepC, atomicLog, hd, hs, List.append_assoc]
    | timeout j n =>
      simp only [seqSchedule, runC]
      refine (ih _ _ ?_ ?_ ?_).trans ?_ <;> simp [hp, runAll, stepEv, stepC, atomicLog, hd, hs, List.append_assoc]

/-- the identity a logged command was issued for: the account named in the session cookie of the
request when it arrived (for an unauthenticated `add`: the temporary account it creates); for a
task write, the user name the task was spawned with -/
def Src.actor : Src T → Option T
  | .request _ id rq => ServerM.actor id rq
  | .task _ u => some u

/-- the account names a source may mention besides its identity -/
def Src.names : Src T → List T
  | .request _ _ rq => reqNames rq
  | .task _ _ => []

def Src.jar : Src T → Nat
  | .request j _ _ => j
  | .task j _ => j

/-- what a logged command may look like, given its source: a request's command is one of the
commands of its handler (`ServerM.Shape`, by inspection of each handler program); a task issues one
`update_one` whose filter carries the task's user name -/
def EntryOk (E : Env T H A R) (e : Entry T H A R) : Prop :=
  match e.src with
  | .request jar id rq => Shape E jar id rq e.cmd
  | .task _ u => ∃ n w, e.cmd = .pSet u n w

def AllHashed (E : Env T H A R) (users : List (User T H)) : Prop :=
  ∀ x ∈ users, ∀ h, x.password = some h → ∃ salt pw, h = E.hash salt pw

structure Inv (E : Env T H A R) (s : CState T H A R) : Prop where
  pool : ∀ f ∈ s.pool, AllCmds (Shape E f.jar f.id f.req) (RetShape f.id f.req) f.prog
  log : ∀ e ∈ s.log, EntryOk E e
  nodup : (s.db.users.map (·.username)).Nodup
  hashed : AllHashed E s.db.users

/-- **the unique index.** Whatever command is executed — by whomever, in whatever state — account
names stay unique: `insert_one` and `replace_one` are refused by the database for a duplicate key,
everything else removes user records or does not touch them. -/
theorem exec_users_nodup (db : Db T H A R) (c : Cmd T H A R) (h : (db.users.map (·.username)).Nodup) :
    ((exec db c).1.users.map (·.username)).Nodup := by
  cases c with
  | uInsert u =>
    simp only [exec]
    split
    · exact h
    · rename_i hn
      exact nodup_insert_user u _ h (fun x hx hxu => hn ((any_isUser _ _).mpr ⟨x, hx, hxu⟩))
  | uReplace n u =>
    simp only [exec]
    split
    · exact h
    · rename_i hn
      apply nodup_updFirst_user n u _ h
      by_cases hu : u.username = n
      · exact Or.inl hu
      · right
        intro x hx hxu
        apply hn
        simp only [Bool.and_eq_true, decide_eq_true_eq]
        exact ⟨hu, (any_isUser _ _).mpr ⟨x, hx, hxu⟩⟩
  | uDelete n => exact nodup_delFirst_user n _ h
  | _ => exact h

def HashedWrite (E : Env T H A R) (c : Cmd T H A R) : Prop :=
  ∀ x, userDoc c = some x → ∀ h, x.password = some h → ∃ salt pw, h = E.hash salt pw

omit [DecidableEq T] in
/-- by inspection of the handlers: a document handed to `users` is either a temporary account
(no password) or `{name, hash salt pw}` where `name`, `pw` and `salt` are the fields of THE
`register` / `update` request that issued the command -/
theorem Shape.userDoc (E : Env T H A R) (jar : Nat) (id : Option T) (rq : Req T) (c : Cmd T H A R)
    (h : Shape E jar id rq c) (x : User T H) (hx : userDoc c = some x) :
    x.password = none ∨ ∃ u p salt, (rq = .register u p salt ∨ rq = .update u p salt) ∧ x = ⟨u, some (E.hash salt p)⟩ := by
  cases rq with
  | register u p salt =>
    rcases h with h | h <;> subst h <;> simp only [ServerCmd.userDoc, Option.some.injEq] at hx
    · cases hx
    · exact Or.inr ⟨u, p, salt, Or.inl rfl, hx.symm⟩
  | login u p => subst h; cases hx
  | logout => obtain ⟨v, _, h⟩ := h; subst h; cases hx
  | info => obtain ⟨v, _, h⟩ := h; subst h; cases hx
  | update u p salt =>
    obtain ⟨v, _, h⟩ := h
    rcases h with h | h | h <;> subst h <;> simp only [ServerCmd.userDoc, Option.some.injEq] at hx
    · cases hx
    · exact Or.inr ⟨u, p, salt, Or.inr rfl, hx.symm⟩
    · cases hx
  | deleteAccount => obtain ⟨v, _, h⟩ := h; rcases h with h | h <;> subst h <;> cases hx
  | add name code file parsing fu fp =>
    rcases h with ⟨_, h | h⟩ | ⟨n, h⟩ | ⟨p, h, _⟩ | ⟨t, h, _, _⟩ <;> subst h <;>
      simp only [ServerCmd.userDoc, Option.some.injEq] at hx
    · cases hx
    · subst hx; exact Or.inl rfl
    · cases hx
    · cases hx
    · cases hx
  | solve name s =>
    obtain ⟨v, _, h⟩ := h
    rcases h with h | h | ⟨t, h, _, _⟩ <;> subst h <;> cases hx
  | get name => obtain ⟨v, _, h⟩ := h; rcases h with h | ⟨n, h⟩ <;> subst h <;> cases hx
  | delete name => obtain ⟨v, _, h⟩ := h; subst h; cases hx
  | list => obtain ⟨v, _, h⟩ := h; rcases h with h | ⟨n, h⟩ <;> subst h <;> cases hx
  | malformed => exact h.elim

theorem Shape.hashedWrite (E : Env T H A R) (jar : Nat) (id : Option T) (rq : Req T) (c : Cmd T H A R)
    (h : Shape E jar id rq c) : HashedWrite E c := by
  intro x hx hh hp
  rcases Shape.userDoc E jar id rq c h x hx with hnone | ⟨u, p, salt, _, hx'⟩
  · rw [hnone] at hp; cases hp
  · rw [hx'] at hp; exact ⟨salt, p, (Option.some.inj hp).symm⟩

theorem exec_hashed (E : Env T H A R) (db : Db T H A R) (c : Cmd T H A R) (hc : HashedWrite E c)
    (h : AllHashed E db.users) : AllHashed E (exec db c).1.users := by
  cases c with
  | uInsert u =>
    simp only [exec]
    split
    · exact h
    · intro x hx
      rcases List.mem_append.mp hx with hx | hx
      · exact h x hx
      · simp only [List.mem_singleton] at hx; subst hx; exact hc x rfl
  | uReplace n u =>
    simp only [exec]
    split
    · exact h
    · intro x hx
      rcases mem_updFirst_r _ _ _ x hx with hx | ⟨_, _, hx⟩
      · exact h x hx
      · subst hx; exact hc x rfl
  | uDelete n => intro x hx; exact h x (mem_delFirst _ _ x hx)
  | _ => exact h

omit [DecidableEq T] in
theorem taskEntries_shape (E : Env T H A R) (db : Db T H A R) (e : Event T) :
    ∀ x ∈ taskEntries E db e, ∃ j u n w, x = ⟨.task j u, .pSet u n w, []⟩ := by
  intro x hx
  cases e with
  | req rq => cases hx
  | finish j n => cases hx
  | write j n | timeout j n =>
    simp only [taskEntries] at hx
    cases ht : nthOf j n db.tasks with
    | none => rw [ht] at hx; cases hx
    | some t =>
      rw [ht] at hx
      simp only at hx
      split at hx
      · exact ⟨_, _, _, _, List.mem_singleton.mp hx⟩
      · cases hx

theorem stepC_cases (E : Env T H A R) (s : CState T H A R) (a : Act T) :
    stepC E s a = s ∨
    (∃ rq : Request T, stepC E s a =
      { s with pool := s.pool ++ [⟨rq.jar, s.sess rq.jar, rq.req, handler E rq.jar (s.sess rq.jar) rq.req⟩] }) ∨
    (∃ i f c k, s.pool[i]? = some f ∧ f.prog = .cmd c k ∧ stepC E s a =
      { s with db := (exec s.db c).1, pool := s.pool.set i ⟨f.jar, f.id, f.req, k (exec s.db c).2⟩,
               log := s.log ++ [⟨.request f.jar f.id f.req, c, foundBy c (exec s.db c).2⟩] }) ∨
    (∃ i f r, s.pool[i]? = some f ∧ f.prog = .ret r ∧ stepC E s a =
      { s with pool := s.pool.eraseIdx i,
               sess := fun j => if j = f.jar then applyCookie (s.sess f.jar) r.cookie else s.sess j,
               out := s.out ++ [(f.jar, r)] }) ∨
    (∃ e, stepC E s a = { s with db := dbEv E s.db e, log := s.log ++ taskEntries E s.db e }) := by
  cases a with
  | arrive rq => exact Or.inr (Or.inl ⟨rq, rfl⟩)
  | cmd i =>
    simp only [stepC]
    cases hi : s.pool[i]? with
    | none => exact Or.inl rfl
    | some f =>
      cases hp : f.prog with
      | ret r => exact Or.inl (by simp only [hp])
      | cmd c k => exact Or.inr (Or.inr (Or.inl ⟨i, f, c, k, hi, hp, by simp only [hp]⟩))
  | deliver i =>
    simp only [stepC]
    cases hi : s.pool[i]? with
    | none => exact Or.inl rfl
    | some f =>
      cases hp : f.prog with
      | cmd c k => exact Or.inl (by simp only [hp])
      | ret r => exact Or.inr (Or.inr (Or.inr (Or.inl ⟨i, f, r, hi, hp, by simp only [hp]⟩)))
  | finish j n => exact Or.inr (Or.inr (Or.inr (Or.inr ⟨.finish j n, by simp only [stepC, taskEntries, List.append_nil]⟩)))
  | write j n => exact Or.inr (Or.inr (Or.inr (Or.inr ⟨.write j n, rfl⟩)))
  | timeout j n => exact Or.inr (Or.inr (Or.inr (Or.inr ⟨.timeout j n, rfl⟩)))

theorem Inv.step (E : Env T H A R) (s : CState T H A R) (a : Act T) (inv : Inv E s) : Inv E (stepC E s a) := by
  rcases stepC_cases E s a with h | ⟨rq, h⟩ | ⟨i, f, c, k, hi, hp, h⟩ | ⟨i, f, r, hi, hp, h⟩ | ⟨e, h⟩
  · rw [h]; exact inv
  · rw [h]
    refine ⟨?_, inv.log, inv.nodup, inv.hashed⟩
    intro f hf
    rcases List.mem_append.mp hf with hf | hf
    · exact inv.pool f hf
    · rw [List.mem_singleton.mp hf]; exact handler_shape E _ _ _
  · rw [h]
    have hf := inv.pool f (List.mem_of_getElem? hi)
    rw [hp] at hf
    cases hf with
    | cmd _ _ hq hk =>
      refine ⟨?_, ?_, exec_users_nodup _ _ inv.nodup, exec_hashed E _ _ (Shape.hashedWrite E _ _ _ _ hq) inv.hashed⟩
      · intro g hg
        rcases List.mem_or_eq_of_mem_set hg with h | h
        · exact inv.pool g h
        · rw [h]; exact hk _ (exec_rok s.db c)
      · intro e he
        rcases List.mem_append.mp he with he | he
        · exact inv.log e he
        · rw [List.mem_singleton.mp he]; exact hq
  · rw [h]
    exact ⟨fun g hg => inv.pool g (List.mem_of_mem_eraseIdx hg), inv.log, inv.nodup, inv.hashed⟩
  · -- a task event logs its write and does not touch `users`
    rw [h]
    refine ⟨inv.pool, fun x hx => (List.mem_append.mp hx).elim (inv.log x) ?_, ?_, ?_⟩
    · intro hx
      obtain ⟨j, u, n, w, rfl⟩ := taskEntries_shape E _ e x hx
      exact ⟨n, w, rfl⟩
    · show ((dbEv E s.db e).users.map (·.username)).Nodup
      rw [dbEv_users]; exact inv.nodup
    · show AllHashed E (dbEv E s.db e).users
      rw [dbEv_users]; exact inv.hashed

theorem Inv.reach (E : Env T H A R) (as : List (Act T)) : Inv E (runC E {} as) :=
  runC_inv E (Inv E) (Inv.step E) as {}
    ⟨(by intro f hf; cases hf), (by intro e he; cases he), (by simp), (by intro x hx; cases hx)⟩

theorem EntryOk.owned (E : Env T H A R) (e : Entry T H A R) (h : EntryOk E e) :
    Owned e.src.jar e.src.actor e.src.names e.cmd := by
  cases hs : e.src with
  | request jar id rq =>
    simp only [EntryOk, hs] at h
    exact Shape.owned E jar id rq e.cmd h
  | task j u =>
    simp only [EntryOk, hs] at h
    obtain ⟨n, w, hc⟩ := h
    rw [hc]
    simp [Owned, Src.actor]

omit [DecidableEq T] in
theorem Owned.probUser {jar : Nat} {U : Option T} {names : List T} {c : Cmd T H A R} (h : Owned jar U names c)
    (u : T) (hu : probUser c = some u) : U = some u := by
  cases c <;> simp only [ServerCmd.probUser, Option.some.injEq] at hu <;> try cases hu
  all_goals first
    | exact h.symm
    | exact h.1.symm

theorem owned_cmd_untouched (db : Db T H A R) (c : Cmd T H A R) (jar : Nat) (U : Option T) (names : List T)
    (v : T) (h : Owned jar U names c) (hU : U ≠ some v) (hn : v ∉ names) :
    (exec db c).1.problems.filter (ownedP v) = db.problems.filter (ownedP v) :=
  (exec_out (S := fun x => decide (x = v)) (J := fun _ => false) db c (h.outside hU hn)).probs

/-- the scheduler action is a database command issued for `v` or by a request that mentions `v`'s
account name (arrivals and deliveries issue no command) -/
def actsOn (v : T) (s : CState T H A R) : Act T → Prop
  | .cmd i => ∃ f, s.pool[i]? = some f ∧ (actor f.id f.req = some v ∨ v ∈ reqNames f.req)
  | .write j n => ∃ t, nthOf j n s.db.tasks = some t ∧ t.username = v
  | .timeout j n => ∃ t, nthOf j n s.db.tasks = some t ∧ t.username = v
  | _ => False

theorem step_untouched (E : Env T H A R) (s : CState T H A R) (inv : Inv E s) (a : Act T) (v : T)
    (h : ¬ actsOn v s a) :
    (stepC E s a).db.problems.filter (ownedP v) = s.db.problems.filter (ownedP v) := by
  cases a with
  | arrive rq => rfl
  | deliver i =>
    simp only [stepC]
    cases s.pool[i]? with
    | none => rfl
    | some f => simp only; cases f.prog <;> rfl
  | cmd i =>
    simp only [stepC]
    cases hi : s.pool[i]? with
    | none => rfl
    | some f =>
      simp only
      have hf := inv.pool f (List.mem_of_getElem? hi)
      cases hp : f.prog with
      | ret r => rfl
      | cmd c k =>
        simp only
        rw [hp] at hf
        cases hf with
        | cmd _ _ hq hk =>
          have hno : ¬ (actor f.id f.req = some v ∨ v ∈ reqNames f.req) := fun hx => h ⟨f, hi, hx⟩
          exact owned_cmd_untouched s.db c f.jar _ _ v (Shape.owned E _ _ _ _ hq)
            (fun hx => hno (Or.inl hx)) (fun hx => hno (Or.inr hx))
  | finish j n => exact congrArg _ (dbEv_finish_problems E s.db j n)
  | write j n => exact (dbEv_view E s.db (.write j n) v (fun t ht hv => h ⟨t, ht, hv⟩)).probs
  | timeout j n => exact (dbEv_view E s.db (.timeout j n) v (fun t ht hv => h ⟨t, ht, hv⟩)).probs

/-- no action of the schedule is a command for `v` (in the state it is executed in) -/
def QuietC (E : Env T H A R) (v : T) : CState T H A R → List (Act T) → Prop
  | _, [] => True
  | s, a :: as => ¬ actsOn v s a ∧ QuietC E v (stepC E s a) as

theorem run_untouched (E : Env T H A R) (v : T) : ∀ (as : List (Act T)) (s : CState T H A R), Inv E s →
    QuietC E v s as → (runC E s as).db.problems.filter (ownedP v) = s.db.problems.filter (ownedP v) := by
  intro as
  induction as with
  | nil => intro s _ _; rfl
  | cons a as ih =>
    intro s inv h
    simp only [runC]
    rw [ih _ (Inv.step E s a inv) h.2]
    exact step_untouched E s inv a v h.1

theorem keyCount_eq_docsAt (u n : T) (db : Db T H A R) : keyCount u n db = docsAt db u n :=
  List.countP_eq_length_filter.symm

/-- an atomic `add` keeps problem names unique per user: it changes nothing, or appends one document
under a key that carried none (`request_effect`) -/
theorem add_atomic_unique (E : Env T H A R) (st : State T H A R) (jar : Nat) (name : T) (code file : Option T)
    (parsing : Parsing) (fu fp : T) (h : ProbUnique st.db) :
    ProbUnique (step E st ⟨jar, .add name code file parsing fu fp⟩).1.db := by
  intro u' n'
  have h' := h u' n'
  rw [keyCount_eq_docsAt] at h' ⊢
  unfold docsAt at h' ⊢
  cases request_effect E st ⟨jar, .add name code file parsing fu fp⟩ with
  | same hp | solve _ _ _ _ _ _ _ _ _ hp => rw [hp]; exact h'
  | finish _ _ _ he => cases he
  | write _ _ _ _ _ _ he => rcases he with ⟨he, _⟩ | ⟨he, _⟩ <;> cases he
  | del _ _ hk | delAll _ hk | rename _ _ hk => cases hk
  | add u n c pg _ _ hnone _ hp =>
    have hnew : isProb u n ({ name := n, username := u, code := c, parsing := pg } : Problem T A R) = true := by
      simp [isProb]
    rw [hp, countP_append_one]
    by_cases hk : u' = u ∧ n' = n
    · rw [hk.1, hk.2, hnew, (countP_eq_zero_iff_find _ _).mpr hnone]
      exact Nat.le_refl _
    · rw [isProb_other hk _ hnew]
      exact h'

omit [DecidableEq T] in
theorem EntryOk.userDoc (E : Env T H A R) (e : Entry T H A R) (h : EntryOk E e) (x : User T H)
    (hx : ServerCmd.userDoc e.cmd = some x) :
    x.password = none ∨ ∃ jar id u p salt,
      (e.src = .request jar id (.register u p salt) ∨ e.src = .request jar id (.update u p salt)) ∧
      x = ⟨u, some (E.hash salt p)⟩ := by
  cases hs : e.src with
  | request jar id rq =>
    simp only [EntryOk, hs] at h
    rcases Shape.userDoc E jar id rq e.cmd h x hx with h' | ⟨u, p, salt, h1, h2⟩
    · exact Or.inl h'
    · refine Or.inr ⟨jar, id, u, p, salt, ?_, h2⟩
      rcases h1 with h1 | h1 <;> subst h1 <;> simp
  | task j u =>
    simp only [EntryOk, hs] at h
    obtain ⟨n, w, hc⟩ := h
    rw [hc] at hx
    cases hx

/-- along every path of results the database can give: the problem data in the response are
images (`infoOf`) of documents that are `known` or that the database returned to one of THIS
program's finds -/
inductive FromFinds : (Problem T A R → Prop) → P T H A R → Prop where
  | ret (known : Problem T A R → Prop) (r : Resp T R) :
      (∀ i ∈ infos r.body, ∃ p ts, known p ∧ i = infoOf p ts) → FromFinds known (.ret r)
  | cmd (known : Problem T A R → Prop) (c : Cmd T H A R) (k : c.Res → P T H A R) :
      (∀ res, Rok c res → FromFinds (fun p => known p ∨ p ∈ foundBy c res) (k res)) → FromFinds known (.cmd c k)

omit [DecidableEq T] in
theorem FromFinds.mono {known : Problem T A R → Prop} {p : P T H A R} (h : FromFinds known p) :
    ∀ {known' : Problem T A R → Prop}, (∀ x, known x → known' x) → FromFinds known' p := by
  induction h with
  | ret known r hr =>
    intro known' hk
    exact .ret _ _ (fun i hi => by obtain ⟨p, ts, h1, h2⟩ := hr i hi; exact ⟨p, ts, hk p h1, h2⟩)
  | cmd known c k _ ih =>
    intro known' hk
    exact .cmd _ _ _ (fun res hres => ih res hres (fun x hx => hx.elim (fun h => Or.inl (hk x h)) Or.inr))

omit [DecidableEq T] in
theorem FromFinds.of_noInfos {Q : Cmd T H A R → Prop} {L : Resp T R → Prop} (hL : ∀ r, L r → infos r.body = [])
    {p : P T H A R} (h : AllCmds Q L p) : ∀ known : Problem T A R → Prop, FromFinds known p := by
  induction h with
  | ret r hr => intro known; exact .ret _ _ (by rw [hL r hr]; intro i hi; cases hi)
  | cmd c k _ _ ih => intro known; exact .cmd _ _ _ (fun res hres => ih res hres _)

omit [DecidableEq T] in
theorem listInfos_fromFinds : ∀ (ps : List (Problem T A R)) (acc : List (Info T R)) (known : Problem T A R → Prop),
    (∀ p ∈ ps, known p) → (∀ i ∈ acc, ∃ p ts, known p ∧ i = infoOf p ts) →
    FromFinds known (listInfos acc ps : P T H A R) := by
  intro ps
  induction ps with
  | nil => intro acc known _ hacc; exact .ret _ _ hacc
  | cons p ps ih =>
    intro acc known hps hacc
    refine .cmd _ _ _ (fun ts _ => ?_)
    apply ih
    · intro q hq; exact Or.inl (hps q (List.mem_cons_of_mem _ hq))
    · intro i hi
      rcases List.mem_append.mp hi with hi | hi
      · obtain ⟨q, ts', h1, h2⟩ := hacc i hi; exact ⟨q, ts', Or.inl h1, h2⟩
      · simp only [List.mem_singleton] at hi
        exact ⟨p, ts, Or.inl (hps p (List.mem_cons_self ..)), hi⟩

/-- by inspection of the handlers: problem data in a response comes only from the documents the
database returned to the request's own `find_one` / `find` (`get`, `list`); no other handler puts
problem data into its response -/
theorem handler_fromFinds (E : Env T H A R) (jar : Nat) (id : Option T) (rq : Req T) :
    FromFinds (fun _ => False) (handler E jar id rq) := by
  have noInfo : ∀ (rq : Req T), (∀ r, RetShape id rq r → infos r.body = []) →
      FromFinds (fun _ => False) (handler E jar id rq) :=
    fun rq h => FromFinds.of_noInfos h (handler_shape E jar id rq) _
  cases rq with
  | get name =>
    simp only [handler, hGet]
    cases id with
    | none => exact .ret _ _ (by intro i hi; cases hi)
    | some u =>
      refine .cmd _ _ _ (fun res _ => ?_)
      cases res with
      | none => exact .ret _ _ (by intro i hi; cases hi)
      | some p =>
        refine .cmd _ _ _ (fun ts _ => .ret _ _ ?_)
        intro i hi
        simp only [infos, List.mem_singleton] at hi
        exact ⟨p, ts, Or.inl (Or.inr (by simp [foundBy])), hi⟩
  | list =>
    simp only [handler, hList]
    cases id with
    | none => exact .ret _ _ (by intro i hi; cases hi)
    | some u =>
      refine .cmd _ _ _ (fun ps _ => ?_)
      exact listInfos_fromFinds ps [] _ (fun p hp => Or.inr hp) (by intro i hi; cases hi)
  | _ => exact noInfo _ (fun r h => h.1)

/-- the documents returned (according to the log) to commands of the source `src` -/
def knownIn (log : List (Entry T H A R)) (src : Src T) (p : Problem T A R) : Prop :=
  ∃ e ∈ log, e.src = src ∧ p ∈ e.returned

omit [DecidableEq T] in
theorem knownIn_append {log more : List (Entry T H A R)} {src : Src T} {p : Problem T A R}
    (h : knownIn log src p) : knownIn (log ++ more) src p := by
  obtain ⟨e, he, h1, h2⟩ := h
  exact ⟨e, List.mem_append_left _ he, h1, h2⟩

omit [DecidableEq T] in
theorem foundBy_of_rok {c : Cmd T H A R} {r : c.Res} (hr : Rok c r) :
    ∀ p ∈ foundBy c r, probUser c = some p.username := by
  intro p hp
  cases c with
  | pFindOne u n => exact congrArg some (hr p (Option.mem_toList.mp hp)).1.symm
  | pFindAll u => exact congrArg some (hr p hp).symm
  | _ => cases hp

/-- responses are built from the request's own finds -/
structure RInv (s : CState T H A R) : Prop where
  pool : ∀ f ∈ s.pool, FromFinds (knownIn s.log (.request f.jar f.id f.req)) f.prog
  ret : ∀ e ∈ s.log, ∀ p ∈ e.returned, probUser e.cmd = some p.username
  out : ∀ x ∈ s.out, ∀ i ∈ infos x.2.body, ∃ e ∈ s.log, ∃ id rq p ts,
    e.src = .request x.1 id rq ∧ p ∈ e.returned ∧ i = infoOf p ts

omit [DecidableEq T] in
theorem RInv.grow {s : CState T H A R} (inv : RInv s) (db : Db T H A R) (more : List (Entry T H A R))
    (hm : ∀ e ∈ more, ∀ p ∈ e.returned, probUser e.cmd = some p.username) :
    RInv { s with db := db, log := s.log ++ more } := by
  refine ⟨?_, ?_, ?_⟩
  · intro f hf
    exact (inv.pool f hf).mono (fun x hx => knownIn_append hx)
  · intro e he
    exact (List.mem_append.mp he).elim (inv.ret e) (hm e)
  · intro x hx i hi
    obtain ⟨e, he, rest⟩ := inv.out x hx i hi
    exact ⟨e, List.mem_append_left _ he, rest⟩

theorem RInv.step (E : Env T H A R) (s : CState T H A R) (a : Act T) (inv : RInv s) : RInv (stepC E s a) := by
  rcases stepC_cases E s a with h | ⟨rq, h⟩ | ⟨i, f, c, k, hi, hp, h⟩ | ⟨i, f, r, hi, hp, h⟩ | ⟨e, h⟩
  · rw [h]; exact inv
  · rw [h]
    refine ⟨?_, inv.ret, inv.out⟩
    intro f hf
    rcases List.mem_append.mp hf with hf | hf
    · exact inv.pool f hf
    · rw [List.mem_singleton.mp hf]
      exact (handler_fromFinds E _ _ _).mono (fun _ h => h.elim)
  · rw [h]
    have hf := inv.pool f (List.mem_of_getElem? hi)
    rw [hp] at hf
    cases hf with
    | cmd _ _ _ hk =>
      -- the log grows by the executed find; only the continuation of `f` is new in the pool
      have inv' := inv.grow (exec s.db c).1 [⟨.request f.jar f.id f.req, c, foundBy c (exec s.db c).2⟩]
        (fun e he => by rw [List.mem_singleton.mp he]; exact foundBy_of_rok (exec_rok s.db c))
      refine ⟨?_, inv'.ret, inv'.out⟩
      intro g hg
      rcases List.mem_or_eq_of_mem_set hg with h | h
      · exact inv'.pool g h
      · rw [h]
        refine (hk _ (exec_rok s.db c)).mono ?_
        intro x hx
        rcases hx with hx | hx
        · exact knownIn_append hx
        · exact ⟨_, List.mem_append_right _ (List.mem_singleton.mpr rfl), rfl, hx⟩
  · rw [h]
    have hf := inv.pool f (List.mem_of_getElem? hi)
    rw [hp] at hf
    cases hf with
    | ret _ _ hr =>
      refine ⟨fun g hg => inv.pool g (List.mem_of_mem_eraseIdx hg), inv.ret, ?_⟩
      intro x hx i hi'
      rcases List.mem_append.mp hx with hx | hx
      · exact inv.out x hx i hi'
      · rw [List.mem_singleton.mp hx] at hi' ⊢
        obtain ⟨p, ts, ⟨e, he, h1, h2⟩, h3⟩ := hr i hi'
        exact ⟨e, he, f.id, f.req, p, ts, h1, h2, h3⟩
  · rw [h]
    refine inv.grow _ _ (fun x hx p hp => ?_)
    obtain ⟨j, u, n, w, rfl⟩ := taskEntries_shape E _ _ x hx
    cases hp

theorem RInv.reach (E : Env T H A R) (as : List (Act T)) : RInv (runC E {} as) :=
  runC_inv E RInv (RInv.step E) as {}
    ⟨(by intro f hf; cases hf), (by intro e he; cases he), (by intro x hx; cases hx)⟩

end
end ServerCmd
