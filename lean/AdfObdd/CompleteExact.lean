import AdfObdd.Complete
import AdfObdd.IterFull
import AdfObdd.Reduct
/-! `Adf::complete` end to end: the store-threading fold over the three-valued iterator is a
    plain filter by "decided part is a fixpoint of Γ"; with C20 (every refinement of the grounded
    vector exactly once, the grounded vector first) and C01 (the grounded interpretation is the
    least fixpoint) this gives: the answers, read as three-valued interpretations, are exactly
    the complete interpretations, each once, the grounded one first. The decided parts of what the
    iterator yields are the vectors of the same length above the decided part of its input
    (`threeValAll_dec`, `mem_picks_opt3Of`); the filter keeps the fixpoints among them, and the least
    fixpoint is below every fixpoint. -/
open IterFull

/-- a loop that threads a state and appends the candidates passing a state-independent test is a filter -/
theorem StableExact.fold_filter {S C : Type} (Inv : S → Prop) (p : C → Bool) (step : S × List C → C → S × List C) :
    ∀ (vs : List C),
      (∀ acc c, c ∈ vs → Inv acc.1 →
        Inv (step acc c).1 ∧ (step acc c).2 = if p c then acc.2 ++ [c] else acc.2) →
      ∀ acc, Inv acc.1 → Inv (vs.foldl step acc).1 ∧ (vs.foldl step acc).2 = acc.2 ++ vs.filter p := by
  intro vs
  induction vs with
  | nil => intro _ acc hi; exact ⟨hi, by simp⟩
  | cons v vs ih =>
    intro hstep acc hi
    have ⟨i1, e1⟩ := hstep acc v (List.mem_cons_self ..) hi
    have ⟨i2, e2⟩ := ih (fun a c hc => hstep a c (List.mem_cons_of_mem _ hc)) (step acc v) i1
    rw [List.foldl_cons]
    refine ⟨i2, ?_⟩
    rw [e2, e1, List.filter_cons]
    cases p v <;> simp

namespace CompleteExact

section generic
variable {S T : Type} (A : RA S T)

theorem check_indep (s s0 : S) (ac v : List T) (hi0 : A.Inv s0) (hle : A.Le s0 s) (hi : A.Inv s)
    (hv : AllValid A s0 v) (ha : AllValid A s0 ac) (hl : ac.length = v.length) :
    (completeCheck A s v ac v).2 = (completeCheck A s0 v ac v).2 := by
  have ⟨_, _, h1⟩ := completeCheck_spec A v ac v s s0 hi0 hle hi ha hv hl
  have ⟨_, _, h2⟩ := completeCheck_spec A v ac v s0 s0 hi0 (A.le_refl _) hi0 ha hv hl
  exact Bool.eq_iff_iff.mpr (h1.trans h2.symm)

/-- one step of the loop of `Adf::complete` -/
def cstep (ac : List T) (acc : S × List (List T)) (v : List T) : S × List (List T) :=
  let c := completeCheck A acc.1 v ac v
  (c.1, if c.2 then acc.2 ++ [v] else acc.2)

theorem fold_spec (s0 : S) (ac : List T) (hi0 : A.Inv s0) (ha : AllValid A s0 ac) :
    ∀ (vs : List (List T)) (acc : S × List (List T)),
      (∀ v ∈ vs, AllValid A s0 v ∧ ac.length = v.length) → A.Inv acc.1 → A.Le s0 acc.1 →
      A.Inv (vs.foldl (cstep A ac) acc).1 ∧ A.Le acc.1 (vs.foldl (cstep A ac) acc).1 ∧
      (vs.foldl (cstep A ac) acc).2 = acc.2 ++ vs.filter (fun v => (completeCheck A s0 v ac v).2) := by
  intro vs acc hvs hi hle
  have key := StableExact.fold_filter (fun t => A.Inv t ∧ A.Le acc.1 t)
    (fun v => (completeCheck A s0 v ac v).2) (cstep A ac) vs
    (fun a v hm ⟨ia, la⟩ => by
      have ⟨hv, hl⟩ := hvs v hm
      have hle' := A.le_trans hle la
      have ⟨i1, l1, _⟩ := completeCheck_spec A v ac v a.1 s0 hi0 hle' ia ha hv hl
      exact ⟨⟨i1, A.le_trans la l1⟩, by simp only [cstep, check_indep A a.1 s0 ac v hi0 hle' ia hv ha hl]⟩)
    acc ⟨hi, A.le_refl _⟩
  exact ⟨key.1.1, key.1.2, key.2⟩
end generic

theorem sic_none (a : Nat) : storeIsConst a = none ↔ 2 ≤ a := by
  unfold storeIsConst
  by_cases a0 : a = 0 <;> by_cases a1 : a = 1 <;> simp [a0, a1] <;> omega

theorem nodup_map_on {α β : Type} (f : α → β) (l : List α) (h : l.Nodup)
    (inj : ∀ a ∈ l, ∀ b ∈ l, f a = f b → a = b) : (l.map f).Nodup := by
  unfold List.Nodup at *
  rw [List.pairwise_map]
  exact List.Pairwise.imp_of_mem (fun ha hb hne he => hne (inj _ ha _ hb he)) h

theorem refinement_valid (s : Store) (hs : 2 ≤ s.nodes.size) (g v : List Nat)
    (hg : ∀ t ∈ g, t < s.nodes.size) (h : isRefinement v g) : ∀ t ∈ v, t < s.nodes.size := by
  intro t ht
  obtain ⟨i, hi, rfl⟩ := List.getElem_of_mem ht
  have hig : i < g.length := h.1 ▸ hi
  have a := h.2 i hig
  rw [← List.getElem_eq_getD (h := hi), ← List.getElem_eq_getD (h := hig)] at a
  have := hg _ (List.getElem_mem hig)
  split at a <;> omega

/-- the shape of `complete_answers` for candidates that do not come from an iterator (`l` enumerates `E` once, `f` is
injective on `E`); its users are `Bio.rep_answers` and `Bio.tt_sat` (BioProofs.lean) -/
theorem filter_map_answers {α β : Type} {l : List α} {E : α → Prop} {f : α → β} {P : β → Prop}
    {p : α → Bool} (hnd : l.Nodup) (hex : ∀ a, a ∈ l ↔ E a)
    (hinj : ∀ a b, E a → E b → f a = f b → a = b) (hp : ∀ a, E a → (p a = true ↔ P (f a)))
    (hsurj : ∀ b, P b → ∃ a, E a ∧ f a = b) :
    ((l.filter p).map f).Nodup ∧ ∀ b, b ∈ (l.filter p).map f ↔ P b := by
  constructor
  · apply nodup_map_on _ _ (hnd.sublist List.filter_sublist)
    intro a ha b hb he
    exact hinj a b ((hex a).mp (List.mem_filter.mp ha).1) ((hex b).mp (List.mem_filter.mp hb).1) he
  · intro b
    rw [List.mem_map]
    constructor
    · rintro ⟨a, ha, rfl⟩
      have ⟨m, c⟩ := List.mem_filter.mp ha
      exact (hp a ((hex a).mp m)).mp c
    · intro hb
      obtain ⟨a, ea, rfl⟩ := hsurj b hb
      exact ⟨a, List.mem_filter.mpr ⟨(hex a).mpr ea, (hp a ea).mpr hb⟩, rfl⟩

/-- the decided parts of what the three-valued iterator may put in place of an entry with decided part `o` -/
def opt3Of : Option Bool → List (Option Bool)
  | some b => [some b]
  | none => [none, some true, some false]

theorem mem_opt3Of {a o : Option Bool} : a ∈ opt3Of o ↔ ∀ b, o = some b → a = some b := by
  cases o with
  | some b => simp [opt3Of]
  | none => cases a with
    | none => simp [opt3Of]
    | some c => cases c <;> simp [opt3Of]

theorem threeValAll_dec (v : List Nat) :
    (threeValAll v).map (fun x => x.map storeIsConst) = List.picks opt3Of (v.map storeIsConst) := by
  rw [threeValAll_eq_picks, List.map_picks, List.picks_map]
  congr 1; funext t
  match t with
  | 0 => rfl
  | 1 => rfl
  | t + 2 => simp [opt3, isTV, storeIsConst, opt3Of, show ¬ t + 2 < 2 by omega]

theorem opt3Of_nodup (o : Option Bool) : (opt3Of o).Nodup := by
  cases o <;> simp [opt3Of]

theorem mem_picks_opt3Of {d w : I3} : w ∈ List.picks opt3Of d ↔ w.length = d.length ∧ Le3 d w := by
  rw [List.mem_picks none none]
  refine and_congr_right fun hl => ⟨fun h i b hd => ?_, fun h i hi => mem_opt3Of.mpr fun b hb => ?_⟩
  · obtain ⟨hi, e⟩ := List.getElem?_eq_some_iff.mp hd
    have := mem_opt3Of.mp (h i hi) b (by simp [List.getD, hd])
    rw [List.getD_eq_getElem?_getD, List.getElem?_eq_getElem (hl ▸ hi)] at this
    rw [List.getElem?_eq_getElem (hl ▸ hi)]; exact congrArg some this
  · have := h i b (by rw [List.getElem?_eq_getElem hi, ← hb]; simp [List.getD, hi])
    simp [List.getD, this]

theorem map_filter_dec {α β : Type} {l : List α} {f : α → β} {p : α → Bool} {Q : β → Prop} [DecidablePred Q]
    (hp : ∀ a ∈ l, (p a = true ↔ Q (f a))) :
    (l.filter p).map f = (l.map f).filter (fun b => decide (Q b)) := by
  rw [List.filter_map]
  exact congrArg _ (List.filter_congr fun a ha =>
    Bool.eq_iff_iff.mpr ((hp a ha).trans decide_eq_true_iff.symm))

/-- for any back-end: `g` carries the least fixpoint and `p` decides "fixpoint of Γ" on the refinements of `g` -/
theorem complete_answers {D : List BoolFn} {g : List Nat} {n : Nat} (gl : g.length = n)
    (glfp : IsLfp D (g.map storeIsConst)) {p : List Nat → Bool}
    (hp : ∀ v, isRefinement v g → (p v = true ↔ Gam D (v.map storeIsConst) = v.map storeIsConst)) :
    (((threeValAll g).filter p).map (fun v => v.map storeIsConst)).Nodup ∧
    (∀ w : I3, w ∈ ((threeValAll g).filter p).map (fun v => v.map storeIsConst) ↔
      (w.length = n ∧ Gam D w = w)) ∧
    ((threeValAll g).filter p).head? = some g := by
  have hex := mem_threeValAll g
  -- the decided parts of the answers: the fixpoints among the vectors above the least one
  have e := map_filter_dec (f := fun v => v.map storeIsConst) (Q := fun w => Gam D w = w)
    fun v m => hp v ((hex v).mp m)
  rw [threeValAll_dec] at e
  refine ⟨?_, fun w => ?_, ?_⟩
  · rw [e]; exact (List.picks_nodup fun o _ => opt3Of_nodup o).sublist List.filter_sublist
  · rw [e, List.mem_filter, mem_picks_opt3Of, List.length_map, gl, decide_eq_true_iff]
    exact ⟨fun ⟨⟨hl, _⟩, hf⟩ => ⟨hl, hf⟩, fun ⟨hl, hf⟩ => ⟨⟨hl, glfp.2 w hf⟩, hf⟩⟩
  · obtain ⟨tl, htl⟩ := threeValAll_head g
    have hgm : isRefinement g g := (hex g).mp (by rw [htl]; exact List.mem_cons_self ..)
    rw [htl, List.filter_cons, if_pos ((hp g hgm).mpr glfp.1)]
    rfl

theorem completeAll_eq (s : Store) (n : Nat) (ac : List Nat) :
    completeAll s n ac =
      let g := groundedLoop StoreRA (n + 1) s ac
      let r := (threeValAll g.2).foldl (cstep StoreRA ac) (g.1, [])
      (r.1, g.2, r.2) := rfl

/-- `Adf::complete` is a filter of the three-valued iterator over the grounded vector, by the test
evaluated in the store after grounding; its loop only extends that store -/
theorem completeAll_spec (s : Store) (n : Nat) (ac : List Nat) (hw : WF s) (hn : ac.length = n)
    (hv : ∀ t ∈ ac, t < s.nodes.size) :
    WF (completeAll s n ac).1 ∧ Ext (groundedLoop StoreRA (n + 1) s ac).1 (completeAll s n ac).1 ∧
    (completeAll s n ac).2.1 = (groundedLoop StoreRA (n + 1) s ac).2 ∧
    (completeAll s n ac).2.2 = (threeValAll (groundedLoop StoreRA (n + 1) s ac).2).filter
      (fun v => (completeCheck StoreRA (groundedLoop StoreRA (n + 1) s ac).1 v ac v).2) := by
  have ⟨gw, gle, gv, gl, _⟩ := grounded_store s n ac hw hn hv
  rw [completeAll_eq]
  dsimp only
  generalize groundedLoop StoreRA (n + 1) s ac = g at gw gle gv gl
  have key := fold_spec StoreRA g.1 ac gw (AllValid.mono StoreRA hv gle) (threeValAll g.2) (g.1, [])
    (fun v hm =>
      have hr := (mem_threeValAll g.2 v).mp hm
      ⟨refinement_valid g.1 gw.len g.2 v gv hr, by rw [hr.1, gl, hn]⟩)
    gw (Ext.refl _)
  exact ⟨key.1, key.2.1, rfl, by simpa using key.2.2⟩

theorem check_grounded_iff (s : Store) (n : Nat) (ac : List Nat) (hw : WF s) (hn : ac.length = n)
    (hv : ∀ t ∈ ac, t < s.nodes.size) (v : List Nat)
    (hr : isRefinement v (groundedLoop StoreRA (n + 1) s ac).2) :
    (completeCheck StoreRA (groundedLoop StoreRA (n + 1) s ac).1 v ac v).2 = true ↔
      Gam (ac.map (eval s)) (v.map storeIsConst) = v.map storeIsConst := by
  have ⟨gw, gle, gv, gl, _⟩ := grounded_store s n ac hw hn hv
  have hD : ac.map (StoreRA.den (groundedLoop StoreRA (n + 1) s ac).1) = ac.map (eval s) :=
    map_den_mono StoreRA hw gle hv
  have := complete_filter_iff StoreRA _ ac v gw (AllValid.mono StoreRA hv gle)
    (refinement_valid _ gw.len _ v gv hr) (by rw [hr.1, gl, hn])
  rw [hD] at this
  exact this

theorem completeAll_exact (s : Store) (n : Nat) (ac : List Nat) (hw : WF s) (hn : ac.length = n)
    (hv : ∀ t ∈ ac, t < s.nodes.size) :
    ((completeAll s n ac).2.2.map (fun v => v.map storeIsConst)).Nodup ∧
    (∀ w : I3, w ∈ (completeAll s n ac).2.2.map (fun v => v.map storeIsConst) ↔
      (w.length = n ∧ Gam (ac.map (eval s)) w = w)) ∧
    (completeAll s n ac).2.2.head? = some (completeAll s n ac).2.1 := by
  have ⟨_, _, _, gl, glfp⟩ := grounded_store s n ac hw hn hv
  have ⟨_, _, e1, e2⟩ := completeAll_spec s n ac hw hn hv
  rw [e1, e2]
  exact complete_answers gl glfp (check_grounded_iff s n ac hw hn hv)

theorem completeAll_store (s : Store) (n : Nat) (ac : List Nat) (hw : WF s) (hn : ac.length = n)
    (hv : ∀ t ∈ ac, t < s.nodes.size) :
    WF (completeAll s n ac).1 ∧ Ext s (completeAll s n ac).1 ∧
    (completeAll s n ac).2.1 = (groundedLoop StoreRA (n + 1) s ac).2 :=
  have ⟨_, gle, _⟩ := grounded_store s n ac hw hn hv
  have ⟨cw, cle, e, _⟩ := completeAll_spec s n ac hw hn hv
  ⟨cw, Ext.trans gle cle, e⟩

end CompleteExact
