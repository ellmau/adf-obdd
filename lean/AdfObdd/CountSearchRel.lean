import AdfObdd.CountSearchK
/-! # Two instances of the counting machine in lock step

`GK.search` run with two parameter sets `P`, `P'` over possibly different store / state / output types but the
same cube type.  If a relation `R` between (store, state) pairs is kept by every step - the pick, the goal value
and the enumerated cube list agree on related pairs, the cube step and the flip step fail alike or lead to related
pairs, the leaves emit outputs with equal observations - then the two searches emit outputs with the same
observations IN THE SAME ORDER (`search_rel`).  The two stores move together along a relation `G` ("from this pair
of stores to that one"); the cube loop revisits the state of the branching decision in later stores, so the laws of
the cube step and of the flip step speak of a pair `s0`, `s0'` in which the decision was made and of any pair
reached from it.  `search_lock` of `CountSearchLock.lean` (same state, two stores that the steps cannot tell apart)
is an instance. -/
namespace GK

variable {S C K O S' C' O' X : Type}

structure RelLaws (P : CParams S C K O) (P' : CParams S' C' K O') (R : S → C → S' → C' → Prop)
    (G : S → S' → S → S' → Prop) (obs : O → X) (obs' : O' → X) : Prop where
  refl : ∀ s s', G s s' s s'
  trans : ∀ s s' s1 s1' s2 s2', G s s' s1 s1' → G s1 s1' s2 s2' → G s s' s2 s2'
  pick : ∀ s c s' c', R s c s' c' → P.pick s c = P'.pick s' c'
  goal : ∀ s c s' c' idx, R s c s' c' → P.pick s c = some idx → P.goal s c idx = P'.goal s' c' idx
  cubes : ∀ s c s' c' idx, R s c s' c' → P.pick s c = some idx →
    P.cubes s c idx (P.goal s c idx) = P'.cubes s' c' idx (P.goal s c idx)
  /-- a cube step taken later, in any pair of stores reached from the pair in which the branching decision was made -/
  cubeStep : ∀ s0 c s0' c' idx s s' cu, R s0 c s0' c' → P.pick s0 c = some idx → G s0 s0' s s' →
    cu ∈ P.cubes s0 c idx (P.goal s0 c idx) →
    G s s' (P.cubeStep s c idx (P.goal s0 c idx) cu).1 (P'.cubeStep s' c' idx (P.goal s0 c idx) cu).1 ∧
    (((P.cubeStep s c idx (P.goal s0 c idx) cu).2 = none ∧ (P'.cubeStep s' c' idx (P.goal s0 c idx) cu).2 = none) ∨
     ∃ d d', (P.cubeStep s c idx (P.goal s0 c idx) cu).2 = some d ∧
       (P'.cubeStep s' c' idx (P.goal s0 c idx) cu).2 = some d' ∧
       R (P.cubeStep s c idx (P.goal s0 c idx) cu).1 d (P'.cubeStep s' c' idx (P.goal s0 c idx) cu).1 d')
  flipStep : ∀ s0 c s0' c' idx s s', R s0 c s0' c' → P.pick s0 c = some idx → G s0 s0' s s' →
    G s s' (P.flipStep s c idx (P.goal s0 c idx)).1 (P'.flipStep s' c' idx (P.goal s0 c idx)).1 ∧
    (((P.flipStep s c idx (P.goal s0 c idx)).2 = none ∧ (P'.flipStep s' c' idx (P.goal s0 c idx)).2 = none) ∨
     ∃ d d', (P.flipStep s c idx (P.goal s0 c idx)).2 = some d ∧ (P'.flipStep s' c' idx (P.goal s0 c idx)).2 = some d' ∧
       R (P.flipStep s c idx (P.goal s0 c idx)).1 d (P'.flipStep s' c' idx (P.goal s0 c idx)).1 d')
  leaf : ∀ s c s' c', R s c s' c' → P.pick s c = none →
    G s s' (P.leaf s c).1 (P'.leaf s' c').1 ∧ (P.leaf s c).2.map obs = (P'.leaf s' c').2.map obs'

variable {P : CParams S C K O} {P' : CParams S' C' K O'} {R : S → C → S' → C' → Prop}
  {G : S → S' → S → S' → Prop} {obs : O → X} {obs' : O' → X}

/-- what two related (sub)searches deliver -/
def RelOut (G : S → S' → S → S' → Prop) (obs : O → X) (obs' : O' → X)
    (s : S) (s' : S') (r : S × List O) (r' : S' × List O') : Prop :=
  G s s' r.1 r'.1 ∧ r.2.map obs = r'.2.map obs'

theorem RelOut.append (hL : RelLaws P P' R G obs obs') {s : S} {s' : S'} {r q : S × List O} {r' q' : S' × List O'}
    (h : RelOut G obs obs' s s' r r') (k : RelOut G obs obs' r.1 r'.1 q q') :
    RelOut G obs obs' s s' (q.1, r.2 ++ q.2) (q'.1, r'.2 ++ q'.2) :=
  ⟨hL.trans _ _ _ _ _ _ h.1 k.1, by rw [List.map_append, List.map_append, h.2, k.2]⟩

theorem branch_rel (hL : RelLaws P P' R G obs obs') {rec : S → C → S × List O} {rec' : S' → C' → S' × List O'}
    (hrec : ∀ s c s' c', R s c s' c' → RelOut G obs obs' s s' (rec s c) (rec' s' c'))
    {s : S} {s' : S'} {r : S × Option C} {r' : S' × Option C'}
    (h : G s s' r.1 r'.1 ∧
      ((r.2 = none ∧ r'.2 = none) ∨ ∃ d d', r.2 = some d ∧ r'.2 = some d' ∧ R r.1 d r'.1 d')) :
    RelOut G obs obs' s s' (branch rec r) (branch rec' r') := by
  obtain ⟨l, ⟨e, e'⟩ | ⟨d, d', e, e', hR⟩⟩ := h
  · simp only [branch, e, e']
    exact ⟨l, rfl⟩
  · simp only [branch, e, e']
    have ⟨a, b⟩ := hrec _ _ _ _ hR
    exact ⟨hL.trans _ _ _ _ _ _ l a, b⟩

theorem cubeLoop_rel (hL : RelLaws P P' R G obs obs') (rec : S → C → S × List O) (rec' : S' → C' → S' × List O')
    (hrec : ∀ s c s' c', R s c s' c' → RelOut G obs obs' s s' (rec s c) (rec' s' c'))
    {s0 : S} {c : C} {s0' : S'} {c' : C'} {idx : Nat} (h0 : R s0 c s0' c') (hp : P.pick s0 c = some idx) :
    ∀ (l : List K) (s : S) (s' : S'), G s0 s0' s s' → (∀ cu ∈ l, cu ∈ P.cubes s0 c idx (P.goal s0 c idx)) →
      RelOut G obs obs' s s' (cubeLoop P rec c idx (P.goal s0 c idx) l s) (cubeLoop P' rec' c' idx (P.goal s0 c idx) l s')
  | [], s, s', _, _ => ⟨hL.refl s s', rfl⟩
  | cu :: cus, s, s', hG, hmem => by
    have here := branch_rel hL hrec (hL.cubeStep s0 c s0' c' idx s s' cu h0 hp hG (hmem cu (List.mem_cons_self ..)))
    have rest := cubeLoop_rel hL rec rec' hrec h0 hp cus _ _ (hL.trans _ _ _ _ _ _ hG here.1)
      (fun cu' h => hmem cu' (List.mem_cons_of_mem _ h))
    simp only [cubeLoop_cons]
    exact here.append hL rest

/-- **lock step of two instances**: related starting points, same fuel ⇒ outputs with the same observations in the
same order (and the stores moved together) -/
theorem search_rel (hL : RelLaws P P' R G obs obs') : ∀ (fuel : Nat) (s : S) (c : C) (s' : S') (c' : C'),
    R s c s' c' → RelOut G obs obs' s s' (search P fuel s c) (search P' fuel s' c') := by
  intro fuel
  induction fuel with
  | zero => intro s c s' c' _; exact ⟨hL.refl s s', rfl⟩
  | succ f ih =>
    intro s c s' c' hR
    have hp := hL.pick s c s' c' hR
    cases hpk : P.pick s c with
    | none =>
      rw [search_succ_none hpk, search_succ_none (hp.symm.trans hpk)]
      exact hL.leaf s c s' c' hR hpk
    | some idx =>
      simp only [search_succ_some hpk, search_succ_some (hp.symm.trans hpk), ← hL.goal s c s' c' idx hR hpk,
        ← hL.cubes s c s' c' idx hR hpk]
      have cubes := cubeLoop_rel hL (search P f) (search P' f) ih hR hpk
        (P.cubes s c idx (P.goal s c idx)) s s' (hL.refl s s') (fun _ h => h)
      exact cubes.append hL (branch_rel hL ih (hL.flipStep s c s' c' idx _ _ hR hpk cubes.1))

end GK
