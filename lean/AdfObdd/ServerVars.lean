import AdfObdd.ServerGraph
import AdfObdd.ServerAnswers
import AdfObdd.StoreCanon
/-! # C16 — the graph builder's well-formedness assumptions are consequences

`GraphHyp names ns ac` (what `graph_reachable`, `graph_edges`, `graph_walk` assume) has four parts:
a well-formed table, roots inside the table, distinct names, and every inner node reachable from a root
testing a variable that the ordering names. The last one follows from the FUNCTIONS the roots denote
(`graphHyp_of_detBy`): in a well-formed (ordered, reduced, duplicate-free) table a reachable node tests a
variable its root's function really depends on. So every stored framework that denotes conditions over
its named statements satisfies `GraphHyp` (`Denotes.graphHyp`) - in particular whatever naive parsing
stores (`parseNaive_graphHyp`; the names the parser collects are distinct: `parseText_nodup`). -/
namespace ServerAdf
open ServerM

theorem parseText_nodup (code : String) (p : Parsed) (h : parseText code = some p) : p.names.Nodup := by
  unfold parseText at h
  cases hf : ParserM.parseFile (code.length + 1) code.toList with
  | none => rw [hf] at h; cases h
  | some facts =>
    rw [hf] at h
    simp only [Option.some.injEq] at h
    subst h
    refine List.foldlRecOn facts _ (motive := fun p : Parsed => p.names.Nodup) List.nodup_nil fun p0 h0 f _ => ?_
    cases f with
    | ac l f => exact h0
    | stmt l =>
      simp only
      split
      · exact h0
      · rename_i hc
        rw [List.nodup_append]
        refine ⟨h0, by simp, ?_⟩
        intro a ha b hb
        simp only [List.mem_singleton] at hb
        subst hb
        intro e; subst e
        exact hc (by simpa using ha)

theorem upd_agree {n : Nat} {σ τ : Asg} (h : ∀ x, x < n → σ x = τ x) (v : Nat) (b : Bool) :
    ∀ x, x < n → upd σ v b x = upd τ v b x := by
  intro x hx; simp only [upd]; split
  · rfl
  · exact h x hx

theorem reachable_detBy {n : Nat} {ns : Array Node} {ac : List Nat} (w : TableWF ns)
    (hr : ∀ r ∈ ac, r < ns.size) (hdet : ∀ r ∈ ac, TT.DetBy n (eval ⟨ns, {}, {}, {}⟩ r)) :
    ∀ x, GraphM.Reachable (gnodes ns) ac x → x < ns.size ∧ TT.DetBy n (eval ⟨ns, {}, {}, {}⟩ x) := by
  intro x hx
  induction hx with
  | root r hr' => exact ⟨hr r hr', hdet r hr'⟩
  | step i c _ hc ih =>
    obtain ⟨hi, hd⟩ := ih
    obtain ⟨t, ht⟩ := get_of_lt hi
    simp only [GraphM.children, gnodes_get, ht, Option.map_some, List.mem_cons, List.not_mem_nil, or_false] at hc
    by_cases h2 : 2 ≤ i
    · have ⟨_, hlo, hhi, _, _, _⟩ := w.inner i t h2 ht
      rcases hc with rfl | rfl
      · refine ⟨by omega, fun σ τ hst => ?_⟩
        rw [Tab.eval_lo ⟨ns, {}, {}, {}⟩ w i t h2 ht σ, Tab.eval_lo ⟨ns, {}, {}, {}⟩ w i t h2 ht τ]
        exact hd _ _ (upd_agree hst _ _)
      · refine ⟨by omega, fun σ τ hst => ?_⟩
        rw [Tab.eval_hi ⟨ns, {}, {}, {}⟩ w i t h2 ht σ, Tab.eval_hi ⟨ns, {}, {}, {}⟩ w i t h2 ht τ]
        exact hd _ _ (upd_agree hst _ _)
    · -- a terminal is its own child
      obtain rfl : c = i := by
        rcases (by omega : i = 0 ∨ i = 1) with rfl | rfl
        · obtain rfl := Option.some.inj (ht.symm.trans w.bot); exact hc.elim id id
        · obtain rfl := Option.some.inj (ht.symm.trans w.top); exact hc.elim id id
      exact ⟨hi, hd⟩

theorem graphHyp_of_detBy {names : List String} {ns : Array Node} {ac : List Nat} (w : TableWF ns)
    (hnd : names.Nodup) (hr : ∀ r ∈ ac, r < ns.size)
    (hdet : ∀ r ∈ ac, TT.DetBy names.length (eval ⟨ns, {}, {}, {}⟩ r)) : GraphHyp names ns ac := by
  refine ⟨w, hnd, ?_, hr⟩
  intro i t h2 hreach ht
  obtain ⟨hi, hd⟩ := reachable_detBy w hr hdet i hreach
  have ⟨_, hlo, hhi, hne, _, _⟩ := w.inner i t h2 ht
  apply Classical.byContradiction
  intro hge
  apply hne
  apply (Tab.canonical ⟨ns, {}, {}, {}⟩ w t.lo t.hi (by show t.lo < ns.size; omega) (by show t.hi < ns.size; omega)).mp
  intro σ
  rw [Tab.eval_lo ⟨ns, {}, {}, {}⟩ w i t h2 ht σ, Tab.eval_hi ⟨ns, {}, {}, {}⟩ w i t h2 ht σ]
  apply hd
  intro x hx
  have : x ≠ t.var := by omega
  simp [upd, this]

theorem _root_.SrvA.Denotes.graphHyp {a : SAdf} {n : Nat} {fms : List Fm} (hd : SrvA.Denotes a n fms)
    (hnd : a.names.Nodup) (hlen : a.names.length = n) : GraphHyp a.names a.nodes a.ac := by
  refine graphHyp_of_detBy hd.table hnd hd.roots (fun t ht => ?_)
  obtain ⟨i, hi, rfl⟩ := List.getElem_of_mem ht
  have hi' : i < fms.length := by rw [hd.flen, ← hd.len]; exact hi
  have hev : eval ⟨a.nodes, {}, {}, {}⟩ a.ac[i] = fms[i].sem :=
    funext (hd.den i _ _ (List.getElem?_eq_getElem hi) (List.getElem?_eq_getElem hi')).2
  rw [hev, hlen]
  exact NConc.sem_supp _ (hd.atoms _ (List.getElem_mem hi'))

/-- **the graph builder's assumptions hold for every framework that came from an accepted text**
(naive parsing; `names.length ≤ VBOT` = fewer than 2^64 − 2 statements, the library's own limit) -/
theorem parseNaive_graphHyp (key code : String) (a : SAdf) (r : SRes) (h : parseNaive key code = .ok (a, r))
    (hn : a.names.length ≤ VBOT) : GraphHyp a.names a.nodes a.ac := by
  obtain ⟨fms, _, hd⟩ := SrvA.parseNaive_denotes key code a r h hn
  obtain ⟨p, l, hr, rfl⟩ := SrvA.parseNaive_ok h
  exact hd.graphHyp (parseText_nodup code p (SrvA.resolved_ok hr).1) rfl

end ServerAdf
#print axioms ServerAdf.parseNaive_graphHyp
#print axioms ServerAdf.graphHyp_of_detBy
