import AdfObdd.StoreCanon
import AdfObdd.FeatureVariants
/-! `mkNode` (unique table) and `restrict` (memo table) on the store. `restrict` is treated as
    `restrictS sc`, the body with an early return for a sound oracle `sc` (`FeatureVariants.lean`);
    `restrictF` equals `restrictS scNone` (theorem `restrictS_none`) and its theorems are the instances:
    `restrictS_step` (what one call can do), `restrictS_spec` (the specification, and: a represented result
    allocates nothing), `restrictS_lock` (handle and node table depend on the node table alone). -/

theorem mkNode_same (s : Store) (v lo : Nat) : mkNode s v lo lo = (s, lo) := by
  unfold mkNode; rw [if_pos rfl]

theorem mkNode_found {s : Store} (w : WF s) (v lo hi r : Nat) (hne : lo ≠ hi) (hr : 2 ≤ r)
    (hnode : s.nodes[r]? = some ⟨v, lo, hi⟩) : mkNode s v lo hi = (s, r) := by
  unfold mkNode
  rw [if_neg hne, (w.uniqOK _ r).mpr ⟨hr, hnode⟩]

theorem mkNode_fresh (s : Store) (v lo hi : Nat) (hne : lo ≠ hi)
    (hf : s.uniq[(⟨v, lo, hi⟩ : Node)]? = none) :
    mkNode s v lo hi =
      ({ s with nodes := s.nodes.push ⟨v, lo, hi⟩, uniq := s.uniq.insert ⟨v, lo, hi⟩ s.nodes.size },
       s.nodes.size) := by
  unfold mkNode; rw [if_neg hne, hf]

/-- the memo tables are untouched: their facts are about old handles, which evaluate as before -/
theorem WF_push (s : Store) (w : WF s) (v lo hi : Nat)
    (hlo : lo < s.nodes.size) (hhi : hi < s.nodes.size) (hv : v < VBOT) (hne : lo ≠ hi)
    (hvlo : v < topVar s lo) (hvhi : v < topVar s hi) (hfresh : s.uniq[(⟨v, lo, hi⟩ : Node)]? = none) :
    let s' : Store := { s with nodes := s.nodes.push ⟨v, lo, hi⟩, uniq := s.uniq.insert ⟨v, lo, hi⟩ s.nodes.size }
    WF s' ∧ Ext s s' := by
  intro s'
  have old : ∀ i, i < s.nodes.size → s'.nodes[i]? = s.nodes[i]? := fun i hi => getElem?_push_lt _ hi
  have hext : Ext s s' :=
    ⟨by rw [Array.size_push]; exact Nat.le_succ _, fun i n hn => by rw [old i (lt_of_get hn)]; exact hn⟩
  have evalold : ∀ t σ, t < s.nodes.size → eval s' t σ = eval s t σ := fun t σ ht => eval_ext w hext t σ ht
  have tvold : ∀ t, t < s.nodes.size → topVar s' t = topVar s t := topVar_ext hext
  refine ⟨⟨Nat.le_trans w.len hext.1, (old 0 (zero_lt s w)).trans w.bot, (old 1 w.len).trans w.top, ?_, ?_, ?_, ?_⟩, hext⟩
  · intro i n hi2 hn
    rcases getElem?_push_some hn with ⟨hlt, hn'⟩ | ⟨rfl, rfl⟩
    · have ⟨a, b, c, d, e, f⟩ := w.inner i n hi2 hn'
      exact ⟨a, b, c, d, fun m hm => e m (by rw [← old _ (Nat.lt_trans b hlt)]; exact hm),
        fun m hm => f m (by rw [← old _ (Nat.lt_trans c hlt)]; exact hm)⟩
    · refine ⟨hv, hlo, hhi, hne, fun m hm => ?_, fun m hm => ?_⟩
      · rw [old _ hlo] at hm; rw [← topVar_of_get hm]; exact hvlo
      · rw [old _ hhi] at hm; rw [← topVar_of_get hm]; exact hvhi
  · intro n t
    rw [getElem?_insert_some]
    constructor
    · rintro (⟨rfl, rfl⟩ | ⟨_, h⟩)
      · exact ⟨w.len, Array.getElem?_push_size⟩
      · have ⟨a, b⟩ := (w.uniqOK n t).mp h
        exact ⟨a, by rw [old t (lt_of_get b)]; exact b⟩
    · intro ⟨ht2, hget⟩
      rcases getElem?_push_some hget with ⟨_, hn'⟩ | ⟨rfl, rfl⟩
      · have hu := (w.uniqOK n t).mpr ⟨ht2, hn'⟩
        refine Or.inr ⟨fun e => ?_, hu⟩
        rw [← e, hfresh] at hu; cases hu
      · exact Or.inl ⟨rfl, rfl⟩
  · intro t v' b r h
    have ⟨a, b', c, d⟩ := w.resOK t v' b r h
    refine ⟨hext.lt a, hext.lt b', by rw [tvold t a, tvold r b']; exact c, fun σ => ?_⟩
    rw [evalold r σ b', evalold t _ a]; exact d σ
  · intro i t e r h
    have ⟨a, b, c, d, g, f⟩ := w.iteOK i t e r h
    refine ⟨hext.lt a, hext.lt b, hext.lt c, hext.lt d, ?_, fun σ => ?_⟩
    · rw [minVar_ext hext a b c, tvold r d]; exact g
    · rw [evalold r σ d, evalold i σ a, evalold t σ b, evalold e σ c]; exact f σ

theorem mkNode_spec (s : Store) (w : WF s) (v lo hi : Nat)
    (hlo : lo < s.nodes.size) (hhi : hi < s.nodes.size) (hv : v < VBOT)
    (hvlo : v < topVar s lo) (hvhi : v < topVar s hi) :
    WF (mkNode s v lo hi).1 ∧ Ext s (mkNode s v lo hi).1 ∧
    (mkNode s v lo hi).2 < (mkNode s v lo hi).1.nodes.size ∧
    v ≤ topVar (mkNode s v lo hi).1 (mkNode s v lo hi).2 ∧
    (∀ σ, eval (mkNode s v lo hi).1 (mkNode s v lo hi).2 σ = if σ v then eval s hi σ else eval s lo σ) := by
  fun_cases mkNode s v lo hi with
  | case1 hne =>
    subst hne
    exact ⟨w, Ext.refl _, hlo, Nat.le_of_lt hvlo, fun σ => by split <;> rfl⟩
  | case2 _ t hl =>
    have ⟨ht2, hget⟩ := (w.uniqOK _ t).mp hl
    exact ⟨w, Ext.refl _, lt_of_get hget, Nat.le_of_eq (topVar_of_get hget).symm,
      fun σ => eval_node s w t _ ht2 hget σ⟩
  | case3 hne hl =>
    have ⟨w', he⟩ := WF_push s w v lo hi hlo hhi hv hne hvlo hvhi hl
    have hget : (s.nodes.push ⟨v, lo, hi⟩)[s.nodes.size]? = some ⟨v, lo, hi⟩ := Array.getElem?_push_size
    refine ⟨w', he, lt_of_get hget, Nat.le_of_eq (topVar_of_get (n := ⟨v, lo, hi⟩) hget).symm, fun σ => ?_⟩
    rw [eval_node _ w' s.nodes.size ⟨v, lo, hi⟩ w.len hget]
    simp only
    rw [eval_ext w he hi σ hhi, eval_ext w he lo σ hlo]

theorem mkNode_memo (s : Store) (v lo hi : Nat) :
    (mkNode s v lo hi).1.resC = s.resC ∧ (mkNode s v lo hi).1.iteC = s.iteC := by
  fun_cases mkNode s v lo hi with
  | _ => exact ⟨rfl, rfl⟩

theorem MemoT.uniq_congr {s s' : Store} (w : WF s) (w' : WF s') (hn : s'.nodes = s.nodes) (n : Node) :
    s'.uniq[n]? = s.uniq[n]? := by
  apply Option.ext
  intro t
  rw [w'.uniqOK n t, w.uniqOK n t, hn]

theorem MemoT.mkNode_lock {s s' : Store} (w : WF s) (w' : WF s') (hn : s'.nodes = s.nodes) (v lo hi : Nat) :
    (mkNode s' v lo hi).1.nodes = (mkNode s v lo hi).1.nodes ∧ (mkNode s' v lo hi).2 = (mkNode s v lo hi).2 := by
  unfold mkNode
  by_cases h : lo = hi
  · simp only [if_pos h]; exact ⟨hn, trivial⟩
  · simp only [if_neg h]
    rw [uniq_congr w w' hn]
    cases s.uniq[(⟨v, lo, hi⟩ : Node)]? with
    | some t => exact ⟨hn, rfl⟩
    | none => simp only [hn]; exact ⟨trivial, trivial⟩

theorem WF_insert_res (s : Store) (w : WF s) (t v : Nat) (b : Bool) (r : Nat)
    (ht : t < s.nodes.size) (hr : r < s.nodes.size) (htv : topVar s t ≤ topVar s r)
    (hev : ∀ σ, eval s r σ = eval s t (upd σ v b)) :
    WF { s with resC := s.resC.insert (t, v, b) r } ∧ Ext s { s with resC := s.resC.insert (t, v, b) r } := by
  refine ⟨⟨w.len, w.bot, w.top, w.inner, w.uniqOK, ?_, w.iteOK⟩, Ext.refl _⟩
  intro t' v' b' r' h
  rcases (getElem?_insert_some _ _ _ _ _).mp h with ⟨hk, rfl⟩ | ⟨_, h⟩
  · cases hk; exact ⟨ht, hr, htv, hev⟩
  · exact w.resOK t' v' b' r' h

def restrictF : Nat → Store → Nat → Nat → Bool → Store × Nat
  | 0, s, t, _, _ => (s, t)
  | fuel+1, s, t, v, b =>
    match s.resC[(t, v, b)]? with
    | some r => (s, r)
    | none =>
    match s.nodes[t]? with
    | none => (s, t)
    | some n =>
      if n.var > v ∨ n.var ≥ VBOT then (s, t)
      else if n.var < v then
        let r1 := restrictF fuel s n.lo v b
        let r2 := restrictF fuel r1.1 n.hi v b
        let r3 := mkNode r2.1 n.var r1.2 r2.2
        ({ r3.1 with resC := r3.1.resC.insert (t, v, b) r3.2 }, r3.2)
      else
        let r := if b then restrictF fuel s n.hi v b else restrictF fuel s n.lo v b
        ({ r.1 with resC := r.1.resC.insert (t, v, b) r.2 }, r.2)

/-- insertion into the restrict memo of a store that is taken apart first (in place when compiled) -/
def Store.insRes (s : Store) (k : Nat × Nat × Bool) (r : Nat) : Store :=
  match s with
  | ⟨nodes, uniq, resC, iteC⟩ => ⟨nodes, uniq, resC.insert k r, iteC⟩

theorem Store.insRes_eq (s : Store) (k : Nat × Nat × Bool) (r : Nat) :
    s.insRes k r = { s with resC := s.resC.insert k r } := rfl

/-- `restrictF` with every intermediate pair taken apart at once, so that the compiled code holds a
single reference to the store (`@[csimp]`-substituted; theorems speak about `restrictF`) -/
def restrictL : Nat → Store → Nat → Nat → Bool → Store × Nat
  | 0, s, t, _, _ => (s, t)
  | fuel+1, s, t, v, b =>
    match s.resC[(t, v, b)]? with
    | some r => (s, r)
    | none =>
    match s.nodes[t]? with
    | none => (s, t)
    | some n =>
      if n.var > v ∨ n.var ≥ VBOT then (s, t)
      else if n.var < v then
        match restrictL fuel s n.lo v b with
        | (s1, a1) =>
        match restrictL fuel s1 n.hi v b with
        | (s2, a2) =>
        match mkNodeL s2 n.var a1 a2 with
        | (s3, r) => (s3.insRes (t, v, b) r, r)
      else
        match (if b then restrictL fuel s n.hi v b else restrictL fuel s n.lo v b) with
        | (s1, r) => (s1.insRes (t, v, b) r, r)

theorem restrictF_eq_restrictL : ∀ (fuel : Nat) (s : Store) (t v : Nat) (b : Bool),
    restrictF fuel s t v b = restrictL fuel s t v b := by
  intro fuel
  induction fuel with
  | zero => intros; rfl
  | succ f ih =>
    intro s t v b
    unfold restrictF restrictL
    simp only [← ih, ← mkNode_eq_mkNodeL, Store.insRes_eq]

@[csimp] theorem restrictF_eq_restrictL' : @restrictF = @restrictL := by
  funext fuel s t v b; exact restrictF_eq_restrictL fuel s t v b

def withRes (k : Nat × Nat × Bool) (R : Store × Nat) : Store × Nat :=
  ({ R.1 with resC := R.1.resC.insert k R.2 }, R.2)

theorem withRes_nodes (k : Nat × Nat × Bool) (R : Store × Nat) : (withRes k R).1.nodes = R.1.nodes := rfl
theorem withRes_snd (k : Nat × Nat × Bool) (R : Store × Nat) : (withRes k R).2 = R.2 := rfl

def ScSound (sc : Store → Nat → Nat → Bool) : Prop :=
  ∀ s, WF s → ∀ t v, t < s.nodes.size → sc s t v = true → ∀ σ b, eval s t (upd σ v b) = eval s t σ

theorem scNone_sound : ScSound scNone := fun _ _ _ _ _ h => Bool.noConfusion h

theorem restrictS_none : ∀ (fuel : Nat) (s : Store) (t v : Nat) (b : Bool),
    restrictS scNone fuel s t v b = restrictF fuel s t v b := by
  intro fuel
  induction fuel with
  | zero => intros; rfl
  | succ f ih =>
    intro s t v b
    rw [restrictS, restrictF]
    simp only [ih, scNone, Bool.false_eq_true, if_false]
    rfl

section
variable (sc : Store → Nat → Nat → Bool) (f : Nat) {s : Store} {t v : Nat} {b : Bool} {n : Node}

theorem restrictS_hit {r : Nat} (hm : s.resC[(t, v, b)]? = some r) : restrictS sc (f+1) s t v b = (s, r) := by
  rw [restrictS, hm]

theorem restrictS_skip (hm : s.resC[(t, v, b)]? = none) (hn : s.nodes[t]? = some n)
    (h : sc s t v = true ∨ n.var > v ∨ n.var ≥ VBOT) : restrictS sc (f+1) s t v b = (s, t) := by
  rw [restrictS, hm]
  simp only [hn]
  by_cases hs : sc s t v = true
  · rw [if_pos hs]
  · rw [if_neg hs, if_pos (h.resolve_left hs)]

theorem restrictS_rec (hm : s.resC[(t, v, b)]? = none) (hn : s.nodes[t]? = some n)
    (h : ¬ (sc s t v = true ∨ n.var > v ∨ n.var ≥ VBOT)) :
    restrictS sc (f+1) s t v b = withRes (t, v, b)
      (if n.var < v then
        mkNode (restrictS sc f (restrictS sc f s n.lo v b).1 n.hi v b).1 n.var (restrictS sc f s n.lo v b).2
          (restrictS sc f (restrictS sc f s n.lo v b).1 n.hi v b).2
       else restrictS sc f s (n.child b) v b) := by
  rw [restrictS, hm]
  simp only [hn]
  rw [if_neg (fun c => h (Or.inl c)), if_neg (fun c => h (Or.inr c))]
  by_cases hlt : n.var < v
  · rw [if_pos hlt, if_pos hlt]; rfl
  · rw [if_neg hlt, if_neg hlt]; cases b <;> rfl

end

/-- outside the node table the call returns its argument (the Rust would panic there) -/
theorem restrictS_oob (sc : Store → Nat → Nat → Bool) {s : Store} (w : WF s) {t : Nat} (v : Nat) (b : Bool)
    (h : s.nodes.size ≤ t) : ∀ fuel, restrictS sc fuel s t v b = (s, t)
  | 0 => rfl
  | f+1 => by
    rw [restrictS]
    cases hm : s.resC[(t, v, b)]? with
    | some r => exact absurd (w.resOK t v b r hm).1 (Nat.not_lt.mpr h)
    | none => simp only [Array.getElem?_eq_none h]

theorem restrictS_iteC (sc : Store → Nat → Nat → Bool) (fuel : Nat) (s : Store) (t v : Nat) (b : Bool) :
    (restrictS sc fuel s t v b).1.iteC = s.iteC := by
  fun_induction restrictS sc fuel s t v b with
  | case6 _ _ _ _ _ _ _ _ _ _ _ r1 r2 r3 ih1 ih2 =>
    -- a node on the results for the two children
    show r3.1.iteC = _
    rw [(mkNode_memo _ _ _ _).2, ih2, ih1]
  | case7 _ _ _ _ b _ _ _ _ _ _ r ih1 ih0 =>
    -- the result for the child on branch `b`
    show r.1.iteC = _
    cases b
    · exact ih0
    · exact ih1
  | _ => rfl

/-- what one call can do: return at once (memo hit, shortcut, variable above the diagram, terminal) a handle that
represents the cofactor in the unchanged store, or recurse at an inner node whose variable is not above `v` -/
theorem restrictS_step {sc : Store → Nat → Nat → Bool} (hsc : ScSound sc) (f : Nat) {s : Store} (w : WF s)
    {t : Nat} (v : Nat) (b : Bool) (ht : t < s.nodes.size) :
    (∃ x, restrictS sc (f+1) s t v b = (s, x) ∧ x < s.nodes.size ∧ topVar s t ≤ topVar s x ∧
      ∀ σ, eval s x σ = eval s t (upd σ v b)) ∨
    (∃ n, s.nodes[t]? = some n ∧ 2 ≤ t ∧ n.var ≤ v ∧
      restrictS sc (f+1) s t v b = withRes (t, v, b)
        (if n.var < v then
          mkNode (restrictS sc f (restrictS sc f s n.lo v b).1 n.hi v b).1 n.var (restrictS sc f s n.lo v b).2
            (restrictS sc f (restrictS sc f s n.lo v b).1 n.hi v b).2
         else restrictS sc f s (n.child b) v b)) := by
  cases hm : s.resC[(t, v, b)]? with
  | some r =>
    have ⟨_, a, c, d⟩ := w.resOK t v b r hm
    exact Or.inl ⟨r, restrictS_hit sc f hm, a, c, d⟩
  | none =>
    obtain ⟨n, hn⟩ := get_of_lt ht
    by_cases hc : sc s t v = true ∨ n.var > v ∨ n.var ≥ VBOT
    · refine Or.inl ⟨t, restrictS_skip sc f hm hn hc, ht, Nat.le_refl _, fun σ => Eq.symm ?_⟩
      -- the diagram itself is returned: in each of the three cases its function does not depend on `v`
      rcases hc with h | h | h
      · exact hsc s w t v ht h σ b
      · exact eval_upd_of_lt s w t ht v b (by rw [topVar_of_get hn]; exact h) σ
      · have ht2 : t < 2 := Nat.lt_of_not_le fun h2 =>
          Nat.lt_irrefl _ (Nat.lt_of_lt_of_le (w.inner t n h2 hn).1 h)
        rw [eval_lt2 s t ht2, eval_lt2 s t ht2]
    · exact Or.inr ⟨n, hn, inner_of_not_const w hn (fun h => hc (Or.inr (Or.inr h))),
        Nat.le_of_not_lt fun h => hc (Or.inr (Or.inl h)), restrictS_rec sc f hm hn hc⟩

theorem withRes_spec {s : Store} (w : WF s) {t v : Nat} {b : Bool} (ht : t < s.nodes.size) {R : Store × Nat}
    (h : WF R.1 ∧ Ext s R.1 ∧ R.2 < R.1.nodes.size ∧ topVar s t ≤ topVar R.1 R.2 ∧
      ∀ σ, eval R.1 R.2 σ = eval s t (upd σ v b)) :
    WF (withRes (t, v, b) R).1 ∧ Ext s (withRes (t, v, b) R).1 ∧
    (withRes (t, v, b) R).2 < (withRes (t, v, b) R).1.nodes.size ∧
    topVar s t ≤ topVar (withRes (t, v, b) R).1 (withRes (t, v, b) R).2 ∧
    ∀ σ, eval (withRes (t, v, b) R).1 (withRes (t, v, b) R).2 σ = eval s t (upd σ v b) := by
  obtain ⟨wR, e, l, tv, ev⟩ := h
  have ⟨w', e'⟩ := WF_insert_res R.1 wR t v b R.2 (e.lt ht) l
    (by rw [topVar_ext e t ht]; exact tv) (fun σ => by rw [ev σ, eval_ext w e t _ ht])
  exact ⟨w', e.trans e', l, tv, ev⟩

/-- `c` is the handle of the cofactor of `x` along `mv := b` for `mv ≤ topVar x`: `x` itself, or its child on branch `b` -/
structure IsCof (s : Store) (x mv : Nat) (b : Bool) (c : Nat) : Prop where
  le : c ≤ x
  lt : mv = topVar s x → c < x
  above : mv < topVar s c
  ev : ∀ σ, eval s c σ = eval s x (upd σ mv b)

theorem IsCof.congr {s a : Store} (hn : a.nodes = s.nodes) {x mv c : Nat} {b : Bool} (h : IsCof a x mv b c) :
    IsCof s x mv b c := by
  have ⟨h1, h2, h3, h4⟩ := h
  simp only [topVar_congr hn, eval_congr hn] at h2 h3 h4
  exact ⟨h1, h2, h3, h4⟩

theorem IsCof.unique {s s' : Store} (w : WF s) (hn : s'.nodes = s.nodes) {x mv c c' : Nat} {b : Bool}
    (hx : x < s.nodes.size) (h : IsCof s x mv b c) (h' : IsCof s' x mv b c') : c' = c :=
  (canonical s w _ _ (Nat.lt_of_le_of_lt h'.le hx) (Nat.lt_of_le_of_lt h.le hx)).mp
    fun σ => by rw [← eval_congr hn, h'.ev, eval_congr hn, h.ev]

namespace MemoT

/-- the top variable is the least essential variable -/
theorem le_topVar_of_indep {s : Store} (w : WF s) (r x : Nat) (hr : r < s.nodes.size) (hx : x ≤ VBOT)
    (h : ∀ y, y < x → ∀ σ b, eval s r (upd σ y b) = eval s r σ) : x ≤ topVar s r := by
  refine Nat.le_of_not_lt fun hlt => ?_
  obtain ⟨m, hm⟩ := get_of_lt hr
  rw [topVar_of_get hm] at hlt
  have hr2 : 2 ≤ r := inner_of_not_const w hm (by omega)
  exact Tab.inner_depends s w.table hr2 hm fun σ => by rw [h m.var hlt, h m.var hlt]

theorem cofRep {s : Store} (w : WF s) (r x : Nat) (hr : r < s.nodes.size) (hx : x ≤ topVar s r)
    (hxb : x < VBOT) :
    ∃ lo hi, IsCof s r x false lo ∧ IsCof s r x true hi ∧
      (lo = hi → lo = r) ∧ (lo ≠ hi → 2 ≤ r ∧ s.nodes[r]? = some ⟨x, lo, hi⟩) := by
  rcases Nat.lt_or_ge x (topVar s r) with hlt | hge
  · have c : ∀ b, IsCof s r x b r := fun b => ⟨Nat.le_refl _, fun e => absurd e (Nat.ne_of_lt hlt), hlt,
      fun σ => (eval_upd_of_lt s w r hr x b hlt σ).symm⟩
    exact ⟨r, r, c false, c true, fun _ => rfl, fun h => absurd rfl h⟩
  · obtain ⟨m, hm⟩ := get_of_lt hr
    have hxm : x = m.var := by rw [← topVar_of_get hm]; exact Nat.le_antisymm hx hge
    subst hxm
    have hr2 : 2 ≤ r := inner_of_not_const w hm (Nat.not_le_of_lt hxb)
    have c : ∀ b, IsCof s r m.var b (m.child b) := fun b => ⟨Nat.le_of_lt (Tab.child_lt s w.table hr2 hm b),
      fun _ => Tab.child_lt s w.table hr2 hm b, Tab.lt_topVar_child s w.table hr2 hm b, Tab.eval_child s w.table r m hr2 hm b⟩
    exact ⟨m.lo, m.hi, c false, c true, fun h => absurd h (w.inner r m hr2 hm).2.2.2.1, fun _ => ⟨hr2, hm⟩⟩

/-- a handle whose two cofactors along `x` are `lo`, `hi` is what `mkNode x lo hi` finds -/
theorem mkNode_cof {s s0 : Store} (w : WF s) (hn : s.nodes = s0.nodes) (x lo hi r : Nat)
    (h1 : lo = hi → lo = r) (h2 : lo ≠ hi → 2 ≤ r ∧ s0.nodes[r]? = some ⟨x, lo, hi⟩) :
    mkNode s x lo hi = (s, r) := by
  by_cases h : lo = hi
  · rw [← h1 h, ← h, mkNode_same]
  · have ⟨a, b⟩ := h2 h
    exact mkNode_found w x lo hi r h a (by rw [hn]; exact b)

end MemoT

/-- the specification, and: a cofactor that a handle `r` of the store already represents is returned as `r`
without allocating -/
theorem restrictS_spec {sc : Store → Nat → Nat → Bool} (hsc : ScSound sc) :
    ∀ (fuel : Nat) (s : Store) (t v : Nat) (b : Bool), WF s → t < s.nodes.size → t < fuel →
    (WF (restrictS sc fuel s t v b).1 ∧ Ext s (restrictS sc fuel s t v b).1 ∧
     (restrictS sc fuel s t v b).2 < (restrictS sc fuel s t v b).1.nodes.size ∧
     topVar s t ≤ topVar (restrictS sc fuel s t v b).1 (restrictS sc fuel s t v b).2 ∧
     (∀ σ, eval (restrictS sc fuel s t v b).1 (restrictS sc fuel s t v b).2 σ = eval s t (upd σ v b))) ∧
    ∀ r, r < s.nodes.size → (∀ σ, eval s r σ = eval s t (upd σ v b)) →
      (restrictS sc fuel s t v b).1.nodes = s.nodes ∧ (restrictS sc fuel s t v b).2 = r := by
  intro fuel
  induction fuel with
  | zero => intro s t v b _ _ h; exact absurd h (Nat.not_lt_zero _)
  | succ f ih =>
    intro s t v b w ht hf
    rcases restrictS_step hsc f w v b ht with ⟨x, hx, lx, tx, ex⟩ | ⟨n, hn, ht2, hle, hx⟩ <;> rw [hx]
    · exact ⟨⟨w, Ext.refl _, lx, tx, ex⟩,
        fun r hr hev => ⟨rfl, (canonical s w x r lx hr).mp fun σ => by rw [ex, hev]⟩⟩
    have htv := topVar_of_get hn
    have hvb := (w.inner t n ht2 hn).1
    have hcf : ∀ c, n.child c < f := fun c => Nat.lt_of_lt_of_le (Tab.child_lt s w.table ht2 hn c) (Nat.le_of_lt_succ hf)
    have hcs : ∀ c, n.child c < s.nodes.size := fun c => Nat.lt_trans (Tab.child_lt s w.table ht2 hn c) ht
    -- the memo entry that ends the call: sound by the first half, and it touches neither handle nor node table
    refine And.imp_left (withRes_spec w ht) ?_
    by_cases hc2 : n.var < v
    · -- both children, then a node on top: its variable is below both results
      rw [if_pos hc2]
      obtain ⟨⟨w1, e1, l1, tv1, ev1⟩, rep1⟩ := ih s n.lo v b w (hcs false) (hcf false)
      generalize restrictS sc f s n.lo v b = R1 at *
      obtain ⟨⟨w2, e2, l2, tv2, ev2⟩, rep2⟩ := ih R1.1 n.hi v b w1 (e1.lt (hcs true)) (hcf true)
      generalize restrictS sc f R1.1 n.hi v b = R2 at *
      refine ⟨?_, fun r hr hev => ?_⟩
      · have ⟨w3, e3, l3, tv3, ev3⟩ := mkNode_spec R2.1 w2 n.var R1.2 R2.2 (e2.lt l1) l2 hvb
          (by rw [topVar_ext e2 _ l1]; exact Nat.lt_of_lt_of_le (topVar_child_lo w ht2 hn) tv1)
          (Nat.lt_of_lt_of_le (by rw [topVar_ext e1 n.hi (hcs true)]; exact topVar_child_hi w ht2 hn) tv2)
        refine ⟨w3, (e1.trans e2).trans e3, l3, by rw [htv]; exact tv3, fun σ => ?_⟩
        rw [ev3, ev2, eval_ext w1 e2 _ σ l1, ev1, eval_ext w e1 n.hi _ (hcs true), eval_node s w t n ht2 hn,
            upd_other σ b (Nat.ne_of_lt hc2)]
      · -- `r` ignores every variable below `n.var`, so its cofactors along `n.var` are represented
        have hler : n.var ≤ topVar s r := by
          refine MemoT.le_topVar_of_indep w r n.var hr (Nat.le_of_lt hvb) fun y hy σ c => ?_
          rw [hev, hev, upd_comm' σ (Nat.ne_of_lt (Nat.lt_trans hy hc2)) c b]
          exact eval_upd_of_lt s w t ht y c (by rw [htv]; exact hy) _
        obtain ⟨lo, hi, clo, chi, h1, h2⟩ := MemoT.cofRep w r n.var hr hler hvb
        have ⟨n1, r1⟩ := rep1 lo (Nat.lt_of_le_of_lt clo.le hr) fun σ => by
          rw [clo.ev, hev, eval_lo s w t n ht2 hn, upd_comm' σ (Nat.ne_of_lt hc2) false b]
        have ⟨n2, r2⟩ := rep2 hi (by rw [n1]; exact Nat.lt_of_le_of_lt chi.le hr) fun σ => by
          rw [eval_congr n1, eval_congr n1, chi.ev, hev, eval_hi s w t n ht2 hn, upd_comm' σ (Nat.ne_of_lt hc2) true b]
        rw [r1, r2, MemoT.mkNode_cof w2 (n2.trans n1) n.var lo hi r h1 h2]
        exact ⟨n2.trans n1, rfl⟩
    · -- the variable itself: the child on branch `b`, in which the variable does not occur
      have hveq : n.var = v := Nat.le_antisymm hle (Nat.le_of_not_lt hc2)
      subst hveq
      rw [if_neg hc2]
      have ec : ∀ σ, eval s t (upd σ n.var b) = eval s (n.child b) (upd σ n.var b) := fun σ =>
        Tab.eval_eq_child s w.table t n ht2 hn (upd_same σ n.var b)
      obtain ⟨⟨w1, e1, l1, tv1, ev1⟩, rep1⟩ := ih s (n.child b) n.var b w (hcs b) (hcf b)
      refine ⟨⟨w1, e1, l1, ?_, fun σ => by rw [ev1, ec]⟩, fun r hr hev => rep1 r hr fun σ => by rw [hev, ec]⟩
      rw [htv]; exact Nat.le_trans (Nat.le_of_lt (Tab.lt_topVar_child s w.table ht2 hn b)) tv1

/-- for every handle, inside the node table or not, the store stays well formed -/
theorem restrictS_wf {sc : Store → Nat → Nat → Bool} (hsc : ScSound sc) (fuel : Nat) (s : Store) (t v : Nat) (b : Bool)
    (w : WF s) (hf : t < fuel) : WF (restrictS sc fuel s t v b).1 := by
  rcases Nat.lt_or_ge t s.nodes.size with ht | ht
  · exact (restrictS_spec hsc fuel s t v b w ht hf).1.1
  · rw [restrictS_oob sc w v b ht]; exact w

/-- a handle that represents the cofactor in `s` is what the call returns on any store with the node table of `s` -/
theorem restrictS_lock_early {sc' : Store → Nat → Nat → Bool} (hsc' : ScSound sc') {s s' : Store} (w' : WF s')
    (hn : s'.nodes = s.nodes) {fuel t v : Nat} {b : Bool} {x : Nat} (ht : t < s.nodes.size) (hf : t < fuel)
    (lx : x < s.nodes.size) (ex : ∀ σ, eval s x σ = eval s t (upd σ v b)) :
    (restrictS sc' fuel s' t v b).1.nodes = s.nodes ∧ (restrictS sc' fuel s' t v b).2 = x := by
  have ⟨a, c⟩ := (restrictS_spec hsc' fuel s' t v b w' (by rw [hn]; exact ht) hf).2 x (by rw [hn]; exact lx)
    fun σ => by rw [eval_congr hn, eval_congr hn]; exact ex σ
  exact ⟨a.trans hn, c⟩

/-- handle and node table depend on the node table alone, not on the memo tables or the shortcut: where one side
returns at once the other finds that handle without allocating, otherwise both recurse at the same node -/
theorem restrictS_lock {sc sc' : Store → Nat → Nat → Bool} (hsc : ScSound sc) (hsc' : ScSound sc') :
    ∀ (fuel : Nat) (s s' : Store) (t v : Nat) (b : Bool),
    WF s → WF s' → s'.nodes = s.nodes → t < fuel →
    (restrictS sc' fuel s' t v b).1.nodes = (restrictS sc fuel s t v b).1.nodes ∧
    (restrictS sc' fuel s' t v b).2 = (restrictS sc fuel s t v b).2 := by
  intro fuel
  induction fuel with
  | zero => intro s s' t v b _ _ _ h; exact absurd h (Nat.not_lt_zero _)
  | succ f ih =>
    intro s s' t v b w w' hnn hf
    rcases Nat.lt_or_ge t s.nodes.size with ht | ht
    case inr => rw [restrictS_oob sc w v b ht, restrictS_oob sc' w' v b (by rw [hnn]; exact ht)]; exact ⟨hnn, rfl⟩
    have ht' : t < s'.nodes.size := by rw [hnn]; exact ht
    rcases restrictS_step hsc f w v b ht with ⟨x, hx, lx, _, ex⟩ | ⟨n, hn, ht2, _, hx⟩
    · rw [hx]; exact restrictS_lock_early hsc' w' hnn ht hf lx ex
    rcases restrictS_step hsc' f w' v b ht' with ⟨x, hx', lx, _, ex⟩ | ⟨n', hn', _, _, hx'⟩
    · rw [hx']
      have ⟨a, c⟩ := restrictS_lock_early hsc w hnn.symm ht' hf lx ex
      exact ⟨a.symm, c.symm⟩
    rw [hnn, hn] at hn'
    cases hn'
    rw [hx, hx', withRes_nodes, withRes_nodes, withRes_snd, withRes_snd]
    have hcf : ∀ c, n.child c < f := fun c => Nat.lt_of_lt_of_le (Tab.child_lt s w.table ht2 hn c) (Nat.le_of_lt_succ hf)
    by_cases hc2 : n.var < v
    · rw [if_pos hc2, if_pos hc2]
      have ⟨n1, r1⟩ := ih s s' n.lo v b w w' hnn (hcf false)
      have w1 := restrictS_wf hsc f s n.lo v b w (hcf false)
      have w1' := restrictS_wf hsc' f s' n.lo v b w' (hcf false)
      generalize restrictS sc f s n.lo v b = R1 at *
      generalize restrictS sc' f s' n.lo v b = R1' at *
      have ⟨n2, r2⟩ := ih R1.1 R1'.1 n.hi v b w1 w1' n1 (hcf true)
      have w2 := restrictS_wf hsc f R1.1 n.hi v b w1 (hcf true)
      have w2' := restrictS_wf hsc' f R1'.1 n.hi v b w1' (hcf true)
      generalize restrictS sc f R1.1 n.hi v b = R2 at *
      generalize restrictS sc' f R1'.1 n.hi v b = R2' at *
      rw [r1, r2]
      exact MemoT.mkNode_lock w2 w2' n2 n.var R1.2 R2.2
    · rw [if_neg hc2, if_neg hc2]
      exact ih s s' (n.child b) v b w w' hnn (hcf b)

theorem restrictF_spec : ∀ (fuel : Nat) (s : Store) (t v : Nat) (b : Bool),
    WF s → t < s.nodes.size → t < fuel →
    WF (restrictF fuel s t v b).1 ∧ Ext s (restrictF fuel s t v b).1 ∧
    (restrictF fuel s t v b).2 < (restrictF fuel s t v b).1.nodes.size ∧
    topVar s t ≤ topVar (restrictF fuel s t v b).1 (restrictF fuel s t v b).2 ∧
    (∀ σ, eval (restrictF fuel s t v b).1 (restrictF fuel s t v b).2 σ = eval s t (upd σ v b)) := by
  intro fuel s t v b w ht hf
  rw [← restrictS_none]
  exact (restrictS_spec scNone_sound fuel s t v b w ht hf).1
#print axioms restrictF_spec

theorem MemoT.restrictF_rep (fuel : Nat) (s : Store) (t v : Nat) (b : Bool) (r : Nat)
    (w : WF s) (ht : t < s.nodes.size) (hf : t < fuel) (hr : r < s.nodes.size)
    (hev : ∀ σ, eval s r σ = eval s t (upd σ v b)) :
    (restrictF fuel s t v b).1.nodes = s.nodes ∧ (restrictF fuel s t v b).2 = r := by
  rw [← restrictS_none]
  exact (restrictS_spec scNone_sound fuel s t v b w ht hf).2 r hr hev

theorem MemoT.restrictF_lock (fuel : Nat) (s s' : Store) (t v : Nat) (b : Bool)
    (w : WF s) (w' : WF s') (hn : s'.nodes = s.nodes) (hf : t < fuel) :
    (restrictF fuel s' t v b).1.nodes = (restrictF fuel s t v b).1.nodes ∧
    (restrictF fuel s' t v b).2 = (restrictF fuel s t v b).2 := by
  rw [← restrictS_none, ← restrictS_none]
  exact restrictS_lock scNone_sound scNone_sound fuel s s' t v b w w' hn hf
