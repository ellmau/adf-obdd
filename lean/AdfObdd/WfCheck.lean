import AdfObdd.StoreCanon
/-! a decidable check on a dumped node table that implies the structural part of
    the invariant — hence canonicity — for the *real* table the harness dumps -/

def nodeOK (ns : Array Node) (i : Nat) (n : Node) : Bool :=
  decide (n.var < VBOT) && decide (n.lo < i) && decide (n.hi < i) && decide (n.lo ≠ n.hi) &&
  (match ns[n.lo]? with | some m => decide (n.var < m.var) | none => false) &&
  (match ns[n.hi]? with | some m => decide (n.var < m.var) | none => false)

/-- no duplicate among the inner nodes (quadratic; the driver uses a hash set with the same meaning) -/
def noDupFrom (ns : Array Node) : Bool :=
  (List.range ns.size).all (fun i => (List.range ns.size).all (fun j =>
    decide (i < 2) || decide (j < 2) || decide (i = j) || decide (ns[i]? ≠ ns[j]?)))

def wfCheck (ns : Array Node) : Bool :=
  decide (2 ≤ ns.size) && decide (ns[0]? = some ⟨VBOT, 0, 0⟩) && decide (ns[1]? = some ⟨VTOP, 1, 1⟩) &&
  (List.range ns.size).all (fun i => decide (i < 2) || (match ns[i]? with | some n => nodeOK ns i n | none => false)) &&
  noDupFrom ns

theorem nodeOK_sound {ns : Array Node} {i : Nat} {n : Node} (h : nodeOK ns i n = true) :
    n.var < VBOT ∧ n.lo < i ∧ n.hi < i ∧ n.lo ≠ n.hi ∧
    (∀ m, ns[n.lo]? = some m → n.var < m.var) ∧ (∀ m, ns[n.hi]? = some m → n.var < m.var) := by
  unfold nodeOK at h
  simp only [Bool.and_eq_true, decide_eq_true_eq] at h
  obtain ⟨⟨⟨⟨⟨a, b⟩, c⟩, d⟩, e⟩, f⟩ := h
  refine ⟨a, b, c, d, fun m hm => ?_, fun m hm => ?_⟩
  · rw [hm] at e; exact of_decide_eq_true e
  · rw [hm] at f; exact of_decide_eq_true f

theorem wfCheck_sound (ns : Array Node) (h : wfCheck ns = true) : TableWF ns := by
  unfold wfCheck at h
  simp only [Bool.and_eq_true, decide_eq_true_eq] at h
  obtain ⟨⟨⟨⟨h1, h2⟩, h3⟩, h4⟩, h5⟩ := h
  refine ⟨h1, h2, h3, fun i n hi hn => ?_, fun i j n hi hj hni hnj => ?_⟩
  · have := List.all_eq_true.mp h4 i (List.mem_range.mpr (lt_of_get hn))
    rw [hn, Bool.or_eq_true, decide_eq_true_eq] at this
    exact nodeOK_sound (this.resolve_left (Nat.not_lt_of_le hi))
  · unfold noDupFrom at h5
    have := List.all_eq_true.mp (List.all_eq_true.mp h5 i (List.mem_range.mpr (lt_of_get hni))) j
      (List.mem_range.mpr (lt_of_get hnj))
    simp only [Bool.or_eq_true, decide_eq_true_eq] at this
    rcases this with ((h | h) | h) | h
    · exact absurd hi (Nat.not_le_of_lt h)
    · exact absurd hj (Nat.not_le_of_lt h)
    · exact h
    · rw [hni, hnj] at h; exact absurd rfl h
#print axioms wfCheck_sound

/-- what the checker buys: on a dumped table that passes the check, two handles denote the same
Boolean function iff they are the same handle (whatever the unique table and caches hold) -/
theorem canonical_of_check (s : Store) (h : wfCheck s.nodes = true) (a b : Nat)
    (ha : a < s.nodes.size) (hb : b < s.nodes.size) :
    (∀ σ, eval s a σ = eval s b σ) ↔ a = b :=
  Tab.canonical s (wfCheck_sound s.nodes h) a b ha hb
#print axioms canonical_of_check
