import AdfObdd.Reduct
import AdfObdd.CountsDef
import AdfObdd.HeuMemo
import AdfObdd.Cubes
import AdfObdd.CountSearchK
/-! Concrete executable model of `two_val_model_counts_logic` (as repaired, D1 + D4) and of
    `stable_count_optimisation_heu_a/b`. The recursion is the generic machine `GK.search`
    instantiated with the code's steps (`countParams`), so it is structurally recursive on a fuel
    (`n + 1` levels suffice: `countLogic_spec`, `CountInstanceProofs.lean`) and the theorems about the machine apply
    to exactly what the driver runs handle for handle against the Rust. -/

def heuA (s : Store) (interp : List Nat) (l r : Nat × Nat) : Ordering :=
  match compare (passive s r.1 interp) (passive s l.1 interp) with
  | .eq => match compare (active s l.1 interp) (active s r.1 interp) with
    | .eq => compare (minPaths s l.2) (minPaths s r.2)
    | o => o
  | o => o

def heuB (s : Store) (interp : List Nat) (l r : Nat × Nat) : Ordering :=
  match compare (minPaths s l.2) (minPaths s r.2) with
  | .eq => compare (passive s r.1 interp) (passive s l.1 interp)
  | o => o

/-- `Iterator::min_by`: the first minimum -/
def minBy (cmp : (Nat × Nat) → (Nat × Nat) → Ordering) : List (Nat × Nat) → Option (Nat × Nat)
  | [] => none
  | x :: xs => some (xs.foldl (fun m y => if cmp m y == .gt then y else m) x)

/-- `min_by` with a comparison that looks at keys only = `min_by` on the precomputed keys -/
theorem minBy_keyed {K : Type} (key : Nat × Nat → K) (cmp : (Nat × Nat) → (Nat × Nat) → Ordering)
    (cmpK : K → K → Ordering) (h : ∀ l r, cmp l r = cmpK (key l) (key r)) (xs : List (Nat × Nat)) :
    minBy cmp xs = Memo.minByK cmpK (xs.map (fun p => (p, key p))) := by
  cases xs with
  | nil => rfl
  | cons x xs =>
    have := (Memo.foldl_min_map (fun p => (p, key p)) cmp (fun a b => cmpK a.2 b.2) (fun _ => True)
      (fun p q _ _ => h p q) xs x trivial (fun _ _ => trivial)).1
    simp only [minBy, List.map_cons, Memo.minByK, ← this]

theorem minBy_mem (cmp : (Nat × Nat) → (Nat × Nat) → Ordering) (l : List (Nat × Nat)) (x : Nat × Nat)
    (h : minBy cmp l = some x) : x ∈ l := by
  cases l with
  | nil => cases h
  | cons y ys =>
    cases h
    exact (Memo.foldl_min_map id cmp cmp (· ∈ y :: ys) (fun _ _ _ _ => rfl) ys y (List.mem_cons_self ..)
      (fun _ hz => List.mem_cons_of_mem _ hz)).2

theorem minBy_none (cmp : (Nat × Nat) → (Nat × Nat) → Ordering) (l : List (Nat × Nat))
    (h : minBy cmp l = none) : l = [] := by
  cases l with
  | nil => rfl
  | cons y ys => simp [minBy] at h

/-- the choice of `heu_a` with the keys of all candidates computed once (shared memos) -/
def pickA (s : Store) (interp : List Nat) (cands : List (Nat × Nat)) : Option (Nat × Nat) :=
  Memo.minByK Memo.cmpA (Memo.keysA s interp cands)
/-- the choice of `heu_b` with the keys of all candidates computed once (shared memos) -/
def pickB (s : Store) (interp : List Nat) (cands : List (Nat × Nat)) : Option (Nat × Nat) :=
  Memo.minByK Memo.cmpB (Memo.keysPI s interp cands)

theorem minBy_heuA (s : Store) (interp : List Nat) (cands : List (Nat × Nat)) :
    minBy (heuA s interp) cands = pickA s interp cands := by
  rw [pickA, Memo.keysA_eq]
  exact minBy_keyed (fun p => (passive s p.1 interp, active s p.1 interp, minPaths s p.2)) (heuA s interp) Memo.cmpA (fun _ _ => rfl) cands

theorem minBy_heuB (s : Store) (interp : List Nat) (cands : List (Nat × Nat)) :
    minBy (heuB s interp) cands = pickB s interp cands := by
  rw [pickB, Memo.keysPI_eq]
  exact minBy_keyed (fun p => (minPaths s p.2, passive s p.1 interp)) (heuB s interp) Memo.cmpB (fun _ _ => rfl) cands

theorem isTV_eq_isSome (t : Nat) : isTV t = (storeIsConst t).isSome := by
  rcases t with _ | _ | t <;> simp [storeIsConst, isTV]

theorem isTV_false_iff {t : Nat} : isTV t = false ↔ storeIsConst t = none := by
  rw [isTV_eq_isSome, Option.isSome_eq_false_iff, Option.isNone_iff_eq_none]

def noInfIncons (a b : Nat) : Bool := sameInfo a b || !isTV a

def cubesOf (s : Store) (t : Nat) (goal : Bool) (gv : Nat) : List PCube := cubesF s (t+1) t goal gv [] []

/-- the `negative.iter().try_for_each(..)` of the cube closure -/
def negLoop (willBe : List Nat) : List Nat → List Nat → Option (List Nat)
  | [], ni => some ni
  | v :: vs, ni =>
    if ni.getD v 0 == 1 || willBe.getD v 2 == 1 then none else negLoop willBe vs (ni.set v 0)

/-- the `positive.iter().try_for_each(..)` of the cube closure -/
def posLoop (willBe : List Nat) : List Nat → List Nat → Option (List Nat)
  | [], ni => some ni
  | v :: vs, ni =>
    if (isTV (ni.getD v 0) && ni.getD v 0 != 1) || willBe.getD v 2 == 0 then none
    else posLoop willBe vs (ni.set v 1)

/-- `negative…try_for_each(..).and(positive…try_for_each(..))`: `.and` evaluates its argument
eagerly, but the loops have no effect outside `new_int`, which is dropped on `Err` -/
def applyCube (interp willBe : List Nat) (c : PCube) : Option (List Nat) :=
  match negLoop willBe c.1 interp with
  | none => none
  | some ni => posLoop willBe c.2 ni

def mapRestrict (s : Store) (v : Nat) (b : Bool) : List Nat → Store × List Nat
  | [] => (s, [])
  | t :: ts => let r := restrictF (t+1) s t v b; let m := mapRestrict r.1 v b ts; (m.1, r.2 :: m.2)

/-- `apply_interpretation(ac, interp)`; `update_interpretation_fixpoint(v)` is `applyVec s v v`
(the loop of the code compares `update(interpretation)` with itself in its second round, so it
performs exactly one step; the second evaluation only hits the restriction memo) -/
def applyVec (s : Store) (interp : List Nat) : List Nat → Store × List Nat
  | [] => (s, [])
  | a :: acs => let r := restrictBy StoreRA s a 0 interp; let m := applyVec r.1 interp acs; (m.1, r.2 :: m.2)

/-- `check_consistency(v, will_be)` -/
def consistentWith (v willBe : List Nat) : Bool := (v.zip willBe).all (fun (int, wb) => noInfIncons wb int)

/-- `stability_check` -/
def stabilityCheckC (s : Store) (n : Nat) (ac cand : List Nat) : Store × Bool :=
  let red := mapFalse s cand ac
  let grd := groundedLoop StoreRA (n + 1) red.1 red.2
  (grd.1, (grd.2.zip cand).all (fun (a, b) => sameInfo a b))

/-- the state of the recursion: `(interpr, will_be)` -/
abbrev CState := List Nat × List Nat

/-- positions undecided in both vectors, as `(index, handle)` -/
def candidates (c : CState) : List (Nat × Nat) :=
  (c.1.zipIdx.filter (fun (t, i) => !(isTV t || isTV (c.2.getD i 2)))).map (fun (t, i) => (i, t))

/-- the steps of `two_val_model_counts_logic`. With `unrepaired := true` the cube list is cut at the
first cube that contradicts the current vectors — the behaviour of the closure that returned `res`
(defect D1; `applyCube` does not touch the store, so cutting the list is the same as aborting). -/
def countParams (ac : List Nat) (useA : Bool) (unrepaired : Bool := false) :
    GK.CParams Store CState PCube (List Nat) where
  pick s c := (minBy (if useA then heuA s c.1 else heuB s c.1) (candidates c)).map (·.1)
  goal s c idx := !moreModels (paths s (c.1.getD idx 0))
  cubes s c idx g :=
    let cs := cubesOf s (c.1.getD idx 0) g idx
    if unrepaired then cs.takeWhile (fun cu => (applyCube c.1 c.2 cu).isSome) else cs
  cubeStep s c idx g cu :=
    match applyCube c.1 c.2 cu with
    | none => (s, none)
    | some ni =>
      let ni := ni.set idx (if g then 1 else 0)
      let upd := applyVec s ni ni
      (upd.1, if consistentWith upd.2 c.2 then some (upd.2, c.2) else none)
  flipStep s c idx g :=
    -- conclude the other value
    let ni := mapRestrict s idx (!g) c.1
    let upd := applyVec ni.1 ni.2 ni.2
    let nidx := ni.2.getD idx 0
    if noInfIncons nidx (upd.2.getD idx 0) then
      let other := if g then 0 else 1
      if noInfIncons nidx other then (upd.1, some (upd.2.set idx other, c.2.set idx nidx))
      else (upd.1, none)
    else (upd.1, none)
  leaf s c :=
    let concluded := c.1.zipIdx.map (fun (t, i) => if !isTV t then c.2.getD i 2 else t)
    let r := applyVec s concluded ac
    if consistentWith r.2 concluded then (r.1, [r.2]) else (r.1, [c.1])

/-- `countParams` with the heuristic keys computed once per call (what the compiled driver runs) -/
def countParamsM (ac : List Nat) (useA : Bool) (unrepaired : Bool := false) :
    GK.CParams Store CState PCube (List Nat) where
  pick s c := ((if useA then pickA s c.1 else pickB s c.1) (candidates c)).map (·.1)
  goal s c idx := !moreModels (paths s (c.1.getD idx 0))
  cubes s c idx g :=
    let cs := cubesOf s (c.1.getD idx 0) g idx
    if unrepaired then cs.takeWhile (fun cu => (applyCube c.1 c.2 cu).isSome) else cs
  cubeStep s c idx g cu :=
    match applyCube c.1 c.2 cu with
    | none => (s, none)
    | some ni =>
      let ni := ni.set idx (if g then 1 else 0)
      let upd := applyVec s ni ni
      (upd.1, if consistentWith upd.2 c.2 then some (upd.2, c.2) else none)
  flipStep s c idx g :=
    -- conclude the other value
    let ni := mapRestrict s idx (!g) c.1
    let upd := applyVec ni.1 ni.2 ni.2
    let nidx := ni.2.getD idx 0
    if noInfIncons nidx (upd.2.getD idx 0) then
      let other := if g then 0 else 1
      if noInfIncons nidx other then (upd.1, some (upd.2.set idx other, c.2.set idx nidx))
      else (upd.1, none)
    else (upd.1, none)
  leaf s c :=
    let concluded := c.1.zipIdx.map (fun (t, i) => if !isTV t then c.2.getD i 2 else t)
    let r := applyVec s concluded ac
    if consistentWith r.2 concluded then (r.1, [r.2]) else (r.1, [c.1])

@[csimp] theorem countParams_eq_countParamsM : @countParams = @countParamsM := by
  funext ac useA unrepaired
  unfold countParams countParamsM
  congr 1
  funext s c
  cases useA
  · simp only [Bool.false_eq_true, if_false, minBy_heuB]
  · simp only [if_true, minBy_heuA]

/-- `two_val_model_counts_logic`, `fuel` levels of recursion -/
def countLogic (ac : List Nat) (useA : Bool) (fuel : Nat) (s : Store) (interp willBe : List Nat) :
    Store × List (List Nat) :=
  GK.search (countParams ac useA) fuel s (interp, willBe)

/-- the filter `.filter(|int| self.stability_check(int))`, threading the store -/
def stableFilter (n : Nat) (ac : List Nat) (cands : List (List Nat)) (s : Store) : Store × List (List Nat) :=
  cands.foldl (fun (acc : Store × List (List Nat)) v =>
      let chk := stabilityCheckC acc.1 n ac v
      (chk.1, if chk.2 then acc.2 ++ [v] else acc.2)) (s, [])

/-- `stable_count_optimisation_heu_a/b` -/
def countAll (s : Store) (n : Nat) (ac : List Nat) (useA : Bool) : Store × List (List Nat) :=
  let g := groundedLoop StoreRA (n + 1) s ac
  let c := countLogic ac useA (n + 1) g.1 g.2 (List.replicate n 2)
  stableFilter n ac c.2 c.1

/-- the same with the unrepaired cube loop (D1), for the counterexample -/
def countAllUnrepaired (s : Store) (n : Nat) (ac : List Nat) (useA : Bool) : Store × List (List Nat) :=
  let g := groundedLoop StoreRA (n + 1) s ac
  let c := GK.search (countParams ac useA true) (n + 1) g.1 (g.2, List.replicate n 2)
  stableFilter n ac c.2 c.1

theorem applyVec_eq (interp : List Nat) : ∀ (xs : List Nat) (s : Store),
    applyVec s interp xs = mapS (fun s t => restrictBy StoreRA s t 0 interp) s xs := by
  intro xs; induction xs with
  | nil => intro s; rfl
  | cons x xs ih => intro s; simp only [applyVec, mapS, ih]

theorem mapRestrict_eq (v : Nat) (b : Bool) : ∀ (xs : List Nat) (s : Store),
    mapRestrict s v b xs = mapS (fun s t => restrictF (t+1) s t v b) s xs := by
  intro xs; induction xs with
  | nil => intro s; rfl
  | cons x xs ih => intro s; simp only [mapRestrict, mapS, ih]
