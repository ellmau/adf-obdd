import AdfObdd.ServerConcrete
import AdfObdd.ServerSuccess
import AdfObdd.ServerVars
import AdfObdd.ServerRoundTrip
import AdfObdd.ServerReach
import AdfObdd.ServerFuel
import AdfObdd.CompleteVectors
/-! # C16 — the SERVICE (not just the library) returns the definitional answers

`SrvC.libEnv o` is the server model's environment instantiated with the concrete library models
(`ServerConcrete.lean`, the very definition the driver executes against the real server). This file
composes, for that instance,

* the success path of the tasks (`ServerSuccess.lean`: what a `.write` event stores, where, and that
  `GET` returns it),
* `SrvA.stored_answers_*` (`ServerAnswers.lean`: the library model's answers are the definitional ones),
* the graph facts (`ServerGraph.lean`, `ServerVars.lean`),

into statements about what a user of the service retrieves. -/
namespace ServerAdf
open ServerM

theorem parseNaive_of_conditions_error (key code : String) (e : Err) (h : conditions code = .error e) :
    parseNaive key code = .error e := by
  rw [SrvA.parseNaive_eq, SrvA.conditions_error h]

theorem parseNaive_of_conditions_ok (key code : String) (x : List String × List Fm) (h : conditions code = .ok x) :
    ∃ a, parseNaive key code = .ok (a, [⟨a.ac, graphOf a.names a.nodes a.ac⟩]) ∧ a.names = x.1 := by
  obtain ⟨p, l, hr, rfl⟩ := SrvA.conditions_ok h
  rw [SrvA.parseNaive_eq, hr]
  exact ⟨_, rfl, rfl⟩

end ServerAdf

namespace SrvC
open ServerM ServerAdf

theorem libEnv_parse_naive (o : Oracle) (code : String) :
    (libEnv o).parse .naive code = parseNaive (parseKey .naive code) code := by
  simp only [mkEnv, if_true]

theorem libEnv_solve (o : Oracle) (a : SAdf) (s : Strategy) : (libEnv o).solve a s = solveAdf a s := rfl

/-- hybrid parsing: the outcome class is the code's, the stored table is the one adopted from the
implementation for this code (validated at run time by `storedAdfOK'`), the parse-only graph is computed
by the model's graph builder from it -/
theorem libEnv_parse_hybrid_eq (o : Oracle) (code : String) :
    (libEnv o).parse .hybrid code =
      match conditions code with
      | .error e => .error e
      | .ok _ =>
        match lookupS (parseKey .hybrid code) o.hyb with
        | some a => .ok (a, [⟨a.ac, graphOf a.names a.nodes a.ac⟩])
        | none => .error .panic := by
  simp only [mkEnv, if_true, parseOutcome]
  cases conditions code <;> rfl

theorem libEnv_parse_hybrid (o : Oracle) (code : String) (a : SAdf) (r : SRes)
    (h : (libEnv o).parse .hybrid code = .ok (a, r)) :
    (∃ x, conditions code = .ok x) ∧ lookupS (parseKey .hybrid code) o.hyb = some a ∧
      r = [⟨a.ac, graphOf a.names a.nodes a.ac⟩] := by
  rw [libEnv_parse_hybrid_eq] at h
  cases hc : conditions code with
  | error e => rw [hc] at h; cases h
  | ok x =>
    rw [hc] at h
    simp only at h
    cases hl : lookupS (parseKey .hybrid code) o.hyb with
    | none => rw [hl] at h; cases h
    | some a' => rw [hl] at h; cases h; exact ⟨⟨x, rfl⟩, rfl, rfl⟩

theorem libEnv_parse_error_iff (o : Oracle) (code : String) (e : Err) (h : conditions code = .error e)
    (p : Parsing) : (libEnv o).parse p code = .error e := by
  cases p with
  | naive => rw [libEnv_parse_naive]; exact parseNaive_of_conditions_error _ code e h
  | hybrid => rw [libEnv_parse_hybrid_eq, h]

theorem libEnv_parse_hybrid_ok (o : Oracle) (code : String) (x : List String × List Fm) (a : SAdf)
    (hacc : conditions code = .ok x) (hl : lookupS (parseKey .hybrid code) o.hyb = some a) :
    (libEnv o).parse .hybrid code = .ok (a, [⟨a.ac, graphOf a.names a.nodes a.ac⟩]) := by
  rw [libEnv_parse_hybrid_eq, hacc]
  simp only [hl]

theorem libEnv_parse_naive_denotes (o : Oracle) (code : String) (a : SAdf) (r : SRes)
    (h : (libEnv o).parse .naive code = .ok (a, r)) (hn : a.names.length ≤ VBOT) :
    ∃ fms, conditions code = .ok (a.names, fms) ∧ SrvA.Denotes a a.names.length fms := by
  rw [libEnv_parse_naive] at h
  exact SrvA.parseNaive_denotes _ code a r h hn

/-- **parse task, naive parsing, accepted text**: when the parse task for a code that the parser
accepts (`conditions code = .ok (names, fms)`: the statement names and, per statement, the condition
that counts) completes, the addressed document holds exactly the `SimplifiedAdf` `a` of the library's
`from_parser` result and its parse-only graph; `a` has the names of the text, a well-formed table
whose handles denote the conditions of the text, and satisfies the graph builder's assumptions -/
theorem parse_task_stores_framework (o : Oracle) (db : Db String SHash SAdf SRes) (j n : Nat)
    (t : TaskRec String SAdf) (code : String) (names : List String) (fms : List Fm)
    (ht : nthOf j n db.tasks = some t) (hin : t.input = .parse code .naive)
    (hlive : t.blockingDone = true ∧ t.written = false)
    (hacc : conditions code = .ok (names, fms)) (hn : names.length ≤ VBOT)
    (p : Problem String SAdf SRes) (hp : db.problems.find? (isProb t.username t.name) = some p) :
    ∃ a : SAdf,
      (dbEv (libEnv o) db (.write j n)).problems.find? (isProb t.username t.name) =
        some { p with adf := .some a, parseOnly := .some [⟨a.ac, graphOf a.names a.nodes a.ac⟩] } ∧
      (libEnv o).parse .naive code = .ok (a, [⟨a.ac, graphOf a.names a.nodes a.ac⟩]) ∧
      a.names = names ∧ SrvA.Denotes a names.length fms ∧ GraphHyp a.names a.nodes a.ac := by
  obtain ⟨a, hpa, hnm⟩ := parseNaive_of_conditions_ok (parseKey .naive code) code _ hacc
  simp only at hnm
  have hn' : a.names.length ≤ VBOT := by rw [hnm]; exact hn
  obtain ⟨fms', hc', hd⟩ := SrvA.parseNaive_denotes _ code a _ hpa hn'
  rw [hacc] at hc'
  simp only [Except.ok.injEq, Prod.mk.injEq] at hc'
  obtain ⟨_, rfl⟩ := hc'
  have hpa' := (libEnv_parse_naive o code).trans hpa
  refine ⟨a, parse_success_stored (libEnv o) db j n t code .naive a _ ht hin hlive hpa' p hp, hpa', hnm, ?_,
    parseNaive_graphHyp _ code a _ hpa hn'⟩
  rw [← hnm]; exact hd

/-- **solve task**: when the solve task for strategy `s`, spawned with the stored framework `a`,
completes, the addressed document holds under `acs_per_strategy.<s>` exactly `solveAdf a s` — the
library model's answer for `a` (rebuild of the stored node list, strategy, graphs) — and if `a`
denotes conditions `fms` over `nn` statements this answer is, as a multiset of three-valued
interpretations, the specification's / the definitional one (`SrvA.PropAnswer`: the least fixpoint
of Γ; every fixpoint of Γ once; every stable model once). `hh`: the nogood search of `StableNogood`
halted within the model's bound of 10^6 iterations (`rfl` for the other five strategies) -/
theorem solve_task_stores_answer (o : Oracle) (db : Db String SHash SAdf SRes) (j n : Nat)
    (t : TaskRec String SAdf) (a : SAdf) (s : Strategy) (nn : Nat) (fms : List Fm)
    (ht : nthOf j n db.tasks = some t) (hin : t.input = .solve a s)
    (hlive : t.blockingDone = true ∧ t.written = false)
    (hd : SrvA.Denotes a nn fms) (hh : SrvA.strategyHalts 1000000 a s = true)
    (p : Problem String SAdf SRes) (hp : db.problems.find? (isProb t.username t.name) = some p) :
    ∃ res : SRes,
      (dbEv (libEnv o) db (.write j n)).problems.find? (isProb t.username t.name) =
        some { p with res := p.res.set s (.some res) } ∧
      (libEnv o).solve a s = .ok res ∧
      (SrvA.storedI3 res).Perm (Cli.specSection nn (CliF.tablesOf nn fms) (SrvA.secOf s)) ∧
      SrvA.PropAnswer nn (fms.map Fm.sem) s (SrvA.storedI3 res) := by
  obtain ⟨res, h1, h2⟩ := SrvA.stored_answers_exact_any_table 1000000 a nn fms s hd hh
  rw [SrvA.solveAdfF_million] at h1
  exact ⟨res, solve_success_stored (libEnv o) db j n t a s res ht hin hlive h1 p hp, h1, h2, hd.propAnswer s h2⟩

/-- **the answer a user retrieves** (any environment whose solve task is the library model): after the
write of the solve task (strategy `s`, stored framework `a` denoting `fms`), `GET /adf/{name}` by the
owner returns 200 with the document's code and parse-only result unchanged, the results of the other
five strategies unchanged, and under `s` an answer `res` that is exactly the definitional one for `fms` -/
theorem served_answer_env (E : Env String SHash SAdf SRes) (hE : ∀ a s, E.solve a s = solveAdf a s)
    (st : State String SHash SAdf SRes) (j n jar : Nat)
    (t : TaskRec String SAdf) (a : SAdf) (s : Strategy) (nn : Nat) (fms : List Fm)
    (ht : nthOf j n st.db.tasks = some t) (hin : t.input = .solve a s)
    (hlive : t.blockingDone = true ∧ t.written = false)
    (hd : SrvA.Denotes a nn fms) (hh : SrvA.strategyHalts 1000000 a s = true)
    (p : Problem String SAdf SRes) (hp : st.db.problems.find? (isProb t.username t.name) = some p)
    (hs : st.sess jar = some t.username) :
    ∃ (res : SRes) (i : Info String SRes),
      (step E (stepEv E st (.write j n)).1 ⟨jar, .get t.name⟩).2 = ⟨200, .keep, .problem i⟩ ∧
      i.name = p.name ∧ i.code = p.code ∧ i.parsing = p.parsing ∧ i.parseOnly = p.parseOnly ∧
      i.res.get s = .some res ∧ (∀ s', s' ≠ s → i.res.get s' = p.res.get s') ∧
      E.solve a s = .ok res ∧
      SrvA.PropAnswer nn (fms.map Fm.sem) s (SrvA.storedI3 res) := by
  obtain ⟨res, h1, h2⟩ := SrvA.stored_answers_exact_any_table 1000000 a nn fms s hd hh
  rw [SrvA.solveAdfF_million, ← hE] at h1
  have hw := solve_success_stored E st.db j n t a s res ht hin hlive h1 p hp
  have hs' : (stepEv E st (.write j n)).1.sess jar = some t.username := hs
  have hdb : (stepEv E st (.write j n)).1.db = dbEv E st.db (.write j n) := rfl
  obtain ⟨ts, hget, _⟩ := get_returns_stored E (stepEv E st (.write j n)).1 jar t.username t.name _ hs'
    (by rw [hdb]; exact hw)
  exact ⟨res, _, hget, rfl, rfl, rfl, rfl, Results.get_set_same _ _ _,
    fun s' h' => Results.get_set_other _ _ _ _ h', h1, hd.propAnswer s h2⟩

/-- `served_answer_env` for the submitted code, whatever establishes that the framework the task was spawned with denotes the
text (`hden`) and that the search halts (`hh`: assumed, or at most 16 statements) -/
theorem served_answer_for_code_env (E : Env String SHash SAdf SRes) (hE : ∀ a s, E.solve a s = solveAdf a s)
    (st : State String SHash SAdf SRes) (j n jar : Nat)
    (t : TaskRec String SAdf) (code : String) (a : SAdf) (s : Strategy)
    (ht : nthOf j n st.db.tasks = some t) (hin : t.input = .solve a s)
    (hlive : t.blockingDone = true ∧ t.written = false)
    (hden : ∃ fms, conditions code = .ok (a.names, fms) ∧ SrvA.Denotes a a.names.length fms)
    (hh : SrvA.strategyHalts 1000000 a s = true ∨ a.names.length ≤ 16)
    (p : Problem String SAdf SRes) (hp : st.db.problems.find? (isProb t.username t.name) = some p)
    (hs : st.sess jar = some t.username) :
    ∃ (fms : List Fm) (res : SRes) (i : Info String SRes),
      conditions code = .ok (a.names, fms) ∧
      (step E (stepEv E st (.write j n)).1 ⟨jar, .get t.name⟩).2 = ⟨200, .keep, .problem i⟩ ∧
      i.res.get s = .some res ∧ (∀ s', s' ≠ s → i.res.get s' = p.res.get s') ∧
      SrvA.PropAnswer a.names.length (fms.map Fm.sem) s (SrvA.storedI3 res) := by
  obtain ⟨fms, hc, hd⟩ := hden
  obtain ⟨res, i, h1, _, _, _, _, h6, h7, _, h9⟩ := served_answer_env E hE st j n jar t a s _ fms ht hin hlive hd
    (hh.elim id (SrvA.strategyHalts_of_le_16 a _ fms s hd)) p hp hs
  exact ⟨fms, res, i, hc, h1, h6, h7, h9⟩

/-- **the answer a user retrieves, for the submitted code** (naive parsing): if the framework the solve task was spawned with
is what the service's parse function returns for `code` — which is what the parse task stored
(`parse_task_stores_framework`) and what the solve request read (`ServerM.solve_accepted`) — then the
answer retrieved for strategy `s` is the set of grounded / complete / stable models of the framework
DENOTED BY THE TEXT: `conditions code` gives its statement names and conditions `fms`, and
`SrvA.PropAnswer` holds for the Boolean functions `fms.map Fm.sem` -/
theorem served_answer_for_code (o : Oracle) (st : State String SHash SAdf SRes) (j n jar : Nat)
    (t : TaskRec String SAdf) (code : String) (a : SAdf) (r : SRes) (s : Strategy)
    (ht : nthOf j n st.db.tasks = some t) (hin : t.input = .solve a s)
    (hlive : t.blockingDone = true ∧ t.written = false)
    (hparse : (libEnv o).parse .naive code = .ok (a, r)) (hn : a.names.length ≤ VBOT)
    (hh : SrvA.strategyHalts 1000000 a s = true)
    (p : Problem String SAdf SRes) (hp : st.db.problems.find? (isProb t.username t.name) = some p)
    (hs : st.sess jar = some t.username) :
    ∃ (fms : List Fm) (res : SRes) (i : Info String SRes),
      conditions code = .ok (a.names, fms) ∧
      (step (libEnv o) (stepEv (libEnv o) st (.write j n)).1 ⟨jar, .get t.name⟩).2 = ⟨200, .keep, .problem i⟩ ∧
      i.res.get s = .some res ∧ (∀ s', s' ≠ s → i.res.get s' = p.res.get s') ∧
      SrvA.PropAnswer a.names.length (fms.map Fm.sem) s (SrvA.storedI3 res) := by
  exact served_answer_for_code_env (libEnv o) (libEnv_solve o) st j n jar t code a s ht hin hlive
    (libEnv_parse_naive_denotes o code a r hparse hn) (.inl hh) p hp hs

theorem getD_mem {v : List Nat} {i : Nat} (hi : i < v.length) : v.getD i 0 ∈ v := by
  have : v.getD i 0 = v[i] := by simp [List.getD, hi]
  rw [this]; exact List.getElem_mem hi

/-- walking a graph that satisfies the builder's assumptions from the root of statement `i` evaluates
the diagram of the `i`-th shown handle (`C16.graph_walk` without the root-label part) -/
theorem walk_root {names : List String} {ns : Array Node} {v : List Nat} (H : GraphHyp names ns v)
    (i : Nat) (hi : i < v.length) (σ : Asg) (fuel : Nat) (hf : v.getD i 0 < fuel) :
    walk (graphOf names ns v) names σ fuel (v.getD i 0) = some (eval ⟨ns, {}, {}, {}⟩ (v.getD i 0) σ) := by
  rw [walk_eval H σ fuel _ hf (GraphM.Reachable.root _ (getD_mem hi))]
  unfold eval
  rw [Tab.evalF_fuel ⟨ns, {}, {}, {}⟩ H.wf _ fuel σ hf]

theorem const_handle {t : Nat} (h : t < 2) (s : Store) :
    ∃ b, storeIsConst t = some b ∧ ∀ τ, eval s t τ = b := by
  have : t = 0 ∨ t = 1 := by omega
  rcases this with rfl | rfl
  · exact ⟨false, rfl, fun τ => eval_zero _ τ⟩
  · exact ⟨true, rfl, fun τ => eval_one _ τ⟩

theorem detBy_const {t : Nat} (h : t < 2) (s : Store) (n : Nat) : TT.DetBy n (eval s t) :=
  fun σ τ _ => (eval_lt2 s t h σ).trans (eval_lt2 s t h τ).symm

theorem lt_two_of_total {v : List Nat} (h : TotalI (v.map storeIsConst)) : ∀ t ∈ v, t < 2 := by
  intro t ht
  obtain ⟨i, hi, rfl⟩ := List.getElem_of_mem ht
  obtain ⟨b, hb⟩ := h i (by rw [List.length_map]; exact hi)
  simp only [List.getElem?_map, List.getElem?_eq_getElem hi, Option.map_some, Option.some.injEq] at hb
  rw [sic_some.mp hb]
  cases b <;> decide

theorem refinement_entry {v g : List Nat} (h : IterFull.isRefinement v g) {i : Nat} (hi : i < g.length) :
    v.getD i 0 = g.getD i 0 ∨ v.getD i 0 < 2 := by
  have := h.2 i hi
  split at this
  · exact .inl this
  · exact this

theorem decided_entry {fms : List Fm} {v : List Nat} {i : Nat} {f : Fm} {b : Bool} {σ : Asg}
    (hfix : Gam (fms.map Fm.sem) (v.map storeIsConst) = v.map storeIsConst) (hf : fms[i]? = some f)
    (hi : i < v.length) (hb : storeIsConst (v.getD i 0) = some b) (hag : Agree σ (v.map storeIsConst)) :
    f.sem σ = b := by
  have hvi : (v.map storeIsConst)[i]? = some (some b) := by
    simp [List.getD, hi] at hb
    simp [hi, hb]
  have hG := Gam_get (fms.map Fm.sem) (v.map storeIsConst) i f.sem (by simp [hf])
  rw [hfix, hvi] at hG
  simp only [Option.some.injEq] at hG
  have := constOf_some.mp hG.symm σ
  rwa [over_of_agree hag] at this

/-- the grounded vector of a stored framework that denotes `fms` (what `Ground` stores, and where
`Complete` starts from): a well-formed store extending the rebuilt one, one valid handle per statement;
read as an interpretation `g` it is the least fixpoint of Γ; handle `i` denotes statement `i`'s condition
restricted by `g`, a function of the statements -/
theorem grounded_residuals {a : SAdf} {nn : Nat} {fms : List Fm} (hd : SrvA.Denotes a nn fms) :
    let r := groundedLoop StoreRA (a.ac.length + 1) (rebuild a.nodes) a.ac
    WF r.1 ∧ (∀ t ∈ r.2, t < r.1.nodes.size) ∧ r.2.length = nn ∧ IsLfp (fms.map Fm.sem) (r.2.map storeIsConst) ∧
    (∀ t ∈ r.2, TT.DetBy nn (eval r.1 t)) ∧
    ∀ (i : Nat) (f : Fm), fms[i]? = some f → ∀ σ, eval r.1 (r.2.getD i 0) σ = f.sem (over σ 0 (r.2.map storeIsConst)) := by
  intro r
  have ⟨wr, hv, hden⟩ := SrvA.rebuilt_facts hd
  have ⟨hdet, _⟩ := SrvA.reps_of_atomsLt nn fms hd.atoms
  have ⟨w1, _, v1, l1, g, hg, hp⟩ := CliF.grounded_is_pre (rebuild a.nodes) a.ac.length a.ac wr rfl hv
  have hg' : IsLfp (a.ac.map (eval (rebuild a.nodes))) (r.2.map storeIsConst) :=
    grounded_native (a.ac.length + 1) (rebuild a.nodes) a.ac wr hv (by omega)
  rw [hden] at hg hp hg'
  obtain rfl : g = r.2.map storeIsConst := hg.unique hg'
  refine ⟨w1, v1, l1.trans hd.len, hg, fun t ht => ?_, fun i f hf σ => ?_⟩
  · apply hyb_detBy true hdet
    rw [← hp]
    exact List.mem_map_of_mem ht
  · have hi : i < r.2.length := by
      rw [l1, hd.len, ← hd.flen]; exact (List.getElem?_eq_some_iff.mp hf).1
    have hgi : (r.2.map (eval r.1))[i]? = some (eval r.1 (r.2.getD i 0)) := by simp [List.getD, hi]
    rw [hp, pre_get _ _ i f.sem (by simp [hf])] at hgi
    simp only [Option.some.injEq] at hgi
    rw [← hgi]

/-- **the graph stored for `Ground` shows the conditions restricted by the shown model**: for a
stored framework `a` (distinct names, one per statement) that denotes `fms`, the solve task for
`Ground` stores ONE vector `v` with the graph of the rebuilt store's table after the computation;
that graph satisfies the builder's assumptions (so `graph_reachable`, `graph_edges`, `graph_walk`
apply: exactly the reachable nodes, the table's edges, root labels); the shown model
`g = v.map storeIsConst` (handle 1 ↦ true, 0 ↦ false, anything else undecided) is the grounded
interpretation (least fixpoint of Γ); and walking from the root of statement `i` under `σ` evaluates
statement `i`'s condition under `σ` OVERRIDDEN BY THE DECIDED PART OF `g` -/
theorem ground_graph_restricted (a : SAdf) (nn : Nat) (fms : List Fm) (hd : SrvA.Denotes a nn fms)
    (hnd : a.names.Nodup) (hlen : a.names.length = nn) :
    ∃ (v : List Nat) (ns : Array Node) (g : I3),
      solveAdf a .ground = .ok [⟨v, graphOf a.names ns v⟩] ∧ GraphHyp a.names ns v ∧ v.length = nn ∧
      g = v.map storeIsConst ∧ IsLfp (fms.map Fm.sem) g ∧
      ∀ (i : Nat) (f : Fm), fms[i]? = some f → ∀ (σ : Asg) (fuel : Nat), v.getD i 0 < fuel →
        walk (graphOf a.names ns v) a.names σ fuel (v.getD i 0) = some (f.sem (over σ 0 g)) := by
  have ⟨w1, v1, l1, hg, hdet, hpre⟩ := grounded_residuals hd
  have hsol := SrvA.solveAdf_ground a
  generalize groundedLoop StoreRA (a.ac.length + 1) (rebuild a.nodes) a.ac = r at w1 v1 l1 hg hdet hpre hsol
  have H : GraphHyp a.names r.1.nodes r.2 :=
    graphHyp_of_detBy w1.table hnd v1 (fun t ht => by rw [SrvA.eval_table, hlen]; exact hdet t ht)
  refine ⟨r.2, r.1.nodes, _, hsol, H, l1, rfl, hg, fun i f hf σ fuel hfu => ?_⟩
  have hi : i < r.2.length := by rw [l1, ← hd.flen]; exact (List.getElem?_eq_some_iff.mp hf).1
  rw [walk_root H i hi σ fuel hfu, SrvA.eval_table, hpre i f hf σ]

/-- **the graphs stored for the four stable strategies show the constants of the model**: every
stored vector `x.ac` of a stable strategy is two-valued (handles 0 / 1 only), its graph satisfies
the builder's assumptions for the table of the store after the search, and walking from the root of
statement `i` yields the truth value the model gives statement `i` — which, the model being a fixpoint
of Γ (`SrvA.PropAnswer`), is the value of statement `i`'s condition restricted by the shown model -/
theorem stable_graph_restricted (a : SAdf) (nn : Nat) (fms : List Fm) (s : Strategy) (hd : SrvA.Denotes a nn fms)
    (hnd : a.names.Nodup) (hs : s ≠ .ground ∧ s ≠ .complete) (hh : SrvA.strategyHalts 1000000 a s = true) :
    ∃ (res : SRes) (ns : Array Node), solveAdf a s = .ok res ∧
      ∀ x ∈ res, x.graph = graphOf a.names ns x.ac ∧ GraphHyp a.names ns x.ac ∧
        x.ac.length = nn ∧ Gam (fms.map Fm.sem) (x.ac.map storeIsConst) = x.ac.map storeIsConst ∧
        ∀ (i : Nat) (_ : i < x.ac.length) (σ : Asg) (fuel : Nat), x.ac.getD i 0 < fuel →
          ∃ b, storeIsConst (x.ac.getD i 0) = some b ∧
            walk x.graph a.names σ fuel (x.ac.getD i 0) = some b := by
  have ⟨wr, hn⟩ := rebuild_WF a.nodes hd.table
  have hacl : a.ac.length = nn := hd.len
  subst hacl
  have ⟨w1, _, pm⟩ := hd.section_exact wr hn 1000000 (SrvA.secOf s) hh
  have hprop := hd.propAnswer s pm
  rw [← SrvA.solveAdfF_million]
  generalize hr : CliF.runSectionF 1000000 .simple (SrvA.secOf s) (rebuild a.nodes) a.ac.length a.ac = r at w1 pm hprop
  refine ⟨r.2.map (fun ac => ⟨ac, graphOf a.names r.1.nodes ac⟩), r.1.nodes, ?_, ?_⟩
  · show (Except.ok _ : Except Err SRes) = _
    simp only [hr]
  · intro x hx
    obtain ⟨v, hvm, rfl⟩ := List.mem_map.mp hx
    -- a stable model: of the right length, total, a fixpoint of Γ
    have hfacts : (v.map storeIsConst).length = a.ac.length ∧ TotalI (v.map storeIsConst) ∧
        Gam (fms.map Fm.sem) (v.map storeIsConst) = v.map storeIsConst := by
      have hmem : v.map storeIsConst ∈ r.2.map (fun v => v.map storeIsConst) := List.mem_map_of_mem hvm
      cases s with
      | ground => exact absurd rfl hs.1
      | complete => exact absurd rfl hs.2
      | _ => have := (hprop.2 _).mp hmem; exact ⟨this.1, this.2.1, this.2.2.1⟩
    have hconst := lt_two_of_total hfacts.2.1
    have H : GraphHyp a.names r.1.nodes v :=
      graphHyp_of_detBy w1.table hnd (fun t ht => Nat.lt_of_lt_of_le (hconst t ht) w1.len)
        (fun t ht => detBy_const (hconst t ht) _ _)
    refine ⟨rfl, H, by simpa using hfacts.1, hfacts.2.2, ?_⟩
    intro i hi σ fuel hfu
    obtain ⟨b, hb, hev⟩ := const_handle (hconst _ (getD_mem hi)) ⟨r.1.nodes, {}, {}, {}⟩
    exact ⟨b, hb, by rw [walk_root H i hi σ fuel hfu, hev]⟩

/-- **the graphs under every assignment that extends the shown model** (`Ground`): walking from the
root of statement `i` under an assignment `σ` that agrees with the decided part of the shown
interpretation yields the value of statement `i`'s condition AS WRITTEN under `σ` -/
theorem ground_graph_under_model (a : SAdf) (nn : Nat) (fms : List Fm) (hd : SrvA.Denotes a nn fms)
    (hnd : a.names.Nodup) (hlen : a.names.length = nn) :
    ∃ (v : List Nat) (ns : Array Node),
      solveAdf a .ground = .ok [⟨v, graphOf a.names ns v⟩] ∧ GraphHyp a.names ns v ∧
      ∀ (i : Nat) (f : Fm), fms[i]? = some f → ∀ (σ : Asg), Agree σ (v.map storeIsConst) →
        ∀ fuel, v.getD i 0 < fuel →
        walk (graphOf a.names ns v) a.names σ fuel (v.getD i 0) = some (f.sem σ) := by
  obtain ⟨v, ns, g, h1, h2, _, h4, _, h6⟩ := ground_graph_restricted a nn fms hd hnd hlen
  refine ⟨v, ns, h1, h2, fun i f hf σ hag fuel hfu => ?_⟩
  rw [h6 i f hf σ fuel hfu, h4, over_of_agree hag]

/-- `ground_graph_under_model` for the four stable strategies: every stored model `x`, every statement `i`, every `σ`
extending the model -/
theorem stable_graph_under_model (a : SAdf) (nn : Nat) (fms : List Fm) (s : Strategy) (hd : SrvA.Denotes a nn fms)
    (hnd : a.names.Nodup) (hs : s ≠ .ground ∧ s ≠ .complete) (hh : SrvA.strategyHalts 1000000 a s = true) :
    ∃ (res : SRes) (ns : Array Node), solveAdf a s = .ok res ∧
      ∀ x ∈ res, x.graph = graphOf a.names ns x.ac ∧ GraphHyp a.names ns x.ac ∧
        ∀ (i : Nat) (f : Fm), fms[i]? = some f → ∀ (σ : Asg), Agree σ (x.ac.map storeIsConst) →
          ∀ fuel, x.ac.getD i 0 < fuel → walk x.graph a.names σ fuel (x.ac.getD i 0) = some (f.sem σ) := by
  obtain ⟨res, ns, h1, h2⟩ := stable_graph_restricted a nn fms s hd hnd hs hh
  refine ⟨res, ns, h1, fun x hx => ?_⟩
  obtain ⟨e1, e2, e3, e4, e5⟩ := h2 x hx
  refine ⟨e1, e2, fun i f hf σ hag fuel hfu => ?_⟩
  have hi : i < x.ac.length := by rw [e3, ← hd.flen]; exact (List.getElem?_eq_some_iff.mp hf).1
  obtain ⟨b, hb, hw⟩ := e5 i hi σ fuel hfu
  rw [hw, decided_entry e4 hf hi hb hag]

/-- `ground_graph_under_model` for `Complete`: every stored complete interpretation `x`. Its decided entries are the
constants, its undecided entries keep the handle of the GROUNDED residual (the condition restricted
by the grounded interpretation, which every complete interpretation extends) — so again, under every
`σ` extending the shown interpretation, walking from the root of statement `i` yields the value of
statement `i`'s condition under `σ` -/
theorem complete_graph_under_model (a : SAdf) (nn : Nat) (fms : List Fm) (hd : SrvA.Denotes a nn fms)
    (hnd : a.names.Nodup) (hlen : a.names.length = nn) :
    ∃ (res : SRes) (ns : Array Node), solveAdf a .complete = .ok res ∧
      ∀ x ∈ res, x.graph = graphOf a.names ns x.ac ∧ GraphHyp a.names ns x.ac ∧
        ∀ (i : Nat) (f : Fm), fms[i]? = some f → ∀ (σ : Asg), Agree σ (x.ac.map storeIsConst) →
          ∀ fuel, x.ac.getD i 0 < fuel → walk x.graph a.names σ fuel (x.ac.getD i 0) = some (f.sem σ) := by
  have ⟨wr, hv, hden⟩ := SrvA.rebuilt_facts hd
  have ⟨w1, v1, l1, hg, hdetg, hpre⟩ := grounded_residuals hd
  have ⟨wF, eF, href⟩ := CompleteExact.completeAll_vectors (rebuild a.nodes) a.ac.length a.ac wr rfl hv
  have hex := (CompleteExact.completeAll_exact (rebuild a.nodes) a.ac.length a.ac wr rfl hv).2.1
  rw [hden] at hex
  have hsol := SrvA.solveAdf_complete a
  generalize groundedLoop StoreRA (a.ac.length + 1) (rebuild a.nodes) a.ac = g at w1 v1 l1 hg hdetg hpre eF href
  generalize completeAll (rebuild a.nodes) a.ac.length a.ac = r at wF eF href hex hsol
  refine ⟨_, r.1.nodes, hsol, fun x hx => ?_⟩
  obtain ⟨v, hvm, rfl⟩ := List.mem_map.mp hx
  have hr := href v hvm
  have hfix : Gam (fms.map Fm.sem) (v.map storeIsConst) = v.map storeIsConst :=
    ((hex _).mp (List.mem_map_of_mem hvm)).2
  -- the entries are valid in the grounded store already, where they have the same value
  have hvg := CompleteExact.refinement_valid g.1 w1.len g.2 v v1 hr
  have H : GraphHyp a.names r.1.nodes v := by
    refine graphHyp_of_detBy wF.table hnd (fun t ht => Nat.lt_of_lt_of_le (hvg t ht) eF.1) fun t ht => ?_
    rw [hlen, SrvA.eval_table, funext fun σ => eval_ext w1 eF t σ (hvg t ht)]
    obtain ⟨i, hi, rfl⟩ := List.getElem_of_mem ht
    rw [List.getElem_eq_getD (h := hi) 0]
    rcases refinement_entry hr (hr.1 ▸ hi) with h | h
    · rw [h]; exact hdetg _ (getD_mem (hr.1 ▸ hi))
    · exact detBy_const h _ _
  refine ⟨rfl, H, fun i f hf σ hag fuel hfu => ?_⟩
  have hig : i < g.2.length := by rw [l1, ← hd.flen]; exact (List.getElem?_eq_some_iff.mp hf).1
  have hi : i < v.length := hr.1 ▸ hig
  show walk (graphOf a.names r.1.nodes v) a.names σ fuel (v.getD i 0) = _
  rw [walk_root H i hi σ fuel hfu, SrvA.eval_table]
  rcases refinement_entry hr hig with h | h
  · -- an entry kept from the grounded vector: the grounded residual, and σ extends the grounded interpretation
    rw [h, eval_ext w1 eF _ σ (v1 _ (getD_mem hig)), hpre i f hf σ,
      over_of_agree fun k b hk => hag k b (hg.2 _ hfix k b hk)]
  · -- a decided entry: the model is a fixpoint of Γ
    obtain ⟨b, hb, hev⟩ := const_handle h r.1
    rw [hev σ, decided_entry hfix hf hi hb hag]

/-- any environment whose solve task is the library model with search bound `F`, any state: if the
document `GET /adf/{name}` finds stores only what belongs to its own code (`DocOK`) and shows `res` under
strategy `s`, then `res` is the solve result for the framework `a` parsed from the document's code, and
whenever `a` denotes conditions `fms` and the search halts within some `F0 ≤ F` on it, `res` is exactly
the definitional answer for `fms` -/
theorem get_shows_definitional (F0 F : Nat) (hF : F0 ≤ F) (E : Env String SHash SAdf SRes)
    (hsolve : ∀ a s, E.solve a s = SrvA.solveAdfF F a s)
    (st : State String SHash SAdf SRes) (jar : Nat) (u name : String) (p : Problem String SAdf SRes) (s : Strategy)
    (res : SRes) (hs : st.sess jar = some u) (hf : st.db.problems.find? (isProb u name) = some p)
    (hres : p.res.get s = .some res) (hdoc : DocOK E p) :
    ∃ (i : Info String SRes) (a : SAdf) (r : SRes),
      (step E st ⟨jar, .get name⟩).2 = ⟨200, .keep, .problem i⟩ ∧ i.code = p.code ∧ i.res.get s = .some res ∧
      E.parse p.parsing p.code = .ok (a, r) ∧
      ∀ nn fms, SrvA.Denotes a nn fms → SrvA.strategyHalts F0 a s = true →
        SrvA.PropAnswer nn (fms.map Fm.sem) s (SrvA.storedI3 res) := by
  obtain ⟨ts, hget, _⟩ := get_returns_stored E st jar u name p hs hf
  obtain ⟨a, r, hpar, hsol⟩ := hdoc.2 s res hres
  refine ⟨_, a, r, hget, rfl, hres, hpar, fun nn fms hd hh => ?_⟩
  obtain ⟨res', h1, h2⟩ := SrvA.stored_answers_exact_from_bound F0 a nn fms s hd hh
  rw [hsolve, (h1 F hF).1] at hsol
  cases hsol
  exact hd.propAnswer s h2

/-- `get_shows_definitional` for the conditions of the document's code, when every parse result denotes them -/
theorem answer_of_belongs_bound (F0 F : Nat) (hF : F0 ≤ F) (E : Env String SHash SAdf SRes)
    (hsolve : ∀ a s, E.solve a s = SrvA.solveAdfF F a s)
    (st : State String SHash SAdf SRes) (jar : Nat) (u name : String) (p : Problem String SAdf SRes) (s : Strategy)
    (res : SRes) (hs : st.sess jar = some u) (hf : st.db.problems.find? (isProb u name) = some p)
    (hres : p.res.get s = .some res) (hdoc : DocOK E p)
    (hb : ∀ a r, E.parse p.parsing p.code = .ok (a, r) →
      (∃ fms, conditions p.code = .ok (a.names, fms) ∧ SrvA.Denotes a a.names.length fms) ∧
      SrvA.strategyHalts F0 a s = true) :
    ∃ (i : Info String SRes) (names : List String) (fms : List Fm),
      (step E st ⟨jar, .get name⟩).2 = ⟨200, .keep, .problem i⟩ ∧
      i.code = p.code ∧ i.res.get s = .some res ∧
      conditions p.code = .ok (names, fms) ∧
      SrvA.PropAnswer names.length (fms.map Fm.sem) s (SrvA.storedI3 res) := by
  obtain ⟨i, a, r, hget, hc, hr, hpar, H⟩ := get_shows_definitional F0 F hF E hsolve st jar u name p s res hs hf hres hdoc
  obtain ⟨⟨fms, hcond, hd⟩, hh⟩ := hb a r hpar
  exact ⟨i, a.names, fms, hget, hc, hr, hcond, H _ fms hd hh⟩

theorem libEnv_solve_million (o : Oracle) (a : SAdf) (s : Strategy) :
    (libEnv o).solve a s = SrvA.solveAdfF 1000000 a s := (SrvA.solveAdfF_million a s).symm

end SrvC
