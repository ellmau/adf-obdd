import AdfObdd.CliModes
import AdfObdd.CountsDef
/-! # `--counter` of the `adf-bdd` binary (an addition to `CliM.runText`, which it leaves untouched)

`bin/src/main.rs`: after the construction of the framework (and before the first section) the naive
arm and the hybrid arm look at `--counter`:

* `nai`: `for c in adf.formulacounts(false) { print!("{:?} ", c) }; println!()`,
* `mem`: `for c in adf.formulacounts(true) { print!("{:?}", c) }; println!()` (no blank between the items),
* any other value, or none: nothing;
* the hybrid arm counts on a SEPARATE object, `adf.hybrid_step_opt(false)` (the bridge of the
  conditions themselves, not of the pre-grounded ones), and then goes on with `hybrid_step()`;
* the biodivine arm only logs an error ("Modelcounting not supported in biodivine mode").

`formulacounts(m)` is `bdd.models(ac, m)` for every condition: `modelcount_naive` resp.
`modelcount_memoization` (or the count cache with feature `adhoccountmodels`) — all of them return the
numbers of `countF` (C11–C13; as naturals: the Rust computes in `usize`, exact for diagrams of depth
≤ 64, `C13.count_word_exact`) — EXCEPT `mem` under the default feature set, which prints zeros
(`zeroMemoLine`). `{:?}` of `ModelCounts` is the derived `Debug`.

`--import` and `--export` (naive arm only) are modelled separately in `CliIO.lean` (`CliM.runTextIO`: the
binary with a file-system snapshot); `--counter` is not combined with them there. -/
namespace CliM
open ParserM FromParser Cli

/-- the value of `--counter` -/
inductive Counter where | absent | nai | mem | other
deriving DecidableEq, Repr

/-- `{:?}` of a `ModelCounts` -/
def showCounts (cm m : Nat) : List Char :=
  "ModelCounts { cmodels: ".toList ++ (Nat.repr cm).toList ++ ", models: ".toList ++ (Nat.repr m).toList ++ " }".toList

/-- the items of the counter line (`sep` = the blank of the `nai` variant) -/
def counterLine (sep : List Char) (s : Store) (ac : List Nat) : List Char :=
  ac.flatMap fun t => let c := countF s (t + 1) t; showCounts c.1 c.2.1 ++ sep

/-- what `models(term, true)` returns when the crate is compiled with feature `adhoccounting` but
without `adhoccountmodels` — THE DEFAULT FEATURE SET of the library and of the binary: `Bdd::node`
enters every new node into `count_cache` with the model counts multiplied by `(lo_exp, hi_exp) = (0, 0)`
(`#[cfg(not(feature = "adhoccountmodels"))]`), and `modelcount_memoization` returns the cache entry:
`(0, 0)` for every inner node; the constants are answered before the cache is looked at -/
def zeroMemoLine (ac : List Nat) : List Char :=
  ac.flatMap fun t => if t = 1 then showCounts 0 1 else if t = 0 then showCounts 1 0 else showCounts 0 0

/-- the lines `--counter` adds on the object `(s, ac)`. `zeroMemo` = "compiled with `adhoccounting` and
without `adhoccountmodels`" (see `zeroMemoLine`; with any other feature set `mem` prints the numbers of
`nai`: without `adhoccounting` the cache is filled by the recursion itself, with `adhoccountmodels` it
holds the right products). -/
def counterOut (zeroMemo : Bool) : Counter → Store → List Nat → List (List Char)
  | .nai, s, ac => [counterLine [' '] s ac]
  | .mem, s, ac => [if zeroMemo then zeroMemoLine ac else counterLine [] s ac]
  | _, _, _ => []

def counterLines {T : Type} (W : World T) (zm : Bool) (i : Inv) (c : Counter) (st : PState) : List (List Char) :=
  match i.mode with
  | .biodivine => []
  | .naive =>
    match fromParser st with
    | none => []
    | some b => counterOut zm c b.1 b.2
  | .hybrid =>
    match bioBuild (W.lib (dictSizeOf st)) st i.flags.stmrew with
    | none => []
    | some b =>
      -- `hybrid_step_opt(false)`: the conditions themselves through the bridge, into a fresh store
      let h := bridgeAll (W.lib (dictSizeOf st)) W.dump b.1 Store.init []
      counterOut zm c h.1 h.2

def runTextC {T : Type} (W : World T) (zm : Bool) (fuel : Nat) (i : Inv) (c : Counter) (t : List Char) : Out :=
  match parsed W i t with
  | none => rejected
  | some st =>
    match runParsed W fuel i st with
    | none => rejected
    | some blocks => ⟨0, counterLines W zm i c st ++ blocks.flatMap fun b => b.2.map (render st.namelist)⟩

theorem counterOut_length (zm : Bool) (c : Counter) (s : Store) (ac : List Nat) : (counterOut zm c s ac).length ≤ 1 := by
  cases c <;> simp [counterOut]

theorem counterLines_length {T : Type} (W : World T) (zm : Bool) (i : Inv) (c : Counter) (st : PState) :
    (counterLines W zm i c st).length ≤ 1 := by
  unfold counterLines
  split
  · exact Nat.zero_le 1
  · split
    · exact Nat.zero_le 1
    · exact counterOut_length zm c _ _
  · split
    · exact Nat.zero_le 1
    · exact counterOut_length zm c _ _

theorem counterLines_none {T : Type} (W : World T) (zm : Bool) (i : Inv) (c : Counter) (st : PState)
    (h : c = .absent ∨ c = .other ∨ i.mode = .biodivine) : counterLines W zm i c st = [] := by
  unfold counterLines
  rcases h with rfl | rfl | h
  · split <;> first | rfl | (split <;> rfl)
  · split <;> first | rfl | (split <;> rfl)
  · rw [h]

end CliM
