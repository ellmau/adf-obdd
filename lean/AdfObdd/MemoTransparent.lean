import AdfObdd.FeatureOps
/-! # Memo transparency of the operation language

The handles returned and the node table produced by `stepOp` / `runOps` do not depend on the contents of
the memo tables (`iteC`, `resC`), only on the node table (`stepOp_memo_transparent`,
`runOps_memo_transparent`). This is feature independence (`step_same`, `run_same` of `FeatureOps.lean`) at the
empty feature set: a bare store is the store of the build without features (`MemoT.bare`), and that configured
store is related (`RelA … False`) to every well-formed store with its node table (`MemoT.bare_rel`); two such
stores are both compared with it. Underneath are `restrictS_lock` (`StoreOps.lean`) and `iteS_lock`
(`StoreIte.lean`): handle and node table of one call depend on the node table alone. -/

namespace MemoT

/-- a bare store as the store of the build without any feature -/
def bare (s : Store) : FStore := { base := s, deps := #[], cnt := ∅ }

theorem bare_rel {s s' : Store} (w : WF s) (w' : WF s') (hn : s'.nodes = s.nodes) : RelA Cfg.none false False (bare s) s' :=
  ⟨⟨w, fun h => Bool.noConfusion h, CntOK_empty _ _, fun h => Bool.noConfusion h, fun h => Bool.noConfusion h⟩, w', hn.symm,
    False.elim⟩

end MemoT

open MemoT in
theorem stepOp_memo_transparent (s s' : Store) (hist : List Nat) (op : Op) (w : WF s) (w' : WF s')
    (hn : s'.nodes = s.nodes) (hh : ∀ k, k < hist.length → hget hist k < s.nodes.size)
    (hv : op.valid hist.length) :
    (stepOp s' hist op).2 = (stepOp s hist op).2 ∧ (stepOp s' hist op).1.nodes = (stepOp s hist op).1.nodes :=
  have a := step_same (bare_rel w w rfl) hist _ op (histOK_of_bounds s hist hh) hv
  have b := step_same (bare_rel w w' hn) hist _ op (histOK_of_bounds s' hist (by rw [hn]; exact hh)) hv
  ⟨b.1.symm.trans a.1, b.2.nodes.symm.trans a.2.nodes⟩

open MemoT in
theorem runOps_memo_transparent (ops : List Op) (s s' : Store) (hist : List Nat) (w : WF s) (w' : WF s')
    (hn : s'.nodes = s.nodes) (hh : ∀ k, k < hist.length → hget hist k < s.nodes.size)
    (hv : opsValid ops hist.length) :
    (runOps ops s' hist).2 = (runOps ops s hist).2 ∧
    (runOps ops s' hist).1.nodes = (runOps ops s hist).1.nodes :=
  have a := run_same _ _ ops _ _ hist _ (bare_rel w w rfl) (histOK_of_bounds s hist hh) hv
  have b := run_same _ _ ops _ _ hist _ (bare_rel w w' hn) (histOK_of_bounds s' hist (by rw [hn]; exact hh)) hv
  ⟨b.1.symm.trans a.1, b.2.nodes.symm.trans a.2.nodes⟩

theorem runOps_length (ops : List Op) (s : Store) (hist : List Nat) :
    (runOps ops s hist).2.length = hist.length + ops.length := by
  induction ops generalizing s hist with
  | nil => rfl
  | cons op ops ih =>
    show (runOps ops (stepOp s hist op).1 (hist ++ [(stepOp s hist op).2])).2.length = _
    rw [ih]; simp; omega

theorem runOps_memo_dropped (ops : List Op) (s : Store) (hist : List Nat) (w : WF s)
    (hh : ∀ k, k < hist.length → hget hist k < s.nodes.size) (hv : opsValid ops hist.length) :
    (runOps ops { s with iteC := {}, resC := {} } hist).2 = (runOps ops s hist).2 ∧
    (runOps ops { s with iteC := {}, resC := {} } hist).1.nodes = (runOps ops s hist).1.nodes := by
  exact runOps_memo_transparent ops s _ hist w w.dropMemo rfl hh hv

#print axioms MemoT.restrictF_rep
#print axioms MemoT.iteF_rep
#print axioms MemoT.restrictF_lock
#print axioms MemoT.iteF_lock
#print axioms stepOp_memo_transparent
#print axioms runOps_memo_transparent
#print axioms runOps_memo_dropped
