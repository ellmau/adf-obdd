import AdfObdd.ServerGraph
import AdfObdd.ServerProofs
import AdfObdd.StoreCanon
import AdfObdd.ServerAnswers
import AdfObdd.ServerConcreteProofs
import AdfObdd.ServerHybrid
import AdfObdd.HybridExample
import AdfObdd.ServerFuel
import AdfObdd.ServerLive
import AdfObdd.ServerParseLink
import AdfObdd.Props.C17
/-! # C16 — the web service returns the library's answers through its storage round trip

    Theorems about the executable models the correspondence runs compare with the real server:
    the graph DTO builder (`ServerAdf.graphOf` = `DoubleLabeledGraph::from_adf_and_ac`), and the
    task life cycle of `ServerM` (parse error stored and shown as an error; running entry removed
    when the blocking part ends — with the `RunningGuard` of the D7 repair also when it panics).
    That the *answers* are the definitional ones is section 6 (`stored_answers_exact_any_table` and
    its instances, `ServerAnswers.lean`): the composition of the storage round trip (C14), `from_parser`
    (C09) and C01–C05; at run time every stored answer is in addition judged against the
    brute-force semantics (`Spec/WebSem.lean`) by the `result` / `taskdone` monitors.
    Sections 7–12 carry this to the server model run with the library models (`SrvC.libEnv`, and
    `SrvC.hybEnv` with a modelled hybrid arm): per task, then over histories. Where the property fails
    it is a finding: D9 (a stale task's write, a lost write: sections 8, 10, 12), D6 (hybrid parsing
    panics on valid code: section 9), D14 (race of two adds: section 13). -/
namespace C16
open ServerM ServerAdf

/-! ## 1. the graph -/

/-- The node set of the graph DTO is exactly the set of nodes reachable from the roots (the shown
acceptance conditions) along lo/hi edges of the node table, and the builder's `while` loop ends (its
fuel, table size + 2, is enough: every round but the last adds a new index below the table size). -/
theorem graph_reachable {names : List String} {ns : Array Node} {ac : List Nat} (h : GraphHyp names ns ac) :
    (∃ res, GraphM.expandD (gnodes ns) (ns.size + 2) [] (GraphM.dedupN ac) = some res) ∧
    ∀ x, x ∈ (graphOf names ns ac).nodes.map (·.id) ↔ GraphM.Reachable (gnodes ns) ac x := by
  constructor
  · obtain ⟨res, hres, _⟩ := GraphM.expandD_total (gnodes ns) ac (inRange_of_hyp h)
    rw [gnodes_length] at hres
    exact ⟨res, hres⟩
  · intro x
    rw [graphOf_ids]
    exact mem_idsOf h x

/-- the edges shown are the table's lo/hi edges -/
theorem graph_edges {names : List String} {ns : Array Node} {ac : List Nat} (h : GraphHyp names ns ac)
    (x : Nat) (t : Node) (hx : GraphM.Reachable (gnodes ns) ac x) (h2 : 2 ≤ x) (ht : ns[x]? = some t) :
    (graphOf names ns ac).lo.find? (fun e => e.1 == x) = some (x, t.lo) ∧
    (graphOf names ns ac).hi.find? (fun e => e.1 == x) = some (x, t.hi) := by
  have hxlt : x < ns.size := reachable_lt h x hx
  have hmem := inner_mem h hx h2 ht
  have hgetD : ∀ d, ns.getD x d = t := by
    intro d; simp [Array.getD, hxlt]; simpa [hxlt] using ht
  rw [graphOf_lo_find, graphOf_hi_find, if_pos hmem, if_pos hmem, hgetD]
  exact ⟨rfl, rfl⟩

/-- The node with id `ac[s]` carries the root label of statement `s`, and walking the
DTO from it — at a node labelled `l` take the hi edge iff `σ` makes statement `l` true; a node
without outgoing edges is a terminal, `1` true and `0` false — yields the value of the diagram
`ac[s]` of the node table under `σ`, for every assignment `σ` and any fuel above the node id. -/
theorem graph_walk {names : List String} {ns : Array Node} {ac : List Nat} (h : GraphHyp names ns ac)
    (s : Nat) (hs : s < ac.length) (σ : Asg) (fuel : Nat) (hf : ac.getD s 0 < fuel) :
    (∃ nd ∈ (graphOf names ns ac).nodes, nd.id = ac.getD s 0 ∧ names.getD s "?" ∈ nd.roots) ∧
    walk (graphOf names ns ac) names σ fuel (ac.getD s 0) = some (eval ⟨ns, {}, {}, {}⟩ (ac.getD s 0) σ) := by
  have hreach : GraphM.Reachable (gnodes ns) ac (ac.getD s 0) := GraphM.Reachable.root _ (SrvC.getD_mem hs)
  refine ⟨⟨⟨ac.getD s 0, nameOfVar names ((ns.getD (ac.getD s 0) ⟨VTOP, 0, 0⟩).var), rootsOf names ac (ac.getD s 0)⟩, ?_, rfl, ?_⟩,
    SrvC.walk_root h s hs σ fuel hf⟩
  · simp only [graphOf, List.mem_map]
    exact ⟨ac.getD s 0, (mem_idsOf h _).mpr hreach, rfl⟩
  · simp only [rootsOf, List.mem_map, List.mem_filter, List.mem_range]
    exact ⟨s, ⟨hs, by simp⟩, rfl⟩

/-! ## 2. parse errors are reported as errors -/

section lifecycle
variable {T H A R : Type} [DecidableEq T]

/-- When the library reports an error for the submitted code (the parser rejects it, or building the
ADF panics), the final write of the parse task stores that error in `adf` *and* in
`acs_per_strategy.parse_only` of the addressed problem — never an empty answer. -/
theorem parse_error_reported (E : Env T H A R) (db : Db T H A R) (j n : Nat) (t : TaskRec T A) (code : T)
    (parsing : Parsing) (e : Err) (ht : nthOf j n db.tasks = some t) (hin : t.input = .parse code parsing)
    (hlive : t.blockingDone = true ∧ t.written = false) (herr : E.parse parsing code = .error e)
    (p : Problem T A R) (hp : db.problems.find? (isProb t.username t.name) = some p) :
    (dbEv E db (.write j n)).problems.find? (isProb t.username t.name) =
      some { p with adf := .error e, parseOnly := .error e } := by
  rw [write_lands E db j n t ht hlive p hp, hin]
  simp only [taskWrite, herr]
  rfl

/-- the owner's `GET` shows a stored parse error -/
theorem error_visible (E : Env T H A R) (st : State T H A R) (jar : Nat) (u name : T) (p : Problem T A R) (e : Err)
    (hs : st.sess jar = some u) (hf : st.db.problems.find? (isProb u name) = some p) (hp : p.parseOnly = .error e) :
    ∃ i, (ServerM.step E st ⟨jar, .get name⟩).2.body = .problem i ∧ i.parseOnly = .error e := by
  obtain ⟨ts, h, _⟩ := ServerM.get_returns_stored E st jar u name p hs hf
  exact ⟨_, by rw [h], hp⟩

/-- a solve request on a document whose parse failed is refused with that error -/
theorem error_blocks_solve (E : Env T H A R) (st : State T H A R) (jar : Nat) (u name : T) (p : Problem T A R)
    (e : Err) (s : Strategy) (hs : st.sess jar = some u) (hf : st.db.problems.find? (isProb u name) = some p)
    (hp : p.adf = .error e) :
    (ServerM.step E st ⟨jar, .solve name s⟩).2 = ⟨400, .keep, .msg (.couldNotParse e)⟩ := by
  simp only [ServerM.step, ServerM.stepT, ServerM.handler, hSolve, hs, ServerM.run, ServerM.exec, hf, hp, reply]

/-! ## 3. a task that has ended is not reported as running -/

/-- When the blocking part of a task ends — whatever it computed, and also if
it panicked: the event does not look at the outcome (that is the `RunningGuard` of the D7 repair) —
no entry equal to its `RunningInfo` remains in `currently_running`. -/
theorem running_cleared (E : Env T H A R) (db : Db T H A R) (j n : Nat) (t : TaskRec T A)
    (ht : nthOf j n db.tasks = some t) (hlive : t.blockingDone = false) :
    ∀ x ∈ (dbEv E db (.finish j n)).running, isInfo t.info x = false := by
  intro x hx
  simp only [dbEv, ht, hlive, Bool.false_eq_true, if_false, eraseInfo, List.mem_filter] at hx
  simpa using hx.2

/-- once its blocking part has ended, `GET` does not list the task among `running_tasks` -/
theorem not_listed_after_finish (E : Env T H A R) (db : Db T H A R) (j n : Nat) (t : TaskRec T A)
    (ht : nthOf j n db.tasks = some t) (hlive : t.blockingDone = false) :
    t.input.task ∉ (ServerM.exec (dbEv E db (.finish j n)) (.rTasks t.username t.name : Cmd T H A R)).2 := by
  intro hmem
  simp only [ServerM.exec, List.mem_map, List.mem_filter, Bool.and_eq_true, decide_eq_true_eq] at hmem
  obtain ⟨x, ⟨hx, hname, huser⟩, htask⟩ := hmem
  have := running_cleared E db j n t ht hlive x hx
  simp [isInfo, TaskRec.info, hname, huser, htask] at this

/-- A spawned task is listed. In the MODEL the entry is there from the spawn command of the
request on; in the Rust the `RunningGuard` is created as the first statement inside the `spawn_blocking`
closure (adf.rs:433, 583), i.e. some time after the `200` - a modelled-not-verified timing difference, see
`ServerLive.lean` (d): two quick solves of one strategy may both be accepted by the real server where the
model answers `409`; the stored answer is not affected -/
theorem listed_while_running (db : Db T H A R) (t : TaskRec T A) :
    t.input.task ∈ (ServerM.exec (ServerM.exec db (.spawn t)).1 (.rTasks t.username t.name : Cmd T H A R)).2 := by
  simp only [ServerM.exec, List.mem_map, List.mem_filter, Bool.and_eq_true, decide_eq_true_eq]
  by_cases h : db.running.any (isInfo t.info) = true
  · simp only [h, if_true]
    obtain ⟨x, hx, hxi⟩ := List.any_eq_true.mp h
    simp only [isInfo, TaskRec.info, Bool.and_eq_true] at hxi
    exact ⟨x, ⟨hx, of_decide_eq_true hxi.1.2, of_decide_eq_true hxi.1.1⟩, of_decide_eq_true hxi.2⟩
  · simp only [h, Bool.false_eq_true, if_false]
    exact ⟨t.info, ⟨by simp, rfl, rfl⟩, rfl⟩

/-- an INVARIANT over all histories, not only the state right after `.finish`: in every state reached
from the empty server every entry of `currently_running` is the `RunningInfo` of a spawned task whose
blocking part has not ended -/
theorem running_entries_are_unfinished_tasks (E : Env T H A R) (es : List (Event T)) :
    ∀ x ∈ (runAll E {} es).1.db.running, ∃ t ∈ (runAll E {} es).1.db.tasks, t.info = x ∧ t.blockingDone = false :=
  runInv_reachable E es

/-- In every reachable state, a task kind `GET` lists for the document
`(u, n)` belongs to a task of that kind and key that is still in its blocking part; so once every task of
that kind spawned under the key has ended, the kind is not listed. (The converse fails - in the Rust too:
the running set is a set of (user, problem, kind) triples, twins share one entry: `histTwin` below.) -/
theorem not_reported_as_running (E : Env T H A R) (es : List (Event T)) (u n : T) (k : Task)
    (hended : ∀ t ∈ (runAll E {} es).1.db.tasks, t.username = u → t.name = n → t.input.task = k → t.blockingDone = true) :
    k ∉ (ServerM.exec (runAll E {} es).1.db (.rTasks u n : Cmd T H A R)).2 := by
  intro h
  obtain ⟨t, ht, h1, h2, h3, h4⟩ := listed_only_if_unfinished E es u n k h
  rw [hended t ht h1 h2 h3] at h4
  cases h4

end lifecycle

/-! ## 4. the concrete library: unparseable or panicking code gives an error, never an answer -/

theorem parseNaive_error (key code : String) (e : Err) (h : conditions code = .error e) :
    parseNaive key code = .error e :=
  parseNaive_of_conditions_error key code e h

theorem parseNaive_ok (key code : String) (x : List String × List Fm) (h : conditions code = .ok x) :
    ∃ a r, parseNaive key code = .ok (a, r) ∧ a.names = x.1 ∧ r.length = 1 := by
  obtain ⟨a, ha, hn⟩ := parseNaive_of_conditions_ok key code x h
  exact ⟨a, _, ha, hn, rfl⟩

/-! ## 5. non-vacuity -/

/-- the table of `s(a).s(b).ac(a,neg(b)).ac(b,neg(a)).` as the server stores it -/
def tab1 : Array Node := #[⟨VBOT, 0, 0⟩, ⟨VTOP, 1, 1⟩, ⟨0, 0, 1⟩, ⟨1, 0, 1⟩, ⟨1, 1, 0⟩, ⟨0, 1, 0⟩]

theorem chk1 : storedAdfChk (.ok (["a", "b"], [.not (.atom 1), .not (.atom 0)]))
    { names := ["a", "b"], nodes := tab1, ac := [4, 5] } = true := by decide +kernel

/-- the graph of the parse result: the two roots, their children 0 and 1; nodes 2 and 3 (the plain
variables) are not reachable and not shown -/
theorem graph1 : graphOf ["a", "b"] tab1 [4, 5] =
    { nodes := [⟨0, "BOT", []⟩, ⟨1, "TOP", []⟩, ⟨4, "b", ["a"]⟩, ⟨5, "a", ["b"]⟩],
      lo := [(4, 1), (5, 1)], hi := [(4, 0), (5, 0)] } := by decide

example : (graphOf ["a", "b"] tab1 [4, 5]).nodes.map (·.id) = [0, 1, 4, 5] := by rw [graph1]; rfl
example : (graphOf ["a", "b"] tab1 [4, 5]).lo = [(4, 1), (5, 1)] := by rw [graph1]
example : (graphOf ["a", "b"] tab1 [4, 5]).nodes.map (·.roots) = [[], [], ["a"], ["b"]] := by rw [graph1]; rfl
example : walk (graphOf ["a", "b"] tab1 [4, 5]) ["a", "b"] (fun v => v == 1) 6 4 = some false := by rw [graph1]; decide
example : walk (graphOf ["a", "b"] tab1 [4, 5]) ["a", "b"] (fun _ => false) 6 4 = some true := by rw [graph1]; decide

def Eerr : Env Nat Nat Nat Nat where
  emp := 0
  hash := fun s p => s + p
  verify := fun h p => h == p
  parse := fun _ code => if code = 9 then .error .parseError else .ok (code, code)
  solve := fun a _ => .ok a

def histErr : List (Event Nat) :=
  [.req ⟨0, .register 1 7 0⟩, .req ⟨0, .login 1 7⟩, .req ⟨0, .add 5 (some 9) none .naive 100 101⟩]

example : ((runAll Eerr {} histErr).1.db.running).length = 1 := by decide
example : ((runAll Eerr {} (histErr ++ [.finish 0 0])).1.db.running) = [] := by decide
example : ((runAll Eerr {} (histErr ++ [.finish 0 0, .write 0 0])).1.db.problems.map (·.parseOnly)) = [.error .parseError] := by
  decide
example : (ServerM.step Eerr (runAll Eerr {} (histErr ++ [.finish 0 0, .write 0 0])).1 ⟨0, .solve 5 .ground⟩).2 =
    ⟨400, .keep, .msg (.couldNotParse .parseError)⟩ := by decide

/-! ## 6. the stored answers are the definitional ones

`SrvA.solveAdfF fuel` is the solve task (`rebuild` of the stored node list, the strategy = a CLI
section, the graphs) with the fuel-based model `SM.ngSearch .simple fuel` of `stable_nogood(Simple)`.
`ServerAdf.solveAdf`, the function the driver runs, IS `SrvA.solveAdfF 1000000`
(`solve_model_is_bound_instance`); the Rust loop has no bound, hence the hypothesis
`SrvA.strategyHalts` ("the search halted within the bound", as in C15; `rfl` for the five strategies
without nogood search). It holds for every large bound (`stored_answers_exact_every_large_bound`), and
at 10^6 for at most 16 statements (section 11). `SrvA.Denotes a n fms`: the stored ADF `a` has a
well-formed table and one valid handle per statement with the Boolean function of its condition.
`SrvA.storedI3`: the stored vectors (`AcAndGraph.ac`) read as three-valued interpretations.
`stored_answers_exact_any_table` is the general statement; the other `stored_answers_exact*`
instantiate the parsing, the bound or the halting hypothesis. -/

/-- the storage round trip works for ANY well-formed stored table (also one adopted from biodivine's
dump): `Bdd::from(Vec<BddNode>)` gives a well-formed store with exactly that table -/
theorem rebuild_any_wellformed_table (ns : Array Node) (w : TableWF ns) : WF (rebuild ns) ∧ (rebuild ns).nodes = ns :=
  rebuild_WF ns w

/-- naive parsing: what a successful parse task stores denotes the conditions of the submitted code
(`ServerAdf.conditions`: per statement the last `ac` fact, falsum without one) -/
theorem naive_parse_denotes_code (key code : String) (a : SAdf) (r : SRes) (h : parseNaive key code = .ok (a, r))
    (hn : a.names.length ≤ VBOT) :
    ∃ fms, conditions code = .ok (a.names, fms) ∧ SrvA.Denotes a a.names.length fms :=
  SrvA.parseNaive_denotes key code a r h hn

/-- the fuel matters for `StableNogood` only -/
theorem solve_model_agrees (fuel : Nat) (a : SAdf) (s : Strategy) (h : s ≠ .stableNogood) :
    SrvA.solveAdfF fuel a s = solveAdf a s := SrvA.solveAdfF_eq fuel a s h

/-- the `StableNogood` arm of `ServerAdf.solveAdf` runs the fuel-based search of C05 with the fixed
bound 10^6 -/
theorem solve_model_is_bound_instance (a : SAdf) (s : Strategy) : SrvA.solveAdfF 1000000 a s = solveAdf a s :=
  SrvA.solveAdfF_million a s

/-- `stored_answers_exact_any_table` for `ServerAdf.solveAdf` itself, every strategy; the halting
hypothesis is `strategyHalts_five` unless `s = StableNogood` -/
theorem stored_answers_exact_driver_model (a : SAdf) (n : Nat) (fms : List Fm) (s : Strategy)
    (h : SrvA.Denotes a n fms) (hh : SrvA.strategyHalts 1000000 a s = true) :
    ∃ res, solveAdf a s = .ok res ∧
      (SrvA.storedI3 res).Perm (Cli.specSection n (CliF.tablesOf n fms) (SrvA.secOf s)) := by
  have := SrvA.stored_answers_exact_any_table 1000000 a n fms s h hh
  rwa [solve_model_is_bound_instance] at this

/-- Naive parsing, from the submitted text: if the parse task stored `a` for `code`, then for EVERY
strategy the solve task run on the ADF rebuilt from what was stored succeeds and stores — as a multiset
of three-valued interpretations — exactly the specification's answer for the conditions of the
submitted code; `StableNogood`: provided its search halted within the bound -/
theorem stored_answers_exact (fuel : Nat) (key code : String) (a : SAdf) (r : SRes) (s : Strategy)
    (h : parseNaive key code = .ok (a, r)) (hn : a.names.length ≤ VBOT)
    (hh : SrvA.strategyHalts fuel a s = true) :
    ∃ fms res, conditions code = .ok (a.names, fms) ∧ SrvA.solveAdfF fuel a s = .ok res ∧
      (SrvA.storedI3 res).Perm
        (Cli.specSection a.names.length (CliF.tablesOf a.names.length fms) (SrvA.secOf s)) := by
  obtain ⟨fms, hc, hd⟩ := SrvA.parseNaive_denotes key code a r h hn
  obtain ⟨res, h1, h2⟩ := SrvA.stored_answers_exact_any_table fuel a _ fms s hd hh
  exact ⟨fms, res, hc, h1, h2⟩

/-- The claim of `stored_answers_exact` for ANY stored ADF that denotes the conditions (hybrid parsing
as well) — a well-formed table whose `ac` handles have the conditions' functions, which the run-time
check `storedAdfOK'` of an adopted table implies (`stored_adf_check_implies_denotes`) -/
theorem stored_answers_exact_any_table (fuel : Nat) (a : SAdf) (n : Nat) (fms : List Fm) (s : Strategy)
    (h : SrvA.Denotes a n fms) (hh : SrvA.strategyHalts fuel a s = true) :
    ∃ res, SrvA.solveAdfF fuel a s = .ok res ∧
      (SrvA.storedI3 res).Perm (Cli.specSection n (CliF.tablesOf n fms) (SrvA.secOf s)) :=
  SrvA.stored_answers_exact_any_table fuel a n fms s h hh

/-- the halting hypothesis can always be met: from some bound on the search halts and the stored
answers are exact -/
theorem stored_answers_exact_every_large_bound (a : SAdf) (n : Nat) (fms : List Fm) (s : Strategy)
    (h : SrvA.Denotes a n fms) :
    ∃ F0, ∀ fuel, F0 ≤ fuel → SrvA.strategyHalts fuel a s = true ∧
      ∃ res, SrvA.solveAdfF fuel a s = .ok res ∧
        (SrvA.storedI3 res).Perm (Cli.specSection n (CliF.tablesOf n fms) (SrvA.secOf s)) :=
  SrvA.stored_answers_exact_every_large_bound a n fms s h

/-- the five strategies without nogood search, any stored table: no hypothesis about bounds -/
theorem stored_answers_exact_driver_model_no_search (a : SAdf) (n : Nat) (fms : List Fm) (s : Strategy)
    (h : SrvA.Denotes a n fms) (hs : s ≠ .stableNogood) :
    ∃ res, solveAdf a s = .ok res ∧
      (SrvA.storedI3 res).Perm (Cli.specSection n (CliF.tablesOf n fms) (SrvA.secOf s)) := by
  rw [← SrvA.solveAdfF_eq 0 a s hs]
  exact SrvA.stored_answers_exact_any_table 0 a n fms s h (SrvA.strategyHalts_of_ne 0 a s hs)

/-- `stored_answers_exact_driver_model_no_search` from the submitted text (naive parsing → storage →
rebuild → `solveAdf`) -/
theorem stored_answers_exact_naive_driver_model_no_search (key code : String) (a : SAdf) (r : SRes) (s : Strategy)
    (h : parseNaive key code = .ok (a, r)) (hn : a.names.length ≤ VBOT) (hs : s ≠ .stableNogood) :
    ∃ fms res, conditions code = .ok (a.names, fms) ∧ solveAdf a s = .ok res ∧
      (SrvA.storedI3 res).Perm
        (Cli.specSection a.names.length (CliF.tablesOf a.names.length fms) (SrvA.secOf s)) := by
  obtain ⟨fms, hc, hd⟩ := SrvA.parseNaive_denotes key code a r h hn
  obtain ⟨res, h1, h2⟩ := stored_answers_exact_driver_model_no_search a _ fms s hd hs
  exact ⟨fms, res, hc, h1, h2⟩

/-- `stored_answers_exact_any_table` at the level of the definitions (`SrvA.PropAnswer`): ground
stores the least fixpoint of Γ, complete stores every fixpoint of Γ exactly once, the four stable
strategies store every stable model exactly once — for the Boolean functions `fms.map Fm.sem` of the
submitted conditions -/
theorem stored_answers_definitional (fuel : Nat) (a : SAdf) (n : Nat) (fms : List Fm) (s : Strategy)
    (h : SrvA.Denotes a n fms) (hh : SrvA.strategyHalts fuel a s = true) :
    ∃ res, SrvA.solveAdfF fuel a s = .ok res ∧ SrvA.PropAnswer n (fms.map Fm.sem) s (SrvA.storedI3 res) :=
  SrvA.stored_answers_definitional fuel a n fms s h hh

theorem denotes1 : SrvA.Denotes { names := ["a", "b"], nodes := tab1, ac := [4, 5] } 2 [.not (.atom 1), .not (.atom 0)] :=
  (storedAdfChk_denotes ["a", "b"] [.not (.atom 1), .not (.atom 0)] _ (by
    intro φ hφ
    simp only [List.mem_cons, List.not_mem_nil, or_false] at hφ
    rcases hφ with rfl | rfl <;> simp [NConc.atomsLt]) chk1).2

theorem hyp1 : GraphHyp ["a", "b"] tab1 [4, 5] := denotes1.graphHyp (by decide) rfl

theorem spec1_stable : Spec.stableAll 2 (CliF.tablesOf 2 [.not (.atom 1), .not (.atom 0)]) =
    [[some true, some false], [some false, some true]] := by decide

theorem spec1_complete : Spec.completeAll 2 (CliF.tablesOf 2 [.not (.atom 1), .not (.atom 0)]) =
    [[none, none], [some true, some false], [some false, some true]] := by decide

example : ∃ res, solveAdf { names := ["a", "b"], nodes := tab1, ac := [4, 5] } .stable = .ok res ∧
    (SrvA.storedI3 res).Perm [[some true, some false], [some false, some true]] := by
  obtain ⟨res, h1, h2⟩ := stored_answers_exact_driver_model_no_search _ 2 _ .stable denotes1 (by decide)
  exact ⟨res, h1, h2.trans (.of_eq spec1_stable)⟩

example : ∃ res, solveAdf { names := ["a", "b"], nodes := tab1, ac := [4, 5] } .complete = .ok res ∧
    (SrvA.storedI3 res).Perm [[none, none], [some true, some false], [some false, some true]] := by
  obtain ⟨res, h1, h2⟩ := stored_answers_exact_driver_model_no_search _ 2 _ .complete denotes1 (by decide)
  exact ⟨res, h1, h2.trans (.of_eq spec1_complete)⟩

def code1 : String := "s(a).s(b).ac(a,neg(b)).ac(b,neg(a))."
def allSix : List Strategy := [.ground, .complete, .stable, .stableCountingA, .stableCountingB, .stableNogood]

-- by evaluation: the store's hash tables do not reduce in the kernel
#guard (match parseNaive "k" code1 with
  | .ok (a, _) => a.names == ["a", "b"] && a.nodes == tab1 && a.ac == [4, 5]
  | .error _ => false)
#guard (match parseNaive "k" code1 with
  | .ok (a, _) => allSix.all (fun s =>
      SrvA.strategyHalts 1000000 a s &&
      (match SrvA.solveAdfF 1000000 a s, solveAdf a s with
       | .ok r, .ok r' => r.map AcG.ac == r'.map AcG.ac
       | _, _ => false))
  | .error _ => false)
#guard (match parseNaive "k" code1 with
  | .ok (a, _) => (match solveAdf a .stableNogood with | .ok r => r.map AcG.ac == [[1, 0], [0, 1]] | .error _ => false)
  | .error _ => false)

/-! ## 7. the service: the server model instantiated with the concrete library models

`SrvC.libEnv o = SrvC.mkEnv true o` is the environment the driver runs (`Drv/Http.lean` imports the
definition from `ServerConcrete.lean`): `parse .naive = parseNaive`, `solve = solveAdf`; for HYBRID
parsing the outcome class is computed (`parseOutcome`) and the stored table is the one adopted from
the implementation (`o.hyb`) — the theorems of THIS section about hybrid parsing assume `SrvA.Denotes` of
the adopted table; section 9 derives it (from the printed run-time check `storedAdfOK'`, and for the
modelled hybrid arm).
All statements hold in EVERY server state (so in every reachable one). Hypotheses of the form
"the task `(j, n)` is …, the addressed document exists" describe the moment of the write; in the Rust
(and the model) a document can be deleted and re-created, or its owner renamed, while a task runs —
then the write goes to whatever document carries the (user, name) pair at that moment (finding D9) —
which is why these are hypotheses and not consequences of reachability. -/

section service
open SrvC

/-- the service's environment is the library: the theorems of section 6 about `parseNaive` /
`solveAdf` are statements about what the service's tasks compute -/
theorem service_env_is_library (o : Oracle) :
    (∀ code, (libEnv o).parse .naive code = parseNaive (parseKey .naive code) code) ∧
    (∀ a s, (libEnv o).solve a s = solveAdf a s) := ⟨libEnv_parse_naive o, libEnv_solve o⟩

/-- Parse task, naive parsing, accepted text: the final write stores in the addressed document the
`SimplifiedAdf` `a` of the library's `from_parser` result and its parse-only graph; `a` has the names
of the text, denotes its conditions and satisfies the graph builder's assumptions -/
theorem parse_task_stores_framework (o : Oracle) (db : Db String SHash SAdf SRes) (j n : Nat)
    (t : TaskRec String SAdf) (code : String) (names : List String) (fms : List Fm)
    (ht : nthOf j n db.tasks = some t) (hin : t.input = .parse code .naive)
    (hlive : t.blockingDone = true ∧ t.written = false)
    (hacc : conditions code = .ok (names, fms)) (hn : names.length ≤ VBOT)
    (p : Problem String SAdf SRes) (hp : db.problems.find? (isProb t.username t.name) = some p) :
    ∃ a : SAdf,
      (dbEv (libEnv o) db (.write j n)).problems.find? (isProb t.username t.name) =
        some { p with adf := .some a, parseOnly := .some [⟨a.ac, graphOf a.names a.nodes a.ac⟩] } ∧
      (libEnv o).parse .naive code = .ok (a, [⟨a.ac, graphOf a.names a.nodes a.ac⟩]) ∧
      a.names = names ∧ SrvA.Denotes a names.length fms ∧ GraphHyp a.names a.nodes a.ac :=
  SrvC.parse_task_stores_framework o db j n t code names fms ht hin hlive hacc hn p hp

/-- Parse task, hybrid parsing, accepted text: the table adopted from the implementation for this code
(`o.hyb`) and its graph are stored. That it denotes the conditions of the text (`SrvA.Denotes`) is a
hypothesis of the theorems of this section; the run-time check `storedAdfOK'` of the adopted table
implies it (section 9). -/
theorem parse_task_stores_adopted (o : Oracle) (db : Db String SHash SAdf SRes) (j n : Nat)
    (t : TaskRec String SAdf) (code : String) (x : List String × List Fm) (a : SAdf)
    (ht : nthOf j n db.tasks = some t) (hin : t.input = .parse code .hybrid)
    (hlive : t.blockingDone = true ∧ t.written = false)
    (hacc : conditions code = .ok x) (hl : lookupS (parseKey .hybrid code) o.hyb = some a)
    (p : Problem String SAdf SRes) (hp : db.problems.find? (isProb t.username t.name) = some p) :
    (dbEv (libEnv o) db (.write j n)).problems.find? (isProb t.username t.name) =
      some { p with adf := .some a, parseOnly := .some [⟨a.ac, graphOf a.names a.nodes a.ac⟩] } :=
  parse_success_stored (libEnv o) db j n t code .hybrid a _ ht hin hlive (libEnv_parse_hybrid_ok o code x a hacc hl) p hp

/-- Unparseable code, both parsing strategies: `parse_error_reported` with the concrete library -/
theorem parse_task_stores_error (o : Oracle) (db : Db String SHash SAdf SRes) (j n : Nat)
    (t : TaskRec String SAdf) (code : String) (parsing : Parsing) (e : Err)
    (ht : nthOf j n db.tasks = some t) (hin : t.input = .parse code parsing)
    (hlive : t.blockingDone = true ∧ t.written = false) (herr : conditions code = .error e)
    (p : Problem String SAdf SRes) (hp : db.problems.find? (isProb t.username t.name) = some p) :
    (dbEv (libEnv o) db (.write j n)).problems.find? (isProb t.username t.name) =
      some { p with adf := .error e, parseOnly := .error e } :=
  parse_error_reported (libEnv o) db j n t code parsing e ht hin hlive (libEnv_parse_error_iff o code e herr parsing) p hp

/-- The solve request works on the STORED framework: an accepted `PUT /adf/{name}/solve` found the
document, read its stored framework `a`, and spawned exactly the task `solve a s` for this user,
problem and strategy -/
theorem solve_request_uses_stored_framework (o : Oracle) (st : State String SHash SAdf SRes) (jar : Nat)
    (name : String) (s : Strategy) (h : (ServerM.step (libEnv o) st ⟨jar, .solve name s⟩).2.status = 200) :
    ∃ u p a, st.sess jar = some u ∧ st.db.problems.find? (isProb u name) = some p ∧ p.adf = .some a ∧
      (ServerM.step (libEnv o) st ⟨jar, .solve name s⟩).1.db.tasks =
        st.db.tasks ++ [{ jar := jar, username := u, name := name, input := .solve a s }] ∧
      (ServerM.step (libEnv o) st ⟨jar, .solve name s⟩).1.db.problems = st.db.problems :=
  solve_accepted (libEnv o) st jar name s h

/-- Solve task: the document stores exactly `solveAdf a s` — the library model's answer for the
stored framework — under the addressed strategy, and that answer is the definitional one for the
conditions `a` denotes (`hh`: the nogood search halted within the bound; `rfl` unless
`s = StableNogood`) -/
theorem solve_task_stores_answer (o : Oracle) (db : Db String SHash SAdf SRes) (j n : Nat)
    (t : TaskRec String SAdf) (a : SAdf) (s : Strategy) (nn : Nat) (fms : List Fm)
    (ht : nthOf j n db.tasks = some t) (hin : t.input = .solve a s)
    (hlive : t.blockingDone = true ∧ t.written = false)
    (hd : SrvA.Denotes a nn fms) (hh : SrvA.strategyHalts 1000000 a s = true)
    (p : Problem String SAdf SRes) (hp : db.problems.find? (isProb t.username t.name) = some p) :
    ∃ res : SRes,
      (dbEv (libEnv o) db (.write j n)).problems.find? (isProb t.username t.name) =
        some { p with res := p.res.set s (.some res) } ∧
      (libEnv o).solve a s = .ok res ∧
      (SrvA.storedI3 res).Perm (Cli.specSection nn (CliF.tablesOf nn fms) (SrvA.secOf s)) ∧
      SrvA.PropAnswer nn (fms.map Fm.sem) s (SrvA.storedI3 res) :=
  SrvC.solve_task_stores_answer o db j n t a s nn fms ht hin hlive hd hh p hp

/-- A task's write leaves the document of every other (user, problem) pair, the users and the running
set as they were; within the addressed document only the addressed strategy's slot changes (the record
update in `solve_task_stores_answer` and `Results.get_set_other`) -/
theorem write_touches_only_its_target (o : Oracle) (db : Db String SHash SAdf SRes) (j n : Nat) :
    (∀ u' n', (∀ t, nthOf j n db.tasks = some t → ¬ (u' = t.username ∧ n' = t.name)) →
      (dbEv (libEnv o) db (.write j n)).problems.find? (isProb u' n') = db.problems.find? (isProb u' n')) ∧
    (dbEv (libEnv o) db (.write j n)).users = db.users ∧ (dbEv (libEnv o) db (.write j n)).running = db.running ∧
    (∀ (r : Results SRes) (s s' : Strategy) (v : OWE SRes), s' ≠ s → (r.set s v).get s' = r.get s') :=
  ⟨fun u' n' h => write_elsewhere_unchanged (libEnv o) db j n u' n' h, (write_users_running (libEnv o) db j n).1,
   (write_users_running (libEnv o) db j n).2, fun r s s' v h => Results.get_set_other r s s' v h⟩

/-- `GET` returns what is stored (and changes nothing, so repeated gets agree) -/
theorem get_returns_stored (o : Oracle) (st : State String SHash SAdf SRes) (jar : Nat) (u name : String)
    (p : Problem String SAdf SRes) (hs : st.sess jar = some u) (hf : st.db.problems.find? (isProb u name) = some p) :
    ∃ ts, (ServerM.step (libEnv o) st ⟨jar, .get name⟩).2 =
        ⟨200, .keep, .problem ⟨p.name, p.code, p.parsing, p.parseOnly, p.res, ts⟩⟩ ∧
      (ServerM.step (libEnv o) st ⟨jar, .get name⟩).1.db = st.db :=
  ServerM.get_returns_stored (libEnv o) st jar u name p hs hf

/-- The answer a user retrieves after the solve task has written: `solve_task_stores_answer` seen
through `GET`; the document's other fields and the other strategies' slots are as before -/
theorem served_answer (o : Oracle) (st : State String SHash SAdf SRes) (j n jar : Nat)
    (t : TaskRec String SAdf) (a : SAdf) (s : Strategy) (nn : Nat) (fms : List Fm)
    (ht : nthOf j n st.db.tasks = some t) (hin : t.input = .solve a s)
    (hlive : t.blockingDone = true ∧ t.written = false)
    (hd : SrvA.Denotes a nn fms) (hh : SrvA.strategyHalts 1000000 a s = true)
    (p : Problem String SAdf SRes) (hp : st.db.problems.find? (isProb t.username t.name) = some p)
    (hs : st.sess jar = some t.username) :
    ∃ (res : SRes) (i : Info String SRes),
      (ServerM.step (libEnv o) (stepEv (libEnv o) st (.write j n)).1 ⟨jar, .get t.name⟩).2 = ⟨200, .keep, .problem i⟩ ∧
      i.name = p.name ∧ i.code = p.code ∧ i.parsing = p.parsing ∧ i.parseOnly = p.parseOnly ∧
      i.res.get s = .some res ∧ (∀ s', s' ≠ s → i.res.get s' = p.res.get s') ∧
      (libEnv o).solve a s = .ok res ∧
      SrvA.PropAnswer nn (fms.map Fm.sem) s (SrvA.storedI3 res) :=
  SrvC.served_answer_env (libEnv o) (libEnv_solve o) st j n jar t a s nn fms ht hin hlive hd hh p hp hs

/-- Naive parsing: the answer a user retrieves for strategy `s` on the submitted text `code` is the
set of grounded / complete / stable models of the framework denoted by the text — for each of the six
strategies. `hparse`: the framework the solve task works on is the service's parse result for `code`
(stored by `parse_task_stores_framework`, read by `solve_request_uses_stored_framework`). `hh`: the
nogood-learning search of `StableNogood` reached its `done` state within the 10^6 iterations the
executable model allows (the Rust loop has no bound); it is `true` by `rfl` for the other five
strategies (`strategyHalts_five`) and holds for every sufficiently large bound
(`strategyHalts_eventually`). -/
theorem served_answer_for_code (o : Oracle) (st : State String SHash SAdf SRes) (j n jar : Nat)
    (t : TaskRec String SAdf) (code : String) (a : SAdf) (r : SRes) (s : Strategy)
    (ht : nthOf j n st.db.tasks = some t) (hin : t.input = .solve a s)
    (hlive : t.blockingDone = true ∧ t.written = false)
    (hparse : (libEnv o).parse .naive code = .ok (a, r)) (hn : a.names.length ≤ VBOT)
    (hh : SrvA.strategyHalts 1000000 a s = true)
    (p : Problem String SAdf SRes) (hp : st.db.problems.find? (isProb t.username t.name) = some p)
    (hs : st.sess jar = some t.username) :
    ∃ (fms : List Fm) (res : SRes) (i : Info String SRes),
      conditions code = .ok (a.names, fms) ∧
      (ServerM.step (libEnv o) (stepEv (libEnv o) st (.write j n)).1 ⟨jar, .get t.name⟩).2 = ⟨200, .keep, .problem i⟩ ∧
      i.res.get s = .some res ∧ (∀ s', s' ≠ s → i.res.get s' = p.res.get s') ∧
      SrvA.PropAnswer a.names.length (fms.map Fm.sem) s (SrvA.storedI3 res) :=
  SrvC.served_answer_for_code o st j n jar t code a r s ht hin hlive hparse hn hh p hp hs

theorem strategyHalts_five (fuel : Nat) (a : SAdf) (s : Strategy) (h : s ≠ .stableNogood) :
    SrvA.strategyHalts fuel a s = true := SrvA.strategyHalts_of_ne fuel a s h

/-- the fuel hypothesis can be met: for every stored framework that denotes conditions, from some
bound on the search halts (all strategies); what is NOT proved is that 10^6, the bound the
executable model uses in place of the real code's unbounded loop, is such a bound for the instance
at hand when it has more than 16 statements (`strategy_halts_for_small_frameworks`) — for an instance
where it is not, the model would store a truncated answer and the correspondence run would report the
difference -/
theorem strategyHalts_eventually (a : SAdf) (nn : Nat) (fms : List Fm) (s : Strategy) (hd : SrvA.Denotes a nn fms) :
    ∃ F0, ∀ fuel, F0 ≤ fuel → SrvA.strategyHalts fuel a s = true := by
  obtain ⟨F0, h⟩ := SrvA.stored_answers_exact_every_large_bound a nn fms s hd
  exact ⟨F0, fun f hf => (h f hf).1⟩

/-- The storage round trip `Adf → SimplifiedAdf` (every index printed as a decimal string,
the name map entry-wise) `→ Adf` (every string parsed back, node list replayed through `Bdd::node`)
never panics and is the identity on (ordering, node table, acceptance conditions); the re-hydrated
store is well formed and every handle denotes the function it denoted before -/
theorem storage_roundtrip_identity (a : SrvRT.LibAdf) (w : WF a.bdd) :
    ∃ b, (SrvRT.SimpAdf.ofLib a).toLib = some b ∧ b.ordering = a.ordering ∧ b.bdd.nodes = a.bdd.nodes ∧
      b.ac = a.ac ∧ WF b.bdd ∧ ∀ t σ, eval b.bdd t σ = eval a.bdd t σ := by
  have ⟨wr, hn⟩ := rebuild_WF a.bdd.nodes w.table
  exact ⟨_, SrvRT.roundtrip a, rfl, hn, rfl, wr, eval_congr hn⟩

/-- the model's stored `SAdf` is the decoded document, and the model's solve task is solving the
re-hydrated object -/
theorem solve_task_is_solving_rehydrated (fuel : Nat) (key : String) (a : SrvRT.LibAdf) (s : Strategy) :
    ∃ b sa, (SrvRT.SimpAdf.ofLib a).toLib = some b ∧ (SrvRT.SimpAdf.ofLib a).toSAdf key = some sa ∧
      SrvA.solveAdfF fuel sa s = .ok (SrvRT.solveOn fuel b.ordering.names b.bdd b.ac s) :=
  ⟨_, _, SrvRT.roundtrip a, SrvRT.stored_sadf key a, rfl⟩

/-- Solving after the round trip = solving the original object (with whatever its operation caches
hold): the same multiset of three-valued interpretations, namely the specification's (under the halting
hypothesis of the nogood search for `StableNogood`) -/
theorem solve_after_roundtrip_same (fuel : Nat) (a : SrvRT.LibAdf) (n : Nat) (fms : List Fm) (s : Strategy)
    (w : WF a.bdd) (hd : SrvA.Denotes { names := a.ordering.names, nodes := a.bdd.nodes, ac := a.ac } n fms)
    (hh1 : CliF.sectionHaltsF fuel .simple (SrvA.secOf s) a.bdd n a.ac = true)
    (hh2 : SrvA.strategyHalts fuel { names := a.ordering.names, nodes := a.bdd.nodes, ac := a.ac } s = true) :
    (SrvA.storedI3 (SrvRT.solveOn fuel a.ordering.names a.bdd a.ac s)).Perm
      (SrvA.storedI3 (SrvRT.solveOn fuel a.ordering.names (rebuild a.bdd.nodes) a.ac s)) ∧
    (SrvA.storedI3 (SrvRT.solveOn fuel a.ordering.names a.bdd a.ac s)).Perm
      (Cli.specSection n (CliF.tablesOf n fms) (SrvA.secOf s)) := by
  obtain ⟨res, h1, h2⟩ := SrvA.stored_answers_exact_any_table fuel _ n fms s hd hh2
  rw [SrvRT.solveAdfF_is_solveOn] at h1
  obtain rfl := Except.ok.inj h1
  have pm : (SrvA.storedI3 (SrvRT.solveOn fuel a.ordering.names a.bdd a.ac s)).Perm
      (Cli.specSection n (CliF.tablesOf n fms) (SrvA.secOf s)) := by
    unfold SrvA.storedI3 SrvRT.solveOn
    rw [List.map_map, show a.ac.length = n from hd.len]
    exact (hd.section_exact w rfl fuel (SrvA.secOf s) hh1).2.2
  exact ⟨pm.trans h2.symm, pm⟩

/-- For every framework that came from an accepted text (naive parsing) the assumptions `GraphHyp` of
`graph_reachable` / `graph_edges` / `graph_walk` are consequences: distinct
names (the parser keeps the first occurrence of a statement), every reachable inner node tests a named
statement (in a reduced table it tests a variable its root's condition depends on), well-formed table,
roots inside it -/
theorem graph_hyp_of_accepted_text (key code : String) (a : SAdf) (r : SRes) (h : parseNaive key code = .ok (a, r))
    (hn : a.names.length ≤ VBOT) : GraphHyp a.names a.nodes a.ac :=
  parseNaive_graphHyp key code a r h hn

/-- `GraphHyp` for ANY well-formed table (e.g. the store after solving) whose roots denote functions
of the named statements only -/
theorem graph_hyp_of_functions {names : List String} {ns : Array Node} {ac : List Nat} (w : TableWF ns)
    (hnd : names.Nodup) (hr : ∀ r ∈ ac, r < ns.size)
    (hdet : ∀ r ∈ ac, TT.DetBy names.length (eval ⟨ns, {}, {}, {}⟩ r)) : GraphHyp names ns ac :=
  graphHyp_of_detBy w hnd hr hdet

/-- the parse-only graph of an accepted text: walking from the root of statement `i` evaluates the
condition of statement `i` as written in the text -/
theorem parse_graph_walk (key code : String) (a : SAdf) (r : SRes) (h : parseNaive key code = .ok (a, r))
    (hn : a.names.length ≤ VBOT) :
    ∃ fms, conditions code = .ok (a.names, fms) ∧
      ∀ (i : Nat) (f : Fm), fms[i]? = some f → ∀ (σ : Asg) (fuel : Nat), a.ac.getD i 0 < fuel →
        walk (graphOf a.names a.nodes a.ac) a.names σ fuel (a.ac.getD i 0) = some (f.sem σ) := by
  obtain ⟨fms, hc, hd⟩ := SrvA.parseNaive_denotes key code a r h hn
  refine ⟨fms, hc, ?_⟩
  intro i f hf σ fuel hfu
  have hi : i < a.ac.length := by rw [hd.len, ← hd.flen]; exact (List.getElem?_eq_some_iff.mp hf).1
  rw [SrvC.walk_root (parseNaive_graphHyp key code a r h hn) i hi σ fuel hfu]
  have : a.ac[i]? = some (a.ac.getD i 0) := by simp [List.getD, hi]
  rw [(hd.den i _ f this hf).2 σ]

/-- The graph stored for `Ground` shows the conditions restricted by the shown model: the solve task
stores ONE vector `v` with the graph of the store's table after the computation; the shown model
`g = v.map storeIsConst` (handle 1 ↦ true, 0 ↦ false, anything else undecided) is the grounded
interpretation, and walking from the root of statement `i` under `σ` evaluates its condition under `σ`
overridden by the decided part of `g` -/
theorem ground_graph_restricted (a : SAdf) (nn : Nat) (fms : List Fm) (hd : SrvA.Denotes a nn fms)
    (hnd : a.names.Nodup) (hlen : a.names.length = nn) :
    ∃ (v : List Nat) (ns : Array Node) (g : I3),
      solveAdf a .ground = .ok [⟨v, graphOf a.names ns v⟩] ∧ GraphHyp a.names ns v ∧ v.length = nn ∧
      g = v.map storeIsConst ∧ IsLfp (fms.map Fm.sem) g ∧
      ∀ (i : Nat) (f : Fm), fms[i]? = some f → ∀ (σ : Asg) (fuel : Nat), v.getD i 0 < fuel →
        walk (graphOf a.names ns v) a.names σ fuel (v.getD i 0) = some (f.sem (over σ 0 g)) :=
  SrvC.ground_graph_restricted a nn fms hd hnd hlen

/-- The graphs stored for the four stable strategies show the constants of the model: every stored
vector is two-valued (handles 0 / 1 only) and a fixpoint of Γ, and walking from the root of statement `i`
yields the truth value the model gives statement `i` -/
theorem stable_graph_restricted (a : SAdf) (nn : Nat) (fms : List Fm) (s : Strategy) (hd : SrvA.Denotes a nn fms)
    (hnd : a.names.Nodup) (hs : s ≠ .ground ∧ s ≠ .complete) (hh : SrvA.strategyHalts 1000000 a s = true) :
    ∃ (res : SRes) (ns : Array Node), solveAdf a s = .ok res ∧
      ∀ x ∈ res, x.graph = graphOf a.names ns x.ac ∧ GraphHyp a.names ns x.ac ∧
        x.ac.length = nn ∧ Gam (fms.map Fm.sem) (x.ac.map storeIsConst) = x.ac.map storeIsConst ∧
        ∀ (i : Nat) (_ : i < x.ac.length) (σ : Asg) (fuel : Nat), x.ac.getD i 0 < fuel →
          ∃ b, storeIsConst (x.ac.getD i 0) = some b ∧
            walk x.graph a.names σ fuel (x.ac.getD i 0) = some b :=
  SrvC.stable_graph_restricted a nn fms s hd hnd hs hh

/-- The property's graph clause for ALL six strategies, in the form the run-time monitor `graphOK`
checks it: for a stored framework `a` (distinct names, one per statement) denoting the conditions `fms`,
every stored `AcAndGraph` `x` of the solve task's answer carries the graph of the final store's table
for the roots `x.ac`; that graph satisfies `GraphHyp` (so `graph_reachable`, `graph_edges`, `graph_walk`
apply); and for EVERY assignment `σ` that extends the shown interpretation
(`Agree σ (x.ac.map storeIsConst)`) walking from the root of statement `i` yields the value of
statement `i`'s acceptance condition under `σ` — i.e. the diagram shown for `i` is the condition
restricted by the shown model (a constant for a decided statement) -/
theorem graphs_faithful_under_the_shown_model (a : SAdf) (nn : Nat) (fms : List Fm) (s : Strategy)
    (hd : SrvA.Denotes a nn fms) (hnd : a.names.Nodup) (hlen : a.names.length = nn)
    (hh : SrvA.strategyHalts 1000000 a s = true) :
    ∃ (res : SRes) (ns : Array Node), solveAdf a s = .ok res ∧
      ∀ x ∈ res, x.graph = graphOf a.names ns x.ac ∧ GraphHyp a.names ns x.ac ∧
        ∀ (i : Nat) (f : Fm), fms[i]? = some f → ∀ (σ : Asg), Agree σ (x.ac.map storeIsConst) →
          ∀ fuel, x.ac.getD i 0 < fuel → walk x.graph a.names σ fuel (x.ac.getD i 0) = some (f.sem σ) := by
  by_cases hg : s = .ground
  · subst hg
    obtain ⟨v, ns, h1, h2, h3⟩ := SrvC.ground_graph_under_model a nn fms hd hnd hlen
    refine ⟨_, ns, h1, fun x hx => ?_⟩
    simp only [List.mem_singleton] at hx
    subst hx
    exact ⟨rfl, h2, h3⟩
  · by_cases hc : s = .complete
    · subst hc
      exact SrvC.complete_graph_under_model a nn fms hd hnd hlen
    · exact SrvC.stable_graph_under_model a nn fms s hd hnd ⟨hg, hc⟩ hh

end service

open SrvC

def a1 : SAdf := { names := ["a", "b"], nodes := tab1, ac := [4, 5] }
def p1 : Problem String SAdf SRes := { name := "p", username := "u", code := code1, parsing := .naive, adf := .some a1 }
def t1 : TaskRec String SAdf := { jar := 0, username := "u", name := "p", input := .solve a1 .stable, blockingDone := true }
def st1 : State String SHash SAdf SRes :=
  { db := { problems := [p1], tasks := [t1] }, sess := fun j => if j = 0 then some "u" else none }

example (o : Oracle) : ∃ (res : SRes) (i : Info String SRes),
    (ServerM.step (libEnv o) (stepEv (libEnv o) st1 (.write 0 0)).1 ⟨0, .get "p"⟩).2 = ⟨200, .keep, .problem i⟩ ∧
    i.res.get .stable = .some res ∧ i.res.get .complete = .none ∧
    (SrvA.storedI3 res).Perm [[some true, some false], [some false, some true]] := by
  obtain ⟨res, i, h1, _, _, _, _, h6, h7, h8, _⟩ := served_answer o st1 0 0 0 t1 a1 .stable 2 _ rfl rfl ⟨rfl, rfl⟩
    denotes1 rfl p1 (by simp [st1, isProb, p1, t1]) rfl
  obtain ⟨res', e1, e2⟩ := stored_answers_exact_driver_model_no_search a1 2 _ .stable denotes1 (by decide)
  obtain rfl : res' = res := Except.ok.inj (e1.symm.trans h8)
  exact ⟨res', i, h1, h6, by rw [h7 .complete (by decide)]; rfl, e2.trans (.of_eq spec1_stable)⟩

/-- the hypothesis of `solve_request_uses_stored_framework` -/
example : (ServerM.step (libEnv {}) { st1 with db := { problems := [p1] } } ⟨0, .solve "p" .complete⟩).2.status = 200 := by
  decide

/-- the grounded interpretation of `a1` decides nothing, so the graph shows the conditions themselves -/
example : ∃ (v : List Nat) (ns : Array Node) (g : I3),
    solveAdf a1 .ground = .ok [⟨v, graphOf a1.names ns v⟩] ∧ GraphHyp a1.names ns v ∧ IsLfp ([Fm.not (.atom 1), Fm.not (.atom 0)].map Fm.sem) g ∧
    ∀ σ fuel, v.getD 0 0 < fuel → walk (graphOf a1.names ns v) a1.names σ fuel (v.getD 0 0) = some (!(over σ 0 g 1)) := by
  obtain ⟨v, ns, g, h1, h2, _, _, h5, h6⟩ := ground_graph_restricted a1 2 _ denotes1 (by decide) rfl
  exact ⟨v, ns, g, h1, h2, h5, fun σ fuel hf => h6 0 _ rfl σ fuel hf⟩

example : ∃ (res : SRes) (ns : Array Node), solveAdf a1 .complete = .ok res ∧
    (SrvA.storedI3 res).Perm [[none, none], [some true, some false], [some false, some true]] ∧
    ∀ x ∈ res, x.graph = graphOf a1.names ns x.ac ∧ GraphHyp a1.names ns x.ac ∧
      ∀ (σ : Asg), Agree σ (x.ac.map storeIsConst) → ∀ fuel, x.ac.getD 0 0 < fuel →
        walk x.graph a1.names σ fuel (x.ac.getD 0 0) = some (!σ 1) := by
  obtain ⟨res, ns, h1, h2⟩ := graphs_faithful_under_the_shown_model a1 2 _ .complete denotes1 (by decide) rfl rfl
  obtain ⟨res', e1, e2⟩ := stored_answers_exact_driver_model_no_search a1 2 _ .complete denotes1 (by decide)
  rw [h1] at e1; cases e1
  exact ⟨res, ns, h1, e2.trans (.of_eq spec1_complete), fun x hx => ⟨(h2 x hx).1, (h2 x hx).2.1, fun σ hag fuel hf => (h2 x hx).2.2 0 _ rfl σ hag fuel hf⟩⟩

example : ∃ b, (SrvRT.SimpAdf.ofLib ⟨⟨["a", "b"], [("a", 0), ("b", 1)]⟩, rebuild tab1, [4, 5]⟩).toLib = some b ∧
    b.ordering.mapping = [("a", 0), ("b", 1)] ∧ b.bdd.nodes = tab1 ∧ b.ac = [4, 5] := by
  obtain ⟨b, h1, h2, h3, h4, _⟩ := storage_roundtrip_identity ⟨⟨["a", "b"], [("a", 0), ("b", 1)]⟩, rebuild tab1, [4, 5]⟩
    (rebuild_any_wellformed_table tab1 hyp1.wf).1
  exact ⟨b, h1, by rw [h2], by rw [h3]; exact (rebuild_any_wellformed_table tab1 hyp1.wf).2, h4⟩

/-! the hypotheses of `parse_task_stores_framework` / `served_answer_for_code` on `code1` -/
#guard (match conditions code1 with | .ok (ns, fs) => ns == ["a", "b"] && fs.length == 2 | .error _ => false)
#guard (match (SrvC.libEnv {}).parse .naive code1 with
  | .ok (a, _) => allSix.all (fun s => SrvA.strategyHalts 1000000 a s)
  | .error _ => false)

/-! ## 8. every reachable state of a deletion-free history

The hypotheses "at the moment of the write" of section 7 are consequences of reachability for
histories without `DELETE /adf/{name}`, `DELETE /users/delete`, `PUT /users/update` (`Event.keeps`);
with them they are not (`histStale` below, finding D9); section 10 treats ALL histories. -/

/-- Any environment: in every state reached by a deletion-free history, every document's stored
framework is the parse result of its OWN code and every stored result the solve result of that
framework -/
theorem reachable_results_belong_to_the_code {T H A R : Type} [DecidableEq T] (E : Env T H A R) (es : List (Event T))
    (hk : ∀ e ∈ es, e.keeps = true) (p : Problem T A R) (hp : p ∈ (runAll E {} es).1.db.problems) :
    (∀ a, p.adf = .some a → ∃ r, E.parse p.parsing p.code = .ok (a, r)) ∧
    (∀ s res, p.res.get s = .some res → ∃ a r, E.parse p.parsing p.code = .ok (a, r) ∧ E.solve a s = .ok res) :=
  ServerM.reachable_results_belong_to_the_code E es hk p hp

def Etoy : Env Nat Nat Nat Nat where
  emp := 0
  hash := fun s p => s + p
  verify := fun h p => h == p
  parse := fun _ code => if code = 9 then .error .parseError else .ok (code, code)
  solve := fun a _ => .ok (a + 100)

/-- two users (the second, jar 1, a temporary one created by `add`), their requests and tasks interleaved -/
def histOk : List (Event Nat) :=
  [.req ⟨0, .register 1 7 0⟩, .req ⟨0, .login 1 7⟩, .req ⟨0, .add 5 (some 7) none .naive 100 101⟩,
   .req ⟨1, .add 5 (some 8) none .naive 200 201⟩, .finish 0 0, .write 0 0, .req ⟨0, .solve 5 .ground⟩,
   .finish 1 0, .write 1 0, .req ⟨1, .solve 5 .complete⟩, .finish 1 1, .finish 0 1, .write 0 1, .write 1 1,
   .req ⟨0, .get 5⟩]

example : ∀ e ∈ histOk, e.keeps = true := by decide
example : (runAll Etoy {} histOk).1.db.problems.map (fun p => (p.username, p.code, p.adf, p.res.ground, p.res.complete)) =
    [(1, 7, .some 7, .some 107, .none), (200, 8, .some 8, .none, .some 108)] := by decide

/-- The restriction to deletion-free histories is needed (finding D9): delete the problem while its
parse task runs and re-create it with another code — the stale task's write lands in the new document,
which then stores the framework of code 7 for code 8 -/
def histStale : List (Event Nat) :=
  [.req ⟨0, .register 1 7 0⟩, .req ⟨0, .login 1 7⟩, .req ⟨0, .add 5 (some 7) none .naive 100 101⟩,
   .req ⟨0, .delete 5⟩, .req ⟨0, .add 5 (some 8) none .naive 100 101⟩, .finish 0 0, .write 0 0]

example : (runAll Etoy {} histStale).1.db.problems.map (fun p => (p.code, p.adf)) = [(8, .some 7)] := by decide

/-- `SrvC.get_shows_definitional` at the driver's service, on the documents of a deletion-free history
(`reachable_results_belong_to_the_code`): `GET` shows the definitional answer for whatever conditions the
parse result of the document's code denotes (`hb`) -/
theorem reachable_served_answer (o : Oracle) (es : List (Event String)) (hk : ∀ e ∈ es, e.keeps = true)
    (jar : Nat) (u name : String) (p : Problem String SAdf SRes) (s : Strategy) (res : SRes)
    (hs : (runAll (libEnv o) {} es).1.sess jar = some u)
    (hf : (runAll (libEnv o) {} es).1.db.problems.find? (isProb u name) = some p)
    (hres : p.res.get s = .some res)
    (hb : ∀ a r, (libEnv o).parse p.parsing p.code = .ok (a, r) →
      ∃ nn fms, SrvA.Denotes a nn fms ∧ SrvA.strategyHalts 1000000 a s = true) :
    ∃ (i : Info String SRes) (a : SAdf) (r : SRes) (nn : Nat) (fms : List Fm),
      (ServerM.step (libEnv o) (runAll (libEnv o) {} es).1 ⟨jar, .get name⟩).2 = ⟨200, .keep, .problem i⟩ ∧
      i.code = p.code ∧ i.res.get s = .some res ∧
      (libEnv o).parse p.parsing p.code = .ok (a, r) ∧ SrvA.Denotes a nn fms ∧
      SrvA.PropAnswer nn (fms.map Fm.sem) s (SrvA.storedI3 res) := by
  obtain ⟨i, a, r, hget, hc, hr, hpar, H⟩ := SrvC.get_shows_definitional 1000000 1000000 (Nat.le_refl _) (libEnv o)
    (libEnv_solve_million o) _ jar u name p s res hs hf hres
    (ServerM.reachable_results_belong_to_the_code (libEnv o) es hk p (List.mem_of_find?_eq_some hf))
  obtain ⟨nn, fms, hd, hh⟩ := hb a r hpar
  exact ⟨i, a, r, nn, fms, hget, hc, hr, hpar, hd, H nn fms hd hh⟩

/-- The property's first sentence for naive parsing, over histories: in every state reached from the
empty server by a deletion-free history, the models `GET` shows under strategy `s` for a naively parsed
document are exactly the definitional answer for the framework denoted by the document's code -/
theorem reachable_served_answer_naive (o : Oracle) (es : List (Event String)) (hk : ∀ e ∈ es, e.keeps = true)
    (jar : Nat) (u name : String) (p : Problem String SAdf SRes) (s : Strategy) (res : SRes)
    (hs : (runAll (libEnv o) {} es).1.sess jar = some u)
    (hf : (runAll (libEnv o) {} es).1.db.problems.find? (isProb u name) = some p)
    (hnaive : p.parsing = .naive) (hres : p.res.get s = .some res)
    (hb : ∀ a r, (libEnv o).parse .naive p.code = .ok (a, r) →
      a.names.length ≤ VBOT ∧ SrvA.strategyHalts 1000000 a s = true) :
    ∃ (i : Info String SRes) (names : List String) (fms : List Fm),
      (ServerM.step (libEnv o) (runAll (libEnv o) {} es).1 ⟨jar, .get name⟩).2 = ⟨200, .keep, .problem i⟩ ∧
      i.code = p.code ∧ i.res.get s = .some res ∧
      conditions p.code = .ok (names, fms) ∧
      SrvA.PropAnswer names.length (fms.map Fm.sem) s (SrvA.storedI3 res) :=
  SrvC.answer_of_belongs_bound 1000000 1000000 (Nat.le_refl _) (libEnv o) (libEnv_solve_million o) _ jar u name p s res
    hs hf hres (ServerM.reachable_results_belong_to_the_code (libEnv o) es hk p (List.mem_of_find?_eq_some hf))
    (fun a r hpar => by
      rw [hnaive] at hpar
      exact ⟨libEnv_parse_naive_denotes o p.code a r hpar (hb a r hpar).1, (hb a r hpar).2⟩)

/-! the hypotheses of `reachable_served_answer_naive` on a history of the concrete service -/
def histSrv : List (Event String) :=
  [.req ⟨0, .register "u" "pw" 0⟩, .req ⟨0, .login "u" "pw"⟩, .req ⟨0, .add "p" (some code1) none .naive "~t" "~p"⟩,
   .finish 0 0, .write 0 0, .req ⟨0, .solve "p" .stableNogood⟩, .finish 0 1, .write 0 1]

#guard histSrv.all Event.keeps
#guard (match (runAll (libEnv {}) {} histSrv).1.db.problems.find? (isProb "u" "p") with
  | some p => p.parsing == .naive && (p.res.get .stableNogood).isSome &&
      (match (libEnv {}).parse .naive p.code with
       | .ok (a, _) => decide (a.names.length ≤ VBOT) && SrvA.strategyHalts 1000000 a .stableNogood
       | .error _ => false)
  | none => false)

/-! ## 9. hybrid parsing in the service: the check, and the model of the `Parsing::Hybrid` arm

Section 7 adopts the table stored by hybrid parsing from the implementation and ASSUMES `SrvA.Denotes`
for it. The assumption is met in two ways (`ServerHybrid.lean`): (a) the run-time check the driver prints for
every adopted table, `storedAdfOK'` (= `storedAdfChk`: `storedAdfOK` plus "every root is an index of the
table" and "every inner node tests a declared statement"), IMPLIES `Denotes`; (b) `parseHybrid` models
the arm itself (`BdAdf::from_parser` + `hybrid_step_opt(false)` over a lawful biodivine library with
`Bio.DumpSpec`), and what it stores denotes the code. `SrvC.hybEnv` is the service with that arm. -/

section hybrid
open SrvC

/-- a stored ADF for which the driver's check prints `ok` denotes the conditions of the submitted text -/
theorem stored_adf_check_implies_denotes (code : String) (a : SAdf) (h : storedAdfOK' code a = "ok") :
    ∃ fms, conditions code = .ok (a.names, fms) ∧ SrvA.Denotes a a.names.length fms :=
  storedAdfOK'_denotes code a h

theorem stored_adf_check_messages (code : String) (a : SAdf) :
    (storedAdfOK' code a = "ok" ↔ storedAdfChk (conditions code) a = true) ∧
    (storedAdfOK code a ≠ "ok" → storedAdfChk (conditions code) a = false → storedAdfOK' code a = storedAdfOK code a) :=
  ⟨storedAdfOK'_ok_iff code a, storedAdfOK'_old_message code a⟩

/-- what the model of the `Parsing::Hybrid` arm stores denotes the conditions of the submitted text
(lawful library for the declared statements, dump as specified) -/
theorem hybrid_parse_denotes_code {T : Type} (Lf : Nat → Bio.Lib T) (dumpf : Nat → T → List Node) (key code : String)
    (a : SAdf) (r : SRes) (h : parseHybrid Lf dumpf key code = .ok (a, r))
    (W : Bio.Lawful (Lf a.names.length) a.names.length) (hd : Bio.DumpSpec W (dumpf a.names.length)) :
    ∃ fms, conditions code = .ok (a.names, fms) ∧ SrvA.Denotes a a.names.length fms ∧
      r = [⟨a.ac, graphOf a.names a.nodes a.ac⟩] :=
  parseHybrid_denotes Lf dumpf key code a r h W hd

/-- unparseable / panicking code: the hybrid arm reports the error of `conditions`, like the naive one -/
theorem hybrid_parse_error {T : Type} (Lf : Nat → Bio.Lib T) (dumpf : Nat → T → List Node) (key code : String) (e : Err)
    (h : conditions code = .error e) : parseHybrid Lf dumpf key code = .error e :=
  parseHybrid_of_conditions_error Lf dumpf key code e h

/-- a successful hybrid parse: every statement name passed `BddVariableSetBuilder::make_variable`'s checks
(none of `! & | ^ = < > ( ) ? :`, at most 65 534 names) - the `bioNameOK` condition of the CLI theorems,
here a CONSEQUENCE of success -/
theorem hybrid_parse_names_ok {T : Type} (Lf : Nat → Bio.Lib T) (dumpf : Nat → T → List Node) (key code : String)
    (a : SAdf) (r : SRes) (h : parseHybrid Lf dumpf key code = .ok (a, r)) :
    (∀ n ∈ a.names, CliM.bioNameOK n.toList = true) ∧ a.names.length ≤ 65534 := by
  have hv := parseHybrid_names_ok Lf dumpf key code a r h
  refine ⟨?_, bioVarsOK_length hv⟩
  unfold bioVarsOK at hv
  simp only [Bool.and_eq_true, List.all_eq_true] at hv
  exact hv.1

/-- valid code whose statement names pass `bioVarsOK` (`make_variable`'s checks) is parsed by the hybrid
arm too -/
theorem hybrid_parse_ok_of_names {T : Type} (Lf : Nat → Bio.Lib T) (dumpf : Nat → T → List Node) (key code : String)
    (x : List String × List Fm) (h : conditions code = .ok x) (hv : bioVarsOK x.1 = true) :
    ∃ a, parseHybrid Lf dumpf key code = .ok (a, [⟨a.ac, graphOf a.names a.nodes a.ac⟩]) ∧ a.names = x.1 :=
  parseHybrid_of_conditions_ok Lf dumpf key code x h hv

/-- Finding D6 through the web service, model level: VALID code
(the parser accepts it, every `ac` names declared statements: `conditions code = .ok …`) one of whose
statement names contains a character of `! & | ^ = < > ( ) ? :` (possible only for a quoted label) is parsed
by naive parsing but makes the `Parsing::Hybrid` arm panic inside the blocking task
(`BddVariableSetBuilder::make_variable`); the parse function answers `Error` - C16's "unparseable code is
reported as error" has the unwanted converse "some valid code is reported as error" -/
theorem hybrid_parse_rejects_special_labels {T : Type} (Lf : Nat → Bio.Lib T) (dumpf : Nat → T → List Node) (key code : String)
    (x : List String × List Fm) (h : conditions code = .ok x)
    (hbad : ∃ n ∈ x.1, CliM.bioNameOK n.toList = false) :
    (∃ a r, parseNaive key code = .ok (a, r) ∧ a.names = x.1) ∧
    parseHybrid Lf dumpf key code = .error .panic := by
  constructor
  · obtain ⟨a, r, h1, h2, _⟩ := parseNaive_ok key code x h
    exact ⟨a, r, h1, h2⟩
  · apply parseHybrid_rejects_of_bad_names Lf dumpf key code x h
    obtain ⟨n, hn, hb⟩ := hbad
    unfold bioVarsOK
    have : x.1.all (fun n => CliM.bioNameOK n.toList) = false := by
      rw [List.all_eq_false]
      exact ⟨n, hn, by simp [hb]⟩
    simp [this]

/-- what the service stores for such code: the hybrid parse task writes `Error` into `adf` and
`parse_only` (so, by `error_blocks_solve`, every solve request is refused) although the code is valid -/
theorem hybrid_parse_task_stores_error_for_special_labels {T : Type} (Lf : Nat → Bio.Lib T) (dumpf : Nat → T → List Node)
    (db : Db String SHash SAdf SRes) (j n : Nat) (t : TaskRec String SAdf) (code : String)
    (x : List String × List Fm) (hc : conditions code = .ok x) (hbad : ∃ n ∈ x.1, CliM.bioNameOK n.toList = false)
    (ht : nthOf j n db.tasks = some t) (hin : t.input = .parse code .hybrid)
    (hlive : t.blockingDone = true ∧ t.written = false)
    (p : Problem String SAdf SRes) (hp : db.problems.find? (isProb t.username t.name) = some p) :
    (dbEv (hybEnv Lf dumpf) db (.write j n)).problems.find? (isProb t.username t.name) =
      some { p with adf := .error .panic, parseOnly := .error .panic } :=
  parse_error_reported (hybEnv Lf dumpf) db j n t code .hybrid .panic ht hin hlive
    (hybrid_parse_rejects_special_labels Lf dumpf _ code x hc hbad).2 p hp

/-- the DRIVER's service on such code: the implementation stored an error, so no table was adopted;
`libEnv` stores `Error:panic` as well (and the run-time monitor prints `violated valid-code-not-stored`) -/
theorem adopted_service_unadopted_valid_code (o : Oracle) (code : String) (x : List String × List Fm)
    (hacc : conditions code = .ok x) (hl : lookupS (parseKey .hybrid code) o.hyb = none) :
    (libEnv o).parse .hybrid code = .error .panic :=
  libEnv_parse_hybrid_unadopted o code x hacc hl

/-- `hybrid_parse_denotes_code` on an executable arm, nothing assumed: over the generic
truth-table library `Bio.ttLib` with the generic decision-tree dump `Bio.ttDump` -/
theorem hybrid_parse_denotes_code_tt (key code : String) (a : SAdf) (r : SRes)
    (h : parseHybrid Bio.ttLib Bio.ttDump key code = .ok (a, r)) :
    ∃ fms, conditions code = .ok (a.names, fms) ∧ SrvA.Denotes a a.names.length fms ∧
      r = [⟨a.ac, graphOf a.names a.nodes a.ac⟩] :=
  parseHybrid_denotes Bio.ttLib Bio.ttDump key code a r h (Bio.ttLawful _)
    (Bio.ttDump_spec _ (bioVarsOK_le_vbot (parseHybrid_names_ok _ _ key code a r h)))

/-- `served_answer_for_code` for BOTH parsing strategies on the service with the modelled hybrid arm
(naive: parser + `Adf::from_parser`; hybrid: parser + `BdAdf::from_parser` + `hybrid_step_opt(false)` over
a lawful biodivine library), without a `Denotes` hypothesis -/
theorem served_answer_for_code_any_parsing {T : Type} (Lf : Nat → Bio.Lib T) (dumpf : Nat → T → List Node)
    (st : State String SHash SAdf SRes) (j n jar : Nat)
    (t : TaskRec String SAdf) (pg : Parsing) (code : String) (a : SAdf) (r : SRes) (s : Strategy)
    (ht : nthOf j n st.db.tasks = some t) (hin : t.input = .solve a s)
    (hlive : t.blockingDone = true ∧ t.written = false)
    (hparse : (hybEnv Lf dumpf).parse pg code = .ok (a, r)) (hn : pg = .naive → a.names.length ≤ VBOT)
    (W : Bio.Lawful (Lf a.names.length) a.names.length) (hdump : Bio.DumpSpec W (dumpf a.names.length))
    (hh : SrvA.strategyHalts 1000000 a s = true)
    (p : Problem String SAdf SRes) (hp : st.db.problems.find? (isProb t.username t.name) = some p)
    (hs : st.sess jar = some t.username) :
    ∃ (fms : List Fm) (res : SRes) (i : Info String SRes),
      conditions code = .ok (a.names, fms) ∧
      (ServerM.step (hybEnv Lf dumpf) (ServerM.stepEv (hybEnv Lf dumpf) st (.write j n)).1 ⟨jar, .get t.name⟩).2 =
        ⟨200, .keep, .problem i⟩ ∧
      i.res.get s = .some res ∧ (∀ s', s' ≠ s → i.res.get s' = p.res.get s') ∧
      SrvA.PropAnswer a.names.length (fms.map Fm.sem) s (SrvA.storedI3 res) :=
  SrvC.served_answer_for_code_any_parsing Lf dumpf st j n jar t pg code a r s ht hin hlive hparse hn W hdump hh p hp hs

/-- `served_answer_for_code` on the driver's service `libEnv o` (hybrid tables adopted from the
implementation), for a hybrid document whose adopted table passed the check `storedAdfOK'` (the message the
driver prints for every adopted table) - no `Denotes` hypothesis -/
theorem served_answer_for_code_hybrid_checked (o : Oracle) (st : State String SHash SAdf SRes) (j n jar : Nat)
    (t : TaskRec String SAdf) (code : String) (a : SAdf) (r : SRes) (s : Strategy)
    (ht : nthOf j n st.db.tasks = some t) (hin : t.input = .solve a s)
    (hlive : t.blockingDone = true ∧ t.written = false)
    (hparse : (libEnv o).parse .hybrid code = .ok (a, r)) (hchk : storedAdfOK' code a = "ok")
    (hh : SrvA.strategyHalts 1000000 a s = true)
    (p : Problem String SAdf SRes) (hp : st.db.problems.find? (isProb t.username t.name) = some p)
    (hs : st.sess jar = some t.username) :
    ∃ (fms : List Fm) (res : SRes) (i : Info String SRes),
      conditions code = .ok (a.names, fms) ∧
      (ServerM.step (libEnv o) (ServerM.stepEv (libEnv o) st (.write j n)).1 ⟨jar, .get t.name⟩).2 = ⟨200, .keep, .problem i⟩ ∧
      i.res.get s = .some res ∧ (∀ s', s' ≠ s → i.res.get s' = p.res.get s') ∧
      SrvA.PropAnswer a.names.length (fms.map Fm.sem) s (SrvA.storedI3 res) :=
  served_answer_for_code_env (libEnv o) (libEnv_solve o) st j n jar t code a s ht hin hlive
    (storedAdfOK'_denotes code a hchk) (.inl hh) p hp hs

end hybrid

example : storedAdfChk (.ok (["a", "b"], [.not (.atom 1), .not (.atom 0)])) a1 = true := chk1
-- a table `storedAdfOK` accepts although it does not denote the conditions everywhere: the root of `a`
-- tests the undeclared variable 7 below the declared ones (`storedAdfChk` objects)
def tabBad : Array Node := #[⟨VBOT, 0, 0⟩, ⟨VTOP, 1, 1⟩, ⟨7, 1, 0⟩, ⟨1, 2, 0⟩, ⟨0, 1, 0⟩]
example : storedAdfOKC (.ok (["a", "b"], [.not (.atom 1), .not (.atom 0)])) { names := ["a", "b"], nodes := tabBad, ac := [3, 4] } = "ok" := by
  decide +kernel
example : storedAdfChk (.ok (["a", "b"], [.not (.atom 1), .not (.atom 0)])) { names := ["a", "b"], nodes := tabBad, ac := [3, 4] } = false := by
  decide +kernel
example : ∃ W : Bio.Lawful (Bio.ttLib 2) 2, Bio.DumpSpec W Bio.ttDump2 := ⟨Bio.ttLawful 2, Bio.ttDump2_spec⟩

#guard (match parseHybrid (fun n => Bio.ttLib n) (fun _ => Bio.ttDump2) "k" code1 with
  | .ok (a, _) => a.names == ["a", "b"] && a.ac.length == 2 && storedAdfOK' code1 a == "ok" &&
      allSix.all (fun s => SrvA.strategyHalts 1000000 a s) &&
      (match solveAdf a .stable with | .ok r => r.length == 2 | .error _ => false)
  | .error _ => false)

/-- the dump hypothesis `∀ n ≤ VBOT` HAS an instance (`∀ n` has none) -/
example : ∃ W : ∀ n, Bio.Lawful (Bio.ttLib n) n, ∀ n, n ≤ VBOT → Bio.DumpSpec (W n) (Bio.ttDump n) := SrvC.tt_hyps

/-- the code of finding D6 (quoted label `a&b`) -/
def codeD6 : String := "s(\"a&b\").s(c).ac(\"a&b\",c).ac(c,\"a&b\")."
example : bioVarsOK ["a&b", "c"] = false := by decide
example : bioVarsOK ["a", "b"] = true := by decide
#guard (match conditions codeD6 with | .ok (ns, _) => ns == ["a&b", "c"] | .error _ => false)
#guard (match parseNaive "k" codeD6 with | .ok (a, _) => a.names == ["a&b", "c"] | .error _ => false)
#guard (match parseHybrid Bio.ttLib Bio.ttDump "k" codeD6 with | .error .panic => true | _ => false)
#guard (match parseHybrid Bio.ttLib Bio.ttDump "k" code1 with
  | .ok (a, _) => a.names == ["a", "b"] && storedAdfOK' code1 a == "ok"
  | .error _ => false)

/-! ## 10. every reachable state of EVERY history, with finding D9 as the explicit carve-out

Section 8 excludes the three requests that remove or rename documents. `ServerStale.lean`,
`ServerProv.lean`, `ServerD9.lean` prove, for ALL histories (any environment):

* `reachable_untainted_belong_to_the_code`: along the history a ghost set of TAINTED keys (user name,
  problem name) is computed from the observable state changes (`taintRun`); a key becomes tainted exactly
  in D9's shape - a document appears under it (created, or moved there by a rename) while an unwritten
  task spawned under that key exists, or while another document already carries it, or it is moved from
  a tainted key - and is cleared when a document is created under a key with no document and no unwritten
  task. Every document under an untainted key stores only what belongs to its OWN code.
* `no_d9_all_belong`, `recreated_clean_belongs`: the two readable corollaries (no D9 shape anywhere /
  the last creation under this key met no unwritten task of the key).
* `reachable_results_from_submitted_codes`: even under a tainted key, every stored result is
  `E.solve a s` for `a = E.parse parsing code` of a (parsing, code) RECORDED FOR THAT KEY: the code of a
  document that carried the key at some point of the history, or - after a rename `u → u'` - one recorded
  for the old key. -/

section allHistories
variable {T H A R : Type} [DecidableEq T]

/-- every history, any environment: a document under an untainted key stores only what belongs to its
OWN code -/
theorem reachable_untainted_belong_to_the_code (E : Env T H A R) (es : List (Event T)) (p : Problem T A R)
    (hp : p ∈ (runAll E {} es).1.db.problems)
    (hn : taintRun E {} (fun _ _ => false) es p.username p.name = false) :
    (∀ a, p.adf = .some a → ∃ r, E.parse p.parsing p.code = .ok (a, r)) ∧
    (∀ s res, p.res.get s = .some res → ∃ a r, E.parse p.parsing p.code = .ok (a, r) ∧ E.solve a s = .ok res) :=
  ServerM.reachable_untainted_belong_to_the_code E es p hp hn

/-- histories without D9's shape (deletions, account removals, renames allowed) -/
theorem no_d9_all_belong (E : Env T H A R) (es : List (Event T)) (hd : NoStaleWrite E {} es) (p : Problem T A R)
    (hp : p ∈ (runAll E {} es).1.db.problems) :
    (∀ a, p.adf = .some a → ∃ r, E.parse p.parsing p.code = .ok (a, r)) ∧
    (∀ s res, p.res.get s = .some res → ∃ a r, E.parse p.parsing p.code = .ok (a, r) ∧ E.solve a s = .ok res) :=
  ServerM.no_d9_all_belong E es hd p hp

/-- D9's history shape is the ONLY exception, key by key: if the last event
that made a document appear under `(u, n)` was not a rename and met no document and NO UNWRITTEN TASK of
that key, the document under `(u, n)` stores only what belongs to its own code, whatever happened before -/
theorem recreated_clean_belongs (E : Env T H A R) (es1 es2 : List (Event T)) (e : Event T) (u n : T)
    (hz : docsAt (runAll E {} es1).1.db u n = 0)
    (happ : 0 < docsAt (ServerM.stepEv E (runAll E {} es1).1 e).1.db u n)
    (hpend : pendingAt (runAll E {} es1).1.db u n = false)
    (hren : renameOf (runAll E {} es1).1 e = none)
    (hg : NoGrowAt E u n (ServerM.stepEv E (runAll E {} es1).1 e).1 es2)
    (p : Problem T A R) (hp : p ∈ (runAll E {} (es1 ++ e :: es2)).1.db.problems)
    (hk : p.username = u ∧ p.name = n) :
    (∀ a, p.adf = .some a → ∃ r, E.parse p.parsing p.code = .ok (a, r)) ∧
    (∀ s res, p.res.get s = .some res → ∃ a r, E.parse p.parsing p.code = .ok (a, r) ∧ E.solve a s = .ok res) :=
  ServerM.recreated_clean_belongs E es1 es2 e u n hz happ hpend hren hg p hp hk

/-- the deletion-free histories of section 8 never show D9's shape: `reachable_results_belong_to_the_code`
is `no_d9_all_belong` restricted to them -/
theorem deletion_free_no_d9 (E : Env T H A R) (es : List (Event T)) (hk : ∀ e ∈ es, e.keeps = true) : NoStaleWrite E {} es :=
  noD9_of_keeps E es {} (Good.init E) hk

/-- provenance under EVERY key, tainted or not -/
theorem reachable_results_from_submitted_codes (E : Env T H A R) (es : List (Event T)) (p : Problem T A R)
    (hp : p ∈ (runAll E {} es).1.db.problems) (s : Strategy) (res : R) (hr : p.res.get s = .some res) :
    ∃ x ∈ subsRun E {} (fun _ _ => []) es p.username p.name, x ∈ everCodes E {} es ∧
      ∃ a r, E.parse x.1 x.2 = .ok (a, r) ∧ E.solve a s = .ok res :=
  ServerM.reachable_results_from_submitted_codes E es p hp s res hr

end allHistories

/-- `reachable_served_answer_naive` for the concrete service with the modelled hybrid arm, BOTH parsing
strategies, histories with deletions and renames but without D9's stale-write shape (so no key is ever
tainted), the driver's search bound. The dump hypothesis is demanded for `n ≤ VBOT` only (for all `n` it
is unsatisfiable); instance: `reachable_served_answer_tt`. -/
theorem reachable_served_answer_all {T : Type} (Lf : Nat → Bio.Lib T) (dumpf : Nat → T → List Node)
    (W : ∀ n, Bio.Lawful (Lf n) n) (hdump : ∀ n, n ≤ VBOT → Bio.DumpSpec (W n) (dumpf n))
    (es : List (Event String)) (hd9 : NoStaleWrite (SrvC.hybEnv Lf dumpf) {} es)
    (jar : Nat) (u name : String) (p : Problem String SAdf SRes) (s : Strategy) (res : SRes)
    (hs : (runAll (SrvC.hybEnv Lf dumpf) {} es).1.sess jar = some u)
    (hf : (runAll (SrvC.hybEnv Lf dumpf) {} es).1.db.problems.find? (isProb u name) = some p)
    (hres : p.res.get s = .some res)
    (hb : ∀ a r, (SrvC.hybEnv Lf dumpf).parse p.parsing p.code = .ok (a, r) →
      (p.parsing = .naive → a.names.length ≤ VBOT) ∧ SrvA.strategyHalts 1000000 a s = true) :
    ∃ (i : Info String SRes) (names : List String) (fms : List Fm),
      (ServerM.step (SrvC.hybEnv Lf dumpf) (runAll (SrvC.hybEnv Lf dumpf) {} es).1 ⟨jar, .get name⟩).2 = ⟨200, .keep, .problem i⟩ ∧
      i.code = p.code ∧ i.res.get s = .some res ∧
      conditions p.code = .ok (names, fms) ∧
      SrvA.PropAnswer names.length (fms.map Fm.sem) s (SrvA.storedI3 res) :=
  SrvC.reachable_served_answer_untainted Lf dumpf W hdump es jar u name p s res hs hf
    (taintRun_noD9 (SrvC.hybEnv Lf dumpf) es {} (fun _ _ => false) (fun _ _ => rfl) hd9 u name) hres hb

/-- `reachable_served_answer_all`, with an untainted key in place of `NoStaleWrite`, for the service
whose solve task bounds the nogood search by `F`, for EVERY `F ≥ F0`, where `F0` is any bound within which
the search halts on the document's framework. The Rust loop is UNBOUNDED; the stored result is the same
for all `F ≥ F0` (`solve_fuel_monotone`), the driver's `10^6` is one instance (`SrvC.hybEnvF_bound`) -/
theorem reachable_served_answer_all_bounds {T : Type} (F0 F : Nat) (hF : F0 ≤ F)
    (Lf : Nat → Bio.Lib T) (dumpf : Nat → T → List Node)
    (W : ∀ n, Bio.Lawful (Lf n) n) (hdump : ∀ n, n ≤ VBOT → Bio.DumpSpec (W n) (dumpf n))
    (es : List (Event String)) (jar : Nat) (u name : String) (p : Problem String SAdf SRes) (s : Strategy) (res : SRes)
    (hs : (runAll (SrvC.hybEnvF F Lf dumpf) {} es).1.sess jar = some u)
    (hf : (runAll (SrvC.hybEnvF F Lf dumpf) {} es).1.db.problems.find? (isProb u name) = some p)
    (hclean : taintRun (SrvC.hybEnvF F Lf dumpf) {} (fun _ _ => false) es u name = false)
    (hres : p.res.get s = .some res)
    (hb : ∀ a r, (SrvC.hybEnvF F Lf dumpf).parse p.parsing p.code = .ok (a, r) →
      (p.parsing = .naive → a.names.length ≤ VBOT) ∧ SrvA.strategyHalts F0 a s = true) :
    ∃ (i : Info String SRes) (names : List String) (fms : List Fm),
      (ServerM.step (SrvC.hybEnvF F Lf dumpf) (runAll (SrvC.hybEnvF F Lf dumpf) {} es).1 ⟨jar, .get name⟩).2 =
        ⟨200, .keep, .problem i⟩ ∧
      i.code = p.code ∧ i.res.get s = .some res ∧
      conditions p.code = .ok (names, fms) ∧
      SrvA.PropAnswer names.length (fms.map Fm.sem) s (SrvA.storedI3 res) :=
  SrvC.reachable_served_answer_untainted_bound F0 F hF Lf dumpf W hdump es jar u name p s res hs hf hclean hres hb

/-- `reachable_served_answer_all_bounds` with the generic truth-table library and its generic dump
(`Bio.ttLib`, `Bio.ttDump`, `Bio.ttDump_spec`): NO hypothesis about an external library is left, and the
service is executable (`histTT` below) -/
theorem reachable_served_answer_tt (F0 F : Nat) (hF : F0 ≤ F)
    (es : List (Event String)) (jar : Nat) (u name : String) (p : Problem String SAdf SRes) (s : Strategy) (res : SRes)
    (hs : (runAll (SrvC.hybEnvF F Bio.ttLib Bio.ttDump) {} es).1.sess jar = some u)
    (hf : (runAll (SrvC.hybEnvF F Bio.ttLib Bio.ttDump) {} es).1.db.problems.find? (isProb u name) = some p)
    (hclean : taintRun (SrvC.hybEnvF F Bio.ttLib Bio.ttDump) {} (fun _ _ => false) es u name = false)
    (hres : p.res.get s = .some res)
    (hb : ∀ a r, (SrvC.hybEnvF F Bio.ttLib Bio.ttDump).parse p.parsing p.code = .ok (a, r) →
      (p.parsing = .naive → a.names.length ≤ VBOT) ∧ SrvA.strategyHalts F0 a s = true) :
    ∃ (i : Info String SRes) (names : List String) (fms : List Fm),
      (ServerM.step (SrvC.hybEnvF F Bio.ttLib Bio.ttDump) (runAll (SrvC.hybEnvF F Bio.ttLib Bio.ttDump) {} es).1 ⟨jar, .get name⟩).2 =
        ⟨200, .keep, .problem i⟩ ∧
      i.code = p.code ∧ i.res.get s = .some res ∧
      conditions p.code = .ok (names, fms) ∧
      SrvA.PropAnswer names.length (fms.map Fm.sem) s (SrvA.storedI3 res) :=
  SrvC.reachable_served_answer_tt F0 F hF es jar u name p s res hs hf hclean hres hb

/-! the hypotheses of `reachable_served_answer_tt` on a history with HYBRID parsing, a deletion and a
re-creation, `StableNogood`, search bound 2000 with `F0 = 1000` -/
def histTT : List (Event String) :=
  [.req ⟨0, .register "u" "pw" 0⟩, .req ⟨0, .login "u" "pw"⟩, .req ⟨0, .add "p" (some code1) none .naive "~t" "~p"⟩,
   .finish 0 0, .write 0 0, .req ⟨0, .delete "p"⟩, .req ⟨0, .add "p" (some code1) none .hybrid "~t" "~p"⟩,
   .finish 0 1, .write 0 1, .req ⟨0, .solve "p" .stableNogood⟩, .finish 0 2, .write 0 2]

#guard taintRun (SrvC.hybEnvF 2000 Bio.ttLib Bio.ttDump) {} (fun _ _ => false) histTT "u" "p" == false
#guard (match (runAll (SrvC.hybEnvF 2000 Bio.ttLib Bio.ttDump) {} histTT).1.db.problems.find? (isProb "u" "p") with
  | some p => p.parsing == .hybrid && (match p.res.get .stableNogood with | .some r => r.length == 2 | _ => false) &&
      (match (SrvC.hybEnvF 2000 Bio.ttLib Bio.ttDump).parse p.parsing p.code with
       | .ok (a, _) => SrvA.strategyHalts 1000 a .stableNogood
       | .error _ => false)
  | none => false)

/-- The DRIVER's service, every history, BOTH parsing strategies: if the key of the document `GET` finds
is untainted, the result shown under `s` is the definitional answer for the framework its own code
denotes - given that every adopted hybrid table passed the printed check `storedAdfOK'`. With
`taintRun_noD9` (no D9 shape at all) or `recreated_clean_belongs` (per key) the taint hypothesis becomes a
statement about the history's shape. -/
theorem reachable_served_answer_checked (o : SrvC.Oracle)
    (hchk : ∀ code a, SrvC.lookupS (SrvC.parseKey .hybrid code) o.hyb = some a → storedAdfOK' code a = "ok")
    (es : List (Event String)) (jar : Nat) (u name : String) (p : Problem String SAdf SRes) (s : Strategy) (res : SRes)
    (hs : (runAll (SrvC.libEnv o) {} es).1.sess jar = some u)
    (hf : (runAll (SrvC.libEnv o) {} es).1.db.problems.find? (isProb u name) = some p)
    (hclean : taintRun (SrvC.libEnv o) {} (fun _ _ => false) es u name = false)
    (hres : p.res.get s = .some res)
    (hb : ∀ a r, (SrvC.libEnv o).parse p.parsing p.code = .ok (a, r) →
      (p.parsing = .naive → a.names.length ≤ VBOT) ∧ SrvA.strategyHalts 1000000 a s = true) :
    ∃ (i : Info String SRes) (names : List String) (fms : List Fm),
      (ServerM.step (SrvC.libEnv o) (runAll (SrvC.libEnv o) {} es).1 ⟨jar, .get name⟩).2 = ⟨200, .keep, .problem i⟩ ∧
      i.code = p.code ∧ i.res.get s = .some res ∧
      conditions p.code = .ok (names, fms) ∧
      SrvA.PropAnswer names.length (fms.map Fm.sem) s (SrvA.storedI3 res) :=
  SrvC.reachable_served_answer_checked o hchk es jar u name p s res hs hf hclean hres hb

/-! the hypotheses of `reachable_served_answer_checked` on a history of the driver's service WITH a deletion
and a re-creation; the adopted table is the one the modelled hybrid arm produces -/
def oHyb : SrvC.Oracle :=
  { hyb := match parseHybrid (fun n => Bio.ttLib n) (fun _ => Bio.ttDump2) (SrvC.parseKey .hybrid code1) code1 with
      | .ok (a, _) => [(SrvC.parseKey .hybrid code1, a)]
      | .error _ => [] }

/-- `oHyb` and `code1` satisfy the hypotheses of `SrvC.libEnv_eq_hybEnv_at` for the truth-table library:
the driver's service and the modelled service parse `code1` alike under both strategies -/
theorem adopted_service_example (p : Parsing) :
    (SrvC.libEnv oHyb).parse p code1 = (hybEnv (fun n => Bio.ttLib n) (fun _ => Bio.ttDump2)).parse p code1 := by
  apply SrvC.libEnv_eq_hybEnv_at (fun n => Bio.ttLib n) (fun _ => Bio.ttDump2) oHyb code1
  · intro a r hp
    simp only [oHyb, hp]
    simp [SrvC.lookupS]
  · intro x hc hv
    have := parseHybrid_rejects_of_bad_names (fun n => Bio.ttLib n) (fun _ => Bio.ttDump2)
      (SrvC.parseKey .hybrid code1) code1 x hc hv
    simp only [oHyb, this]
    rfl

def histSrvDel : List (Event String) :=
  [.req ⟨0, .register "u" "pw" 0⟩, .req ⟨0, .login "u" "pw"⟩, .req ⟨0, .add "p" (some code1) none .naive "~t" "~p"⟩,
   .finish 0 0, .write 0 0, .req ⟨0, .delete "p"⟩, .req ⟨0, .add "p" (some code1) none .hybrid "~t" "~p"⟩,
   .finish 0 1, .write 0 1, .req ⟨0, .solve "p" .stable⟩, .finish 0 2, .write 0 2]

#guard oHyb.hyb.all (fun x => storedAdfOK' code1 x.2 == "ok") && oHyb.hyb.length == 1
#guard taintRun (SrvC.libEnv oHyb) {} (fun _ _ => false) histSrvDel "u" "p" == false
#guard (match (runAll (SrvC.libEnv oHyb) {} histSrvDel).1.db.problems.find? (isProb "u" "p") with
  | some p => p.parsing == .hybrid && (match p.res.get .stable with | .some r => r.length == 2 | _ => false)
  | none => false)

-- D9's history: the key (1, 5) IS tainted at the end, and the shape shows at the re-creation (5th event)
example : taintRun Etoy {} (fun _ _ => false) histStale 1 5 = true := by decide
example : d9Shape Etoy (runAll Etoy {} (histStale.take 4)).1 (.req ⟨0, .add 5 (some 8) none .naive 100 101⟩) 1 5 = true := by decide
-- even there the stored framework 7 is the parse result of a code recorded for the key
example : subsRun Etoy {} (fun _ _ => []) histStale 1 5 = [(.naive, 7), (.naive, 8), (.naive, 8), (.naive, 8)] := by decide

/-- deletion (AFTER the parse task has written), re-creation with another code and a rename of the
account (1 → 2), no D9 shape -/
def histRecreate : List (Event Nat) :=
  [.req ⟨0, .register 1 7 0⟩, .req ⟨0, .login 1 7⟩, .req ⟨0, .add 5 (some 7) none .naive 100 101⟩,
   .finish 0 0, .write 0 0, .req ⟨0, .delete 5⟩, .req ⟨0, .add 5 (some 8) none .naive 100 101⟩, .finish 0 1, .write 0 1,
   .req ⟨0, .solve 5 .ground⟩, .finish 0 2, .write 0 2, .req ⟨0, .update 2 7 0⟩, .req ⟨0, .solve 5 .complete⟩,
   .finish 0 3, .write 0 3]

example : NoStaleWrite Etoy {} histRecreate := noD9b_sound Etoy _ _ (by decide)
example : (runAll Etoy {} histRecreate).1.db.problems.map (fun p => (p.username, p.code, p.adf, p.res.ground, p.res.complete)) =
    [(2, 8, .some 8, .some 108, .some 108)] := by decide
-- the hypotheses of `recreated_clean_belongs` at the re-creation (7th event) for the key (1, 5)
example : docsAt (runAll Etoy {} (histRecreate.take 6)).1.db 1 5 = 0 ∧
    0 < docsAt (ServerM.stepEv Etoy (runAll Etoy {} (histRecreate.take 6)).1 (.req ⟨0, .add 5 (some 8) none .naive 100 101⟩)).1.db 1 5 ∧
    pendingAt (runAll Etoy {} (histRecreate.take 6)).1.db 1 5 = false ∧
    renameOf (runAll Etoy {} (histRecreate.take 6)).1 (.req ⟨0, .add 5 (some 8) none .naive 100 101⟩) = none ∧
    NoGrowAt Etoy 1 5 (ServerM.stepEv Etoy (runAll Etoy {} (histRecreate.take 6)).1 (.req ⟨0, .add 5 (some 8) none .naive 100 101⟩)).1
      [.finish 0 1, .write 0 1, .req ⟨0, .solve 5 .ground⟩, .finish 0 2, .write 0 2] := by
  refine ⟨by decide, by decide, by decide, by decide, by decide, by decide, by decide, by decide, by decide, trivial⟩

/-! ## 11. the search bound is irrelevant once the search has halted

`nogood_internal` in the Rust is a `loop` WITHOUT a bound; the model bounds it by a fuel. Every `hybEnv`
history theorem above (NOT the `libEnv` theorems `reachable_served_answer_checked`, `served_answer*`,
`reachable_served_answer(_naive)`, which are stated at 10^6 - transfer them with `solve_fuel_monotone`)
that mentions `SrvA.strategyHalts 1000000 a s` is the instance `F0 = F = 10^6` of a statement "for every bound
`F ≥ F0`", `F0` any bound within which the search halts - and such an `F0` always exists
(`stored_answers_exact_every_large_bound`); explicitly `F0 = 2^(n+3)` for `n` statements
(`strategy_halts_within_explicit_bound`), which is `≤ 10^6` for `n ≤ 16`
(`strategy_halts_for_small_frameworks`). -/

/-- once the search has halted, a larger bound changes nothing in what the solve task returns -/
theorem solve_fuel_monotone (F F' : Nat) (a : SAdf) (s : Strategy) (hh : SrvA.strategyHalts F a s = true) (hF : F ≤ F') :
    SrvA.solveAdfF F' a s = SrvA.solveAdfF F a s ∧ SrvA.strategyHalts F' a s = true :=
  ⟨SrvA.solveAdfF_mono F F' a s hh hF, SrvA.strategyHalts_mono F F' a s hh hF⟩

/-- ONE result for all bounds `F ≥ F0`, and it is the specification's answer - the statement about the
unbounded loop -/
theorem stored_answers_exact_all_bounds (F0 : Nat) (a : SAdf) (n : Nat) (fms : List Fm) (s : Strategy)
    (h : SrvA.Denotes a n fms) (hh : SrvA.strategyHalts F0 a s = true) :
    ∃ res, (∀ F, F0 ≤ F → SrvA.solveAdfF F a s = .ok res ∧ SrvA.strategyHalts F a s = true) ∧
      (SrvA.storedI3 res).Perm (Cli.specSection n (CliF.tablesOf n fms) (SrvA.secOf s)) :=
  SrvA.stored_answers_exact_from_bound F0 a n fms s h hh

/-- the driver's model `solveAdf` (bound 10^6) is the instance: whenever the search halts within SOME
`F0 ≤ 10^6`, `solveAdf` returns the result of every bound `F ≥ F0` -/
theorem stored_answers_exact_driver_instance (F0 : Nat) (hF0 : F0 ≤ 1000000) (a : SAdf) (n : Nat) (fms : List Fm) (s : Strategy)
    (h : SrvA.Denotes a n fms) (hh : SrvA.strategyHalts F0 a s = true) :
    ∃ res, solveAdf a s = .ok res ∧ (∀ F, F0 ≤ F → SrvA.solveAdfF F a s = .ok res) ∧
      (SrvA.storedI3 res).Perm (Cli.specSection n (CliF.tablesOf n fms) (SrvA.secOf s)) := by
  obtain ⟨res, h1, h2⟩ := stored_answers_exact_all_bounds F0 a n fms s h hh
  exact ⟨res, by rw [← solve_model_is_bound_instance]; exact (h1 _ hF0).1, fun F hF => (h1 F hF).1, h2⟩

/-! ### the explicit bound

C05's termination argument with the iterations counted (`C05.ng_search_halts_within_explicit_bound`) bounds
the search of a framework with `n` statements by `NConc.ngBound n = 2^(n+3)` iterations. So the hypothesis
`SrvA.strategyHalts 1000000 a s` of the `served_answer*` / `reachable_served_answer*` theorems holds
whenever the stored framework denotes at most 16 conditions (`2^19 = 524288 ≤ 10^6 < 2^20`). Beyond that
size it remains a hypothesis: the Rust loop has no bound, the bound is necessarily exponential, and for
larger frameworks "halted within 10^6" is established by evaluation only. -/

theorem strategy_halts_within_explicit_bound (a : SAdf) (n : Nat) (fms : List Fm) (s : Strategy)
    (h : SrvA.Denotes a n fms) : ∀ fuel, NConc.ngBound n ≤ fuel → SrvA.strategyHalts fuel a s = true :=
  SrvA.strategyHalts_within a n fms s h

theorem strategy_halts_for_small_frameworks (a : SAdf) (n : Nat) (fms : List Fm) (s : Strategy)
    (h : SrvA.Denotes a n fms) (h16 : n ≤ 16) : SrvA.strategyHalts 1000000 a s = true :=
  SrvA.strategyHalts_of_le_16 a n fms s h h16

/-- ONE result for all bounds `≥ 2^(n+3)`, the specification's answer - no halting hypothesis -/
theorem stored_answers_exact_within_explicit_bound (a : SAdf) (n : Nat) (fms : List Fm) (s : Strategy)
    (h : SrvA.Denotes a n fms) :
    ∃ res, (∀ F, NConc.ngBound n ≤ F → SrvA.solveAdfF F a s = .ok res ∧ SrvA.strategyHalts F a s = true) ∧
      (SrvA.storedI3 res).Perm (Cli.specSection n (CliF.tablesOf n fms) (SrvA.secOf s)) :=
  SrvA.stored_answers_exact_from_bound (NConc.ngBound n) a n fms s h (SrvA.strategyHalts_within a n fms s h _ (Nat.le_refl _))

/-- the driver's model `solveAdf` (bound 10^6) on a stored framework with at most 16 statements: exact for
all six strategies, nothing assumed about bounds -/
theorem stored_answers_exact_driver_model_small (a : SAdf) (n : Nat) (fms : List Fm) (s : Strategy)
    (h : SrvA.Denotes a n fms) (h16 : n ≤ 16) :
    ∃ res, solveAdf a s = .ok res ∧
      (SrvA.storedI3 res).Perm (Cli.specSection n (CliF.tablesOf n fms) (SrvA.secOf s)) :=
  stored_answers_exact_driver_model a n fms s h (strategy_halts_for_small_frameworks a n fms s h h16)

/-- `served_answer_for_code` WITHOUT the halting hypothesis (naive parsing) for submitted texts with at
most 16 statements: `h16` stands in place of its hypotheses `hn` and `hh` -/
theorem served_answer_for_code_small_frameworks (o : Oracle) (st : State String SHash SAdf SRes) (j n jar : Nat)
    (t : TaskRec String SAdf) (code : String) (a : SAdf) (r : SRes) (s : Strategy)
    (ht : nthOf j n st.db.tasks = some t) (hin : t.input = .solve a s)
    (hlive : t.blockingDone = true ∧ t.written = false)
    (hparse : (SrvC.libEnv o).parse .naive code = .ok (a, r)) (h16 : a.names.length ≤ 16)
    (p : Problem String SAdf SRes) (hp : st.db.problems.find? (isProb t.username t.name) = some p)
    (hs : st.sess jar = some t.username) :
    ∃ (fms : List Fm) (res : SRes) (i : Info String SRes),
      conditions code = .ok (a.names, fms) ∧
      (ServerM.step (SrvC.libEnv o) (stepEv (SrvC.libEnv o) st (.write j n)).1 ⟨jar, .get t.name⟩).2 = ⟨200, .keep, .problem i⟩ ∧
      i.res.get s = .some res ∧ (∀ s', s' ≠ s → i.res.get s' = p.res.get s') ∧
      SrvA.PropAnswer a.names.length (fms.map Fm.sem) s (SrvA.storedI3 res) :=
  SrvC.served_answer_for_code_env (libEnv o) (libEnv_solve o) st j n jar t code a s ht hin hlive
    (libEnv_parse_naive_denotes o code a r hparse (by unfold VBOT; omega)) (.inr h16) p hp hs

/-- `served_answer_for_code_any_parsing` without the halting hypothesis, at most 16 statements -/
theorem served_answer_for_code_any_parsing_small_frameworks {T : Type} (Lf : Nat → Bio.Lib T) (dumpf : Nat → T → List Node)
    (st : State String SHash SAdf SRes) (j n jar : Nat)
    (t : TaskRec String SAdf) (pg : Parsing) (code : String) (a : SAdf) (r : SRes) (s : Strategy)
    (ht : nthOf j n st.db.tasks = some t) (hin : t.input = .solve a s)
    (hlive : t.blockingDone = true ∧ t.written = false)
    (hparse : (hybEnv Lf dumpf).parse pg code = .ok (a, r)) (h16 : a.names.length ≤ 16)
    (W : Bio.Lawful (Lf a.names.length) a.names.length) (hdump : Bio.DumpSpec W (dumpf a.names.length))
    (p : Problem String SAdf SRes) (hp : st.db.problems.find? (isProb t.username t.name) = some p)
    (hs : st.sess jar = some t.username) :
    ∃ (fms : List Fm) (res : SRes) (i : Info String SRes),
      conditions code = .ok (a.names, fms) ∧
      (ServerM.step (hybEnv Lf dumpf) (ServerM.stepEv (hybEnv Lf dumpf) st (.write j n)).1 ⟨jar, .get t.name⟩).2 =
        ⟨200, .keep, .problem i⟩ ∧
      i.res.get s = .some res ∧ (∀ s', s' ≠ s → i.res.get s' = p.res.get s') ∧
      SrvA.PropAnswer a.names.length (fms.map Fm.sem) s (SrvA.storedI3 res) :=
  SrvC.served_answer_for_code_env (hybEnv Lf dumpf) (hybEnv_solve Lf dumpf) st j n jar t code a s ht hin hlive
    (SrvC.parse_denotes_any Lf dumpf pg code a r hparse (fun _ => by unfold VBOT; omega) W (fun _ => hdump)) (.inr h16) p hp hs

/-- `served_answer_for_code_hybrid_checked` without the halting hypothesis, at most 16 statements -/
theorem served_answer_for_code_hybrid_checked_small_frameworks (o : Oracle) (st : State String SHash SAdf SRes)
    (j n jar : Nat) (t : TaskRec String SAdf) (code : String) (a : SAdf) (r : SRes) (s : Strategy)
    (ht : nthOf j n st.db.tasks = some t) (hin : t.input = .solve a s)
    (hlive : t.blockingDone = true ∧ t.written = false)
    (hparse : (SrvC.libEnv o).parse .hybrid code = .ok (a, r)) (hchk : storedAdfOK' code a = "ok")
    (h16 : a.names.length ≤ 16)
    (p : Problem String SAdf SRes) (hp : st.db.problems.find? (isProb t.username t.name) = some p)
    (hs : st.sess jar = some t.username) :
    ∃ (fms : List Fm) (res : SRes) (i : Info String SRes),
      conditions code = .ok (a.names, fms) ∧
      (ServerM.step (SrvC.libEnv o) (ServerM.stepEv (SrvC.libEnv o) st (.write j n)).1 ⟨jar, .get t.name⟩).2 =
        ⟨200, .keep, .problem i⟩ ∧
      i.res.get s = .some res ∧ (∀ s', s' ≠ s → i.res.get s' = p.res.get s') ∧
      SrvA.PropAnswer a.names.length (fms.map Fm.sem) s (SrvA.storedI3 res) :=
  SrvC.served_answer_for_code_env (SrvC.libEnv o) (SrvC.libEnv_solve o) st j n jar t code a s ht hin hlive
    (storedAdfOK'_denotes code a hchk) (.inr h16) p hp hs

/-- kernel-checked without running the search: the explicit bound supplies the halting hypothesis -/
example : SrvA.strategyHalts 1000000 a1 .stableNogood = true ∧
    ∃ res, solveAdf a1 .stableNogood = .ok res ∧
      (SrvA.storedI3 res).Perm [[some true, some false], [some false, some true]] := by
  refine ⟨strategy_halts_for_small_frameworks a1 2 _ .stableNogood denotes1 (by decide), ?_⟩
  obtain ⟨res, h1, h2⟩ := stored_answers_exact_driver_model_small a1 2 _ .stableNogood denotes1 (by decide)
  exact ⟨res, h1, h2.trans (.of_eq spec1_stable)⟩

#guard (match parseNaive "k" code1 with
  | .ok (a, _) => SrvA.strategyHalts 50 a .stableNogood &&
      (match SrvA.solveAdfF 50 a .stableNogood, SrvA.solveAdfF 1000 a .stableNogood, solveAdf a .stableNogood with
       | .ok r1, .ok r2, .ok r3 => r1.map AcG.ac == r2.map AcG.ac && r2.map AcG.ac == r3.map AcG.ac && r1.length == 2
       | _, _, _ => false)
  | .error _ => false)

/-! ## 12. an accepted solve whose task is written yields a stored result; lost writes

Sections 7-10 are safety statements ("IF a result is stored THEN it is the right one"). `ServerLive.lean`
adds the liveness-flavoured half and names D9's second symptom. -/

section live
variable {T H A R : Type} [DecidableEq T]

/-- an accepted `PUT /adf/{name}/solve` leaves an unfinished solve task for the STORED framework under the
document's key (`Pending`): the task is the `n`-th of the jar for `n` = the number of tasks the jar spawned
before -/
theorem accepted_solve_spawns (E : Env T H A R) (st : State T H A R) (jar : Nat) (name : T) (s : Strategy)
    (h : (ServerM.step E st ⟨jar, .solve name s⟩).2.status = 200) :
    ∃ u p a, st.sess jar = some u ∧ st.db.problems.find? (isProb u name) = some p ∧ p.adf = .some a ∧
      Pending u name a s jar (st.db.tasks.filter (fun x => decide (x.jar = jar))).length false
        (ServerM.step E st ⟨jar, .solve name s⟩).1.db := by
  obtain ⟨u, p, a, h1, h2, h3, h4, h5⟩ := solve_accepted E st jar name s h
  refine ⟨u, p, a, h1, h2, h3, ⟨⟨p, by rw [h5]; exact h2⟩,
    ⟨{ jar := jar, username := u, name := name, input := .solve a s }, ?_, rfl, rfl, rfl, rfl, rfl⟩⟩⟩
  rw [h4]
  exact nthOf_new jar _ rfl _

/-- Any environment, any state. From a `Pending` state - the solve task `(j, n)` for strategy `s` on the
framework `a`, spawned under the key `(u, name)`, has not ended and a document carries the key - after ANY
events `es2`, the end of the task's blocking part, ANY events `es3` and the task's write - `es2`, `es3`
without `DELETE /adf/…`, `DELETE /users/delete`, `PUT /users/update` and without events of this very task
(`Quiet`) - the document under the key shows under `s` exactly the outcome of `E.solve a s`: `.some r` if the
library answered `r` (an `Error` if it panicked) -/
theorem accepted_solve_yields_result (E : Env T H A R) (u name : T) (a : A) (s : Strategy) (j n : Nat)
    (st : State T H A R) (h : Pending u name a s j n false st.db) (es2 es3 : List (Event T))
    (h2 : ∀ e ∈ es2, Quiet j n e = true) (h3 : ∀ e ∈ es3, Quiet j n e = true) :
    ∃ p', (runAll E st (es2 ++ [.finish j n] ++ es3 ++ [.write j n])).1.db.problems.find? (isProb u name) = some p' ∧
      p'.res.get s = solveOutcome E a s := by
  rw [List.append_assoc, List.append_assoc, runAll_append, List.singleton_append, ← List.cons_append]
  have hA := Pending.quietAll E es2 st h h2
  generalize (runAll E st es2).1 = st2 at hA ⊢
  have hB := hA.finish E
  rw [List.cons_append, runAll]
  simp only
  generalize (stepEv E st2 (.finish j n)).1 = st3 at hB ⊢
  rw [runAll_append]
  have hC := Pending.quietAll E es3 st3 hB h3
  generalize (runAll E st3 es3).1 = st4 at hC ⊢
  obtain ⟨⟨p, hp⟩, ⟨t, ht, h1, h2', h3', h4, h5⟩⟩ := hC
  have hw := write_lands E st4.db j n t ht ⟨h4, h5⟩ p (by rw [h1, h2']; exact hp)
  rw [h1, h2', h3', taskWrite_solve] at hw
  refine ⟨_, hw, ?_⟩
  exact Results.get_set_same _ _ _

/-- `accepted_solve_spawns` and `accepted_solve_yields_result` composed, from the REQUEST: if
`PUT /adf/{name}/solve` with strategy `s` is answered `200` in ANY state `st` (in particular any reachable
one) and the history continues as in `accepted_solve_yields_result`, the document under the requester's key
shows under `s` the outcome of `E.solve a s` for the framework `a` that was stored in the document when the
request arrived: a result DOES get stored -/
theorem accepted_solve_eventually_stored (E : Env T H A R) (st : State T H A R) (jar : Nat) (name : T) (s : Strategy)
    (hacc : (ServerM.step E st ⟨jar, .solve name s⟩).2.status = 200) (es2 es3 : List (Event T))
    (h2 : ∀ e ∈ es2, Quiet jar (st.db.tasks.filter (fun x => decide (x.jar = jar))).length e = true)
    (h3 : ∀ e ∈ es3, Quiet jar (st.db.tasks.filter (fun x => decide (x.jar = jar))).length e = true) :
    ∃ u p a p', st.sess jar = some u ∧ st.db.problems.find? (isProb u name) = some p ∧ p.adf = .some a ∧
      (runAll E st ([.req ⟨jar, .solve name s⟩] ++ es2 ++
          [.finish jar (st.db.tasks.filter (fun x => decide (x.jar = jar))).length] ++ es3 ++
          [.write jar (st.db.tasks.filter (fun x => decide (x.jar = jar))).length])).1.db.problems.find? (isProb u name)
        = some p' ∧
      p'.res.get s = solveOutcome E a s := by
  obtain ⟨u, p, a, h1, hf, ha, hpend⟩ := accepted_solve_spawns E st jar name s hacc
  obtain ⟨p', hp', hres⟩ := accepted_solve_yields_result E u name a s jar _ _ hpend es2 es3 h2 h3
  refine ⟨u, p, a, p', h1, hf, ha, ?_, hres⟩
  simp only [List.append_assoc, List.singleton_append, runAll] at hp' ⊢
  exact hp'

/-- a due write is visible under the task's key iff a document carries the key
at that moment; otherwise (`lostWrite`) NO document changes - the accepted task's outcome is never stored -/
theorem write_visible_iff_not_lost (E : Env T H A R) (st : State T H A R) (j n : Nat) (t : TaskRec T A)
    (ht : nthOf j n st.db.tasks = some t) (hlive : t.blockingDone = true ∧ t.written = false) :
    (lostWrite st (.write j n) = false →
      ∃ p, st.db.problems.find? (isProb t.username t.name) = some p ∧
        (ServerM.stepEv E st (.write j n)).1.db.problems.find? (isProb t.username t.name) = some ((taskWrite E t.input).apply p)) ∧
    (lostWrite st (.write j n) = true → (ServerM.stepEv E st (.write j n)).1.db.problems = st.db.problems) :=
  ServerM.write_visible_iff_not_lost E st j n t ht hlive

end live

example : ∃ p', (runAll Etoy (runAll Etoy {} (histOk.take 7)).1
      ([.finish 1 0, .write 1 0] ++ [.finish 0 1] ++ [.req ⟨1, .solve 5 .complete⟩] ++ [.write 0 1])).1.db.problems.find?
        (isProb 1 5) = some p' ∧ p'.res.get .ground = .some 107 := by
  have hp : Pending (1 : Nat) 5 7 .ground 0 1 false (runAll Etoy {} (histOk.take 7)).1.db :=
    ⟨Option.isSome_iff_exists.mp (by decide),
     ⟨{ jar := 0, username := 1, name := 5, input := .solve 7 .ground }, by decide, rfl, rfl, rfl, rfl, rfl⟩⟩
  exact accepted_solve_yields_result Etoy 1 5 7 .ground 0 1 _ hp _ _ (by decide) (by decide)

/-- D9's LOST write: add, parse, solve accepted, the account is RENAMED while the solve task runs, the
task ends and writes: the write matches nothing. The history shows no stale-write shape (`NoStaleWrite`
HOLDS), every task has ended and written, nothing is running - and the accepted solve left no result.
`NoLostWrite` is what excludes it. -/
def histLost : List (Event Nat) :=
  [.req ⟨0, .register 1 7 0⟩, .req ⟨0, .login 1 7⟩, .req ⟨0, .add 5 (some 7) none .naive 100 101⟩,
   .finish 0 0, .write 0 0, .req ⟨0, .solve 5 .ground⟩, .req ⟨0, .update 2 7 0⟩, .finish 0 1, .write 0 1]

example : NoStaleWrite Etoy {} histLost := noD9b_sound Etoy _ _ (by decide)
example : ¬ NoLostWrite Etoy {} histLost := fun h => absurd ((noLostWriteB_iff Etoy _ _).mpr h) (by decide)
example : (runAll Etoy {} histLost).1.db.problems.map (fun p => (p.username, p.adf, p.res.ground)) = [(2, .some 7, .none)] := by decide
example : (runAll Etoy {} histLost).1.db.running = [] ∧
    (runAll Etoy {} histLost).1.db.tasks.all (fun t => t.blockingDone && t.written) = true := by decide
example : NoLostWrite Etoy {} histOk := (noLostWriteB_iff Etoy _ _).mp (by decide)
example : NoLostWrite Etoy {} histRecreate := (noLostWriteB_iff Etoy _ _).mp (by decide)

/-- twins share one running entry: delete + re-add while the parse task runs; when the FIRST parse task ends
the entry is removed although the second task is still in its blocking part (`RunningGuard` on a `HashSet`
of `(user, problem, kind)`: the Rust does the same) - so only one direction of "listed iff running" holds -/
def histTwin : List (Event Nat) :=
  [.req ⟨0, .register 1 7 0⟩, .req ⟨0, .login 1 7⟩, .req ⟨0, .add 5 (some 7) none .naive 100 101⟩,
   .req ⟨0, .delete 5⟩, .req ⟨0, .add 5 (some 8) none .naive 100 101⟩, .finish 0 0]

example : (runAll Etoy {} histTwin).1.db.running = [] ∧
    (runAll Etoy {} histTwin).1.db.tasks.map (fun t => (t.input, t.blockingDone)) =
      [(.parse 7 .naive, true), (.parse 8 .naive, false)] := by decide

/-! ## 13. finding D14: the race in `add_adf_problem` and C16's first sentence

The atomic-request model of sections 7-12 executes each request in one step. The command-granular model
(`ServerCmd.lean`, Props/C17 §7) interleaves requests between their database commands; there
`add_adf_problem`'s check-then-act (`find_one`, later `insert_one`, no unique index on `(username, name)`)
lets two concurrent adds of the same `(user, name)` create TWO documents, and both parse tasks write into the
first: "the models stored and returned for that problem are exactly the answers for the submitted code" FAILS
(`add_race_breaks_the_sentence`). Without interleaved requests it holds (`sequential_requests_sentence_partial`). -/

section race
variable {T H A R : Type} [DecidableEq T]
open ServerCmd

/-- In the command-granular model, under every schedule in which each
request runs from arrival to response without another command in between (`seqSchedule` of ANY history:
any requests of any users, background-task events anywhere between requests), the state is the atomic
model's, so every document under an untainted key stores only what belongs to its OWN code. PARTIAL: the
hypothesis excludes every interleaving of requests, not only interleaved adds of the same `(user, name)`
(the weaker hypothesis would need a commutation argument for the other request pairs, which is not done;
`C17.add_unique_if_not_interleaved` is the local fact: an uninterleaved add never duplicates a key) -/
theorem sequential_requests_sentence_partial (E : Env T H A R) (es : List (Event T)) (p : Problem T A R)
    (hp : p ∈ (runC E {} (seqSchedule E {} es)).db.problems)
    (hn : taintRun E {} (fun _ _ => false) es p.username p.name = false) :
    (∀ a, p.adf = .some a → ∃ r, E.parse p.parsing p.code = .ok (a, r)) ∧
    (∀ s res, p.res.get s = .some res → ∃ a r, E.parse p.parsing p.code = .ok (a, r) ∧ E.solve a s = .ok res) := by
  rw [(C17.atomic_is_sequential_schedule E es).1] at hp
  exact ServerM.reachable_untainted_belong_to_the_code E es p hp hn

/-- an uninterleaved add keeps "at most one document per `(user, name)`" -/
theorem add_not_interleaved_keeps_keys_unique (E : Env T H A R) (s : CState T H A R) (jar : Nat) (name : T)
    (code file : Option T) (parsing : Parsing) (fu fp : T) (h : ProbUnique s.db) :
    ProbUnique (runC E s (seqRequest E ⟨s.db, s.sess⟩ s.pool.length ⟨jar, .add name code file parsing fu fp⟩)).db :=
  C17.add_unique_if_not_interleaved E s jar name code file parsing fu fp h

end race

/-- Finding D14: two concurrent `POST /adf/add` of one user with the same
problem name and different codes (9 and 4), interleaved between `find_one` and `insert_one`: both are answered
`200`, two documents carry the key, and after both parse tasks have written `GET /adf/5` shows the CODE of the
first request with the parse result of the SECOND - a stored framework that is not the parse result of the
document's own code, with no deletion, rename or stale task involved (`C17.add_race_wrong_answer`) -/
theorem add_race_breaks_the_sentence :
    (ServerCmd.runC C17.E0 C17.aliceIn C17.addRace).out.map (fun x => x.2.status) = [200, 200, 200, 200] ∧
    ServerCmd.keyCount 1 5 (ServerCmd.runC C17.E0 C17.aliceIn C17.addRace).db = 2 ∧
    (ServerCmd.runC C17.E0 (ServerCmd.runC C17.E0 C17.aliceIn C17.addRace)
      ([.finish 0 0, .write 0 0, .finish 0 1, .write 0 1] ++ [.arrive ⟨0, .get 5⟩, .cmd 0, .cmd 0, .deliver 0])).out.getLast?
      = some (0, ⟨200, .keep, .problem ⟨5, 9, .naive, .some 4, {}, []⟩⟩) ∧
    C17.E0.parse .naive 9 ≠ .ok (4, 4) :=
  ⟨C17.add_race_duplicate.1, C17.add_race_duplicate.2.2.1, C17.add_race_wrong_answer.1, by decide⟩

/-! ### further instances -/
section moreInstances
open ServerCmd
-- `accepted_solve_eventually_stored` from a REQUEST on the toy library
example : True := by
  have h := accepted_solve_eventually_stored Etoy (runAll Etoy {} (histOk.take 6)).1 0 5 .ground (by decide)
    [.finish 1 0, .write 1 0] [.req ⟨1, .solve 5 .complete⟩] (by decide) (by decide)
  trivial
example : Task.solve .ground ∉ (ServerM.exec (runAll Etoy {} histOk).1.db (.rTasks 1 5 : Cmd Nat Nat Nat Nat)).2 :=
  not_reported_as_running Etoy histOk 1 5 (.solve .ground) (by decide)

-- its hypothesis is not vacuous here: two tasks were spawned under the key
example : ((runAll Etoy {} histOk).1.db.tasks.filter (fun t => t.username == 1 && t.name == 5)).length = 2 := by decide

def aliceT : CState Nat Nat Nat Nat :=
  runC Etoy {} (seqSchedule Etoy {} [.req ⟨0, .register 1 7 0⟩, .req ⟨0, .login 1 7⟩])

/-- D14 also breaks C08's web sentence: `Etoy` REFUSES code 9, yet under the `add ∥ add` interleaving of
finding D14 the document with code 9 ends up showing a framework -
`C08.web_no_answer_for_rejected_text` is a statement about histories of ATOMIC requests only -/
theorem add_race_answers_rejected_code : Etoy.parse .naive 9 = .error .parseError ∧
    (runC Etoy (runC Etoy aliceT C17.addRace)
      ([.finish 0 0, .write 0 0, .finish 0 1, .write 0 1] ++ [.arrive ⟨0, .get 5⟩, .cmd 0, .cmd 0, .deliver 0])).out.getLast?
      = some (0, ⟨200, .keep, .problem ⟨5, 9, .naive, .some 4, {}, []⟩⟩) := by
  constructor <;> decide

-- hypotheses of `hybrid_parse_rejects_special_labels`, kernel-checked: the kernel does evaluate the parser
-- on this string literal
theorem condD6 : (conditions codeD6).toOption.map (·.1) = some ["a&b", "c"] := by decide +kernel

example : ∃ x, conditions codeD6 = .ok x ∧ (∃ n ∈ x.1, CliM.bioNameOK n.toList = false) ∧
    (∃ a r, parseNaive "k" codeD6 = .ok (a, r) ∧ a.names = x.1) ∧
    parseHybrid Bio.ttLib Bio.ttDump "k" codeD6 = .error .panic := by
  cases hc : conditions codeD6 with
  | error e => have := condD6; rw [hc] at this; cases this
  | ok x =>
    have h1 := condD6
    rw [hc] at h1
    simp only [Except.toOption, Option.map_some, Option.some.injEq] at h1
    have hbad : ∃ n ∈ x.1, CliM.bioNameOK n.toList = false := by
      rw [h1]; exact ⟨"a&b", by simp, by decide⟩
    exact ⟨x, rfl, hbad, hybrid_parse_rejects_special_labels Bio.ttLib Bio.ttDump "k" codeD6 x hc hbad⟩


end moreInstances

end C16

#print axioms C16.reachable_served_answer_all
#print axioms C16.reachable_served_answer_all_bounds
#print axioms C16.reachable_served_answer_tt
#print axioms C16.hybrid_parse_rejects_special_labels
#print axioms C16.hybrid_parse_task_stores_error_for_special_labels
#print axioms C16.hybrid_parse_denotes_code_tt
#print axioms C16.adopted_service_example
#print axioms C16.add_race_answers_rejected_code
#print axioms C16.hybrid_parse_names_ok
#print axioms C16.hybrid_parse_ok_of_names
#print axioms C16.adopted_service_unadopted_valid_code
#print axioms C16.add_not_interleaved_keeps_keys_unique
#print axioms C16.no_d9_all_belong
#print axioms C16.deletion_free_no_d9
#print axioms C16.running_entries_are_unfinished_tasks
#print axioms C16.not_reported_as_running
#print axioms C16.solve_fuel_monotone
#print axioms C16.stored_answers_exact_all_bounds
#print axioms C16.stored_answers_exact_driver_instance
#print axioms C16.accepted_solve_spawns
#print axioms C16.accepted_solve_yields_result
#print axioms C16.write_visible_iff_not_lost
#print axioms C16.accepted_solve_eventually_stored
#print axioms C16.sequential_requests_sentence_partial
#print axioms C16.add_race_breaks_the_sentence
#print axioms C16.strategy_halts_within_explicit_bound
#print axioms C16.strategy_halts_for_small_frameworks
#print axioms C16.stored_answers_exact_driver_model_small
#print axioms C16.served_answer_for_code_small_frameworks
#print axioms C16.served_answer_for_code_any_parsing_small_frameworks
#print axioms C16.served_answer_for_code_hybrid_checked_small_frameworks
