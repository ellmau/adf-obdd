import AdfObdd.CliModel
import AdfObdd.CliFaithful
import AdfObdd.CliModesProofs
import AdfObdd.CliWorldProofs
import AdfObdd.CliCounter
import AdfObdd.CliIOProofs
import AdfObdd.CliHalt
import AdfObdd.CliFuelBound
import AdfObdd.HybridCli
import AdfObdd.NatLexOrder
import AdfObdd.Props.C03
/-! # C15 — CLI output is faithful in every library mode

Model: `Cli.run` (`CliModel.lean`) — the three arms of `App::run`, the per-mode wiring table
(`Cli.implemented`) and the fixed order of the sections. "Prints exactly what the definitions
prescribe" and "the three modes print the same sets" are read over the flags a mode implements
(DESIGN.md §5); the wiring table is itself part of the model and is compared with the binary.

`Cli.run` is what the model driver executes for a `clirun` request without the text of the file
(`Drv.cliRun`); it starts from a BUILT native framework and its `.biodivine` arm is the native one (so
statements that compare its modes say nothing about the biodivine back-end). The second part of this file (`## from the text, arm by arm`) is about
`CliM.runText` (`CliModes.lean`): the three arms as written in `main.rs`, from the TEXT of the file
(parse, `--lx`/`--an`, construction per arm, biodivine algorithms over the lawful library, bridge,
`--stmrew`/`--stmrew2` rewriting variants) to exit status and rendered lines. Its naive arm is
`Cli.run .naive` (`naive_arm_is_driver_model`). -/
namespace C15

/-- the printed sections are exactly the requested ones the mode implements -/
theorem sections_exact (m : Cli.Mode) (f : Cli.Flags) (s : Cli.Section) :
    s ∈ Cli.sections m f ↔ (Cli.wanted f s = true ∧ Cli.implemented m s = true) := by
  unfold Cli.sections
  rw [List.mem_filter, Bool.and_eq_true]
  exact and_iff_right (by cases s <;> decide)

/-- the sections come in the documented order: grounded, then complete, then the (two-valued and) stable sections -/
theorem sections_in_documented_order (m : Cli.Mode) (f : Cli.Flags) :
    (Cli.sections m f).Sublist [.grd, .com, .twoval, .stm, .stmca, .stmcb, .stmpre, .stmrew, .stmng] :=
  List.filter_sublist

theorem sections_nodup (m : Cli.Mode) (f : Cli.Flags) : (Cli.sections m f).Nodup :=
  List.Nodup.sublist List.filter_sublist (by decide)

/-- the hybrid (default) mode implements every section; the other two a subset -/
theorem hybrid_implements_everything (s : Cli.Section) : Cli.implemented .hybrid s = true := rfl

/-- `Cli.run` is the bound-parametric model at the driver's bound -/
theorem run_is_bound_instance (m : Cli.Mode) (f : Cli.Flags) (heu : SM.Heu) (s : Store) (n : Nat) (ac : List Nat) :
    CliF.runF 1000000 m f heu s n ac = Cli.run m f heu s n ac := by
  simp only [CliF.runF, Cli.run, CliF.runFromF_eq]

/-- the invocation prints one block per section, in that order -/
theorem run_blocks (m : Cli.Mode) (f : Cli.Flags) (heu : SM.Heu) (s : Store) (n : Nat) (ac : List Nat) :
    (Cli.run m f heu s n ac).map (·.1) = Cli.sections m f := by
  rw [← run_is_bound_instance]
  simp only [CliF.runF, ← CliF.runWith_naive_eq_F, CliM.runWith_fst, List.map_nil, List.nil_append]

/-! ## faithfulness: every block is the specification's answer

`Cli.run` runs the two sections that use the nogood-learning search (`--twoval`, `--stmng`) with a
bound of 1 000 000 loop iterations (the model must be a total function). C05 proves that the loop
halts within `2^(n+3)` iterations, and a framework with more than a million two-valued models cannot be
enumerated within the bound; so the statement about `Cli.run` itself carries the hypothesis
`CliF.Halted` — "no search of this invocation hit the bound" (a Boolean the model computes:
`CliF.haltsFromF`). It is discharged in three ways: it holds outright for every invocation without
those two flags (`cli_faithful_without_search_flags`), for every invocation it holds from the bound
`2^(n+3)` on (`cli_faithful_within_explicit_bound`, `cli_faithful_every_large_bound`, about
`CliF.runF fuel`, the same model with the bound as a parameter; `CliF.runF 1000000 = Cli.run`,
`run_is_bound_instance`), hence at the driver's bound for at most 16 statements
(`cli_faithful_small_frameworks`).

Two hypotheses beyond the written property: every atom
of every condition is a statement of the framework (`NConc.atomsLt n`, what the parser guarantees;
needed for the truth tables over `n` variables to represent the conditions, and by C05's two-valued
mode) and `n ≤ VBOT` (the variable numbers fit; `buildNative_correct`). -/

/-- faithfulness: for EVERY library mode, flag set and heuristic, on the framework
compiled from the written conditions, every block of the model's output is, as a multiset of
three-valued interpretations, the specification's answer for its section -/
def cli_faithful_statement : Prop :=
  ∀ (m : Cli.Mode) (f : Cli.Flags) (heu : SM.Heu) (n : Nat) (fms : List Fm),
    fms.length = n → n ≤ VBOT → (∀ φ ∈ fms, NConc.atomsLt n φ) →
    let b := buildNative n fms
    CliF.Halted m f heu b.1 n b.2 →
    ∀ blk ∈ Cli.run m f heu b.1 n b.2,
      (blk.2.map (fun v => v.map storeIsConst)).Perm
        (Cli.specSection n (fms.map (fun φ => TT.ofFn n (fun a => φ.sem (fun v => a.testBit v)))) blk.1)

/-- **C15, faithfulness**: composition of C01 (grounded = least fixpoint; the hybrid arm's
pre-grounded conditions are `pre D g`, `CliF.grounded_is_pre`), C02 (`complete_exact`), C03
(`stable_exact`, `stablepre_exact`), C04 (`count_search_exact`), C05 (`ng_search_exact`), the
pre-grounding invariance theorems (`pre_lfp`, `pre_complete_iff`, `pre_reduct_lfp_iff`), the store
threading through the sections (`CliM.runWith_thread` with `CliF.secNaive_step`) and the soundness of the executable
specification (`SpecSound`) -/
theorem cli_faithful : cli_faithful_statement := by
  intro m f heu n fms hl hn ha b hh
  rw [← run_is_bound_instance]
  exact CliF.runF_faithful 1000000 m f heu n fms hl hn ha hh

/-- the hypothesis `Halted` is not needed when the invocation runs no bounded search -/
theorem cli_faithful_without_search_flags (m : Cli.Mode) (f : Cli.Flags) (heu : SM.Heu) (n : Nat) (fms : List Fm)
    (hl : fms.length = n) (hn : n ≤ VBOT) (ha : ∀ φ ∈ fms, NConc.atomsLt n φ)
    (h1 : f.twoval = false) (h2 : f.stmng = false) :
    ∀ blk ∈ Cli.run m f heu (buildNative n fms).1 n (buildNative n fms).2,
      (blk.2.map (fun v => v.map storeIsConst)).Perm
        (Cli.specSection n (fms.map (fun φ => TT.ofFn n (fun a => φ.sem (fun v => a.testBit v)))) blk.1) :=
  cli_faithful m f heu n fms hl hn ha (CliF.halted_of_no_search _ m f heu _ n _ h1 h2)

/-- **the fuel hypothesis from an EXPLICIT bound on**: C05's termination argument with the iterations
counted gives `NConc.ngBound n = 2^(n+3)` (`C05.ng_search_halts_within_explicit_bound`); no search of an
invocation on a framework with `n` statements hits a bound `≥ 2^(n+3)`, and the blocks are faithful -/
theorem cli_faithful_within_explicit_bound (m : Cli.Mode) (f : Cli.Flags) (heu : SM.Heu) (n : Nat) (fms : List Fm)
    (hl : fms.length = n) (hn : n ≤ VBOT) (ha : ∀ φ ∈ fms, NConc.atomsLt n φ) :
    ∀ fuel, NConc.ngBound n ≤ fuel →
      CliF.HaltedF fuel m f heu (buildNative n fms).1 n (buildNative n fms).2 ∧
      ∀ blk ∈ CliF.runF fuel m f heu (buildNative n fms).1 n (buildNative n fms).2,
        (blk.2.map (fun v => v.map storeIsConst)).Perm
          (Cli.specSection n (fms.map (fun φ => TT.ofFn n (fun a => φ.sem (fun v => a.testBit v)))) blk.1) :=
  fun fuel hf => ⟨CliF.haltedF_within m f heu n fms hl hn ha fuel hf,
    CliF.runF_faithful fuel m f heu n fms hl hn ha (CliF.haltedF_within m f heu n fms hl hn ha fuel hf)⟩

/-- **C15, termination and faithfulness for every large bound**: every invocation has a bound from
which on no search hits it and every block is the specification's answer — no hypothesis left -/
theorem cli_faithful_every_large_bound (m : Cli.Mode) (f : Cli.Flags) (heu : SM.Heu) (n : Nat) (fms : List Fm)
    (hl : fms.length = n) (hn : n ≤ VBOT) (ha : ∀ φ ∈ fms, NConc.atomsLt n φ) :
    ∃ F0, ∀ fuel, F0 ≤ fuel →
      CliF.HaltedF fuel m f heu (buildNative n fms).1 n (buildNative n fms).2 ∧
      ∀ blk ∈ CliF.runF fuel m f heu (buildNative n fms).1 n (buildNative n fms).2,
        (blk.2.map (fun v => v.map storeIsConst)).Perm
          (Cli.specSection n (fms.map (fun φ => TT.ofFn n (fun a => φ.sem (fun v => a.testBit v)))) blk.1) :=
  ⟨NConc.ngBound n, cli_faithful_within_explicit_bound m f heu n fms hl hn ha⟩

/-- **`CliF.Halted` holds for every framework with at most 16 statements** (`2^(16+3) = 524288 ≤ 10^6 <
2^(17+3)`, `NConc.ngBound_le_million_iff`): every mode, every flag set (in particular
`--twoval`, `--stmng`), every heuristic. Beyond 16 statements the hypothesis `Halted` of `cli_faithful`
remains: the Rust loop is unbounded, the bound is exponential, and for larger frameworks "halted within
10^6" is established by evaluation only (the frameworks of the check's cli profile that run these flags
have at most 6 statements: `2^9 = 512` iterations suffice). -/
theorem halted_for_small_frameworks (m : Cli.Mode) (f : Cli.Flags) (heu : SM.Heu) (n : Nat) (fms : List Fm)
    (hl : fms.length = n) (h16 : n ≤ 16) (ha : ∀ φ ∈ fms, NConc.atomsLt n φ) :
    CliF.Halted m f heu (buildNative n fms).1 n (buildNative n fms).2 :=
  CliF.haltedF_within m f heu n fms hl (by unfold VBOT; omega) ha 1000000 ((NConc.ngBound_le_million_iff n).mpr h16)

/-- **`cli_faithful` WITHOUT the fuel hypothesis** for frameworks with at most 16 statements -/
theorem cli_faithful_small_frameworks (m : Cli.Mode) (f : Cli.Flags) (heu : SM.Heu) (n : Nat) (fms : List Fm)
    (hl : fms.length = n) (h16 : n ≤ 16) (ha : ∀ φ ∈ fms, NConc.atomsLt n φ) :
    ∀ blk ∈ Cli.run m f heu (buildNative n fms).1 n (buildNative n fms).2,
      (blk.2.map (fun v => v.map storeIsConst)).Perm
        (Cli.specSection n (fms.map (fun φ => TT.ofFn n (fun a => φ.sem (fun v => a.testBit v)))) blk.1) :=
  cli_faithful m f heu n fms hl (by unfold VBOT; omega) ha (halted_for_small_frameworks m f heu n fms hl h16 ha)

/-- non-vacuity (kernel-checked hypotheses): two statements attacking each other, hybrid mode, ALL flags
including `--twoval --stmng`, any heuristic: every block of `Cli.run` is the specification's answer -/
example (heu : SM.Heu) :
    ∀ blk ∈ Cli.run .hybrid { grd := true, com := true, twoval := true, stm := true, stmng := true } heu
        (buildNative 2 [.not (.atom 1), .not (.atom 0)]).1 2 (buildNative 2 [.not (.atom 1), .not (.atom 0)]).2,
      (blk.2.map (fun v => v.map storeIsConst)).Perm
        (Cli.specSection 2 ([Fm.not (.atom 1), .not (.atom 0)].map
          (fun φ => TT.ofFn 2 (fun a => φ.sem (fun v => a.testBit v)))) blk.1) :=
  cli_faithful_small_frameworks .hybrid _ heu 2 _ rfl (by decide)
    (by intro f hf; simp at hf; rcases hf with rfl | rfl <;> simp [NConc.atomsLt])

/-- two invocations of `Cli.run` that differ in the library mode only print, for every section both
modes implement, permutations of one another. NOTE: in `Cli.run` the `.biodivine` arm is the native
one, so this compares the hybrid start (pre-grounding) with the plain start only; the statement
about the three REAL arms is `three_modes_print_same_sets` below. -/
theorem modes_print_same_sets (m m' : Cli.Mode) (f : Cli.Flags) (heu heu' : SM.Heu) (n : Nat) (fms : List Fm)
    (hl : fms.length = n) (hn : n ≤ VBOT) (ha : ∀ φ ∈ fms, NConc.atomsLt n φ)
    (hh : CliF.Halted m f heu (buildNative n fms).1 n (buildNative n fms).2)
    (hh' : CliF.Halted m' f heu' (buildNative n fms).1 n (buildNative n fms).2)
    (blk blk' : Cli.Section × List (List Nat))
    (hb : blk ∈ Cli.run m f heu (buildNative n fms).1 n (buildNative n fms).2)
    (hb' : blk' ∈ Cli.run m' f heu' (buildNative n fms).1 n (buildNative n fms).2) (hs : blk.1 = blk'.1) :
    (blk.2.map (fun v => v.map storeIsConst)).Perm (blk'.2.map (fun v => v.map storeIsConst)) :=
  CliF.Faithful.perm (cli_faithful m f heu n fms hl hn ha hh blk hb) (cli_faithful m' f heu' n fms hl hn ha hh' blk' hb') hs

/-! non-vacuity: `s(a). s(b). ac(a, b). ac(b, a).` with every flag set, default (hybrid) mode: the
hypotheses hold, no search hits the bound, nine blocks are printed (evaluation by the compiler's
interpreter — the store's hash tables do not reduce in the kernel) -/
example : (∀ φ ∈ [Fm.atom 1, Fm.atom 0], NConc.atomsLt 2 φ) ∧ 2 ≤ VBOT := by
  refine ⟨?_, by simp [VBOT]⟩
  intro φ hφ
  simp at hφ
  rcases hφ with h | h <;> subst h <;> simp [NConc.atomsLt]

def exFlags : Cli.Flags :=
  { grd := true, com := true, twoval := true, stm := true, stmca := true, stmcb := true, stmpre := true,
    stmrew := true, stmng := true }

#guard CliF.haltsFromF 1000000 .simple 2 (Cli.startOf .hybrid (buildNative 2 [.atom 1, .atom 0]).1 2
    (buildNative 2 [.atom 1, .atom 0]).2).2 (Cli.sections .hybrid exFlags)
    (Cli.startOf .hybrid (buildNative 2 [.atom 1, .atom 0]).1 2 (buildNative 2 [.atom 1, .atom 0]).2).1
#guard ((Cli.run .hybrid exFlags .simple (buildNative 2 [.atom 1, .atom 0]).1 2 (buildNative 2 [.atom 1, .atom 0]).2).map
    (fun blk => (blk.2.map (fun v => v.map storeIsConst)).length)) == [1, 3, 2, 1, 1, 1, 1, 1, 1]

example : Cli.sections .naive { grd := true, stm := true, stmca := true } = [.grd, .stm] := by decide


/-! ## from the text, arm by arm (`CliM.runText`)

Assumptions (all explicit): `CliMP.WorldOK` — the external BDD library is lawful for every variable
set (`Bio.Lawful`), the alphanumeric sort of crate `lexical-sort` returns a permutation of the name
list; for the hybrid arm `CliMP.DumpOKW` — `Bdd::to_string()` is an ordered node dump of the diagram
(the hypothesis `DumpOK` of the bridge theorem C09). Hypotheses of the statements beyond
"well-formed file": the statement labels contain none of `! & | ^ = < > ( ) ? :` in the two arms that
use the library (otherwise these arms PANIC — `library_arms_panic_on_special_labels`, a finding);
with `--stmrew` no statement has two conditions in the file (the prepared rewriting conjoins an
equivalence for EVERY written condition, `Bio.rewriteExpr`); the fuel hypothesis `CliM.haltedParsed`
(see `CliModesProofs`, section "the fuel hypothesis"). -/

open CliM CliMP ParserM FromParser in
/-- **C15 from the text** (all clauses but the rejection): for a text of the documented format that
describes a well-formed ADF, every library mode, every set of semantics flags, every sorting flag and
heuristic: exit status 0; stdout consists of one block per requested section the mode implements,
in the documented order; every block is, as a multiset of three-valued interpretations, exactly what
the definitions prescribe for its section on the framework of the file (statements in the order the
sorting flag asks for); every line is `render names v` for a vector with one entry per statement -/
theorem cli_text_faithful {T : Type} (W : World T) (ok : WorldOK W) (fuel : Nat) (i : Inv) (t : List Char)
    (fs : List Fact) (hd : DerFile fs t) (hne : fs ≠ []) (hwf : WellFormedAdf fs)
    (hn : (namesOf fs).length ≤ VBOT)
    (hnames : i.mode ≠ .naive → (namesOf fs).all bioNameOK = true)
    (hone : i.mode ≠ .naive → i.flags.stmrew = true → ((acsOf fs).map (·.1)).Nodup)
    (hdump : i.mode = .hybrid → DumpOKW W ok)
    (hh : haltedParsed W fuel i (sortState W.anSort i.sort (PState.ofFacts fs)) = true) :
    ∃ blocks : List Block,
      runText W fuel i t =
        ⟨0, blocks.flatMap fun b => b.2.map (render (sortedNames W.anSort i.sort (namesOf fs)))⟩ ∧
      blocks.map (·.1) = Cli.sections i.mode i.flags ∧
      (∀ blk ∈ blocks, (blk.2.map (fun v => v.map storeIsConst)).Perm
        (Cli.specSection (sortedNames W.anSort i.sort (namesOf fs)).length
          (tablesD (sortedNames W.anSort i.sort (namesOf fs)).length
            (SortModel.condFnsOn (sortedNames W.anSort i.sort (namesOf fs)) (condOf fs))) blk.1)) ∧
      (∀ blk ∈ blocks, ∀ v ∈ blk.2, v.length = (sortedNames W.anSort i.sort (namesOf fs)).length) :=
  runText_faithful W ok fuel i t fs hd hne hwf hn hnames hone hdump hh

open CliM CliMP ParserM FromParser in
/-- `three_modes_print_same_sets` with every hypothesis CONDITIONAL on the arm that needs it:
the label condition only if one of the two invocations uses the library, "one condition per statement"
only if one of them runs `--stmrew` on the library, the dump law only if one of them is the hybrid arm
(so naive vs naive needs none of them) -/
theorem three_modes_print_same_sets_conditional {T : Type} (W : World T) (ok : WorldOK W) (fuel fuel' : Nat)
    (i i' : Inv) {st : PState} {names : List Label} {acs : List (Label × Fml)}
    (h : Pres st names acs) (hwf : WfOn names acs) (hn : names.length ≤ VBOT)
    (hnames : i.mode ≠ .naive ∨ i'.mode ≠ .naive → names.all bioNameOK = true)
    (hone : (i.mode ≠ .naive ∧ i.flags.stmrew = true) ∨ (i'.mode ≠ .naive ∧ i'.flags.stmrew = true) →
      (acs.map (·.1)).Nodup)
    (hdump : i.mode = .hybrid ∨ i'.mode = .hybrid → DumpOKW W ok)
    (hh : haltedParsed W fuel i st = true) (hh' : haltedParsed W fuel' i' st = true)
    (blocks blocks' : List Block) (hb : runParsed W fuel i st = some blocks)
    (hb' : runParsed W fuel' i' st = some blocks')
    (blk blk' : Block) (hm : blk ∈ blocks) (hm' : blk' ∈ blocks') (hs : blk.1 = blk'.1) :
    (blk.2.map (fun v => v.map storeIsConst)).Perm (blk'.2.map (fun v => v.map storeIsConst)) := by
  obtain ⟨b1, e1, _, f1⟩ := runParsed_faithful W ok fuel i h hwf hn (fun x => hnames (.inl x))
    (fun x y => hone (.inl ⟨x, y⟩)) (fun x => hdump (.inl x)) hh
  obtain ⟨b2, e2, _, f2⟩ := runParsed_faithful W ok fuel' i' h hwf hn (fun x => hnames (.inr x))
    (fun x y => hone (.inr ⟨x, y⟩)) (fun x => hdump (.inr x)) hh'
  rw [hb] at e1; rw [hb'] at e2
  cases e1; cases e2
  exact (f1 blk hm).perm (f2 blk' hm') hs

open CliM CliMP ParserM FromParser in
/-- **the three library modes print the same sets** — the three arms are three different
computations (own store; back-end algorithms on the external library; library grounding + bridge +
own store, rewriting variants via the library's `sat_valuations`): two invocations on the same
parser object in any two modes, for every section both print, print permutations of one another -/
theorem three_modes_print_same_sets {T : Type} (W : World T) (ok : WorldOK W) (fuel fuel' : Nat) (i i' : Inv)
    {st : PState} {names : List Label} {acs : List (Label × Fml)}
    (h : Pres st names acs) (hwf : WfOn names acs) (hn : names.length ≤ VBOT)
    (hnames : names.all bioNameOK = true) (hone : (acs.map (·.1)).Nodup) (hdump : DumpOKW W ok)
    (hh : haltedParsed W fuel i st = true) (hh' : haltedParsed W fuel' i' st = true)
    (blocks blocks' : List Block) (hb : runParsed W fuel i st = some blocks)
    (hb' : runParsed W fuel' i' st = some blocks')
    (blk blk' : Block) (hm : blk ∈ blocks) (hm' : blk' ∈ blocks') (hs : blk.1 = blk'.1) :
    (blk.2.map (fun v => v.map storeIsConst)).Perm (blk'.2.map (fun v => v.map storeIsConst)) :=
  three_modes_print_same_sets_conditional W ok fuel fuel' i i' h hwf hn (fun _ => hnames) (fun _ => hone) (fun _ => hdump) hh hh'
    blocks blocks' hb hb' blk blk' hm hm' hs

/-! ### the world the model driver executes

`CliM.drvWorld` (`CliWorld.lean`) is the concrete world the compiled driver hands to `CliM.runText` for
every `clirun` request (all three arms; `Drv/Cli.lean`): truth tables tagged with their number of
variables as the BDD library, the decision-tree dump `Bio.ttDump`, `natural_lexical_cmp` written down as
the alphanumeric sort. It satisfies ALL assumptions about the external world (`CliMP.drvWorldOK`,
`CliMP.drvWorld_dump`, from `Bio.ttLawful` and `Bio.ttDump_spec`), so the two theorems above hold for
exactly the function whose output is diffed against the real binary — in particular the hybrid-arm
statements are not vacuous. -/

open CliM CliMP ParserM FromParser in
/-- **`cli_text_faithful` for the driver's world**: no assumption about an external world is left -/
theorem driver_world_faithful (fuel : Nat) (i : Inv) (t : List Char)
    (fs : List Fact) (hd : DerFile fs t) (hne : fs ≠ []) (hwf : WellFormedAdf fs)
    (hn : (namesOf fs).length ≤ VBOT)
    (hnames : i.mode ≠ .naive → (namesOf fs).all bioNameOK = true)
    (hone : i.mode ≠ .naive → i.flags.stmrew = true → ((acsOf fs).map (·.1)).Nodup)
    (hh : haltedParsed drvWorld fuel i (sortState drvWorld.anSort i.sort (PState.ofFacts fs)) = true) :
    ∃ blocks : List Block,
      runText drvWorld fuel i t =
        ⟨0, blocks.flatMap fun b => b.2.map (render (sortedNames drvWorld.anSort i.sort (namesOf fs)))⟩ ∧
      blocks.map (·.1) = Cli.sections i.mode i.flags ∧
      (∀ blk ∈ blocks, (blk.2.map (fun v => v.map storeIsConst)).Perm
        (Cli.specSection (sortedNames drvWorld.anSort i.sort (namesOf fs)).length
          (tablesD (sortedNames drvWorld.anSort i.sort (namesOf fs)).length
            (SortModel.condFnsOn (sortedNames drvWorld.anSort i.sort (namesOf fs)) (condOf fs))) blk.1)) ∧
      (∀ blk ∈ blocks, ∀ v ∈ blk.2, v.length = (sortedNames drvWorld.anSort i.sort (namesOf fs)).length) :=
  cli_text_faithful drvWorld drvWorldOK fuel i t fs hd hne hwf hn hnames hone (fun _ => drvWorld_dump) hh

open CliM CliMP ParserM FromParser in
/-- **the three modes print the same sets, in the driver's world** -/
theorem driver_world_three_modes (fuel fuel' : Nat) (i i' : Inv)
    {st : PState} {names : List Label} {acs : List (Label × Fml)}
    (h : Pres st names acs) (hwf : WfOn names acs) (hn : names.length ≤ VBOT)
    (hnames : names.all bioNameOK = true) (hone : (acs.map (·.1)).Nodup)
    (hh : haltedParsed drvWorld fuel i st = true) (hh' : haltedParsed drvWorld fuel' i' st = true)
    (blocks blocks' : List Block) (hb : runParsed drvWorld fuel i st = some blocks)
    (hb' : runParsed drvWorld fuel' i' st = some blocks')
    (blk blk' : Block) (hm : blk ∈ blocks) (hm' : blk' ∈ blocks') (hs : blk.1 = blk'.1) :
    (blk.2.map (fun v => v.map storeIsConst)).Perm (blk'.2.map (fun v => v.map storeIsConst)) :=
  three_modes_print_same_sets drvWorld drvWorldOK fuel fuel' i i' h hwf hn hnames hone drvWorld_dump hh hh'
    blocks blocks' hb hb' blk blk' hm hm' hs

open CliM CliMP ParserM FromParser in
/-- the hypotheses hold for the HYBRID arm (kernel-checked): `s(b).s(a).ac(b,neg(a)).ac(a,neg(b)).` with
`--an --grd --com --stm --stmpre --stmrew` (no bounded search: the fuel hypothesis holds outright) — the
run on the driver's world exits with status 0 and prints the five blocks, names in the order `a`, `b` -/
example : ∃ blocks : List Block,
    runText drvWorld 0 ⟨.hybrid, { grd := true, com := true, stm := true, stmpre := true, stmrew := true }, .an, .simple⟩
      exText = ⟨0, blocks.flatMap fun b => b.2.map (render [['a'], ['b']])⟩ ∧
    blocks.map (·.1) = [.grd, .com, .stm, .stmpre, .stmrew] ∧
    (∀ blk ∈ blocks, ∀ v ∈ blk.2, v.length = 2) := by
  obtain ⟨blocks, h1, h2, _, h4⟩ := driver_world_faithful 0
    ⟨.hybrid, { grd := true, com := true, stm := true, stmpre := true, stmrew := true }, .an, .simple⟩ exText exFacts
    exText_der exFacts_ne exFacts_wf exFacts_fits (fun _ => exFacts_labels) (fun _ _ => exFacts_one_cond)
    (halted_of_no_search _ _ _ _ (Or.inr ⟨rfl, rfl⟩))
  have hs : sortedNames drvWorld.anSort .an (namesOf exFacts) = [['a'], ['b']] := by decide
  simp only [hs] at h1 h4
  exact ⟨blocks, h1, by rw [h2]; decide, h4⟩

/-- what these blocks are, by evaluation (the own store's hash tables do not reduce in the
kernel): the hybrid arm on the driver's world prints, for the two statements attacking each other,
grounded `u u`; complete `uu`, `TF`, `FT`; two-valued and all stable variants the two models (each
variant in the order of ITS algorithm) — the biodivine arm and the naive arm print the same sets for the
sections they implement -/
def exAll : Cli.Flags :=
  { grd := true, com := true, twoval := true, stm := true, stmca := true, stmcb := true, stmpre := true,
    stmrew := true, stmng := true }

#guard (CliM.runText CliM.drvWorld 1000 ⟨.hybrid, exAll, .an, .simple⟩ CliMP.exText).exit == 0
#guard (CliM.runText CliM.drvWorld 1000 ⟨.hybrid, exAll, .an, .simple⟩ CliMP.exText).stdout.map String.ofList ==
  ["u(a) u(b) ", "u(a) u(b) ", "T(a) F(b) ", "F(a) T(b) ", "T(a) F(b) ", "F(a) T(b) ", "F(a) T(b) ", "T(a) F(b) ",
   "F(a) T(b) ", "T(a) F(b) ", "F(a) T(b) ", "T(a) F(b) ", "F(a) T(b) ", "T(a) F(b) ", "T(a) F(b) ", "F(a) T(b) ",
   "T(a) F(b) ", "F(a) T(b) "]
#guard (CliM.runText CliM.drvWorld 1000 ⟨.biodivine, exAll, .an, .simple⟩ CliMP.exText).stdout.map String.ofList ==
  ["u(a) u(b) ", "u(a) u(b) ", "T(a) F(b) ", "F(a) T(b) ", "F(a) T(b) ", "T(a) F(b) ", "T(a) F(b) ", "F(a) T(b) "]
#guard (CliM.runText CliM.drvWorld 1000 ⟨.naive, exAll, .an, .simple⟩ CliMP.exText).stdout.map String.ofList ==
  ["u(a) u(b) ", "u(a) u(b) ", "T(a) F(b) ", "F(a) T(b) ", "F(a) T(b) ", "T(a) F(b) ", "T(a) F(b) ", "F(a) T(b) "]
#guard CliM.haltedParsed CliM.drvWorld 1000 ⟨.hybrid, exAll, .an, .simple⟩
  (CliM.sortState CliM.drvWorld.anSort .an (ParserM.PState.ofFacts CliMP.exFacts))
-- the dump of `x0 ∧ ¬x1` (table 0b0010) over two variables, in biodivine's layout
#guard Bio.ttDump 2 2 == [⟨2, 0, 0⟩, ⟨2, 1, 1⟩, ⟨1, 0, 0⟩, ⟨1, 1, 0⟩, ⟨0, 2, 3⟩]
-- `natural_lexical_cmp`: runs of digits by length of the run after the first digit, then by value;
-- case-insensitive; transliterated (`ö` as `o`, `ß` as `ss`); ties by the byte order
#guard (CliM.NatLex.anSort (["a10", "B", "a9", "10", "9", "größe", "grost", "b", "02", "2", "a-b", "ab"].map String.toList)).map
  String.ofList == ["2", "9", "02", "10", "a-b", "a9", "a10", "ab", "B", "b", "größe", "grost"]

/-! ### `--counter` (`CliM.runTextC`, CliCounter.lean)

The line `--counter nai|mem` puts in front of the sections in the naive and the hybrid arm. It changes
neither the exit status nor the interpretations printed, so all statements above carry over to invocations
with `--counter`. With the DEFAULT feature set `--counter mem` prints `ModelCounts { cmodels: 0, models: 0 }`
for every non-constant condition (`CliM.zeroMemoLine`, parameter `zm`). -/

/-- `--counter` puts at most one line in front of the output of the run without it -/
theorem counter_adds_at_most_one_line {T : Type} (W : CliM.World T) (zm : Bool) (fuel : Nat) (i : CliM.Inv)
    (c : CliM.Counter) (t : List Char) :
    (CliM.runTextC W zm fuel i c t).exit = (CliM.runText W fuel i t).exit ∧
    ∃ pre : List (List Char), pre.length ≤ 1 ∧
      (CliM.runTextC W zm fuel i c t).stdout = pre ++ (CliM.runText W fuel i t).stdout := by
  unfold CliM.runTextC CliM.runText
  cases CliM.parsed W i t with
  | none => exact ⟨rfl, [], Nat.zero_le 1, rfl⟩
  | some st =>
    simp only
    cases CliM.runParsed W fuel i st with
    | none => exact ⟨rfl, [], Nat.zero_le 1, rfl⟩
    | some blocks => exact ⟨rfl, CliM.counterLines W zm i c st, CliM.counterLines_length W zm i c st, rfl⟩

/-- no `--counter`, an unknown value, or the biodivine arm: exactly the run without it -/
theorem counter_ignored {T : Type} (W : CliM.World T) (zm : Bool) (fuel : Nat) (i : CliM.Inv) (c : CliM.Counter)
    (t : List Char) (h : c = .absent ∨ c = .other ∨ i.mode = .biodivine) :
    CliM.runTextC W zm fuel i c t = CliM.runText W fuel i t := by
  unfold CliM.runTextC CliM.runText
  cases CliM.parsed W i t with
  | none => rfl
  | some st =>
    simp only
    cases CliM.runParsed W fuel i st with
    | none => rfl
    | some blocks => simp only [CliM.counterLines_none W zm i c st h, List.nil_append]

-- the two mutually attacking statements: each condition `¬x` has one model and one counter-model
#guard (CliM.runTextC CliM.drvWorld true 10 ⟨.hybrid, { grd := true }, .an, .simple⟩ .nai CliMP.exText).stdout.map String.ofList ==
  ["ModelCounts { cmodels: 1, models: 1 } ModelCounts { cmodels: 1, models: 1 } ", "u(a) u(b) "]
#guard (CliM.runTextC CliM.drvWorld true 10 ⟨.naive, { grd := true }, .an, .simple⟩ .mem CliMP.exText).stdout.map String.ofList ==
  ["ModelCounts { cmodels: 0, models: 0 }ModelCounts { cmodels: 0, models: 0 }", "u(a) u(b) "]

/-- the naive arm of the text-level model is the function the driver executes and compares with the
binary (`Cli.run .naive` at the bound 1 000 000, on the object `from_parser` builds) -/
theorem naive_arm_is_driver_model (f : Cli.Flags) (heu : SM.Heu) (st : ParserM.PState) :
    CliM.runNaive 1000000 f heu st =
      (FromParser.fromParser st).map fun b => Cli.run .naive f heu b.1 (FromParser.dictSizeOf st) b.2 := by
  unfold CliM.runNaive
  congr 1
  funext b
  rw [CliF.runWith_naive_eq_F, CliF.runFromF_eq]
  rfl

/-- **malformed input: non-zero exit status, no interpretation printed** — for the run on the TEXT:
the parser refuses the text, or it accepts it and `from_parser` panics (a condition for an undeclared
label or with an undeclared atom), in every mode with every flag -/
theorem rejects_malformed_text {T : Type} (W : CliM.World T) (han : ∀ ns, (W.anSort ns).Perm ns) (fuel : Nat)
    (i : CliM.Inv) (t : List Char)
    (h : ParserM.parse t = none ∨ ∃ st, CliM.parsed W i t = some st ∧ FromParser.fromParser st = none) :
    CliM.runText W fuel i t = CliM.rejected ∧ (CliM.runText W fuel i t).exit ≠ 0 ∧
    (CliM.runText W fuel i t).stdout = [] := by
  have : CliM.runText W fuel i t = CliM.rejected := by
    rcases h with h | ⟨st, h1, h2⟩
    · exact CliMP.runText_rejects_unparsed W fuel i t h
    · exact CliMP.runText_rejects_panic W han fuel i t st h1 h2
  rw [this]
  exact ⟨rfl, by decide, rfl⟩

/-- the rejection in terms of the written facts: a text of the documented format that is not a well-formed ADF -/
theorem rejects_ill_formed_adf {T : Type} (W : CliM.World T) (han : ∀ ns, (W.anSort ns).Perm ns) (fuel : Nat)
    (i : CliM.Inv) (t : List Char) (fs : List ParserM.Fact) (hd : ParserM.DerFile fs t) (hne : fs ≠ [])
    (hbad : ¬ FromParser.WellFormedAdf fs) : CliM.runText W fuel i t = CliM.rejected := by
  open CliMP in
  apply runText_rejects_panic W han fuel i t _ (parsed_of_der W i t fs hd hne)
  have pres := CliMP.pres_sortState W.anSort han i.sort (CliMP.pres_ofFacts fs)
  -- a framework is built only from a well-formed file (names up to the permutation of the sorting flag)
  exact Option.not_isSome_iff_eq_none.mp fun hs => hbad
    (FromParser.wfOn_perm (CliMP.sortedNames_perm W.anSort han i.sort (ParserM.namesOf fs)).symm
      ((SortModel.fromParser_presents_isSome_iff pres.p).mp hs))

open CliM CliMP ParserM FromParser in
/-- **one line per interpretation, each statement labelled T/F/u by its own name**: every line of
stdout is, for one vector `v` with one entry per statement, the concatenation over the statements
`k` (in the printed order) of `mark(v_k) ( name_k ) blank`; `mark_is_value`: the mark is `T`/`F`/`u`
exactly when the entry is true / false / undecided -/
theorem line_format {T : Type} (W : World T) (ok : WorldOK W) (fuel : Nat) (i : Inv) (t : List Char)
    (fs : List Fact) (hd : DerFile fs t) (hne : fs ≠ []) (hwf : WellFormedAdf fs)
    (hn : (namesOf fs).length ≤ VBOT)
    (hnames : i.mode ≠ .naive → (namesOf fs).all bioNameOK = true)
    (hone : i.mode ≠ .naive → i.flags.stmrew = true → ((acsOf fs).map (·.1)).Nodup)
    (hdump : i.mode = .hybrid → DumpOKW W ok)
    (hh : haltedParsed W fuel i (sortState W.anSort i.sort (PState.ofFacts fs)) = true) :
    ∀ line ∈ (runText W fuel i t).stdout, ∃ v : List Nat,
      v.length = (sortedNames W.anSort i.sort (namesOf fs)).length ∧
      line = (List.zipWith entry (sortedNames W.anSort i.sort (namesOf fs)) v).flatten := by
  obtain ⟨blocks, e, _, _, hl⟩ := runText_faithful W ok fuel i t fs hd hne hwf hn hnames hone hdump hh
  rw [e]
  intro line hline
  simp only [List.mem_flatMap, List.mem_map] at hline
  obtain ⟨blk, hblk, v, hv, rfl⟩ := hline
  exact ⟨v, hl blk hblk v hv, render_spec _ v (hl blk hblk v hv)⟩

theorem mark_is_value (t : Nat) :
    (CliM.mark t = 'T' ↔ storeIsConst t = some true) ∧ (CliM.mark t = 'F' ↔ storeIsConst t = some false) ∧
    (CliM.mark t = 'u' ↔ storeIsConst t = none) := by
  unfold CliM.mark storeIsConst
  by_cases h1 : t = 1
  · subst h1; decide
  · by_cases h0 : t = 0
    · subst h0; decide
    · simp [h1, h0]

/-- with `--lx` the statements are printed in byte-wise label order (the order of Rust's `String`) -/
theorem lx_prints_in_bytewise_order {T : Type} (W : CliM.World T) (ns : List ParserM.Label) :
    (CliMP.sortedNames W.anSort .lx ns).Pairwise (fun a b => SortModel.byteLe a b = true) :=
  SortModel.isort_sorted _ SortModel.byteLe_total SortModel.byteLe_trans ns

/-- the fuel hypothesis holds outright without `--twoval`/`--stmng` and in the biodivine arm -/
theorem halted_without_search {T : Type} (W : CliM.World T) (fuel : Nat) (i : CliM.Inv) (st : ParserM.PState)
    (h : i.mode = .biodivine ∨ (i.flags.twoval = false ∧ i.flags.stmng = false)) :
    CliM.haltedParsed W fuel i st = true := CliMP.halted_of_no_search W fuel i st h

/-- **finding (C15 does not hold as written)**: a well-formed file whose quoted labels contain one of
`! & | ^ = < > ( ) ? :` makes the biodivine arm and the hybrid (default) arm panic -/
theorem library_arms_panic_on_special_labels {T : Type} (W : CliM.World T) (fuel : Nat) (i : CliM.Inv)
    (t : List Char) (st : ParserM.PState) (hp : CliM.parsed W i t = some st) (hm : i.mode ≠ .naive)
    (hbad : st.namelist.all CliM.bioNameOK = false) : CliM.runText W fuel i t = CliM.rejected :=
  CliMP.bio_arms_reject_special_label W fuel i t st hp hm hbad

/-! ### the hybrid arm of `runText` runs the pipeline of C01–C03 / C09

`CliM.runHybrid` calls `CliM.hybridStep` / `CliM.bridgeAll` (CliModes.lean), the hybrid theorems of
C01 (`hybrid_grounded_is_lfp`), C02 (`hybrid_complete_exact`), C03 (`hybrid_stable_exact`, …,
`native_rewriting_on_hybrid`) and C09 (`hybrid_import_function`) are stated for `Bio.hybridStep`
(HybridModel.lean). They are the same function in every world that satisfies the assumptions: -/

/-- the hybrid arm of the text-level model builds its native object with the function the theorems of
C01–C03 and C09 are about (`hybrid_step()` = `Bio.hybridStep … true`) -/
theorem hybrid_arm_runs_the_verified_bridge {T : Type} (L : Bio.Lib T) (n : Nat) (W : Bio.Lawful L n)
    (dump : T → List Node) (hd : Bio.DumpSpec W dump) (ac : List T) (hv : ∀ a ∈ ac, W.Valid a)
    (hn : ac.length ≤ n) :
    CliM.hybridStep L dump ac = Bio.hybridStep L dump true ac := Bio.hybridStep_agree W hd ac hv hn

/-- the hybrid arm's `--stmrew` / `--stmrew2` section is `C03.native_rewriting_on_hybrid`'s function on that
object: candidates from the un-grounded library object, test on the pre-grounded native store -/
theorem hybrid_arm_rewriting_section {T : Type} (L : Bio.Lib T) (n : Nat) (W : Bio.Lawful L n)
    (dump : T → List Node) (hd : Bio.DumpSpec W dump) (fuel : Nat) (heu : SM.Heu) (rw : Option T)
    (ac : List T) (hv : ∀ a ∈ ac, W.Valid a) (hn : ac.length = n) (hg : Bio.GoodRewrite W ac rw) :
    let h := CliM.hybridStep L dump ac
    let out := (CliM.secHybrid fuel heu (Bio.stableModelCandidates L rw ac) n h.2 .stmrew h.1).2.map
      (fun v => v.map storeIsConst)
    out.Nodup ∧ ∀ v : I3, v ∈ out ↔ (v.length = n ∧ StableExact.StableI (ac.map W.den) v) := by
  intro h out
  have e : h = Bio.hybridStep L dump true ac := Bio.hybridStep_agree W hd ac hv (Nat.le_of_eq hn)
  have := C03.native_rewriting_on_hybrid L n W dump hd true rw ac hv hn hg
  simp only at this
  rw [← e] at this
  exact ⟨this.2.1, this.2.2.1⟩

/-! ### the fuel hypothesis `haltedParsed`

It is (a) MONOTONE in the bound and a halted run does not depend on the bound (`fuel_monotone`), so
"holds from some bound on" means: there is a threshold; (b) satisfiable for EVERY invocation on a
well-formed framework in EVERY arm, in particular the hybrid arm with `--twoval` / `--stmng`
(`halted_from_some_bound_on`); hence (c) `cli_text_faithful_every_large_bound`
has no fuel hypothesis. RELATION TO THE DRIVER'S 1 000 000: C05's termination argument with the
iterations counted gives the explicit threshold `2^(n+3)`, `n` = number of statements
(`halted_text_within_explicit_bound`), so `haltedParsed W 1000000 i st` holds for every file with at
most 16 statements (`halted_text_for_small_frameworks`, `cli_text_faithful_small_frameworks`). For larger
files the hypothesis remains: by (a), it holds iff the threshold of the invocation is ≤ 10^6, and for such
runs of the correspondence check this is established by EVALUATION only (the driver computes
`runText … 1000000 …`; a search that hit the bound would print a prefix and be reported as a difference
from the binary), not by the kernel. -/

open CliM CliMP ParserM FromParser in
theorem fuel_monotone {T : Type} (W : World T) (i : Inv) (st : PState) {fuel fuel' : Nat}
    (h : haltedParsed W fuel i st = true) (hf : fuel ≤ fuel') :
    haltedParsed W fuel' i st = true ∧ runParsed W fuel' i st = runParsed W fuel i st :=
  haltedParsed_mono W i st h hf

open CliM CliMP ParserM FromParser in
/-- **the fuel hypothesis of `cli_text_faithful` from an EXPLICIT bound on**: every arm, every flag set: no
search of an invocation on a file with `n` statements hits a bound `≥ NConc.ngBound n = 2^(n+3)` -/
theorem halted_text_within_explicit_bound {T : Type} (W : World T) (ok : WorldOK W) (i : Inv)
    (fs : List Fact) (hwf : WellFormedAdf fs) (hn : (namesOf fs).length ≤ VBOT)
    (hnames : i.mode = .hybrid → (namesOf fs).all bioNameOK = true)
    (hone : i.mode = .hybrid → i.flags.stmrew = true → ((acsOf fs).map (·.1)).Nodup)
    (hdump : i.mode = .hybrid → DumpOKW W ok) :
    ∀ fuel, NConc.ngBound (namesOf fs).length ≤ fuel →
      haltedParsed W fuel i (sortState W.anSort i.sort (PState.ofFacts fs)) = true := by
  have pres := pres_sortState W.anSort ok.an i.sort (pres_ofFacts fs)
  have hperm := sortedNames_perm W.anSort ok.an i.sort (namesOf fs)
  have := halted_within W ok i pres (wfOn_perm hperm hwf) (by rw [hperm.length_eq]; exact hn)
    (fun hm => hperm.all_eq.trans (hnames hm)) hone hdump
  rw [hperm.length_eq] at this
  exact this

open CliM CliMP ParserM FromParser in
/-- every arm (naive, biodivine, HYBRID), every flag set: the fuel hypothesis holds from some bound on -/
theorem halted_from_some_bound_on {T : Type} (W : World T) (ok : WorldOK W) (i : Inv)
    (fs : List Fact) (hwf : WellFormedAdf fs) (hn : (namesOf fs).length ≤ VBOT)
    (hnames : i.mode = .hybrid → (namesOf fs).all bioNameOK = true)
    (hone : i.mode = .hybrid → i.flags.stmrew = true → ((acsOf fs).map (·.1)).Nodup)
    (hdump : i.mode = .hybrid → DumpOKW W ok) :
    ∃ F0, ∀ fuel, F0 ≤ fuel →
      haltedParsed W fuel i (sortState W.anSort i.sort (PState.ofFacts fs)) = true :=
  ⟨NConc.ngBound (namesOf fs).length, halted_text_within_explicit_bound W ok i fs hwf hn hnames hone hdump⟩

open CliM CliMP ParserM FromParser in
/-- **`cli_text_faithful` without the fuel hypothesis**: there is a bound from which on the run is
faithful - and (monotonicity) from which on exit status and stdout do not change any more -/
theorem cli_text_faithful_every_large_bound {T : Type} (W : World T) (ok : WorldOK W) (i : Inv) (t : List Char)
    (fs : List Fact) (hd : DerFile fs t) (hne : fs ≠ []) (hwf : WellFormedAdf fs)
    (hn : (namesOf fs).length ≤ VBOT)
    (hnames : i.mode ≠ .naive → (namesOf fs).all bioNameOK = true)
    (hone : i.mode ≠ .naive → i.flags.stmrew = true → ((acsOf fs).map (·.1)).Nodup)
    (hdump : i.mode = .hybrid → DumpOKW W ok) :
    ∃ F0, ∀ fuel, F0 ≤ fuel →
      runText W fuel i t = runText W F0 i t ∧
      ∃ blocks : List Block,
        runText W fuel i t =
          ⟨0, blocks.flatMap fun b => b.2.map (render (sortedNames W.anSort i.sort (namesOf fs)))⟩ ∧
        blocks.map (·.1) = Cli.sections i.mode i.flags ∧
        (∀ blk ∈ blocks, (blk.2.map (fun v => v.map storeIsConst)).Perm
          (Cli.specSection (sortedNames W.anSort i.sort (namesOf fs)).length
            (tablesD (sortedNames W.anSort i.sort (namesOf fs)).length
              (SortModel.condFnsOn (sortedNames W.anSort i.sort (namesOf fs)) (condOf fs))) blk.1)) := by
  obtain ⟨F0, hF⟩ := halted_from_some_bound_on W ok i fs hwf hn
    (fun hm => hnames (by rw [hm]; simp)) (fun hm => hone (by rw [hm]; simp)) hdump
  refine ⟨F0, fun fuel hf => ⟨?_, ?_⟩⟩
  · exact runText_fuel_irrelevant W i t _ (parsed_of_der W i t fs hd hne) (hF F0 (Nat.le_refl _)) hf
  · obtain ⟨blocks, h1, h2, h3, _⟩ := cli_text_faithful W ok fuel i t fs hd hne hwf hn hnames hone hdump (hF fuel hf)
    exact ⟨blocks, h1, h2, h3⟩

open CliM CliMP ParserM FromParser in
/-- non-vacuity, HYBRID arm with both search flags on the driver's world (kernel-checked hypotheses):
`s(b).s(a).ac(b,neg(a)).ac(a,neg(b)).` with `--twoval --stmng --stm`: some bound satisfies the fuel
hypothesis, and from it on the run exits with status 0 and prints the three blocks -/
example : ∃ F0, ∀ fuel, F0 ≤ fuel → ∃ blocks : List Block,
    runText drvWorld fuel ⟨.hybrid, { twoval := true, stm := true, stmng := true }, .none, .simple⟩ exText =
      ⟨0, blocks.flatMap fun b => b.2.map (render [['b'], ['a']])⟩ ∧
    blocks.map (·.1) = [.twoval, .stm, .stmng] := by
  obtain ⟨F0, h⟩ := cli_text_faithful_every_large_bound drvWorld drvWorldOK
    ⟨.hybrid, { twoval := true, stm := true, stmng := true }, .none, .simple⟩ exText exFacts
    exText_der exFacts_ne exFacts_wf exFacts_fits (fun _ => exFacts_labels) (fun _ _ => exFacts_one_cond)
    (fun _ => drvWorld_dump)
  refine ⟨F0, fun fuel hf => ?_⟩
  obtain ⟨_, blocks, h1, h2, _⟩ := h fuel hf
  exact ⟨blocks, h1, by rw [h2]; decide⟩

open CliM CliMP ParserM FromParser in
/-- **`haltedParsed … 1000000` holds for every file with at most 16 statements** (the driver's bound;
`2^(16+3) ≤ 10^6`). Beyond that size the hypothesis of `cli_text_faithful` remains (evaluation only). -/
theorem halted_text_for_small_frameworks {T : Type} (W : World T) (ok : WorldOK W) (i : Inv)
    (fs : List Fact) (hwf : WellFormedAdf fs) (h16 : (namesOf fs).length ≤ 16)
    (hnames : i.mode = .hybrid → (namesOf fs).all bioNameOK = true)
    (hone : i.mode = .hybrid → i.flags.stmrew = true → ((acsOf fs).map (·.1)).Nodup)
    (hdump : i.mode = .hybrid → DumpOKW W ok) :
    haltedParsed W 1000000 i (sortState W.anSort i.sort (PState.ofFacts fs)) = true :=
  halted_text_within_explicit_bound W ok i fs hwf (by unfold VBOT; omega) hnames hone hdump 1000000
    ((NConc.ngBound_le_million_iff _).mpr h16)

open CliM CliMP ParserM FromParser in
/-- **`cli_text_faithful` at the driver's bound WITHOUT the fuel hypothesis** for files with at most 16
statements -/
theorem cli_text_faithful_small_frameworks {T : Type} (W : World T) (ok : WorldOK W) (i : Inv) (t : List Char)
    (fs : List Fact) (hd : DerFile fs t) (hne : fs ≠ []) (hwf : WellFormedAdf fs)
    (h16 : (namesOf fs).length ≤ 16)
    (hnames : i.mode ≠ .naive → (namesOf fs).all bioNameOK = true)
    (hone : i.mode ≠ .naive → i.flags.stmrew = true → ((acsOf fs).map (·.1)).Nodup)
    (hdump : i.mode = .hybrid → DumpOKW W ok) :
    ∃ blocks : List Block,
      runText W 1000000 i t =
        ⟨0, blocks.flatMap fun b => b.2.map (render (sortedNames W.anSort i.sort (namesOf fs)))⟩ ∧
      blocks.map (·.1) = Cli.sections i.mode i.flags ∧
      (∀ blk ∈ blocks, (blk.2.map (fun v => v.map storeIsConst)).Perm
        (Cli.specSection (sortedNames W.anSort i.sort (namesOf fs)).length
          (tablesD (sortedNames W.anSort i.sort (namesOf fs)).length
            (SortModel.condFnsOn (sortedNames W.anSort i.sort (namesOf fs)) (condOf fs))) blk.1)) ∧
      (∀ blk ∈ blocks, ∀ v ∈ blk.2, v.length = (sortedNames W.anSort i.sort (namesOf fs)).length) :=
  cli_text_faithful W ok 1000000 i t fs hd hne hwf (by unfold VBOT; omega) hnames hone hdump
    (halted_text_for_small_frameworks W ok i fs hwf h16
      (fun hm => hnames (by rw [hm]; simp)) (fun hm => hone (by rw [hm]; simp)) hdump)

open CliM CliMP ParserM FromParser in
/-- non-vacuity, HYBRID arm with both search flags on the driver's world AT THE DRIVER'S BOUND
(kernel-checked hypotheses, no existential over the bound): `s(b).s(a).ac(b,neg(a)).ac(a,neg(b)).` with
`--twoval --stmng --stm` exits with status 0 and prints the three blocks -/
example : ∃ blocks : List Block,
    runText drvWorld 1000000 ⟨.hybrid, { twoval := true, stm := true, stmng := true }, .none, .simple⟩ exText =
      ⟨0, blocks.flatMap fun b => b.2.map (render [['b'], ['a']])⟩ ∧
    blocks.map (·.1) = [.twoval, .stm, .stmng] := by
  obtain ⟨blocks, h1, h2, _⟩ := cli_text_faithful_small_frameworks drvWorld drvWorldOK
    ⟨.hybrid, { twoval := true, stm := true, stmng := true }, .none, .simple⟩ exText exFacts
    exText_der exFacts_ne exFacts_wf exFacts_small (fun _ => exFacts_labels) (fun _ _ => exFacts_one_cond)
    (fun _ => drvWorld_dump)
  exact ⟨blocks, h1, by rw [h2]; decide⟩

open CliM CliMP ParserM FromParser in
/-- an instance (driver's world): the hybrid arm and the biodivine arm with `--stm` on the mutual attack
both produce a `stm` block, and the two blocks are permutations of one another -/
example : ∃ blk blk' : Block,
    (∃ bs, runParsed drvWorld 0 ⟨.hybrid, { stm := true }, .none, .simple⟩ (PState.ofFacts exFacts) = some bs ∧ blk ∈ bs) ∧
    (∃ bs, runParsed drvWorld 0 ⟨.biodivine, { stm := true }, .none, .simple⟩ (PState.ofFacts exFacts) = some bs ∧ blk' ∈ bs) ∧
    blk.1 = .stm ∧ blk'.1 = .stm ∧
    (blk.2.map (fun v => v.map storeIsConst)).Perm (blk'.2.map (fun v => v.map storeIsConst)) := by
  have pres := pres_ofFacts exFacts
  have hwf : WfOn (namesOf exFacts) (acsOf exFacts) := exFacts_wf
  have hh := halted_of_no_search drvWorld 0 ⟨.hybrid, { stm := true }, .none, .simple⟩ (PState.ofFacts exFacts)
    (Or.inr ⟨rfl, rfl⟩)
  have hh' := halted_of_no_search drvWorld 0 ⟨.biodivine, { stm := true }, .none, .simple⟩ (PState.ofFacts exFacts)
    (Or.inl rfl)
  obtain ⟨b1, e1, s1, _⟩ := runParsed_faithful drvWorld drvWorldOK 0 ⟨.hybrid, { stm := true }, .none, .simple⟩
    pres hwf exFacts_fits (fun _ => exFacts_labels) (fun _ h => by cases h) (fun _ => drvWorld_dump) hh
  obtain ⟨b2, e2, s2, _⟩ := runParsed_faithful drvWorld drvWorldOK 0 ⟨.biodivine, { stm := true }, .none, .simple⟩
    pres hwf exFacts_fits (fun _ => exFacts_labels) (fun _ h => by cases h) (fun h => by cases h) hh'
  -- each run printed exactly the one block `stm`
  obtain ⟨x, rfl, hx⟩ := List.map_eq_singleton_iff.mp
    (s1.trans (by decide : Cli.sections .hybrid { stm := true } = [.stm]))
  obtain ⟨y, rfl, hy⟩ := List.map_eq_singleton_iff.mp
    (s2.trans (by decide : Cli.sections .biodivine { stm := true } = [.stm]))
  exact ⟨x, y, ⟨[x], e1, List.mem_singleton_self x⟩, ⟨[y], e2, List.mem_singleton_self y⟩, hx, hy,
    three_modes_print_same_sets_conditional drvWorld drvWorldOK 0 0 _ _ pres hwf exFacts_fits (fun _ => exFacts_labels)
      (fun h => by rcases h with ⟨_, h⟩ | ⟨_, h⟩ <;> cases h) (fun _ => drvWorld_dump) hh hh'
      [x] [y] e1 e2 x y (List.mem_singleton_self x) (List.mem_singleton_self y) (hx.trans hy.symm)⟩

/-! ### the second world the driver runs: the own store as the BDD library (`cliwide`)

Above `Drv.ttLimit` statements the biodivine and hybrid arms of `clirun` are `CliM.runText` on
`CliM.storeWorld` (library `Bio.storeLib`: the project's verified ROBDD store; dump `Bio.storeDump`:
reduced, shared node tables). It satisfies all assumptions, so the theorems hold for it as well (except
for requests with `--stmrew2`, which fall back to `Cli.run`, see Drv/Cli.lean). -/

open CliM CliMP ParserM FromParser in
theorem store_world_faithful (fuel : Nat) (i : Inv) (t : List Char)
    (fs : List Fact) (hd : DerFile fs t) (hne : fs ≠ []) (hwf : WellFormedAdf fs)
    (hn : (namesOf fs).length ≤ VBOT)
    (hnames : i.mode ≠ .naive → (namesOf fs).all bioNameOK = true)
    (hone : i.mode ≠ .naive → i.flags.stmrew = true → ((acsOf fs).map (·.1)).Nodup)
    (hh : haltedParsed storeWorld fuel i (sortState storeWorld.anSort i.sort (PState.ofFacts fs)) = true) :
    ∃ blocks : List Block,
      runText storeWorld fuel i t =
        ⟨0, blocks.flatMap fun b => b.2.map (render (sortedNames storeWorld.anSort i.sort (namesOf fs)))⟩ ∧
      blocks.map (·.1) = Cli.sections i.mode i.flags ∧
      (∀ blk ∈ blocks, (blk.2.map (fun v => v.map storeIsConst)).Perm
        (Cli.specSection (sortedNames storeWorld.anSort i.sort (namesOf fs)).length
          (tablesD (sortedNames storeWorld.anSort i.sort (namesOf fs)).length
            (SortModel.condFnsOn (sortedNames storeWorld.anSort i.sort (namesOf fs)) (condOf fs))) blk.1)) ∧
      (∀ blk ∈ blocks, ∀ v ∈ blk.2, v.length = (sortedNames storeWorld.anSort i.sort (namesOf fs)).length) :=
  cli_text_faithful storeWorld storeWorldOK fuel i t fs hd hne hwf hn hnames hone (fun _ => storeWorld_dump) hh

-- evaluation: the store world prints what the truth-table world prints - the `--stmrew` block in the order of
-- ITS `sat_valuations` (the diagram walk, variable 0 first), the truth-table library in ascending valuation order
def exNoRew : Cli.Flags := { exAll with stmrew := false }
#guard (CliM.runText CliM.storeWorld 1000 ⟨.hybrid, exNoRew, .an, .simple⟩ CliMP.exText) ==
  (CliM.runText CliM.drvWorld 1000 ⟨.hybrid, exNoRew, .an, .simple⟩ CliMP.exText)
#guard (CliM.runText CliM.storeWorld 1000 ⟨.hybrid, { stmrew := true }, .an, .simple⟩ CliMP.exText).stdout.map String.ofList ==
  ["F(a) T(b) ", "T(a) F(b) "]
#guard (CliM.runText CliM.drvWorld 1000 ⟨.hybrid, { stmrew := true }, .an, .simple⟩ CliMP.exText).stdout.map String.ofList ==
  ["T(a) F(b) ", "F(a) T(b) "]
#guard (CliM.runText CliM.storeWorld 1000 ⟨.biodivine, exAll, .an, .simple⟩ CliMP.exText).stdout.map String.ofList ==
  ["u(a) u(b) ", "u(a) u(b) ", "T(a) F(b) ", "F(a) T(b) ", "F(a) T(b) ", "T(a) F(b) ", "F(a) T(b) ", "T(a) F(b) "]

/-! ### the order `--an` prints in

`CliM.NatLex.le` - the model of `natural_lexical_cmp` - is a total, transitive, antisymmetric comparison
on ALL labels (`NatLexOrder.lean`: it is the lexicographic order on a sort key, ties by bytes), so the
insertion sort of the model returns THE sorted permutation of a duplicate-free name list, which is what
any correct comparison sort (`string_sort_unstable`) returns. LIMIT OF THE TIE TO THE BINARY: outside
U+0000–U+00FF the model's transliteration table (`translit`, `isAlnumU`) does not follow crate
`any_ascii` (which transliterates every alphanumeric code point, `ā` ↦ `a`, `Ω` ↦ `O`): on
`s("ā").s(b).s("Ω").s(z)` with `--an` the binary prints the order `ā b Ω z`, the model `Ω b z ā`.
SECOND LIMIT (ASCII labels suffice): the crate accumulates a digit run in a `u64`
(`n1 = n1 * 10 + …`, wrapping in release builds), `CliM.NatLex.cmpGo` in an unbounded `Nat`: with
`s(18446744073709551616).s(10000000000000000000).` and `--an --grd` the release binary prints the 2^64 label FIRST
(it wraps to 0), the model second; with wrap-around the crate's comparator need not even be transitive.
The agreement of `--an` with the binary is therefore claimed only for labels within Latin-1 whose digit runs stay
below 2^64 (at most 19 digits) and was run on the harness's (ASCII) label pool only; `driver_world_faithful`'s
"no assumption about an external world is left" concerns the theorem, not the fidelity of `NatLex` to the crate. -/

/-- with `--an` the statements are printed in the order of the model of `natural_lexical_cmp`: a
permutation of the names, sorted; for pairwise different names strictly sorted (so it is the unique
sorted permutation) -/
theorem an_prints_in_natural_lexical_order (ns : List ParserM.Label) :
    (CliMP.sortedNames CliM.drvWorld.anSort .an ns).Perm ns ∧
    (CliMP.sortedNames CliM.drvWorld.anSort .an ns).Pairwise (fun a b => CliM.NatLex.le a b = true) ∧
    (ns.Nodup → (CliMP.sortedNames CliM.drvWorld.anSort .an ns).Pairwise
      (fun a b => CliM.NatLex.le a b = true ∧ CliM.NatLex.le b a = false)) :=
  ⟨(CliM.NatLex.anSort_sorted_all ns).1, (CliM.NatLex.anSort_sorted_all ns).2, CliM.NatLex.anSort_strict ns⟩

theorem natural_lexical_le_total_trans :
    (∀ a b : ParserM.Label, CliM.NatLex.le a b = true ∨ CliM.NatLex.le b a = true) ∧
    (∀ a b c : ParserM.Label, CliM.NatLex.le a b = true → CliM.NatLex.le b c = true → CliM.NatLex.le a c = true) :=
  ⟨CliM.NatLex.le_total, CliM.NatLex.le_trans⟩

/-- natural order differs from byte order: `a2 < a9 < a10`, `2 < 02` (shorter digit run first), case folded -/
example : CliMP.sortedNames CliM.drvWorld.anSort .an
      [['a','1','0'], ['a','9'], ['a','2'], ['B'], ['0','2'], ['2']]
    = [['2'], ['0','2'], ['a','2'], ['a','9'], ['a','1','0'], ['B']] := by decide

/-! ### recorded exceptions and exclusions

* `--stmrew` with TWO CONDITIONS FOR ONE STATEMENT: hypothesis `hone` of `cli_text_faithful`. It is
  not a proof artefact: the prepared rewriting conjoins one equivalence per WRITTEN condition, so on
  `s(a).ac(a,c(f)).ac(a,c(v)).` the biodivine arm and the hybrid arm print NO stable model with
  `--stmrew` although `T(a)` is one (`--stm`, `--stmrew2` print it; observed on the binary too).
  Kernel-checked: `C03.prepared_rewriting_duplicate_counterexample`, restated below.
* labels with one of `! & | ^ = < > ( ) ? :`: `library_arms_panic_on_special_labels`.
* rejection branches of `runText`: the harness hands the malformed TEXT of every `clibad`
  request to the driver (`clibadrun`), which answers with `CliM.runText` on it; `rejects_malformed_text`
  is thereby executed against the binary.
* `--import`, `--export`: modelled in `CliM.runTextIO` (CliIO.lean: the binary with a
  file-system snapshot), an extension of `runText` (`io_without_options_is_runText` below); the
  persistence theorems about it are in `Props/C14.lean`. (The export happens BEFORE the sections are
  printed: an uncreatable export path - not modelled, the snapshot has no directories - exits with 101
  and EMPTY stdout.)
* NOT modelled: `--counter` beyond `counter_adds_at_most_one_line`, a quoted label containing a
  line break (one interpretation then spans two physical lines; `stdout : List (List Char)` has one
  entry per `writeln!`, not per physical line), `RUST_LOG` output on stderr. -/

/-- the `--stmrew` exception, visible here: with two conditions for one statement the prepared rewriting
has no candidate and the stable model `T` is lost; `--stm` and `--stmrew2` find it -/
theorem stmrew_loses_model_on_duplicate_condition :
    let L := Bio.ttLib 1
    let ac := Bio.acOf L 1 [0, 0] [.const false, .const true]
    (Bio.bioStable L ac).map Bio.toI3 = [[some true]] ∧
    (Bio.bioStableRep L none ac).map Bio.toI3 = [[some true]] ∧
    Bio.bioStableRep L (some (Bio.stmRewriting L [0, 0] [.const false, .const true])) ac = [] :=
  C03.prepared_rewriting_duplicate_counterexample

-- the same on the text-level model, all the way from the text: `s(a).ac(a,c(f)).ac(a,c(v)).`
#guard (CliM.runText CliM.drvWorld 10 ⟨.hybrid, { stm := true }, .none, .simple⟩ "s(a).ac(a,c(f)).ac(a,c(v)).".toList).stdout.map String.ofList == ["T(a) "]
#guard (CliM.runText CliM.drvWorld 10 ⟨.hybrid, { stmrew := true }, .none, .simple⟩ "s(a).ac(a,c(f)).ac(a,c(v)).".toList).stdout == []
#guard (CliM.runText CliM.drvWorld 10 ⟨.biodivine, { stmrew := true }, .none, .simple⟩ "s(a).ac(a,c(f)).ac(a,c(v)).".toList).stdout == []

/-- **without `--export` / `--import` the run with a file system is `runText`** and the file system is
untouched: every theorem about `runText` (and the driver tie `clirun`) carries over to `runTextIO` -/
theorem io_without_options_is_runText {T : Type} (W : CliM.World T) (fuel : Nat) (i : CliM.Inv) (ord : CliM.Orders)
    (t : List Char) (fs : CliM.FS) :
    CliM.runTextIO W fuel ⟨i, none, false⟩ ord t fs = ⟨CliM.runText W fuel i t, fs, false⟩ := by
  have h1 := CliM.runTextIO_plain W fuel i none ord t fs
  have h2 : (CliM.runTextIO W fuel ⟨i, none, false⟩ ord t fs).fs = fs ∧
      (CliM.runTextIO W fuel ⟨i, none, false⟩ ord t fs).refused = false := by
    by_cases hm : i.mode = .naive
    · cases ho : CliM.objOf W ⟨i, none, false⟩ t with
      | none => rw [CliM.runTextIO_naive_none W fuel _ ord t fs hm ho]; exact ⟨rfl, rfl⟩
      | some o =>
        rw [CliM.runTextIO_naive W fuel _ ord t fs hm o ho, CliM.runObjIO_none fuel _ ord o fs rfl]; exact ⟨rfl, rfl⟩
    · rw [CliM.runTextIO_other W fuel _ ord t fs hm]; exact ⟨rfl, rfl⟩
  generalize CliM.runTextIO W fuel ⟨i, none, false⟩ ord t fs = r at h1 h2
  obtain ⟨a, b, c⟩ := r
  simp only at h1 h2
  rw [h1, h2.1, h2.2]

/-- `--export` (any path, existing or not) changes neither the exit status nor stdout; the `hybrid`
and `biodivine` arms ignore both options (`--import` there hands the JSON text to the ADF parser) -/
theorem io_export_keeps_output {T : Type} (W : CliM.World T) (fuel : Nat) (io : CliM.InvIO) (ord : CliM.Orders)
    (t : List Char) (fs : CliM.FS) :
    (io.imp = false → (CliM.runTextIO W fuel io ord t fs).out = CliM.runText W fuel io.inv t) ∧
    (io.inv.mode ≠ .naive → CliM.runTextIO W fuel io ord t fs = ⟨CliM.runText W fuel io.inv t, fs, false⟩) := by
  refine ⟨fun h => ?_, fun hm => CliM.runTextIO_other W fuel io ord t fs hm⟩
  obtain ⟨i, e, imp⟩ := io
  simp only at h
  subst h
  exact CliM.runTextIO_plain W fuel i e ord t fs

-- the model run on a text (evaluator): export to a free path, refusal on an existing one (exit 0, same
-- stdout, file untouched - also an EMPTY file), import of the written text prints the same lines
#guard
  let io : CliM.InvIO := ⟨⟨.naive, exAll, .lx, .simple⟩, some "x.json".toList, false⟩
  let fs : CliM.FS := [("empty".toList, [])]
  let r1 := CliM.runTextIO CliM.drvWorld 1000 io ⟨[("b", 1), ("a", 0)], []⟩ CliMP.exText fs
  let r2 := CliM.runTextIO CliM.drvWorld 1000 { io with exportTo := some "empty".toList } ⟨[], []⟩ CliMP.exText r1.fs
  let r3 := CliM.runFileIO CliM.drvWorld 1000 ⟨⟨.naive, exAll, .none, .simple⟩, some "x.json".toList, true⟩ ⟨[], []⟩ "x.json".toList r2.fs
  r1.out == CliM.runText CliM.drvWorld 1000 io.inv CliMP.exText && r1.out.exit == 0 && r1.out.stdout.length == 8 &&
  r1.fs.map (·.1) == ["x.json".toList, "empty".toList] && !r1.refused &&
  r2.fs == r1.fs && r2.refused && r2.out == r1.out &&
  r3.out == r1.out && r3.refused && r3.fs == r1.fs

open CliM CliMP ParserM FromParser in
/-- non-vacuity of `store_world_faithful` (kernel-checked hypotheses): the store world, hybrid arm, both
search flags -/
example : ∃ fuel, ∃ blocks : List Block,
    runText storeWorld fuel ⟨.hybrid, { twoval := true, stm := true, stmng := true }, .none, .simple⟩ exText =
      ⟨0, blocks.flatMap fun b => b.2.map (render [['b'], ['a']])⟩ ∧
    blocks.map (·.1) = [.twoval, .stm, .stmng] := by
  obtain ⟨F0, hF⟩ := halted_from_some_bound_on storeWorld storeWorldOK
    ⟨.hybrid, { twoval := true, stm := true, stmng := true }, .none, .simple⟩ exFacts exFacts_wf
    exFacts_fits (fun _ => exFacts_labels) (fun _ h => by cases h) (fun _ => storeWorld_dump)
  obtain ⟨blocks, h1, h2, _⟩ := store_world_faithful F0
    ⟨.hybrid, { twoval := true, stm := true, stmng := true }, .none, .simple⟩ exText exFacts
    exText_der exFacts_ne exFacts_wf exFacts_fits (fun _ => exFacts_labels) (fun _ h => by cases h)
    (hF F0 (Nat.le_refl _))
  exact ⟨F0, blocks, h1, by rw [h2]; decide⟩

end C15
#print axioms C15.hybrid_arm_runs_the_verified_bridge
#print axioms C15.hybrid_arm_rewriting_section
#print axioms C15.fuel_monotone
#print axioms C15.halted_from_some_bound_on
#print axioms C15.cli_text_faithful_every_large_bound
#print axioms C15.cli_faithful_within_explicit_bound
#print axioms C15.halted_for_small_frameworks
#print axioms C15.cli_faithful_small_frameworks
#print axioms C15.halted_text_within_explicit_bound
#print axioms C15.halted_text_for_small_frameworks
#print axioms C15.cli_text_faithful_small_frameworks
#print axioms C15.store_world_faithful
#print axioms C15.an_prints_in_natural_lexical_order
#print axioms C15.cli_text_faithful
#print axioms C15.three_modes_print_same_sets
#print axioms C15.rejects_malformed_text
#print axioms C15.line_format
#print axioms C15.naive_arm_is_driver_model
#print axioms C15.driver_world_faithful
#print axioms C15.driver_world_three_modes
#print axioms C15.counter_adds_at_most_one_line
#print axioms C15.counter_ignored
#print axioms C15.library_arms_panic_on_special_labels
#print axioms C15.io_without_options_is_runText
#print axioms C15.io_export_keeps_output

#print axioms C15.three_modes_print_same_sets_conditional
#print axioms C15.natural_lexical_le_total_trans
#print axioms C15.stmrew_loses_model_on_duplicate_condition
