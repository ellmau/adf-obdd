import AdfObdd.Complete
import AdfObdd.PreGround
import AdfObdd.AdfModel
import AdfObdd.CompleteExact
import AdfObdd.OpsProofs
import AdfObdd.BioProofs
import AdfObdd.HybridExample
/-! # C02 — complete-model enumeration: sound, complete (and duplicate free through C20)

The code enumerates the refinements of the grounded interpretation with the three-valued iterator
(C20: every refinement exactly once, the grounded interpretation first) and keeps those passing the
filter "every condition restricted by the candidate has the candidate's information value". -/
namespace C02

/-- the filter of `Adf::complete` (short-circuiting, store-threading) accepts a vector iff its
decided part is a fixpoint of Γ — for every lawful back-end -/
theorem filter_iff_fixpoint {S T : Type} (A : RA S T) (s : S) (ac v : List T) (hi : A.Inv s)
    (ha : AllValid A s ac) (hv : AllValid A s v) (hl : ac.length = v.length) :
    (completeCheck A s v ac v).2 = true ↔ Gam (ac.map (A.den s)) (asg3 A v) = asg3 A v :=
  complete_filter_iff A s ac v hi ha hv hl

/-- nothing is lost by enumerating only refinements of the grounded interpretation: it lies below
every complete interpretation -/
theorem grounded_below_every_complete (D : List BoolFn) (g w : I3) (hg : IsLfp D g) (hw : Gam D w = w) :
    Le3 g w := hg.2 w hw

/-- the grounded interpretation is itself complete (so it is among the answers; the iterator yields
it first, C20) -/
theorem grounded_is_complete (D : List BoolFn) (g : I3) (hg : IsLfp D g) : Gam D g = g := hg.1

/-- pre-grounded hybrid pipeline: exactly the same complete interpretations -/
theorem pregrounded_same_complete (D : List BoolFn) (g w : I3) (h : IsLfp D g) :
    Gam (pre D g) w = w ↔ Gam D w = w := pre_complete_iff D g w h

/-- the concrete enumeration `completeAll` (the function the driver runs):
read as three-valued interpretations the answers contain no duplicate, are exactly the complete
interpretations (fixpoints of Γ of the right length), and the first answer is the grounded vector -/
def complete_exact_statement : Prop :=
  ∀ (s : Store) (n : Nat) (ac : List Nat), WF s → ac.length = n → (∀ t ∈ ac, t < s.nodes.size) →
    let r := completeAll s n ac
    (r.2.2.map (fun v => v.map storeIsConst)).Nodup ∧
    (∀ w : I3, w ∈ r.2.2.map (fun v => v.map storeIsConst) ↔ (w.length = n ∧ Gam (ac.map (eval s)) w = w)) ∧
    r.2.2.head? = some r.2.1

/-- composes the filter theorem (in the store reached so far; verdicts do not depend on
the store), C20 (`threeValAll` = every refinement of the grounded vector once, the vector itself
first) and C01 (`grounded_native`: least fixpoint) -/
theorem complete_exact : complete_exact_statement :=
  CompleteExact.completeAll_exact

/-- the loop of `Adf::complete` only extends the store and keeps it well formed, and the second
component is the grounded vector of C01 -/
theorem complete_store (s : Store) (n : Nat) (ac : List Nat) (hw : WF s) (hn : ac.length = n)
    (hv : ∀ t ∈ ac, t < s.nodes.size) :
    WF (completeAll s n ac).1 ∧ Ext s (completeAll s n ac).1 ∧
    (completeAll s n ac).2.1 = (groundedLoop StoreRA (n + 1) s ac).2 :=
  CompleteExact.completeAll_store s n ac hw hn hv

example : Gam [fun _ => true] [some true] = [some true] := by
  simp [Gam, constOf_some]

/-! non-vacuity: the hypotheses of `complete_exact` are satisfiable and the conclusion speaks about
non-empty answers — the one-statement framework with condition ⊤ on the initial store -/
example : [some true] ∈ (completeAll Store.init 1 [1]).2.2.map (fun v => v.map storeIsConst) :=
  ((complete_exact Store.init 1 [1] WF_init rfl (by simp [Store.init])).2.1 [some true]).mpr
    ⟨rfl, by simp [Gam, constOf_some, eval_one]⟩
/-- the statement is refutable: the all-undecided interpretation is not an answer there -/
example : [none] ∉ (completeAll Store.init 1 [1]).2.2.map (fun v => v.map storeIsConst) := by
  intro h
  have := (((complete_exact Store.init 1 [1] WF_init rfl (by simp [Store.init])).2.1 [none]).mp h).2
  have e : Gam (List.map (eval Store.init) [1]) [none] = [some true] := by
    simp [Gam, constOf_some, eval_one]
  rw [e] at this; cases this

end C02

/-! ## the biodivine back-end (`adfbiodivine.rs`): `Adf::complete` -/
namespace C02

/-- `Adf::complete` of the SECOND back-end (model: `Bio.bioComplete`, BioModel.lean — the three-valued
iterator over `grounded_internal(&self.ac)`, filtered by `cmp_information` of every condition
restricted by the candidate's decided statements).

ASSUMPTION ABOUT THE EXTERNAL LIBRARY (`biodivine_lib_bdd`, not modelled): `W : Bio.Lawful L n` —
every diagram of the variable set denotes a Boolean function, the library's INHERENT
`Bdd::restrict(&[(var, value)])` is the cofactor by the listed literals (`Lawful.restrict_spec`; this
is the routine `ac.restrict(..)` resolves to - the file's own `impl BddRestrict`, `select` then
`exists`, is shadowed dead code), `and` / `iff` / `eval_expression` compute what they say, `is_true` /
`is_false` are exact ON EVERY diagram the operations return (in the crate: node-count tests, exact
because results are reduced), `sat_valuations` enumerates every satisfying total valuation once.
(`select` / `exists` are part of the interface only for the lemma `Bio.restrictSE_den`: the shadowed
composition would denote the same cofactor; no property theorem uses them.) Nothing else about the
library is used; the loop bound of `grounded_internal` is PROVED (`Bio.groundedLoopB_fuel`).

For every lawful library and valid conditions: read as three-valued interpretations the answers
contain no duplicate, are exactly the fixpoints of Γ of length `n`, the first answer is the
grounded vector, and that vector is the least fixpoint. -/
theorem biodivine_complete_exact {T : Type} (L : Bio.Lib T) (n : Nat) (W : Bio.Lawful L n)
    (ac : List T) (hv : ∀ a ∈ ac, W.Valid a) (hn : ac.length = n) :
    let D := ac.map W.den
    let out := (Bio.bioComplete L ac).map (fun v => v.map storeIsConst)
    out.Nodup ∧ (∀ w : I3, w ∈ out ↔ (w.length = n ∧ Gam D w = w)) ∧
    (Bio.bioComplete L ac).head? = some (Bio.bioGrounded L ac) ∧
    IsLfp D ((Bio.bioGrounded L ac).map storeIsConst) :=
  Bio.bioComplete_exact W ac hv hn

/-- `biodivine_complete_exact` for ANY list of conditions given as Boolean functions, on the ideal library (terms are
the functions themselves; it satisfies every assumption: `Bio.fnLawful`) -/
theorem biodivine_complete_exact_ideal (D : List BoolFn) :
    let out := (Bio.bioComplete (Bio.fnLib D.length) D).map (fun v => v.map storeIsConst)
    out.Nodup ∧ (∀ w : I3, w ∈ out ↔ (w.length = D.length ∧ Gam D w = w)) ∧
    (Bio.bioComplete (Bio.fnLib D.length) D).head? = some (Bio.bioGrounded (Bio.fnLib D.length) D) ∧
    IsLfp D ((Bio.bioGrounded (Bio.fnLib D.length) D).map storeIsConst) := by
  have h := Bio.bioComplete_exact (Bio.fnLawful D.length) D (fun _ _ => trivial) rfl
  have e : D.map (Bio.fnLawful D.length).den = D := by
    show D.map (fun f => f) = D
    simp
  rw [e] at h
  exact h

/-! non-vacuity on the computable truth-table library (`Bio.ttLib`, lawful: `Bio.ttLawful`): two
statements attacking each other, `a : ¬b` (table 3), `b : ¬a` (table 5) — the hypotheses hold, the
model returns three answers with the grounded (all-undecided) interpretation first, and the
theorem turns membership into the fixpoint property and back -/
theorem exAttack_valid : ∀ a ∈ [3, 5], (Bio.ttLawful 2).Valid a := by
  intro a ha
  apply Bio.ttValid_of_lt
  have : a = 3 ∨ a = 5 := by simpa using ha
  rcases this with h | h <;> subst h <;> decide

theorem exAttack_eval : (Bio.bioComplete (Bio.ttLib 2) [3, 5]).map (fun v => v.map storeIsConst) =
    [[none, none], [some true, some false], [some false, some true]] := by decide

example : (Bio.bioComplete (Bio.ttLib 2) [3, 5]).map Bio.toI3 =
    [[none, none], [some true, some false], [some false, some true]] := exAttack_eval

example : Gam ([3, 5].map (Bio.ttDen 2)) [some true, some false] = [some true, some false] :=
  (((biodivine_complete_exact (Bio.ttLib 2) 2 (Bio.ttLawful 2) [3, 5] exAttack_valid rfl).2.1 [some true, some false]).mp
    (by rw [exAttack_eval]; decide)).2

/-- refutable: `[T, T]` is not an answer, hence not a fixpoint -/
example : ¬ Gam ([3, 5].map (Bio.ttDen 2)) [some true, some true] = [some true, some true] := by
  intro h
  have := ((biodivine_complete_exact (Bio.ttLib 2) 2 (Bio.ttLawful 2) [3, 5] exAttack_valid rfl).2.1 [some true, some true]).mpr ⟨rfl, h⟩
  rw [exAttack_eval] at this
  revert this
  decide

end C02

namespace C02

/-- the conditions' handles of `from_parser` on written formulas denote the formulas (list form of
`buildNative_correct`) -/
theorem buildNative_fns (fms : List Fm) (hn : fms.length ≤ VBOT) (hv : ∀ f ∈ fms, f.atomsOK) :
    WF (buildNative fms.length fms).1 ∧ (buildNative fms.length fms).2.length = fms.length ∧
    (∀ t ∈ (buildNative fms.length fms).2, t < (buildNative fms.length fms).1.nodes.size) ∧
    (buildNative fms.length fms).2.map (eval (buildNative fms.length fms).1) = fms.map Fm.sem :=
  _root_.buildNative_fns _ fms hn hv

/-- **the oracle beyond truth-table size.** For frameworks of ANY number of statements, written as
formulas: the complete enumeration of the model on the freshly compiled store lists - without
duplicates, grounded first - exactly the fixpoints of the consequence operator of the WRITTEN
formulas. The driver uses this run (`Drv.modelAnswer`) as the property oracle where the
brute-force specification cannot go (n > 7). -/
theorem complete_exact_from_formulas (fms : List Fm) (hn : fms.length ≤ VBOT) (hv : ∀ f ∈ fms, f.atomsOK) :
    let b := buildNative fms.length fms
    let r := completeAll b.1 fms.length b.2
    (r.2.2.map (fun v => v.map storeIsConst)).Nodup ∧
    (∀ w : I3, w ∈ r.2.2.map (fun v => v.map storeIsConst) ↔ (w.length = fms.length ∧ Gam (fms.map Fm.sem) w = w)) ∧
    r.2.2.head? = some r.2.1 := by
  obtain ⟨w, hl, hlt, hf⟩ := buildNative_fns fms hn hv
  have h := complete_exact (buildNative fms.length fms).1 fms.length (buildNative fms.length fms).2 w hl hlt
  rw [hf] at h
  exact h

/-- the complete interpretations of the mutual attack `a : ¬b`, `b : ¬a`, read off `Bio.bioComplete`
on the truth-table library -/
theorem exMutual_complete (w : I3) :
    (w.length = 2 ∧ Gam (Bio.exMutual.map Fm.sem) w = w) ↔
      w ∈ [[none, none], [some true, some false], [some false, some true]] := by
  have t : w ∈ (Bio.bioComplete (Bio.ttLib 2) (Bio.fromFormulas (Bio.ttLib 2) Bio.exMutual)).map
      (fun v => v.map storeIsConst) ↔ _ := Bio.tt_complete Bio.exMutual Bio.exMutual_ok w
  rw [show Bio.fromFormulas (Bio.ttLib 2) Bio.exMutual = [3, 5] by decide, exAttack_eval] at t
  exact t.symm

example : ([Fm.atom 1, Fm.atom 0] : List Fm).length ≤ VBOT ∧ ∀ f ∈ ([Fm.atom 1, Fm.atom 0] : List Fm), f.atomsOK := by
  simp [VBOT, Fm.atomsOK]

/-- native example with an UNDECIDED position and several answers: `s(a). s(b). ac(a,neg(b)).
ac(b,neg(a)).` compiled by the `from_parser` model; `completeAll` on the compiled store returns (read as
interpretations) `u u` - the grounded interpretation, nothing is decided -, `T F` and `F T`, and not `T T`
(through `complete_exact_from_formulas`; the fixpoint facts by evaluation on the truth-table library) -/
example :
    let b := buildNative 2 Bio.exMutual
    let out := (completeAll b.1 2 b.2).2.2.map (fun v => v.map storeIsConst)
    [none, none] ∈ out ∧ [some true, some false] ∈ out ∧ [some false, some true] ∈ out ∧
    [some true, some true] ∉ out ∧ out.Nodup := by
  have h := complete_exact_from_formulas Bio.exMutual (by simp [Bio.exMutual, VBOT])
    (fun f hf => NConc.atomsOK_of_lt (by simp [Bio.exMutual, VBOT]) f (Bio.exMutual_ok f hf))
  have m := fun w => (h.2.1 w).trans (exMutual_complete w)
  exact ⟨(m _).mpr (by decide), (m _).mpr (by decide), (m _).mpr (by decide),
    fun hin => absurd ((m _).mp hin) (by decide), h.1⟩

end C02

/-! ## the hybrid back-end (`hybrid_step_opt` + native `complete`) end to end -/
namespace C02

/-- **hybrid back-end, end to end**: `Adf::complete` on the native object built by
`hybrid_step_opt(opt)` (model `Bio.hybridStep`: optional biodivine grounding, per-condition dump, replay
into one native store) lists - read as interpretations - without duplicates exactly the fixpoints of Γ of
the ORIGINAL conditions `ac.map W.den`, the first answer is the grounded vector, and that vector is the
least fixpoint; for both values of the flag. Assumptions about the external crate: `W`, `hd` (see
`C01.hybrid_grounded_is_lfp`). -/
theorem hybrid_complete_exact {T : Type} (L : Bio.Lib T) (n : Nat) (W : Bio.Lawful L n)
    (dump : T → List Node) (hd : Bio.DumpSpec W dump) (opt : Bool)
    (ac : List T) (hv : ∀ a ∈ ac, W.Valid a) (hn : ac.length = n) :
    let r := Bio.hybridStep L dump opt ac
    let c := completeAll r.1 n r.2
    (c.2.2.map (fun v => v.map storeIsConst)).Nodup ∧
    (∀ w : I3, w ∈ c.2.2.map (fun v => v.map storeIsConst) ↔ (w.length = n ∧ Gam (ac.map W.den) w = w)) ∧
    c.2.2.head? = some c.2.1 ∧ IsLfp (ac.map W.den) (c.2.1.map storeIsConst) := by
  intro r c
  obtain ⟨_, hl, ⟨w, hlt, rfl⟩, hs⟩ := Bio.hybridStep_same W hd opt ac hv hn
  have ⟨a, b, c'⟩ := CompleteExact.completeAll_exact r.1 n r.2 w hl hlt
  have st := (CompleteExact.completeAll_store r.1 n r.2 w hl hlt).2.2
  refine ⟨a, fun x => ?_, c', ?_⟩
  · rw [b x, hs.fix x]
  · show IsLfp _ ((completeAll r.1 n r.2).2.1.map storeIsConst)
    rw [st]
    exact (Bio.hybrid_grounded W hd opt ac hv hn).1

/-- `hybrid_complete_exact` from the WRITTEN framework (biodivine `from_parser`, `hybrid_step_opt`, native `complete`) -/
theorem hybrid_complete_from_formulas {T : Type} (L : Bio.Lib T) (fms : List Fm) (W : Bio.Lawful L fms.length)
    (dump : T → List Node) (hd : Bio.DumpSpec W dump) (opt : Bool)
    (hv : ∀ f ∈ fms, NConc.atomsLt fms.length f) :
    let r := Bio.hybridStep L dump opt (Bio.fromFormulas L fms)
    let c := completeAll r.1 fms.length r.2
    (c.2.2.map (fun v => v.map storeIsConst)).Nodup ∧
    (∀ w : I3, w ∈ c.2.2.map (fun v => v.map storeIsConst) ↔ (w.length = fms.length ∧ Gam (fms.map Fm.sem) w = w)) ∧
    c.2.2.head? = some c.2.1 ∧ IsLfp (fms.map Fm.sem) (c.2.1.map storeIsConst) := by
  have ⟨a, b, c, _⟩ := Bio.fromFormulas_spec fms W hv
  have := hybrid_complete_exact L fms.length W dump hd opt _ b a
  rw [c] at this; exact this

/-- non-vacuity (lawful truth-table library over two variables with its decision-tree dump): the
mutual attack through the hybrid pipeline, both flags - `u u`, `T F`, `F T` are answers, `T T` is not -/
example (opt : Bool) :
    let r := Bio.hybridStep (Bio.ttLib 2) Bio.ttDump2 opt (Bio.fromFormulas (Bio.ttLib 2) Bio.exMutual)
    let out := (completeAll r.1 2 r.2).2.2.map (fun v => v.map storeIsConst)
    [none, none] ∈ out ∧ [some true, some false] ∈ out ∧ [some false, some true] ∈ out ∧
    [some true, some true] ∉ out := by
  have h := hybrid_complete_from_formulas (Bio.ttLib 2) Bio.exMutual (Bio.ttLawful 2) Bio.ttDump2
    Bio.ttDump2_spec opt Bio.exMutual_ok
  have m := fun w => (h.2.1 w).trans (exMutual_complete w)
  exact ⟨(m _).mpr (by decide), (m _).mpr (by decide), (m _).mpr (by decide),
    fun hin => absurd ((m _).mp hin) (by decide)⟩

end C02


#print axioms C02.filter_iff_fixpoint
#print axioms C02.grounded_below_every_complete
#print axioms C02.grounded_is_complete
#print axioms C02.pregrounded_same_complete
#print axioms C02.complete_exact
#print axioms C02.complete_store
#print axioms C02.biodivine_complete_exact
#print axioms C02.biodivine_complete_exact_ideal
#print axioms C02.buildNative_fns
#print axioms C02.complete_exact_from_formulas
#print axioms C02.hybrid_complete_exact
#print axioms C02.hybrid_complete_from_formulas
