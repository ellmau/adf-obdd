import AdfObdd.OpsProofs
import AdfObdd.Grounded
import AdfObdd.Complete
import AdfObdd.PreGround2
import AdfObdd.Stable
import AdfObdd.Props.C02
import AdfObdd.Props.C03
import AdfObdd.Props.C04
import AdfObdd.Props.C05
import AdfObdd.MemoCheckProofs
import AdfObdd.MemoTransparent
import AdfObdd.CallHistoryMemo
import AdfObdd.CallHistoryMemoFull
import AdfObdd.CallHistoryQuery
import AdfObdd.CallHistoryRand
import AdfObdd.CountOrder
import AdfObdd.Props.C12
import AdfObdd.PersistMore
import AdfObdd.Props.C14
/-! # C11 — cache transparency, handle stability, determinism across call histories

Every public call only *extends* the node table and adds sound memo entries (`WF` is preserved,
`Ext` holds: C06/C07); the conditions `ac` are never modified. Answers are functions of the Boolean
functions the handles denote, so they cannot depend on what was computed before. -/
namespace C11

/-- handle stability: after any further operation sequence every earlier handle denotes what it
denoted before (memo tables warm or cold) -/
theorem handles_stable (ops : List Op) (s : Store) (hist : List Nat) (fs : List BoolFn)
    (w : WF s) (h : HistOK s hist fs) (hv : opsValid ops hist.length) (t : Nat) (ht : t < s.nodes.size) :
    ∀ σ, eval (runOps ops s hist).1 t σ = eval s t σ :=
  fun σ => eval_ext w (runOps_refines ops s hist fs w h hv).2.1 t σ ht

/-- the grounded answer depends only on the functions of the conditions: two well-formed stores
(e.g. a fresh object and one with an arbitrary call history) whose condition handles denote the same
functions give the same decided part -/
theorem grounded_history_independent (s s' : Store) (ac ac' : List Nat) (w : WF s) (w' : WF s')
    (hv : ∀ t ∈ ac, t < s.nodes.size) (hv' : ∀ t ∈ ac', t < s'.nodes.size)
    (hsame : ac.map (eval s) = ac'.map (eval s')) :
    (groundedLoop StoreRA (ac.length + 1) s ac).2.map storeIsConst =
    (groundedLoop StoreRA (ac'.length + 1) s' ac').2.map storeIsConst := by
  have hl := congrArg List.length hsame
  rw [List.length_map, List.length_map] at hl
  rw [← hl]
  exact grounded_dec_same w w' rfl hl.symm hv hv' hsame

/-- the complete filter's verdict depends only on the functions as well -/
theorem complete_filter_history_independent (s s' : Store) (ac v ac' v' : List Nat) (w : WF s) (w' : WF s')
    (ha : ∀ t ∈ ac, t < s.nodes.size) (hv : ∀ t ∈ v, t < s.nodes.size) (hl : ac.length = v.length)
    (ha' : ∀ t ∈ ac', t < s'.nodes.size) (hv' : ∀ t ∈ v', t < s'.nodes.size) (hl' : ac'.length = v'.length)
    (hsame : ac.map (eval s) = ac'.map (eval s')) (hv3 : v.map storeIsConst = v'.map storeIsConst) :
    (completeCheck StoreRA s v ac v).2 = (completeCheck StoreRA s' v' ac' v').2 := by
  have a := complete_filter_iff StoreRA s ac v w ha hv hl
  have b := complete_filter_iff StoreRA s' ac' v' w' ha' hv' hl'
  have e1 : asg3 StoreRA v = asg3 StoreRA v' := hv3
  have e2 : ac.map (StoreRA.den s) = ac'.map (StoreRA.den s') := hsame
  rw [e1, e2] at a
  exact Bool.eq_iff_iff.mpr (a.trans b.symm)

/-- the complete-model answer after an arbitrary call history is the answer of a fresh object:
as sets of three-valued interpretations (each listed once on both sides) -/
theorem complete_history_independent (s s' : Store) (n : Nat) (ac ac' : List Nat) (w : WF s) (w' : WF s')
    (hl : ac.length = n) (hl' : ac'.length = n)
    (hv : ∀ t ∈ ac, t < s.nodes.size) (hv' : ∀ t ∈ ac', t < s'.nodes.size)
    (hsame : ac.map (eval s) = ac'.map (eval s')) (v : I3) :
    v ∈ (completeAll s n ac).2.2.map (fun x => x.map storeIsConst) ↔
    v ∈ (completeAll s' n ac').2.2.map (fun x => x.map storeIsConst) := by
  have a := (C02.complete_exact s n ac w hl hv).2.1 v
  have b := (C02.complete_exact s' n ac' w' hl' hv').2.1 v
  rw [a, b, hsame]

/-- the enumerate-and-check `stable`: the same set of stable models on both stores -/
theorem stable_history_independent (s s' : Store) (n : Nat) (ac ac' : List Nat) (w : WF s) (w' : WF s')
    (hl : ac.length = n) (hl' : ac'.length = n)
    (hv : ∀ t ∈ ac, t < s.nodes.size) (hv' : ∀ t ∈ ac', t < s'.nodes.size)
    (hsame : ac.map (eval s) = ac'.map (eval s')) (v : I3) :
    v ∈ (stableAll s n ac).2.map (fun x => x.map storeIsConst) ↔
    v ∈ (stableAll s' n ac').2.map (fun x => x.map storeIsConst) := by
  have a := (C03.stable_exact s n ac w hl hv).2 v
  have b := (C03.stable_exact s' n ac' w' hl' hv').2 v
  rw [a, b, hsame]

/-- the counting-guided search, also across its TWO heuristics: the set of answers is the same.  The ORDER
(same heuristic) is equal too - the branching reads the diagrams' shapes, which are functions of the denoted
functions by canonicity: `count_order_history_independent` below -/
theorem count_search_history_independent (s s' : Store) (n : Nat) (ac ac' : List Nat) (useA useA' : Bool)
    (w : WF s) (w' : WF s') (hl : ac.length = n) (hl' : ac'.length = n)
    (hv : ∀ t ∈ ac, t < s.nodes.size) (hv' : ∀ t ∈ ac', t < s'.nodes.size)
    (hsame : ac.map (eval s) = ac'.map (eval s')) (v : I3) :
    v ∈ (countAll s n ac useA).2.map (fun x => x.map storeIsConst) ↔
    v ∈ (countAll s' n ac' useA').2.map (fun x => x.map storeIsConst) := by
  have a := (C04.count_search_exact s n ac useA w hl hv).2 v
  have b := (C04.count_search_exact s' n ac' useA' w' hl' hv').2 v
  rw [a, b, hsame]

/-- the nogood-learning search in stable mode, under any two heuristics: whatever was computed before and
whichever heuristic is used, both runs halt for some bound and deliver the same models -/
theorem ng_search_history_independent (h h' : SM.Heu) (s s' : Store) (n : Nat) (ac ac' : List Nat)
    (w : WF s) (w' : WF s') (hl : ac.length = n) (hl' : ac'.length = n)
    (hv : ∀ t ∈ ac, t < s.nodes.size) (hv' : ∀ t ∈ ac', t < s'.nodes.size)
    (hsame : ac.map (eval s) = ac'.map (eval s')) :
    ∃ fuel fuel', (SM.ngSearch h fuel s n ac true).2.2.2 = true ∧ (SM.ngSearch h' fuel' s' n ac' true).2.2.2 = true ∧
      ∀ v : I3, v ∈ (SM.ngSearch h fuel s n ac true).2.1.map (fun x => x.map storeIsConst) ↔
                v ∈ (SM.ngSearch h' fuel' s' n ac' true).2.1.map (fun x => x.map storeIsConst) := by
  obtain ⟨f, hd, _, hm⟩ := C05.ng_search_exact h s n ac true w hl hv (by intro hh; cases hh)
  obtain ⟨f', hd', _, hm'⟩ := C05.ng_search_exact h' s' n ac' true w' hl' hv' (by intro hh; cases hh)
  refine ⟨f, f', hd, hd', ?_⟩
  intro v
  have a := hm v
  have b := hm' v
  rw [a, b, hsame]

/-- non-vacuity of the history-independence theorems: two (here identical) well-formed stores whose
condition handles denote the same functions -/
example : WF Store.init ∧ [1, 0].length = 2 ∧ (∀ t ∈ [1, 0], t < Store.init.nodes.size) ∧
    [1, 0].map (eval Store.init) = [1, 0].map (eval Store.init) := by
  refine ⟨WF_init, rfl, ?_, rfl⟩
  intro t ht
  simp at ht
  rcases ht with h | h <;> subst h <;> simp [Store.init]

example : WF Store.init := WF_init

end C11

/-! ## the audit of the implementation's real memo tables is a verified checker

At the end of every diagram-family case (and after the ADF computations and the persistence round
trips) the harness dumps the PRIVATE tables of the Rust object — unique table, if-then-else memo,
restrict memo, count cache, dependency lists — next to its node table. `wfCheck`
(`wfCheck_sound`) establishes the structural invariant of the dumped node table;
`MemoCheck.memoCheckF` audits the other tables against the Boolean functions of that node table.
`memo_audit_sound` says what a positive verdict means: every memo entry, whenever and in whichever
order it was written, denotes what it is a memo of — which is why a warm cache cannot change an
answer. (`MemoCheck.lean`, `MemoCheckProofs.lean`.) -/
namespace C11

/-- **soundness of the memo audit**: on a dumped node table that passes `wfCheck`, a positive
verdict of `memoCheckF` on the dumped private tables means `MemoSound` for every store `s` with
that node table:
* every unique-table row `(v, lo, hi, t)` is the node at the inner handle `t`, and every inner
  node has its row;
* every if-then-else entry `(i, t, e, r)` has its handles in range and
  `∀ σ, eval s r σ = if eval s i σ then eval s t σ else eval s e σ`;
* every restrict entry `(t, v, b, r)` has `∀ σ, eval s r σ = eval s t (upd σ v b)`;
* every count entry holds `pathsF`, the depth of `countF` and — unless the feature set is the
  documented exception — the (counter-)model counts of `countF`;
* there is one dependency list per node, equal as a set to `depsF`. -/
theorem memo_audit_sound (nv : Nat) (exc : Bool) (s : Store) (r : MemoCheck.Rows)
    (hwf : wfCheck s.nodes = true) (hc : MemoCheck.memoCheckF nv exc s.nodes r = true) :
    MemoCheck.MemoSound nv exc s r :=
  MemoCheck.memoCheckF_sound nv exc s r (wfCheck_sound s.nodes hwf) hc

/-- the same from the structural invariant (e.g. for the node table of a model store, `WF.table`) -/
theorem memo_audit_sound_of_tableWF (nv : Nat) (exc : Bool) (s : Store) (r : MemoCheck.Rows)
    (h : TableWF s.nodes) (hc : MemoCheck.memoCheckF nv exc s.nodes r = true) :
    MemoCheck.MemoSound nv exc s r :=
  MemoCheck.memoCheckF_sound nv exc s r h hc

/-- the checker's bottom-up table of a node represents the node's function -/
theorem memo_audit_tables_represent (s : Store) (h : TableWF s.nodes) (nv i : Nat) (hi : i < s.nodes.size) :
    TT.Rep nv ((MemoCheck.ttOf nv s.nodes).getD i 0) (eval s i) :=
  MemoCheck.tt_of_node_rep s h nv i hi

/-- the node table of x0, x1 and x0 ∧ x1 (handles 2, 3, 4) over two variables -/
def auditTable : Array Node := #[⟨VBOT, 0, 0⟩, ⟨VTOP, 1, 1⟩, ⟨0, 0, 1⟩, ⟨1, 0, 1⟩, ⟨0, 0, 3⟩]

/-- private tables as the implementation would hold them on `auditTable` after computing the conjunction,
two restrictions and the counts of the conjunction (3 counter-models, 1 model, 2 paths to ⊥,
1 path to ⊤, depth 2) -/
def auditRows : MemoCheck.Rows :=
  { uniq := [(0, 0, 3, 4), (0, 0, 1, 2), (1, 0, 1, 3)]
    ite := [(2, 3, 0, 4)]
    res := [(4, 0, true, 3), (4, 0, false, 0), (4, 1, false, 0)]
    cnt := [(4, 3, 1, 2, 1, 2), (3, 1, 1, 1, 1, 1)]
    deps := some [[], [], [0], [1], [0, 1]] }

theorem audit_ok : wfCheck auditTable = true ∧ MemoCheck.memoCheckF 2 false auditTable auditRows = true := by
  constructor <;> decide

/-- non-vacuity: both checks pass on these tables (by evaluation), so the theorem applies -/
example : wfCheck auditTable = true ∧ MemoCheck.memoCheckF 2 false auditTable auditRows = true := audit_ok

example : MemoCheck.MemoSound 2 false ⟨auditTable, ∅, ∅, ∅⟩ auditRows :=
  memo_audit_sound 2 false ⟨auditTable, ∅, ∅, ∅⟩ auditRows audit_ok.1 audit_ok.2

/-- the audit is not trivially positive: a wrong if-then-else entry (x0 ∧ x1 recorded as
x1), a wrong cofactor, a wrong model count, a missing unique-table row and a wrong dependency
list are each rejected -/
example :
    MemoCheck.memoCheckF 2 false auditTable { auditRows with ite := [(2, 3, 0, 3)] } = false ∧
    MemoCheck.memoCheckF 2 false auditTable { auditRows with res := [(4, 0, true, 4)] } = false ∧
    MemoCheck.memoCheckF 2 false auditTable { auditRows with cnt := [(4, 2, 2, 2, 1, 2)] } = false ∧
    MemoCheck.memoCheckF 2 true auditTable { auditRows with cnt := [(4, 2, 2, 2, 1, 2)] } = true ∧
    MemoCheck.memoCheckF 2 false auditTable { auditRows with uniq := [(0, 0, 3, 4), (0, 0, 1, 2), (0, 0, 1, 2)] } = false ∧
    MemoCheck.memoCheckF 2 false auditTable { auditRows with deps := some [[], [], [0], [1], [1]] } = false := by
  refine ⟨?_, ?_, ?_, ?_, ?_, ?_⟩ <;> decide

/-- **memo transparency of the allocation order**: on two well-formed stores with the same node table — memo
tables `iteC` / `resC` warm, cold or different on either side — every operation sequence issues the same handle
NUMBERS and builds the same node table; in particular (second half) on a store whose memo tables were dropped.
It is the empty-feature case of C12's comparison of an operation sequence under a feature set with the reference
(`run_same`). Underneath: an operation whose result is already represented returns that handle and allocates
nothing (`restrictS_spec`, `iteS_spec`), hence a memo hit on one side is matched by the recomputation on the other
(`restrictS_lock`, `iteS_lock`). -/
theorem handles_memo_independent (ops : List Op) (s s' : Store) (hist : List Nat) (w : WF s) (w' : WF s')
    (hn : s'.nodes = s.nodes) (hh : ∀ k, k < hist.length → hget hist k < s.nodes.size)
    (hv : opsValid ops hist.length) :
    ((runOps ops s' hist).2 = (runOps ops s hist).2 ∧
     (runOps ops s' hist).1.nodes = (runOps ops s hist).1.nodes) ∧
    ((runOps ops { s with iteC := {}, resC := {} } hist).2 = (runOps ops s hist).2 ∧
     (runOps ops { s with iteC := {}, resC := {} } hist).1.nodes = (runOps ops s hist).1.nodes) :=
  ⟨runOps_memo_transparent ops s s' hist w w' hn hh hv, runOps_memo_dropped ops s hist w hh hv⟩

/-- the single-call core: a diagram operation whose result function is already
represented by a handle `r` returns `r` and leaves the node table alone, whatever the memo holds -/
theorem represented_result_not_reallocated (s : Store) (w : WF s) (i t e r : Nat)
    (hi : i < s.nodes.size) (ht : t < s.nodes.size) (he : e < s.nodes.size) (hr : r < s.nodes.size)
    (hev : ∀ σ, eval s r σ = if eval s i σ then eval s t σ else eval s e σ) :
    (opIte s i t e).1.nodes = s.nodes ∧ (opIte s i t e).2 = r :=
  MemoT.iteF_rep (i + t + e + 1) s i t e r w hi ht he (by omega) hr hev

/-- the reachable states satisfy the hypotheses: after any valid operation sequence from the fresh
object, the state and its memo-dropped copy continue in lockstep -/
theorem handles_memo_independent_reachable (ops0 ops : List Op) (hv0 : opsValid ops0 2)
    (hv : opsValid ops (runOps ops0 Store.init [0, 1]).2.length) :
    let s := (runOps ops0 Store.init [0, 1]).1
    let hist := (runOps ops0 Store.init [0, 1]).2
    (runOps ops { s with iteC := {}, resC := {} } hist).2 = (runOps ops s hist).2 ∧
    (runOps ops { s with iteC := {}, resC := {} } hist).1.nodes = (runOps ops s hist).1.nodes := by
  intro s hist
  have ⟨w, _, h⟩ := runOps_refines ops0 Store.init [0, 1] _ WF_init HistOK.init hv0
  exact runOps_memo_dropped ops s hist w (fun k hk => (h.ok k hk).1) hv

/-- non-vacuity: the hypotheses hold for the fresh object and a concrete operation sequence
(x0, x1, x0 ∧ x1, x0 ∧ x1 again, ¬(x0 ∧ x1), (x0 ∧ x1)[x0 := ⊤]) -/
example :
    let ops : List Op := [.var 0, .var 1, .and 2 3, .and 2 3, .not 4, .restrict 4 0 true]
    (runOps ops { Store.init with iteC := {}, resC := {} } [0, 1]).2 = (runOps ops Store.init [0, 1]).2 :=
  (handles_memo_independent _ Store.init Store.init [0, 1] WF_init WF_init rfl
    (fun k hk => (HistOK.init.ok k hk).1) (by simp [opsValid, Op.valid, VBOT])).2.1

/-- non-vacuity: a warm reachable state against its memo-dropped copy -/
example :
    let s := (runOps [.var 0, .var 1, .and 2 3] Store.init [0, 1]).1
    let hist := (runOps [.var 0, .var 1, .and 2 3] Store.init [0, 1]).2
    (runOps [.and 2 3, .xor 2 3] { s with iteC := {}, resC := {} } hist).2 =
    (runOps [.and 2 3, .xor 2 3] s hist).2 :=
  (handles_memo_independent_reachable [.var 0, .var 1, .and 2 3] [.and 2 3, .xor 2 3]
    (by simp [opsValid, Op.valid, VBOT]) (by rw [runOps_length]; simp [opsValid, Op.valid])).1

end C11

#print axioms C11.memo_audit_sound
#print axioms C11.handles_memo_independent
#print axioms C11.handles_memo_independent_reachable


/-! ## call histories on ONE object

`AdfObdd/CallHistory.lean` models the object (`AdfState`: shared store, `n`, `ac`, handles issued so
far), the public calls a user can repeat on it (`Call`: grounded, complete, stable,
stable_with_prefilter, the two counting searches, the nogood-learning search in stable and two-valued
mode with every modelled heuristic incl. a scripted custom one, models / paths / depth / variable
dependencies of a condition, extra formulas as a list of diagram operations) and `runCall` /
`runCalls`, built from exactly the definitions the driver runs for the corresponding protocol lines
(`groundedLoop StoreRA`, `completeAll`, `stableAll`, `Cli.stablePre` (= `Drv.stablePreAll`),
`countAll`, `SM.ngSearch`, `countF` / `paths` / `depsOf`, `runOps`), threading the store.
`Heuristic::Rand` / `Adf::seed` are not part of `Call` (nor run by the driver); they are modelled over an ABSTRACT
deterministic generator in `AdfObdd/CallHistoryRand.lean` (`same_seed_statement` below; `StdRng` itself is not
modelled).  NOT part of `AdfState`: `count_cache` and `var_deps` (the feature-dependent tables of C12); the
memoised model count is therefore not a `Call` - see `memoised_count_is_the_reimport_exception`.
How the first sentence of the property ("the answer of a call after any history equals the answer of the same
call on a fresh object") is READ here: handle NUMBERS cannot be equal across histories (the node tables differ),
so equality is of the decided parts and of the functions the handles denote.  For the enumerations:
`answers_history_independent` gives the same SET (each model once) for every call kind;
`order_across_histories` the same ORDER of the decided parts for every call kind (`stable` /
`stable_with_prefilter`: equal lists, `stable_answers_equal_after_history`; the counting searches: the two runs
are in lock step for "same denotations" and the cube list `Bdd::interpretations` of a residual diagram is
canonical, `canonical_cube_list`).  Between objects with the SAME node table the answers are equal outright,
handle numbers included (`answers_memo_independent`, `answers_depend_on_node_table`) - that compares two memo
states, never "after h" with "fresh". -/
namespace C11
open CallH

/-- **invariant over call histories**. After ANY history on an object that satisfies the invariant `Inv` (store
`WF`, `ac` = `n` valid handles, issued handles valid): the invariant holds again; `ac` and `n` are unchanged;
handles are only appended to the issued list; the node table only grew (`Ext`); and every handle that existed
before is still valid, names the same node and denotes the same Boolean function. The nogood-learning search
needs no halting hypothesis here (`CliF.ngSearch_store`: well formed for every bound). -/
theorem history_invariant (st : AdfState) (hi : Inv st) (h : List Call) :
    let st' := (runCalls st h).1
    Inv st' ∧ st'.ac = st.ac ∧ st'.n = st.n ∧ st.issued <+: st'.issued ∧ Ext st.s st'.s ∧
    (∀ t, t < st.s.nodes.size →
      t < st'.s.nodes.size ∧ st'.s.nodes[t]? = st.s.nodes[t]? ∧ ∀ σ, eval st'.s t σ = eval st.s t σ) ∧
    (∀ t ∈ st.ac ++ st.issued, t < st.s.nodes.size) := by
  intro st'
  have ⟨hi', stp⟩ := runCalls_inv h st hi
  refine ⟨hi', stp.ac, stp.n, stp.issued, stp.ext, fun t ht => ⟨Nat.lt_of_lt_of_le ht stp.ext.1, ?_,
    fun σ => eval_ext hi.wf stp.ext t σ ht⟩, ?_⟩
  · obtain ⟨m, hm⟩ := get_of_lt ht
    rw [hm]; exact stp.ext.2 t m hm
  intro t ht
  rcases List.mem_append.mp ht with h1 | h1
  · exact hi.ac t h1
  · exact hi.issued t h1

/-- **every answer is determined by the Boolean functions of the conditions** (`CallH.Exact`): on an
object satisfying the invariant, `grounded` returns the least fixpoint (and handles of the residual
functions `semLoop`), `complete` the fixpoints of Γ without duplicates, grounded first, the three
stable enumerations and both searches exactly the stable models, each once, the two-valued search
the two-valued models (side condition `Supp` as in C05), extra formulas handles of the functions
the operations name.  For QUERIES (and for a search that hit its iteration bound) `CallH.Exact` is `True`,
i.e. this theorem says NOTHING about them; what a query answers is `query_answers_exact` below. -/
theorem answers_exact (st : AdfState) (c : Call) (hi : Inv st) (hs : c.twoValued → Supp st) :
    Exact (st.ac.map (eval st.s)) st.n c (runCall st c).1.s (runCall st c).2 :=
  runCall_exact st c hi hs

/-- **history independence**: for every history `h` and every call `c`, the answer of `c` after `h`
agrees with the answer of `c` on the object before `h` (e.g. freshly built): `CallH.Agree` —
grounded: same T/F/u vector and the handles denote the same residual functions; complete: no
duplicates, same set of T/F/u vectors, same FIRST element; stable / prefilter / counting searches /
nogood search in both modes: no duplicates, same set; queries: equal numbers; extra formulas: same
functions; rejected requests: rejected on both sides. For a nogood search that hit its iteration
bound on either side nothing is claimed — `ng_halts_after_history` says that does not happen for
large bounds. -/
theorem answers_history_independent (st : AdfState) (hi : Inv st) (h : List Call) (c : Call)
    (hs : c.twoValued → Supp st) :
    Agree c (runCall (runCalls st h).1 c).1.s (answerAfter st h c) (runCall st c).1.s (runCall st c).2 :=
  history_independent st hi h c hs

theorem ng_halts_after_history (st : AdfState) (hi : Inv st) (h : List Call) (heu : SM.Heu) (stable : Bool)
    (hs : stable = false → Supp st) :
    ∃ F0, ∀ F, F0 ≤ F → answerAfter st h (.ng heu F stable) ≠ .fuelExhausted :=
  have ⟨hi', stp⟩ := runCalls_inv h st hi
  ng_halts _ hi' heu stable (fun e => supp_step hi stp (hs e))

/-- from the written framework: after ANY history on the freshly built object every answer is the
definitional answer for the WRITTEN conditions (`fms.map Fm.sem`) - for every call kind except queries
(`Exact … (.query _ _) = True`); queries: `query_answers_exact_after_history_from_formulas` -/
theorem answers_exact_after_history_from_formulas (fms : List Fm) (hn : fms.length ≤ VBOT)
    (hv : ∀ f ∈ fms, NConc.atomsLt fms.length f) (h : List Call) (c : Call) :
    Exact (fms.map Fm.sem) fms.length c (runCall (runCalls (freshAdf fms) h).1 c).1.s
      (answerAfter (freshAdf fms) h c) := by
  have ⟨hi, hd⟩ := fresh_inv fms hn hv
  have ⟨hi', stp⟩ := runCalls_inv h _ hi
  have e1 := runCall_exact _ c hi' (fun _ => supp_step hi stp (fresh_supp fms hn hv))
  rwa [stp.den_same hi, stp.n, hd] at e1


/-! ### queries: the numbers are those of the condition's FUNCTION

`CallH.ExactQuery D i q a`: the answer `a` to `query i q` is a list of numbers that, for EVERY truth table `tt`
over EVERY number `nv` of variables representing the function `D[i]` (`TT.Rep`; the function must look at the
variables below `nv` only, `TT.DetBy`), satisfies `CallH.QuerySpec nv tt q`:
models `[cm, m]` with `m · 2^nv = TT.sat nv tt · 2^(TT.depth nv tt)` and `cm · 2^nv = TT.unsat … · 2^depth` (the
counts over the diagram's own depth, C13 `counts_vs_truth_table`), paths `= TT.paths nv tt`, depth
`= TT.depth nv tt` (C13 `depth_vs_truth_table`, `paths_vs_truth_table`), dependencies: the same SET as
`TT.deps nv tt` (the list order / multiplicity of the model's `depsOf` is not claimed); an index out of range
is rejected. -/

/-- **a query answers the truth-table-level numbers of the condition's function** -/
theorem query_answers_exact (st : AdfState) (hi : Inv st) (i : Nat) (q : Query) :
    ExactQuery (st.ac.map (eval st.s)) i q (runCall st (.query i q)).2 := by
  rw [runCall_query]
  split
  · rename_i hlt
    refine ⟨by rwa [List.length_map], fun nv tt hrep hdet => ?_⟩
    rw [den_getD hlt] at hrep hdet
    exact runQuery_exact st.s hi.wf _ (ac_getD_valid hi hlt) nv tt hrep hdet q
  · rename_i hlt
    show ¬ i < (st.ac.map (eval st.s)).length
    rwa [List.length_map]

/-- a query after any history on the freshly built object: the numbers of the WRITTEN condition -/
theorem query_answers_exact_after_history_from_formulas (fms : List Fm) (hn : fms.length ≤ VBOT)
    (hv : ∀ f ∈ fms, NConc.atomsLt fms.length f) (h : List Call) (i : Nat) (q : Query) :
    ExactQuery (fms.map Fm.sem) i q (answerAfter (freshAdf fms) h (.query i q)) := by
  have ⟨hi, hd⟩ := fresh_inv fms hn hv
  have ⟨hi', stp⟩ := runCalls_inv h _ hi
  have e1 := query_answers_exact _ hi' i q
  rwa [stp.den_same hi, hd] at e1

theorem answers_exact_incl_queries (st : AdfState) (c : Call) (hi : Inv st) (hs : c.twoValued → Supp st) :
    Exact (st.ac.map (eval st.s)) st.n c (runCall st c).1.s (runCall st c).2 ∧
    ∀ i q, c = .query i q → ExactQuery (st.ac.map (eval st.s)) i q (runCall st c).2 :=
  ⟨runCall_exact st c hi hs, fun i q e => e ▸ query_answers_exact st hi i q⟩

/-- **`stable` and `stable_with_prefilter`: the LISTS are equal** - same vectors (of the handles 0 / 1), same
order - after any history and before it (in particular on the fresh object): the candidates are enumerated by
`TwoValuedInterpretationsIterator` over the decided part of the grounded vector and the test is a function of
the conditions' functions; neither looks at a diagram's shape -/
theorem stable_answers_equal_after_history (st : AdfState) (hi : Inv st) (h : List Call) :
    answerAfter st h .stable = (runCall st .stable).2 ∧ answerAfter st h .stablePre = (runCall st .stablePre).2 :=
  CallH.stable_answers_equal_after_history st hi h

/-- **`complete`: the decided parts are listed in the same order** after any history and before it (the
vectors themselves contain handles of residual functions at undecided positions, whose NUMBERS differ across
histories) -/
theorem complete_order_equal_after_history (st : AdfState) (hi : Inv st) (h : List Call) :
    ∃ vs vs', answerAfter st h .complete = .vecs vs ∧ (runCall st .complete).2 = .vecs vs' ∧ dec vs = dec vs' := by
  have ⟨hi', hn, hl, hd⟩ := after_history st hi h
  refine ⟨_, _, rfl, rfl, ?_⟩
  rw [hn]
  exact complete_order_independent _ _ st.n _ _ hi'.wf hi.wf hl hi.len hi'.ac hi.ac hd

open NConc NSem in
/-- **the nogood-learning search: same verdict on the bound, same decided parts in the same order** for two
different objects whose conditions denote the same functions - every built-in heuristic (Simple, both counting
heuristics, the scripted shape), both modes, every bound; no support hypothesis -/
theorem ng_order_history_independent (heu : SM.Heu) (s s' : Store) (n : Nat) (ac ac' : List Nat) (stable : Bool)
    (w : WF s) (w' : WF s') (hl : ac.length = n) (hl' : ac'.length = n)
    (hv : ∀ t ∈ ac, t < s.nodes.size) (hv' : ∀ t ∈ ac', t < s'.nodes.size)
    (hsame : ac.map (eval s) = ac'.map (eval s')) (fuel : Nat) :
    (SM.ngSearch heu fuel s n ac stable).2.2.2 = (SM.ngSearch heu fuel s' n ac' stable).2.2.2 ∧
    ((SM.ngSearch heu fuel s n ac stable).2.2.2 = true →
      (SM.ngSearch heu fuel s n ac stable).2.1.map (fun v => v.map storeIsConst) =
      (SM.ngSearch heu fuel s' n ac' stable).2.1.map (fun v => v.map storeIsConst)) := by
  rw [ngSearch_eq, ngSearch_eq]
  show (cState (SM.heuCall heu) s n ac stable fuel).done = (cState (SM.heuCall heu) s' n ac' stable fuel).done ∧
    ((cState (SM.heuCall heu) s n ac stable fuel).done = true →
      (cState (SM.heuCall heu) s n ac stable fuel).out.map toPA =
      (cState (SM.heuCall heu) s' n ac' stable fuel).out.map toPA)
  rcases Ord.joint_all heu s s' n ac ac' stable w w' hl hl' hv hv' hsame fuel with ⟨d, d', o⟩ | ⟨a, r, i, r', i', _⟩
  · exact ⟨by rw [d, d'], fun _ => o⟩
  · exact ⟨by rw [i.nd, i'.nd], fun hd => by rw [i.nd] at hd; cases hd⟩

/-- the nogood-learning search after any history and before it: both runs hit the bound, or both list the same
decided parts in the same order -/
theorem ng_order_equal_after_history (st : AdfState) (hi : Inv st) (h : List Call) (heu : SM.Heu) (fuel : Nat)
    (stable : Bool) :
    (answerAfter st h (.ng heu fuel stable) = .fuelExhausted ∧ (runCall st (.ng heu fuel stable)).2 = .fuelExhausted) ∨
    ∃ vs tr vs' tr', answerAfter st h (.ng heu fuel stable) = .ng vs tr ∧
      (runCall st (.ng heu fuel stable)).2 = .ng vs' tr' ∧ dec vs = dec vs' := by
  have ⟨hi', hn, hl, hd⟩ := after_history st hi h
  have ⟨k1, k2⟩ := ng_order_history_independent heu _ st.s st.n _ st.ac stable hi'.wf hi.wf hl hi.len hi'.ac hi.ac hd fuel
  rw [answerAfter, runCall_ng, runCall_ng, hn, k1]
  cases hdn : (SM.ngSearch heu fuel st.s st.n st.ac stable).2.2.2 with
  | false => exact Or.inl ⟨rfl, rfl⟩
  | true => exact Or.inr ⟨_, _, _, _, rfl, rfl, k2 (k1.trans hdn)⟩

/-- `stable` / `stable_with_prefilter` on two different objects whose conditions denote the same functions: equal
lists -/
theorem stable_order_history_independent (s s' : Store) (n : Nat) (ac ac' : List Nat) (w : WF s) (w' : WF s')
    (hl : ac.length = n) (hl' : ac'.length = n)
    (hv : ∀ t ∈ ac, t < s.nodes.size) (hv' : ∀ t ∈ ac', t < s'.nodes.size)
    (hsame : ac.map (eval s) = ac'.map (eval s')) :
    (stableAll s n ac).2 = (stableAll s' n ac').2 ∧ (Cli.stablePre s n ac).2 = (Cli.stablePre s' n ac').2 :=
  stable_order_independent s s' n ac ac' w w' hl hl' hv hv' hsame

/-- the decided parts an answer lists, in order (`none`: not an enumeration / iteration bound hit) -/
def decAns : Answer → Option (List I3)
  | .vec v => some [v.map storeIsConst]
  | .vecs vs => some (dec vs)
  | .ng vs _ => some (dec vs)
  | _ => none

/-- order across histories: for every enumeration call the decided parts are listed in the same
order after any history as before it (whenever neither side hit the iteration bound) -/
def order_across_histories_statement : Prop :=
  ∀ (st : AdfState), Inv st → ∀ (h : List Call) (c : Call), (c.twoValued → Supp st) →
    ∀ l l', decAns (answerAfter st h c) = some l → decAns (runCall st c).2 = some l' → l = l'

/-- **the canonical cube list**: on two well-formed node tables, handles that denote the same Boolean function have
the same list of path cubes `Bdd::interpretations` (`cubesF`, as the counting search calls it) - same literals, same
order, for every goal value, goal variable and accumulator.  (Canonicity across tables: same function ⇒ both
constants and equal, or inner nodes with the same variable and children denoting the same functions,
`CubesCanon.iso_step`.) -/
theorem canonical_cube_list (s s' : Store) (w : WF s) (w' : WF s') (t t' : Nat) (ht : t < s.nodes.size)
    (ht' : t' < s'.nodes.size) (e : eval s t = eval s' t') (goal : Bool) (gv : Nat) (neg pos : List Nat) :
    cubesF s (t + 1) t goal gv neg pos = cubesF s' (t' + 1) t' goal gv neg pos :=
  CubesCanon.cubesF_den s s' w w' t t' ht ht' e goal gv neg pos

/-- **the two counting searches: same decided parts in the same order** for two different objects whose conditions
denote the same functions (different node tables, different handle numbers) -/
theorem count_order_history_independent (s s' : Store) (n : Nat) (ac ac' : List Nat) (useA : Bool)
    (w : WF s) (w' : WF s') (hl : ac.length = n) (hl' : ac'.length = n)
    (hv : ∀ t ∈ ac, t < s.nodes.size) (hv' : ∀ t ∈ ac', t < s'.nodes.size)
    (hsame : ac.map (eval s) = ac'.map (eval s')) :
    dec (countAll s n ac useA).2 = dec (countAll s' n ac' useA).2 :=
  CI.Rel.countAll_order s s' n ac ac' useA w w' hl hl' hv hv' hsame

/-- the same order already for the candidate lists BEFORE the stability filter (`two_val_model_counts_logic` proper) -/
theorem count_candidates_order_history_independent (s s' : Store) (n : Nat) (ac ac' : List Nat) (useA : Bool)
    (w : WF s) (w' : WF s') (hl : ac.length = n) (hl' : ac'.length = n)
    (hv : ∀ t ∈ ac, t < s.nodes.size) (hv' : ∀ t ∈ ac', t < s'.nodes.size)
    (hsame : ac.map (eval s) = ac'.map (eval s')) :
    dec (countLogic ac useA (n + 1) (groundedLoop StoreRA (n + 1) s ac).1 (groundedLoop StoreRA (n + 1) s ac).2
      (List.replicate n 2)).2 =
    dec (countLogic ac' useA (n + 1) (groundedLoop StoreRA (n + 1) s' ac').1 (groundedLoop StoreRA (n + 1) s' ac').2
      (List.replicate n 2)).2 :=
  CI.Rel.countLogic_order s s' n ac ac' useA w w' hl hl' hv hv' hsame

/-- **`stable_count_optimisation_heu_a/b`: the decided parts are listed in the same order** after any history and
before it (the branching statement is chosen by path counts and dependency sets, the cube list of the chosen
residual diagram is canonical - `CubesCanon.cubesF_den`) -/
theorem count_order_equal_after_history (st : AdfState) (hi : Inv st) (h : List Call) (useA : Bool) :
    ∃ vs vs', answerAfter st h (.count useA) = .vecs vs ∧ (runCall st (.count useA)).2 = .vecs vs' ∧
      dec vs = dec vs' := by
  have ⟨hi', hn, hl, hd⟩ := CallH.after_history st hi h
  refine ⟨_, _, rfl, rfl, ?_⟩
  rw [hn]
  exact CI.Rel.countAll_order _ _ st.n _ _ useA hi'.wf hi.wf hl hi.len hi'.ac hi.ac hd

/-- **order across histories, every call kind** (no support hypothesis needed): `grounded`, `complete`, `stable`,
`stable_with_prefilter` (their enumeration order is that of the iterator over the decided part of the grounded
vector, the filters are semantic: `CompleteExact.threeValAll_dec`, `StableExact.twoValAll_eq`), the nogood-learning search `ng`
(both runs are lock-step simulations of the SAME run of the semantic machine: `ng_order_history_independent`), the two
counting searches `count` (lock step of the two runs of `GK.search` for "same denotations", canonical cube lists:
`CI.Rel.countAll_order`); queries and extra formulas are not enumerations (`decAns … = none`). -/
theorem order_across_histories_all (st : AdfState) (hi : Inv st) (h : List Call) (c : Call) :
    ∀ l l', decAns (answerAfter st h c) = some l → decAns (runCall st c).2 = some l' → l = l' := by
  intro l l' h1 h2
  cases c with
  | grounded =>
    have e := (history_independent st hi h .grounded (fun x => x.elim)).1
    cases h1; cases h2
    exact congrArg (fun d => [d]) e
  | complete =>
    obtain ⟨vs, vs', e1, e2, e3⟩ := complete_order_equal_after_history st hi h
    rw [e1] at h1; rw [e2] at h2
    cases h1; cases h2
    exact e3
  | stable =>
    rw [(CallH.stable_answers_equal_after_history st hi h).1, h2] at h1
    exact (Option.some.inj h1).symm
  | stablePre =>
    rw [(CallH.stable_answers_equal_after_history st hi h).2, h2] at h1
    exact (Option.some.inj h1).symm
  | count useA =>
    obtain ⟨vs, vs', e1, e2, e3⟩ := count_order_equal_after_history st hi h useA
    rw [e1] at h1; rw [e2] at h2
    cases h1; cases h2
    exact e3
  | ng heu fuel stable =>
    rcases ng_order_equal_after_history st hi h heu fuel stable with ⟨e1, _⟩ | ⟨vs, tr, vs', tr', e1, e2, e3⟩
    · rw [e1] at h1; cases h1
    · rw [e1] at h1; rw [e2] at h2
      cases h1; cases h2
      exact e3
  | query i q =>
    rw [runCall_query] at h2
    split at h2 <;> cases h2
  | ops ol =>
    rw [runCall_ops] at h2
    split at h2 <;> cases h2

theorem order_across_histories : order_across_histories_statement :=
  fun st hi h c _ => order_across_histories_all st hi h c

theorem order_across_histories_partial (st : AdfState) (hi : Inv st) (h : List Call) (c : Call)
    (_hc : c = .grounded ∨ c = .complete ∨ c = .stable ∨ c = .stablePre ∨ ∃ heu fuel stable, c = .ng heu fuel stable) :
    ∀ l l', decAns (answerAfter st h c) = some l → decAns (runCall st c).2 = some l' → l = l' :=
  order_across_histories_all st hi h c

/-- **the ONLY answer that can differ after export + import is the memoised model count under the exception
configuration** (`adhoccounting` without `adhoccountmodels` - the DEFAULT feature set).  `AdfState` is the
feature-free `Store`: the calls of `Call` (among them the NAIVE counts, `query … .models`) are unaffected by a
re-import (`answers_reimport_midway`), but only because the memoised variant `bdd.models(t, true)` - which reads
`count_cache` - is not among them.  In the configured store `FStore` of C12 it is: on a store built by
operations it answers `(0, 0)` for every inner node before the export (`C12.models_exception`), and the exact
counts after `import` + `fix_import` (`C12.answers_after_import`) - so the two answers DIFFER.  Every other
query (`paths`, `max_depth`, `var_dependencies`, naive and - outside the exception - memoised `models`) answers
as the feature-free reference on both sides (`C12.answers_after_import`, `C12.semantics_feature_independent`). -/
theorem memoised_count_is_the_reimport_exception (c : Cfg) (hv : c.valid) (he : c.exc = true) (fs : FStore)
    (inv : FInv c true fs) (t : Nat) (ht2 : 2 ≤ t) (ht : t < fs.base.nodes.size) :
    let fs' := fixImportC c (importC fs.base.nodes fs.base.uniq)
    (modelsC c fs t true).1 = (0, 0) ∧
    (modelsC c fs' t true).1 = ((countF fs.base (t+1) t).1, (countF fs.base (t+1) t).2.1) ∧
    (modelsC c fs' t true).1 ≠ (modelsC c fs t true).1 := by
  intro fs'
  have ⟨a, b⟩ := C12.models_exception c fs inv he t ht2 ht
  have h := C12.answers_after_import c hv fs.base.nodes fs.base.uniq inv.wf.dropMemo [t] (by intro x hx; simp at hx; subst hx; exact ht)
    [] trivial
  simp only at h
  have h5 := (h.2.2.2 t (by simp [runOps]) true).2.2.2.2.1 he ht2 ht
  have hcnt : countF (⟨fs.base.nodes, fs.base.uniq, ∅, ∅⟩ : Store) (t+1) t = countF fs.base (t+1) t :=
    countF_congr (s := fs.base) (s' := ⟨fs.base.nodes, fs.base.uniq, ∅, ∅⟩) rfl (t+1) t
  have h5' : (modelsC c fs' t true).1 = ((countF fs.base (t+1) t).1, (countF fs.base (t+1) t).2.1) := by
    rw [← hcnt]; exact h5
  refine ⟨a, h5', ?_⟩
  rw [h5']
  exact fun e => b e.symm

/-- **"with the same seed for Rand, repeating the same call sequence reproduces the same answers in the same
order"**, over an abstract deterministic generator `G : seed → index of the draw → raw output` (the way
`SM.Heu.script` uses splitmix): the object carries the seed and the number of draws made (`CallH.RState`),
`RCall` = every call of `Call`, `seed k`, and the Rand search in both modes (`heu_rand`: two draws per call).
Two objects that agree on node table, `n`, `ac`, issued handles - memo contents arbitrary -, seed and draw
counter answer EVERY call sequence identically (lists, order, handle numbers, traces).  `StdRng` (ChaCha12) is
NOT modelled; without a call of `seed` the Rust generator comes from entropy and nothing is claimed. -/
def same_seed_statement : Prop :=
  ∀ (G : Nat → Nat → Nat) (h : List RCall) (r r' : RState), Inv r.st → REq r r' →
    (runRCalls G r' h).2 = (runRCalls G r h).2 ∧ REq (runRCalls G r h).1 (runRCalls G r' h).1

theorem same_seed_same_answers : same_seed_statement := CallH.same_seed_same_answers

/-- whatever the generator produces, a Rand search that halts answers exactly the stable / two-valued
models, each once (`HeuOK` holds of `randHeu G seed ctr` for every `G`) -/
theorem rand_search_exact (G : Nat → Nat → Nat) (seed ctr : Nat) (st : AdfState) (hi : Inv st) (stable : Bool)
    (hs : stable = false → Supp st) :
    ∃ fuel, (NConc.cSearch (randHeu G seed ctr) fuel st.s st.n st.ac stable).2.2.2 = true ∧
      (dec (NConc.cSearch (randHeu G seed ctr) fuel st.s st.n st.ac stable).2.1).Nodup ∧
      ∀ v : I3, v ∈ dec (NConc.cSearch (randHeu G seed ctr) fuel st.s st.n st.ac stable).2.1 ↔
        ModelSpec (st.ac.map (eval st.s)) st.n stable v :=
  NConc.search_exact_any_heuristic (randHeu G seed ctr) (randHeu_ok G seed ctr) st.s st.n st.ac stable hi.wf hi.len
    hi.ac hs

/-! ### determinism: what a pure model can say and what it cannot

(a) "The same call sequence on two objects built the same way yields the same answers in the same
order, the same node tables and handles": for the MODEL this is congruence of the function
`runCalls` (`same_calls_same_answers` below) and carries no information — a Lean function cannot be
nondeterministic. What it rules in is only that the model has no hidden input: no clock, no
address, no generator state (`Heuristic::Rand` is excluded from `Call`; with the generator state as an explicit
input it is `same_seed_same_answers` above).

(b) What could make the REAL object nondeterministic or history dependent in its emission order is
state that is not part of the mathematical answer: the CONTENTS of the memo tables (which depend on
everything computed before) and the iteration order of hash maps. The first is covered by a
theorem: `answers_memo_independent` — for EVERY call kind (both searches included) the answers
INCLUDING THEIR ORDER, issued handle numbers and the node table afterwards are the same on two
objects that differ arbitrarily in the contents of `ite_cache` / `restrict_cache` (built on
`handles_memo_independent` / `restrictS_lock`); hence emission order is a function of the node
table, `n`, `ac` (`answers_depend_on_node_table`), and dropping the memo tables or exporting and
re-importing the object at any point of a history changes no later answer
(`answers_memo_dropped_midway`, `answers_reimport_midway`). The second is OUTSIDE the
model: the model never iterates a hash map (the unique table and the memo tables are only ever
looked up by key), exactly as `obdd.rs` / `adf.rs` never iterate `HashMap`s when computing answers;
that the Rust code indeed does not is a fact about the source that only the correspondence run
(handle-for-handle comparison of the driver with the real object on every explored history)
witnesses. -/

/-- (a) congruence — trivially true of any function; stated for the record only -/
theorem same_calls_same_answers (st st' : AdfState) (h h' : List Call) (e1 : st = st') (e2 : h = h') :
    runCalls st h = runCalls st' h' := by rw [e1, e2]

def answers_memo_independent_statement : Prop := CallH.memo_independent_statement

/-- (b) **one call, every call kind**. On two objects equal up to memo CONTENTS (`MemoEq`: both stores well
formed, same node table, same `n`, `ac`, issued handles) the answers are EQUAL — same vectors, same
ORDER, same handle numbers, for the nogood search also the same interpretations shown to the
heuristic and the same verdict on the iteration bound — and the objects are again equal up to memo
contents (same node table). No halting or support hypothesis is needed. -/
theorem answers_memo_independent_call : answers_memo_independent_statement := CallH.memo_independent

/-- (b) **any history**: the answer lists are equal and the final objects equal up to memo contents -/
theorem answers_memo_independent (h : List Call) (st st' : AdfState) (hi : Inv st) (hm : MemoEq st st') :
    (runCalls st' h).2 = (runCalls st h).2 ∧ MemoEq (runCalls st h).1 (runCalls st' h).1 :=
  runCalls_memo_independent h st st' hi hm

/-- emission order (and every other part of the answers, the node table and the issued handles
afterwards) is a function of the node table, `n`, `ac` and the issued handles only: two objects
satisfying the invariant that agree on these answer every history identically -/
theorem answers_depend_on_node_table (h : List Call) (st st' : AdfState) (hi : Inv st) (hi' : Inv st')
    (hnodes : st'.s.nodes = st.s.nodes) (hn : st'.n = st.n) (hac : st'.ac = st.ac) (his : st'.issued = st.issued) :
    (runCalls st' h).2 = (runCalls st h).2 ∧ (runCalls st' h).1.s.nodes = (runCalls st h).1.s.nodes ∧
    (runCalls st' h).1.issued = (runCalls st h).1.issued :=
  CallH.answers_depend_on_node_table h st st' hi hi' hnodes hn hac his

/-- in particular against the memo-dropped copy of any object -/
theorem answers_memo_dropped (h : List Call) (st : AdfState) (hi : Inv st) :
    (runCalls (dropMemo st) h).2 = (runCalls st h).2 ∧
    (runCalls (dropMemo st) h).1.s.nodes = (runCalls st h).1.s.nodes := by
  have ⟨a, m⟩ := runCalls_memo_independent h st _ hi (memoEq_drop st hi)
  exact ⟨a, m.lk.nodes⟩

/-- dropping the memo tables after ANY history `h1` changes no answer of ANY continuation `h2`
(nor its order, nor the node table built) -/
theorem answers_memo_dropped_midway (st : AdfState) (hi : Inv st) (h1 h2 : List Call) :
    (runCalls (dropMemo (runCalls st h1).1) h2).2 = (runCalls (runCalls st h1).1 h2).2 ∧
    (runCalls (dropMemo (runCalls st h1).1) h2).1.s.nodes = (runCalls (runCalls st h1).1 h2).1.s.nodes :=
  answers_memo_dropped h2 _ (runCalls_inv h1 st hi).1

/-- `serde` export and import of the `Bdd` (`Persist.exportB` / `importB` of C14: node table and unique table
survive, memo tables skipped) after ANY history `h1` changes no answer of ANY continuation `h2` either.
CAVEAT: this is about the calls of `Call`; `count_cache` / `var_deps` are not part of `AdfState`, and the one
call that reads `count_cache` - memoised `models` - DOES change its answer under the default features
(`memoised_count_is_the_reimport_exception`) -/
theorem answers_reimport_midway (st : AdfState) (hi : Inv st) (h1 h2 : List Call) :
    (runCalls (reimport (runCalls st h1).1) h2).2 = (runCalls (runCalls st h1).1 h2).2 ∧
    (runCalls (reimport (runCalls st h1).1) h2).1.s.nodes = (runCalls (runCalls st h1).1 h2).1.s.nodes := by
  have hi1 := (runCalls_inv h1 st hi).1
  have ⟨a, m⟩ := runCalls_memo_independent h2 _ _ hi1 (memoEq_reimport _ hi1)
  exact ⟨a, m.lk.nodes⟩

theorem answers_memo_independent_partial (h : List Call) (st st' : AdfState) (hi : Inv st) (hm : MemoEq st st')
    (_hc : ∀ c ∈ h, ¬ c.isSearch) :
    (runCalls st' h).2 = (runCalls st h).2 ∧ MemoEq (runCalls st h).1 (runCalls st' h).1 :=
  answers_memo_independent h st st' hi hm

theorem answers_memo_dropped_partial (h : List Call) (st : AdfState) (hi : Inv st) (_hc : ∀ c ∈ h, ¬ c.isSearch) :
    (runCalls (dropMemo st) h).2 = (runCalls st h).2 ∧
    (runCalls (dropMemo st) h).1.s.nodes = (runCalls st h).1.s.nodes :=
  answers_memo_dropped h st hi

/-! ### non-vacuity: a ← ¬b, b ← ¬a (two statements), non-trivial histories

Stores do not kernel-reduce (`Std.HashMap`), so the theorems are instantiated; the `#guard`s
show by evaluation what the instantiated statements speak about. -/

def exFms : List Fm := [.not (.atom 1), .not (.atom 0)]
def exHist : List Call := [.complete, .ops [.xor 2 3, .not 4], .count true, .grounded, .query 1 .models]

theorem exFms_ok : exFms.length ≤ VBOT ∧ ∀ f ∈ exFms, NConc.atomsLt exFms.length f := by
  refine ⟨by simp [exFms, VBOT], ?_⟩
  intro f hf
  simp only [exFms, List.mem_cons, List.mem_nil_iff, or_false] at hf
  rcases hf with h | h <;> subst h <;> simp [NConc.atomsLt, exFms]

theorem exInv : Inv (freshAdf exFms) :=
  (fresh_inv exFms exFms_ok.1 exFms_ok.2).1

/-- the invariant theorem applies to the history -/
example : Inv (runCalls (freshAdf exFms) exHist).1 ∧ (runCalls (freshAdf exFms) exHist).1.ac = (freshAdf exFms).ac :=
  ⟨(history_invariant _ exInv exHist).1, (history_invariant _ exInv exHist).2.1⟩

/-- the stable models after the history are those of the fresh object, also via the two-valued nogood search
(side condition discharged by `fresh_supp`) -/
example : Agree .stable (runCall (runCalls (freshAdf exFms) exHist).1 .stable).1.s
    (answerAfter (freshAdf exFms) exHist .stable) (runCall (freshAdf exFms) .stable).1.s
    (runCall (freshAdf exFms) .stable).2 :=
  answers_history_independent _ exInv exHist .stable (fun h => h.elim)

example : Agree (.ng .minPathsMaxVarImp 1000 false)
    (runCall (runCalls (freshAdf exFms) exHist).1 (.ng .minPathsMaxVarImp 1000 false)).1.s
    (answerAfter (freshAdf exFms) exHist (.ng .minPathsMaxVarImp 1000 false))
    (runCall (freshAdf exFms) (.ng .minPathsMaxVarImp 1000 false)).1.s
    (runCall (freshAdf exFms) (.ng .minPathsMaxVarImp 1000 false)).2 :=
  answers_history_independent _ exInv exHist _ (fun _ => fresh_supp exFms exFms_ok.1 exFms_ok.2)

/-- a history with both counting searches and the nogood search in both modes (built-in and
scripted custom heuristic) -/
def exHistS : List Call :=
  [.complete, .count true, .ng .minPathsMaxVarImp 1000 true, .ops [.xor 2 3, .not 4], .count false,
   .ng (.script 7) 1000 false, .stablePre, .grounded, .ng .simple 3 true]

/-- the memo-dropped copy answers the history WITH the searches identically, order included -/
example : (runCalls (dropMemo (freshAdf exFms)) exHistS).2 = (runCalls (freshAdf exFms) exHistS).2 :=
  (answers_memo_dropped exHistS _ exInv).1

/-- also when the tables are dropped, or the object exported and re-imported, in the middle -/
example : (runCalls (dropMemo (runCalls (freshAdf exFms) exHist).1) exHistS).2 =
    (runCalls (runCalls (freshAdf exFms) exHist).1 exHistS).2 :=
  (answers_memo_dropped_midway _ exInv exHist exHistS).1

example : (runCalls (reimport (runCalls (freshAdf exFms) exHist).1) exHistS).2 =
    (runCalls (runCalls (freshAdf exFms) exHist).1 exHistS).2 :=
  (answers_reimport_midway _ exInv exHist exHistS).1

/-- `MemoEq` is satisfiable with genuinely different memo contents: the object after a
history against its memo-dropped copy -/
example : MemoEq (runCalls (freshAdf exFms) exHist).1 (dropMemo (runCalls (freshAdf exFms) exHist).1) :=
  memoEq_drop _ (history_invariant _ exInv exHist).1


/-- a query after the history, through the theorem: the condition of statement 0 is `¬b`; its truth table
over the two statements is `TT.ofFn 2 …` (`TT.rep_ofFn`), the function looks at the statements only
(`sem_detBy`), hence the depth answered after `exHist` is `TT.depth` of that table = 1, the paths are (1, 1), and
the model counts `[cm, m]` satisfy `m · 4 = 2 · 2` and `cm · 4 = 2 · 2` -/
example : answerAfter (freshAdf exFms) exHist (.query 0 .depth) = .nums [1] ∧
    answerAfter (freshAdf exFms) exHist (.query 0 .paths) = .nums [1, 1] ∧
    ∃ cm m, answerAfter (freshAdf exFms) exHist (.query 0 .models) = .nums [cm, m] ∧ m * 4 = 2 * 2 ∧ cm * 4 = 2 * 2 := by
  have key : ∀ q, ∃ l, answerAfter (freshAdf exFms) exHist (.query 0 q) = .nums l ∧
      QuerySpec 2 (TT.ofFn 2 (fun a => ((exFms.map Fm.sem).getD 0 (fun _ => false)) (TT.bitsAsg a))) q l := by
    intro q
    have h := query_answers_exact_after_history_from_formulas exFms exFms_ok.1 exFms_ok.2 exHist 0 q
    cases ha : answerAfter (freshAdf exFms) exHist (.query 0 q) with
    | nums l =>
      rw [ha] at h
      exact ⟨l, rfl, h.2 2 _ (TT.rep_ofFn 2 _) (sem_detBy exFms exFms_ok.2 0)⟩
    | rejected => rw [ha] at h; exact absurd (by decide) h
    | _ => rw [ha] at h; exact h.elim
  have hd : TT.depth 2 (TT.ofFn 2 (fun a => ((exFms.map Fm.sem).getD 0 (fun _ => false)) (TT.bitsAsg a))) = 1 := by decide
  have hp : TT.paths 2 (TT.ofFn 2 (fun a => ((exFms.map Fm.sem).getD 0 (fun _ => false)) (TT.bitsAsg a))) = (1, 1) := by decide
  have hs : TT.sat 2 (TT.ofFn 2 (fun a => ((exFms.map Fm.sem).getD 0 (fun _ => false)) (TT.bitsAsg a))) = 2 := by decide
  have hu : TT.unsat 2 (TT.ofFn 2 (fun a => ((exFms.map Fm.sem).getD 0 (fun _ => false)) (TT.bitsAsg a))) = 2 := by decide
  refine ⟨?_, ?_, ?_⟩
  · obtain ⟨l, e, sp⟩ := key .depth
    simp only [QuerySpec, hd] at sp
    rw [e, sp]
  · obtain ⟨l, e, sp⟩ := key .paths
    simp only [QuerySpec, hp] at sp
    rw [e, sp]
  · obtain ⟨l, e, cm, m, el, h1, h2⟩ := key .models
    rw [hd, hs] at h1
    rw [hd, hu] at h2
    exact ⟨cm, m, by rw [e, el], h1, h2⟩

/-- order: the `stable` answer after the history EQUALS the fresh one as a list (theorem, not evaluation) -/
example : answerAfter (freshAdf exFms) exHist .stable = (runCall (freshAdf exFms) .stable).2 :=
  (stable_answers_equal_after_history _ exInv exHist).1

/-- the nogood search in two-valued mode under a counting heuristic lists its models in the fresh order
after the history (theorem) -/
example : (answerAfter (freshAdf exFms) exHist (.ng .minPathsMaxVarImp 1000 false) = .fuelExhausted ∧
      (runCall (freshAdf exFms) (.ng .minPathsMaxVarImp 1000 false)).2 = .fuelExhausted) ∨
    ∃ vs tr vs' tr', answerAfter (freshAdf exFms) exHist (.ng .minPathsMaxVarImp 1000 false) = .ng vs tr ∧
      (runCall (freshAdf exFms) (.ng .minPathsMaxVarImp 1000 false)).2 = .ng vs' tr' ∧ dec vs = dec vs' :=
  ng_order_equal_after_history _ exInv exHist _ _ _

/-- `complete` lists the same decided parts in the same order after the history (theorem) -/
example : ∃ vs vs', answerAfter (freshAdf exFms) exHist .complete = .vecs vs ∧
    (runCall (freshAdf exFms) .complete).2 = .vecs vs' ∧ dec vs = dec vs' :=
  complete_order_equal_after_history _ exInv exHist

/-- the re-import exception on the store of `x0, x1, x0 ⊕ x1` under the DEFAULT features: for every issued inner
handle the memoised model count is (0, 0) before the export, exact after import + `fix_import`, hence different -/
example : ∀ t ∈ (runOps [.var 0, .var 1, .xor 2 3] Store.init [0, 1]).2, 2 ≤ t →
    let fs := (runOpsC Cfg.default [.var 0, .var 1, .xor 2 3] (newC Cfg.default) [0, 1]).1
    (modelsC Cfg.default fs t true).1 = (0, 0) ∧
    (modelsC Cfg.default (fixImportC Cfg.default (importC fs.base.nodes fs.base.uniq)) t true).1 ≠ (0, 0) := by
  intro t ht h2 fs
  have hv : opsValid [.var 0, .var 1, .xor 2 3] 2 :=
    ⟨by simp [Op.valid, VBOT], by simp [Op.valid, VBOT], by simp [Op.valid], trivial⟩
  have ⟨_, b, i⟩ := C12.node_tables_feature_independent Cfg.default [.var 0, .var 1, .xor 2 3] hv
  have ⟨_, _, h3⟩ := runOps_refines [.var 0, .var 1, .xor 2 3] Store.init [0, 1] _ WF_init HistOK.init hv
  have hlt : t < fs.base.nodes.size := by
    show t < (runOpsC Cfg.default [.var 0, .var 1, .xor 2 3] (newC Cfg.default) [0, 1]).1.base.nodes.size
    rw [b]; exact h3.valid t ht
  have ⟨a, _, c⟩ := memoised_count_is_the_reimport_exception Cfg.default (by intro h; cases h) rfl fs i t h2 hlt
  exact ⟨a, by rw [← a]; exact c⟩
#guard (runOps [.var 0, .var 1, .xor 2 3] Store.init [0, 1]).2 == [0, 1, 2, 3, 5]

/-- same seed: the object after a history and its memo-dropped copy, both seeded with 42, answer a sequence with
two Rand searches, a re-seed and other calls identically - for every generator `G` -/
example (G : Nat → Nat → Nat) :
    let calls : List RCall := [.rand 1000 true, .plain .complete, .rand 1000 false, .seed 7, .rand 1000 true]
    (runRCalls G ⟨dropMemo (runCalls (freshAdf exFms) exHist).1, 42, 0⟩ calls).2 =
    (runRCalls G ⟨(runCalls (freshAdf exFms) exHist).1, 42, 0⟩ calls).2 :=
  (same_seed_same_answers G _ ⟨(runCalls (freshAdf exFms) exHist).1, 42, 0⟩
    ⟨dropMemo (runCalls (freshAdf exFms) exHist).1, 42, 0⟩ (history_invariant _ exInv exHist).1
    ⟨memoEq_drop _ (history_invariant _ exInv exHist).1, rfl, rfl⟩).1

/-- five statements, a history that allocates 17 nodes: on every enumeration call the decided parts are listed
in the same ORDER after the history as on the fresh object (by evaluation here; as a theorem: `ordExample` below) -/
def ordFms : List Fm := [.not (.atom 1), .not (.atom 0), .not (.atom 3), .not (.atom 2), .xor (.atom 0) (.and (.atom 2) (.atom 4))]
def ordHist : List Call := [.ops [.xor 2 4, .and 6 5, .or 7 6, .iff 3 5, .restrict 8 1 true, .var 1, .var 3, .and 12 13],
  .complete, .ng (.script 3) 1000 false, .query 2 .models]
def ordCalls : List Call := [.grounded, .complete, .stable, .stablePre, .count true, .count false, .ng .simple 1000 true,
  .ng .minPathsMaxVarImp 1000 true, .ng .maxVarImpMinPaths 1000 false, .ng (.script 5) 1000 true, .ng (.script 5) 1000 false]
#guard ordCalls.all fun c => decAns (answerAfter (freshAdf ordFms) ordHist c) == decAns (runCall (freshAdf ordFms) c).2
#guard (runCalls (freshAdf ordFms) ordHist).1.s.nodes.size - (freshAdf ordFms).s.nodes.size == 17

theorem ordFms_ok : ordFms.length ≤ VBOT ∧ ∀ f ∈ ordFms, NConc.atomsLt ordFms.length f := by
  refine ⟨by simp [ordFms, VBOT], ?_⟩
  intro f hf
  simp only [ordFms, List.mem_cons, List.mem_nil_iff, or_false] at hf
  rcases hf with h | h | h | h | h <;> subst h <;> simp [NConc.atomsLt, ordFms]

theorem ordInv : Inv (freshAdf ordFms) :=
  (fresh_inv ordFms ordFms_ok.1 ordFms_ok.2).1

/-- non-vacuity of `order_across_histories` / `count_order_equal_after_history`: the five-statement object and the
history above (17 new nodes, so the node tables differ) satisfy the hypotheses; both counting searches list the same
decided parts in the same order after the history (theorem, not evaluation; the `#guard`s show the lists are not
empty and that the residual diagrams branched on are inner nodes) -/
theorem ordExample (useA : Bool) : ∃ vs vs', answerAfter (freshAdf ordFms) ordHist (.count useA) = .vecs vs ∧
    (runCall (freshAdf ordFms) (.count useA)).2 = .vecs vs' ∧ dec vs = dec vs' :=
  count_order_equal_after_history _ ordInv ordHist useA
example (c : Call) (l l' : List I3) (h1 : decAns (answerAfter (freshAdf ordFms) ordHist c) = some l)
    (h2 : decAns (runCall (freshAdf ordFms) c).2 = some l') : l = l' :=
  order_across_histories _ ordInv ordHist c (fun _ => fresh_supp ordFms ordFms_ok.1 ordFms_ok.2) l l' h1 h2


/-- two DIFFERENT objects: the same framework as `ordFms` written differently (`ordFms2`: other connectives, another
operand order) is built into a different node table (17 vs 15 nodes, the last condition has another handle number);
both counting searches list the same decided parts in the same order on the two objects (theorem) -/
def ordFms2 : List Fm := [.imp (.atom 1) .bot, .not (.atom 0), .xor (.atom 3) .top, .not (.atom 2),
  .or (.and (.atom 0) (.not (.and (.atom 4) (.atom 2)))) (.and (.not (.atom 0)) (.and (.atom 2) (.atom 4)))]
theorem ordFms2_ok : ordFms2.length ≤ VBOT ∧ ∀ f ∈ ordFms2, NConc.atomsLt ordFms2.length f := by
  refine ⟨by simp [ordFms2, VBOT], ?_⟩
  intro f hf
  simp only [ordFms2, List.mem_cons, List.mem_nil_iff, or_false] at hf
  rcases hf with h | h | h | h | h <;> subst h <;> simp [NConc.atomsLt, ordFms2]
theorem ordSem : ordFms.map Fm.sem = ordFms2.map Fm.sem := by
  have e0 : Fm.sem (.not (.atom 1)) = Fm.sem (.imp (.atom 1) .bot) := by funext σ; simp [Fm.sem]
  have e2 : Fm.sem (.not (.atom 3)) = Fm.sem (.xor (.atom 3) .top) := by funext σ; simp [Fm.sem]
  have e4 : Fm.sem (.xor (.atom 0) (.and (.atom 2) (.atom 4))) = Fm.sem (.or (.and (.atom 0) (.not (.and (.atom 4) (.atom 2))))
      (.and (.not (.atom 0)) (.and (.atom 2) (.atom 4)))) := by
    funext σ; simp only [Fm.sem]; cases σ 0 <;> cases σ 2 <;> cases σ 4 <;> rfl
  simp only [ordFms, ordFms2, List.map_cons, List.map_nil, e0, e2, e4]
theorem ordExample2 (useA : Bool) :
    dec (countAll (freshAdf ordFms).s 5 (freshAdf ordFms).ac useA).2 =
    dec (countAll (freshAdf ordFms2).s 5 (freshAdf ordFms2).ac useA).2 := by
  have a := fresh_inv ordFms ordFms_ok.1 ordFms_ok.2
  have b := fresh_inv ordFms2 ordFms2_ok.1 ordFms2_ok.2
  exact count_order_history_independent _ _ 5 _ _ useA a.1.wf b.1.wf a.1.len b.1.len a.1.ac b.1.ac
    (by rw [a.2, b.2, ordSem])
#guard (freshAdf ordFms2).ac != (freshAdf ordFms).ac
#guard (freshAdf ordFms2).s.nodes.size == 17 && (freshAdf ordFms).s.nodes.size == 15
#guard (match (runCall (freshAdf ordFms) (.count true)).2 with | .vecs vs => vs.length == 3 | _ => false)
#guard (match answerAfter (freshAdf ordFms) ordHist (.count false) with | .vecs vs => vs.length == 3 | _ => false)
#guard cubesOf (freshAdf ordFms).s ((freshAdf ordFms).ac.getD 4 0) true 7 == cubesOf (freshAdf ordFms2).s ((freshAdf ordFms2).ac.getD 4 0) true 7
-- the canonical cube list on the two tables: the condition of statement 4 (x0 ⊕ (x2 ∧ x4)) has the same three
-- model cubes in the fresh table and in the table after the history (handles as issued there)
#guard cubesOf (freshAdf ordFms).s ((freshAdf ordFms).ac.getD 4 0) true 7 ==
  cubesOf (runCalls (freshAdf ordFms) ordHist).1.s ((runCalls (freshAdf ordFms) ordHist).1.ac.getD 4 0) true 7
#guard (cubesOf (freshAdf ordFms).s ((freshAdf ordFms).ac.getD 4 0) true 7).length == 3

-- by evaluation: the history is not trivial (it allocates nodes, issues handles, answers differ in kind)
#guard (runCalls (freshAdf exFms) exHist).1.s.nodes.size > (freshAdf exFms).s.nodes.size
#guard (runCalls (freshAdf exFms) exHist).1.issued.length == 4
#guard answerAfter (freshAdf exFms) exHist .stable == .vecs [[0, 1], [1, 0]]
#guard (runCall (freshAdf exFms) .stable).2 == .vecs [[0, 1], [1, 0]]
#guard (match answerAfter (freshAdf exFms) exHist (.ng .minPathsMaxVarImp 1000 false) with
        | .ng vs _ => vs.length == 2 | _ => false)
-- the search history: both searches emit two vectors, the bounded run hits its bound, the memo tables
-- of the used object are not empty, and the answers agree with the memo-dropped copy (by evaluation)
#guard (runCalls (freshAdf exFms) exHistS).2.length == 9
#guard (runCalls (freshAdf exFms) exHistS).2[1]? == some (.vecs [[0, 1], [1, 0]])
#guard (match (runCalls (freshAdf exFms) exHistS).2[2]? with | some (Answer.ng vs tr) => vs.length == 2 && tr.length ≥ 1 | _ => false)
#guard (match (runCalls (freshAdf exFms) exHistS).2[5]? with | some (Answer.ng vs _) => vs.length == 2 | _ => false)
#guard (runCalls (freshAdf exFms) exHistS).2[8]? == some .fuelExhausted
#guard (runCalls (freshAdf exFms) exHist).1.s.resC.size > 0
#guard (dropMemo (runCalls (freshAdf exFms) exHist).1).s.resC.size == 0
#guard (runCalls (dropMemo (runCalls (freshAdf exFms) exHist).1) exHistS).2 == (runCalls (runCalls (freshAdf exFms) exHist).1 exHistS).2

end C11

#print axioms C11.history_invariant
#print axioms C11.answers_exact
#print axioms C11.answers_history_independent
#print axioms C11.ng_halts_after_history
#print axioms C11.answers_exact_after_history_from_formulas
#print axioms C11.answers_memo_independent_call
#print axioms C11.answers_memo_independent
#print axioms C11.answers_depend_on_node_table
#print axioms C11.answers_memo_dropped
#print axioms C11.answers_memo_dropped_midway
#print axioms C11.answers_reimport_midway
#print axioms C11.answers_memo_independent_partial
#print axioms C11.answers_memo_dropped_partial
#print axioms C11.query_answers_exact
#print axioms C11.query_answers_exact_after_history_from_formulas
#print axioms C11.stable_answers_equal_after_history
#print axioms C11.order_across_histories_partial
#print axioms C11.order_across_histories
#print axioms C11.order_across_histories_all
#print axioms C11.canonical_cube_list
#print axioms C11.count_order_history_independent
#print axioms C11.count_candidates_order_history_independent
#print axioms C11.count_order_equal_after_history
#print axioms C11.complete_order_equal_after_history
#print axioms C11.ng_order_equal_after_history
#print axioms C11.memoised_count_is_the_reimport_exception
#print axioms C11.same_seed_same_answers
#print axioms C11.rand_search_exact


/-! ## (with C14) answers as LISTS after both persistence round trips, order and handle numbers included

`C14.*_after_roundtrip` give `SameAnswers` (no duplicates, same members). Both round trips reproduce the NODE
TABLE, and `answers_depend_on_node_table` above says every answer - order included - is a function of the node
table, `n` and `ac`; composed in `PersistMore.lean` and restated here so that they are audited with a property. -/
namespace C14More
open Persist CallH

theorem history_after_roundtrip_lists (a : PAdf) (w : WF a.bdd.st) (hv : ∀ t ∈ a.ac, t < a.bdd.st.nodes.size)
    (h : List Call) :
    let j := fixImportA (importA (exportA a))
    let r := rebuildP a.bdd.st.nodes
    ((runCalls (stateOf j.bdd.st j.ac) h).2 = (runCalls (stateOf a.bdd.st a.ac) h).2 ∧
      (runCalls (stateOf j.bdd.st j.ac) h).1.s.nodes = (runCalls (stateOf a.bdd.st a.ac) h).1.s.nodes) ∧
    ((runCalls (stateOf r.st a.ac) h).2 = (runCalls (stateOf a.bdd.st a.ac) h).2 ∧
      (runCalls (stateOf r.st a.ac) h).1.s.nodes = (runCalls (stateOf a.bdd.st a.ac) h).1.s.nodes) :=
  history_after_roundtrip a w hv h

theorem searches_after_roundtrip_lists (a : PAdf) (w : WF a.bdd.st) (hv : ∀ t ∈ a.ac, t < a.bdd.st.nodes.size) :
    let j := fixImportA (importA (exportA a))
    let r := rebuildP a.bdd.st.nodes
    let n := a.ac.length
    ((completeAll j.bdd.st n j.ac).2.2 = (completeAll a.bdd.st n a.ac).2.2 ∧
     (stableAll j.bdd.st n j.ac).2 = (stableAll a.bdd.st n a.ac).2 ∧
     (Cli.stablePre j.bdd.st n j.ac).2 = (Cli.stablePre a.bdd.st n a.ac).2 ∧
     (∀ useA, (countAll j.bdd.st n j.ac useA).2 = (countAll a.bdd.st n a.ac useA).2)) ∧
    ((completeAll r.st n a.ac).2.2 = (completeAll a.bdd.st n a.ac).2.2 ∧
     (stableAll r.st n a.ac).2 = (stableAll a.bdd.st n a.ac).2 ∧
     (Cli.stablePre r.st n a.ac).2 = (Cli.stablePre a.bdd.st n a.ac).2 ∧
     (∀ useA, (countAll r.st n a.ac useA).2 = (countAll a.bdd.st n a.ac useA).2)) :=
  searches_after_roundtrip a w

/-- the nogood search after either round trip: a run that halts within the bound on the original halts within it
after the round trip and emits the same list (order included) -/
theorem nogood_after_roundtrip_lists (a : PAdf) (w : WF a.bdd.st) (hv : ∀ t ∈ a.ac, t < a.bdd.st.nodes.size)
    (heu : SM.Heu) (fuel : Nat) (stable : Bool)
    (hd : (SM.ngSearch heu fuel a.bdd.st a.ac.length a.ac stable).2.2.2 = true) :
    let j := fixImportA (importA (exportA a))
    let r := rebuildP a.bdd.st.nodes
    ((SM.ngSearch heu fuel j.bdd.st a.ac.length j.ac stable).2.2.2 = true ∧
      (SM.ngSearch heu fuel j.bdd.st a.ac.length j.ac stable).2.1 =
        (SM.ngSearch heu fuel a.bdd.st a.ac.length a.ac stable).2.1) ∧
    ((SM.ngSearch heu fuel r.st a.ac.length a.ac stable).2.2.2 = true ∧
      (SM.ngSearch heu fuel r.st a.ac.length a.ac stable).2.1 =
        (SM.ngSearch heu fuel a.bdd.st a.ac.length a.ac stable).2.1) := by
  intro j r
  have ⟨⟨wj, nj⟩, ⟨wr, nr⟩⟩ := roundtrips_nodes a.bdd w
  have A := (searches_same_nodes (ac := a.ac) w wj nj).2.2.2.2 heu fuel stable
  have B := (searches_same_nodes (ac := a.ac) w wr nr).2.2.2.2 heu fuel stable
  rw [roundtripA_ac]
  exact ⟨⟨A.1.trans hd, A.2 hd⟩, ⟨B.1.trans hd, B.2 hd⟩⟩

/-! non-vacuity of `nogood_after_roundtrip_lists` (halting hypothesis) and a TWO-statement text-level round trip
with both hash maps in REVERSED order (the permutation parameters of C14's text theorems are otherwise only
exercised with `Perm.refl` on a one-statement object) -/
section TextRoundTrip
open Std C14


/-- non-vacuity of `nogood_after_roundtrip_lists` on the two-statement object: the halting hypothesis is
satisfiable for every heuristic (stable mode), hence the emitted lists coincide -/
example (heu : SM.Heu) : ∃ fuel,
    (SM.ngSearch heu fuel negStore 2 [3, 2] true).2.2.2 = true ∧
    (SM.ngSearch heu fuel (rebuildP negStore.nodes).st 2 [3, 2] true).2.1 =
      (SM.ngSearch heu fuel negStore 2 [3, 2] true).2.1 := by
  obtain ⟨fuel, h1, _⟩ := C05.ng_search_exact_stable heu negStore 2 [3, 2] negAdf_ok.1 rfl negAdf_ok.2
  exact ⟨fuel, h1, (nogood_after_roundtrip_lists negAdf negAdf_ok.1 negAdf_ok.2 heu fuel true h1).2.2⟩

def m2 : HashMap String Nat := ((∅ : HashMap String Nat).insert "a" 0).insert "b" 1

theorem neg_fits : Json.FitsA negAdf m2.toList.reverse negAdf.bdd.st.uniq.toList.reverse :=
  Json.fitsA_of_wf negAdf m2 _ _ negAdf_ok.1
    (by show negStore.nodes.size ≤ _; rw [negStore_nodes]; simp [Json.B64])
    negAdf_ok.2
    (fun k v h => by
      simp only [m2, HashMap.getElem?_insert, HashMap.getElem?_empty] at h
      split at h
      · simp at h; subst h; simp [Json.B64]
      · split at h <;> simp at h
        subst h; simp [Json.B64])
    (List.reverse_perm _) (List.reverse_perm _)

/-- two statements, two stable models, both hash maps written in REVERSED iteration order -/
example :
    ∃ r, Json.importFixText (Json.exportText Json.noWs negAdf m2.toList.reverse negAdf.bdd.st.uniq.toList.reverse) = some r ∧
      r.names = ["a", "b"] ∧ r.ac = [3, 2] ∧ r.bdd.st.nodes = negStore.nodes ∧
      SameAnswers (dec3 (stableAll r.bdd.st 2 [3, 2]).2) (dec3 (stableAll negStore 2 [3, 2]).2) :=
  let ⟨r, h, hnm, hac, _, _, hs, _⟩ := text_answers_equal Json.noWs Json.noWs_ok negAdf m2 _ _
    (List.reverse_perm _) (List.reverse_perm _) neg_fits negAdf_ok.1 negAdf_ok.2
  let ⟨r', h', _, _, hn, _⟩ := text_import_fix Json.noWs Json.noWs_ok negAdf m2 _ _
    (List.reverse_perm _) (List.reverse_perm _) neg_fits negAdf_ok.1
  ⟨r, h, hnm, hac, by rw [h] at h'; cases h'; exact hn, hs⟩

-- what the text looks like (evidence)
#eval String.ofList (Json.exportText Json.noWs negAdf m2.toList negAdf.bdd.st.uniq.toList)
#eval String.ofList (Json.exportText C14.someWs nastyAdf nastyMap.toList nastyAdf.bdd.st.uniq.toList)

-- reader: things that must be rejected / accepted
#eval (Json.parse "{\"ordering\":{\"names\":[],\"mapping\":{}},\"bdd\":{\"nodes\":[],\"cache\":[]},\"ac\":[]} x".toList).isSome
#eval (Json.parse "{\"ordering\":{\"names\":[],\"mapping\":{}},\"bdd\":{\"nodes\":[],\"cache\":[]},\"ac\":[]}{}".toList).isSome
#eval (Json.parse "{\"ordering\":{\"names\":[],\"mapping\":{}},\"bdd\":{\"nodes\":[],\"cache\":[]},\"ac\":[1 2]}".toList).isSome
#eval (Json.parse "{\"ordering\":{\"names\":[],\"mapping\":{}},\"bdd\":{\"nodes\":[],\"cache\":[]},\"ac\":[[1]]}".toList).isSome
#eval (Json.parse "{\"ordering\":{\"names\":[],\"mapping\":{}},\"bdd\":{\"nodes\":[],\"cache\":[]},\"ac\":[1],\"x\":true}".toList).isSome
#eval (Json.parse "{\"ordering\":{\"names\":[],\"mapping\":{}},\"bdd\":{\"nodes\":[],\"cache\":[]},\"ac\":[1],\"x\":{\"ac\":[[]]}}".toList).isSome
#eval (Json.parse "{\"ordering\":{\"names\":[],\"mapping\":{},\"names\":[]},\"bdd\":{\"nodes\":[],\"cache\":[]},\"ac\":[1]}".toList).isSome
#eval (Json.parse "{\"ordering\":{\"names\":[],\"mapping\":{\"a\":1,\"a\":2}},\"bdd\":{\"nodes\":[],\"cache\":[]},\"ac\":[1]}".toList).map (·.mapping)
#eval (Json.parse "{\"ordering\":{\"names\":[],\"mapping\":{}},\"bdd\":{\"nodes\":[[1,2,3,4]],\"cache\":[]},\"ac\":[1]}".toList).isSome
#eval (Json.parse "{\"ordering\":{\"names\":[],\"mapping\":{}},\"bdd\":{\"nodes\":[],\"cache\":[]},\"ac\":[1]".toList).isSome
#eval (Json.parse "{\"ordering\":{\"names\":[\"\\ud83d\\ude00\"],\"mapping\":{}},\"bdd\":{\"nodes\":[],\"cache\":[]},\"ac\":[1]}".toList).isSome

end TextRoundTrip

end C14More

#print axioms C14More.history_after_roundtrip_lists
#print axioms C14More.searches_after_roundtrip_lists
#print axioms C14More.nogood_after_roundtrip_lists
