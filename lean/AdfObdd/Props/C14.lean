import AdfObdd.Persist
import AdfObdd.Grounded
import AdfObdd.PreGround2
import AdfObdd.Stable
import AdfObdd.MemoTransparent
import AdfObdd.PersistAnswers
import AdfObdd.JsonPersist
import AdfObdd.PersistMore
import AdfObdd.CliIOProofs
/-! # C14 — persistence round trips preserve handles and answers

`Persist.PBdd` / `PAdf` are `Bdd` / `Adf` with the serde-skipped bookkeeping explicit.  Two round
trips: (1) `export → import → fix_import` (serde derives + `vectorize` + `Bdd::fix_import`),
(2) the node-list rebuild `Bdd::from(Vec<BddNode>)` inside `Adf::from((ordering, bdd, ac))` as the
web service does through its string DTO.  The original may be at any point of its life: the only
hypothesis is that its store is well formed (`WF`, preserved by every operation: C06/C07), memo
tables arbitrary.

## Scope notes

* **Two layers.** The object-level theorems (`import_fix`, `*_after_roundtrip`,
  `future_ops_same_handles`, …) use `Persist.exportB` / `importB`, which pass the node vector
  through unchanged and make only the `vectorize` step of the unique table explicit
  (`HashMap.toList` / `HashMap.ofList`): at this layer the JSON encoding is the IDENTITY, several
  conjuncts are `rfl`, and nothing is said about serde_json. The text layer is separate: the section
  "from the JSON TEXT" (`JsonModel` / `JsonPersist`: printer with serde_json's escape table, lexer,
  derived visitors) — only theorems of THAT section speak about bytes on disk.
* **`VarContainer`.** `PAdf.names` is `ordering.names`; `ordering.mapping` (name ↦ index) is treated
  as the inverse of `names` and not stored (object layer) resp. carried as a separate map `m` with
  an arbitrary iteration order (text layer). The web service's `VarContainerDb`
  (server/src/adf.rs:97-129: `mapping: HashMap<String, String>`, values `v.to_string()`, read back
  with `v.parse().unwrap()`) is FOLDED into `names` in `toSimplified` / `fromSimplified`: that its
  `mapping` strings decode and that a corrupt `mapping` PANICS in `From<VarContainerDb>` is not
  modelled; `simplified_roundtrip_decimal` (`Persist.decimalCodec`, a concrete `Codec`) covers
  `SimplifiedAdf` (nodes and `ac` as decimal strings) only.
* **`export_never_overwrites`** is about the three-line model `cliExport` (`exists` → skip, else
  write), NOT part of the text-level CLI model `CliM.runText` of C15 (which has no file system).
  The Rust (bin/src/main.rs:357-374) is `export.exists()` followed by `File::create(export)`: a
  check-then-act sequence, so another process creating the path in between IS overwritten
  (`File::create` truncates) — the theorem is a statement about a single sequential process on a
  file system nobody else touches. Only the NAIVE arm has `--export` / `--import` code
  (bin/src/main.rs:329-374); the `--lib biodivine` arm and the default `--lib hybrid` ignore both flags
  silently; `--import` skips parsing entirely.
* **Answers after a round trip.** `SameAnswers` (no duplicates, same members) comes from the
  exactness theorems and holds for ANY store denoting the same functions (`SameFns`), e.g. a
  different node numbering. For the two round trips modelled here the node table is IDENTICAL, and
  `C14More.history_after_roundtrip` / `searches_after_roundtrip` (`PersistMore.lean`) /
  `nogood_after_roundtrip_lists` (`Props/C11.lean`) give equality of the answer LISTS (order, handle
  numbers) by `answers_depend_on_node_table`.
* **Non-vacuity** is shown on `x0Adf` (one statement) and on `C14More.negAdf` (two statements,
  `a ↦ ¬b`, `b ↦ ¬a`, two stable models). -/
namespace C14
open Persist Std

/-- **import_fix**: after `export → import → fix_import` the node table is the original's (same
numbering), the unique table answers every lookup as the original's, the memo tables are empty,
the object is well formed, `var_deps` is aligned and holds exactly the variables of every diagram,
and `count_cache` has the true counts for every handle -/
theorem import_fix (b : PBdd) (w : WF b.st) :
    let r := fixImport (importB (exportB b))
    r.st.nodes = b.st.nodes ∧ (∀ n : Node, r.st.uniq[n]? = b.st.uniq[n]?) ∧
    (∀ k : Nat × Nat × Bool, r.st.resC[k]? = none) ∧ (∀ k : Nat × Nat × Nat, r.st.iteC[k]? = none) ∧
    WF r.st ∧ Persist.DepsOK r.st r.deps ∧ CntFull r.st r.cnt := by
  intro r
  have ⟨a, b', h⟩ := Persist.import_fix b w
  exact ⟨a, b', (import_skipped b).2.2.1, (import_skipped b).2.2.2, h.wf, h.deps, h.cnt⟩

/-- recomputed bookkeeping equals the original's whenever the original's was sound -/
theorem import_fix_same_bookkeeping (b : PBdd) (h : Healthy b) :
    let r := fixImport (importB (exportB b))
    r.deps = b.deps ∧ ∀ t : Nat, r.cnt[t]? = b.cnt[t]? := by
  intro r
  have ⟨hn, _, hr⟩ := Persist.import_fix b h.wf
  exact ⟨(hr.deps.congr (s := r.st) (s' := b.st) hn.symm).unique h.deps,
         fun t => (CntFull.congr (s := r.st) (s' := b.st) hn.symm hr.cnt).unique h.cnt t⟩

/-- **rebuild_id** with bookkeeping: `Bdd::from(nodes)` reproduces the node table index by index,
an equivalent unique table, and — through what `Bdd::node` maintains — sound variable lists and
counts; so root handles stored as bare numbers still point at the same nodes -/
theorem rebuild_id (orig : Store) (w : WF orig) :
    let r := rebuildP orig.nodes
    r.st.nodes = orig.nodes ∧ (∀ n : Node, r.st.uniq[n]? = orig.uniq[n]?) ∧
    WF r.st ∧ Persist.DepsOK r.st r.deps ∧ CntFull r.st r.cnt := by
  intro r
  have ⟨_, a, b, h⟩ := rebuildP_ok orig w
  exact ⟨a, b, h.wf, h.deps, h.cnt⟩

/-- the web service's storage round trip (`Adf → SimplifiedAdf → Adf`): ordering and root handles
unchanged, diagram store rebuilt -/
theorem simplified_roundtrip (c : Codec) (a : PAdf) (w : WF a.bdd.st) :
    ∃ r, fromSimplified c (toSimplified c a) = some r ∧ r.names = a.names ∧ r.ac = a.ac ∧
      r.bdd.st.nodes = a.bdd.st.nodes ∧ WF r.bdd.st ∧ Persist.DepsOK r.bdd.st r.bdd.deps := by
  refine ⟨_, Persist.simplified_roundtrip c a, rfl, rfl, ?_⟩
  have ⟨_, x, _, h⟩ := rebuildP_ok a.bdd.st w
  exact ⟨x, h.wf, h.deps⟩

theorem handles_keep_function (b : PBdd) (t : Nat) (σ : Asg) :
    eval (fixImport (importB (exportB b))).st t σ = eval b.st t σ ∧
    (WF b.st → eval (rebuildP b.st.nodes).st t σ = eval b.st t σ) :=
  ⟨eval_congr rfl t σ, fun w => eval_congr (rebuildP_ok b.st w).2.1 t σ⟩

/-- the dependency made explicit: an answer that is a function of the node table and the root
handles (`Q`), or of the Boolean functions of the acceptance conditions (`Sem`: every semantics of
DESIGN §6.1), is the same on the original and on both round-tripped objects -/
theorem answers_equal {β γ : Type} (Q : Array Node → List Nat → β) (Sem : List BoolFn → γ) (a : PAdf) (w : WF a.bdd.st) :
    let j := fixImportA (importA (exportA a))
    let r : PAdf := { names := a.names, bdd := rebuildP a.bdd.st.nodes, ac := a.ac }
    Q j.bdd.st.nodes j.ac = Q a.bdd.st.nodes a.ac ∧ Q r.bdd.st.nodes r.ac = Q a.bdd.st.nodes a.ac ∧
    Sem (acFns j.bdd.st j.ac) = Sem (acFns a.bdd.st a.ac) ∧ Sem (acFns r.bdd.st r.ac) = Sem (acFns a.bdd.st a.ac) := by
  intro j r
  have hj : j.bdd.st.nodes = a.bdd.st.nodes := by rw [roundtripA_bdd, fixImport_st, import_nodes]
  have hr : r.bdd.st.nodes = a.bdd.st.nodes := (rebuildP_ok a.bdd.st w).2.1
  rw [roundtripA_ac, hj, hr, acFns_same hj, acFns_same hr]
  exact ⟨rfl, rfl, rfl, rfl⟩

/-- an instance where the answer is *computed* on the round-tripped object (cold memo tables, its
own further node creations): the decided part of the grounded interpretation is the original's -/
theorem grounded_after_roundtrip (a : PAdf) (w : WF a.bdd.st) (hv : ∀ t ∈ a.ac, t < a.bdd.st.nodes.size) :
    let j := fixImportA (importA (exportA a))
    (groundedLoop StoreRA (a.ac.length + 1) j.bdd.st j.ac).2.map storeIsConst =
    (groundedLoop StoreRA (a.ac.length + 1) a.bdd.st a.ac).2.map storeIsConst := by
  intro j
  rw [roundtripA_ac]
  exact (roundtrip_sameFns a w hv).1.grounded

/-- further diagram operations on the round-tripped object and on a never-exported twin (same node
table and history, any memo contents on either side): every issued handle denotes the same Boolean
function on both -/
theorem future_ops_same_functions (ops : List Op) (s s' : Store) (hist : List Nat) (fs : List BoolFn)
    (w : WF s) (w' : WF s') (hn : s'.nodes = s.nodes) (h : HistOK s hist fs) (hv : opsValid ops hist.length)
    (k : Nat) (hk : k < (runOps ops s hist).2.length) (σ : Asg) :
    eval (runOps ops s' hist).1 (hget (runOps ops s' hist).2 k) σ =
    eval (runOps ops s hist).1 (hget (runOps ops s hist).2 k) σ := by
  have ⟨e, n⟩ := runOps_memo_transparent ops s s' hist w w' hn (fun k hk => (h.ok k hk).1) hv
  rw [e]; exact eval_congr n _ σ

/-- the two runs of `future_ops_same_functions` issue the same handle NUMBERS and build the same node
table (memo transparency, `runOps_memo_transparent`) -/
theorem future_ops_same_handles (ops : List Op) (s s' : Store) (hist : List Nat) (fs : List BoolFn)
    (w : WF s) (w' : WF s') (hn : s'.nodes = s.nodes) (h : HistOK s hist fs) (hv : opsValid ops hist.length) :
    (runOps ops s' hist).2 = (runOps ops s hist).2 ∧
    (runOps ops s' hist).1.nodes = (runOps ops s hist).1.nodes :=
  runOps_memo_transparent ops s s' hist w w' hn (fun k hk => (h.ok k hk).1) hv

/-- after `export → import → fix_import` (memo tables empty) and after the
node-list rebuild `Bdd::from(nodes)`, every later operation sequence issues the handle numbers and
builds the node table it does on the never-exported original (memo tables arbitrary) -/
theorem future_ops_same_handles_roundtrips (ops : List Op) (b : PBdd) (hist : List Nat) (w : WF b.st)
    (hh : ∀ k, k < hist.length → hget hist k < b.st.nodes.size) (hv : opsValid ops hist.length) :
    let j := fixImport (importB (exportB b))
    let r := rebuildP b.st.nodes
    ((runOps ops j.st hist).2 = (runOps ops b.st hist).2 ∧
     (runOps ops j.st hist).1.nodes = (runOps ops b.st hist).1.nodes) ∧
    ((runOps ops r.st hist).2 = (runOps ops b.st hist).2 ∧
     (runOps ops r.st hist).1.nodes = (runOps ops b.st hist).1.nodes) := by
  intro j r
  have ⟨⟨wj, nj⟩, ⟨wr, nr⟩⟩ := roundtrips_nodes b w
  exact ⟨runOps_memo_transparent ops b.st j.st hist w wj nj hh hv,
         runOps_memo_transparent ops b.st r.st hist w wr nr hh hv⟩

/-- precondition of `fix_import`: `var_deps` must be empty (exactly once, right after an import).
On a live object, or applied a second time, the lists are misaligned with the node table -/
theorem fix_import_precondition (b : PBdd) :
    (b.deps.size ≠ 0 → ¬ Persist.DepsOK (fixImport b).st (fixImport b).deps) ∧
    (b.st.nodes.size ≠ 0 → ¬ Persist.DepsOK (fixImport (fixImport b)).st (fixImport (fixImport b)).deps) :=
  ⟨fixImport_needs_empty_deps b, fixImport_twice_misaligned b⟩

/-- the misuse, concretely: table after `variable(Var(0))`, `fix_import` run twice, then
`variable(Var(1))` creates handle 3 — but `var_deps[3]` is the stale second copy of ⊥'s empty list
while the new node's list sits at index 6: `restrict(Term(3), Var(1), _)` takes the "variable
not in the diagram" shortcut and returns 3 instead of a constant -/
theorem fix_import_twice_counterexample :
    genDeps nodes3 #[] = #[[], [], [0]] ∧
    genDeps nodes3 (genDeps nodes3 #[]) = #[[], [], [0], [], [], [0]] ∧
    nodeDeps (genDeps nodes3 (genDeps nodes3 #[])) ⟨1, 0, 1⟩ = #[[], [], [0], [], [], [0], [1]] ∧
    (nodeDeps (genDeps nodes3 (genDeps nodes3 #[])) ⟨1, 0, 1⟩).getD 3 [] = [] ∧
    (nodeDeps (genDeps nodes3 #[]) ⟨1, 0, 1⟩).getD 3 [] = [1] := by decide

/-- CLI `--export PATH`: an existing path is never written (so exporting twice leaves the first
file byte-identical), a free path receives the JSON -/
theorem export_never_overwrites (fs : String → Option String) (path c1 c2 : String) :
    ((fs path).isSome → cliExport fs path c1 = fs) ∧
    ((fs path).isNone → cliExport fs path c1 path = some c1) ∧
    cliExport (cliExport fs path c1) path c2 = cliExport fs path c1 ∧
    exportAction true = .skip ∧ exportAction false = .write := by
  refine ⟨?_, ?_, ?_, rfl, rfl⟩
  · intro h; simp [cliExport, exportAction, h]
  · intro h
    have : (fs path).isSome = false := by cases hx : fs path <;> simp_all
    simp [cliExport, exportAction, this]
  · cases hx : (fs path).isSome with
    | true => simp [cliExport, exportAction, hx]
    | false =>
      have h1 : cliExport fs path c1 = fun p => if p = path then some c1 else fs p := by
        simp [cliExport, exportAction, hx]
      rw [h1]
      simp [cliExport, exportAction]

example : WF PBdd.new.st := WF_init
example : Persist.DepsOK PBdd.new.st PBdd.new.deps :=
  ⟨rfl, fun t ht => by
    have : t = 0 ∨ t = 1 := by simp [PBdd.new, Store.init] at ht; omega
    rcases this with h | h <;> subst h <;> rfl⟩
example : exportAction true ≠ exportAction false := by decide

/-- non-vacuity of `future_ops_same_handles_roundtrips`: the fresh object with history `[⊥, ⊤]` -/
example :
    let ops : List Op := [.var 0, .var 1, .iff 2 3, .iff 2 3, .restrict 4 1 false]
    (runOps ops (fixImport (importB (exportB PBdd.new))).st [0, 1]).2 = (runOps ops PBdd.new.st [0, 1]).2 ∧
    (runOps ops (rebuildP PBdd.new.st.nodes).st [0, 1]).2 = (runOps ops PBdd.new.st [0, 1]).2 :=
  have h := future_ops_same_handles_roundtrips
    [.var 0, .var 1, .iff 2 3, .iff 2 3, .restrict 4 1 false] PBdd.new [0, 1] WF_init
    (fun k hk => (HistOK.init.ok k hk).1) (by decide)
  ⟨h.1.1, h.2.1⟩
example : ∃ fs, HistOK PBdd.new.st [0, 1] fs := ⟨_, HistOK.init⟩

/-! ## answers after the round trips, semantics by semantics

`answers_equal` above is a congruence (any function of the node table / of the denotations gives
equal results on equal inputs). The theorems below are about the searches of the model RUN on the
round-tripped object, where they start with cold memo tables and create their own further nodes:
by the exactness theorems of C01–C05 each answer list, read as three-valued interpretations, is a
function of the Boolean functions of the acceptance conditions, and both round trips preserve these
(`Persist.roundtrip_sameFns`). `SameAnswers l l'` = both lists are duplicate free and have the
same members (so they are permutations of each other; that the lists are EQUAL after these two
round trips is `C14More`, see the scope notes). -/

theorem roundtrips_same_functions (a : PAdf) (w : WF a.bdd.st) (hv : ∀ t ∈ a.ac, t < a.bdd.st.nodes.size) :
    SameFns a.bdd.st (fixImportA (importA (exportA a))).bdd.st a.ac ∧
    SameFns a.bdd.st (rebuildP a.bdd.st.nodes).st a.ac := roundtrip_sameFns a w hv

/-- **complete** (`Adf::complete`) after either round trip -/
theorem complete_after_roundtrip (a : PAdf) (w : WF a.bdd.st) (hv : ∀ t ∈ a.ac, t < a.bdd.st.nodes.size) :
    let j := fixImportA (importA (exportA a))
    let r := rebuildP a.bdd.st.nodes
    let n := a.ac.length
    SameAnswers (dec3 (completeAll j.bdd.st n j.ac).2.2) (dec3 (completeAll a.bdd.st n a.ac).2.2) ∧
    SameAnswers (dec3 (completeAll r.st n a.ac).2.2) (dec3 (completeAll a.bdd.st n a.ac).2.2) := by
  intro j r n
  have h := roundtrip_sameFns a w hv
  rw [roundtripA_ac]
  exact ⟨h.1.complete n rfl, h.2.complete n rfl⟩

/-- **stable** (`Adf::stable`) and **stable with pre-filter** (`Adf::stable_with_prefilter`) after
either round trip -/
theorem stable_after_roundtrip (a : PAdf) (w : WF a.bdd.st) (hv : ∀ t ∈ a.ac, t < a.bdd.st.nodes.size) :
    let j := fixImportA (importA (exportA a))
    let r := rebuildP a.bdd.st.nodes
    let n := a.ac.length
    SameAnswers (dec3 (stableAll j.bdd.st n j.ac).2) (dec3 (stableAll a.bdd.st n a.ac).2) ∧
    SameAnswers (dec3 (stableAll r.st n a.ac).2) (dec3 (stableAll a.bdd.st n a.ac).2) ∧
    SameAnswers (dec3 (Cli.stablePre j.bdd.st n j.ac).2) (dec3 (Cli.stablePre a.bdd.st n a.ac).2) ∧
    SameAnswers (dec3 (Cli.stablePre r.st n a.ac).2) (dec3 (Cli.stablePre a.bdd.st n a.ac).2) := by
  intro j r n
  have h := roundtrip_sameFns a w hv
  rw [roundtripA_ac]
  exact ⟨h.1.stable n rfl, h.2.stable n rfl, h.1.stablePre n rfl, h.2.stablePre n rfl⟩

/-- **counting-guided stable search** (`stable_count_optimisation_heu_a/b`) after either round
trip, for any choice of the two heuristics on either side -/
theorem count_search_after_roundtrip (a : PAdf) (w : WF a.bdd.st) (hv : ∀ t ∈ a.ac, t < a.bdd.st.nodes.size)
    (useA useA' : Bool) :
    let j := fixImportA (importA (exportA a))
    let r := rebuildP a.bdd.st.nodes
    let n := a.ac.length
    SameAnswers (dec3 (countAll j.bdd.st n j.ac useA').2) (dec3 (countAll a.bdd.st n a.ac useA).2) ∧
    SameAnswers (dec3 (countAll r.st n a.ac useA').2) (dec3 (countAll a.bdd.st n a.ac useA).2) := by
  intro j r n
  have h := roundtrip_sameFns a w hv
  rw [roundtripA_ac]
  exact ⟨h.1.count n rfl useA useA', h.2.count n rfl useA useA'⟩

/-- **nogood-learning search** (`Adf::stable_nogood` / `two_val_nogood`) after either round trip:
there are fuels within which the loops halt on the original and on the round-tripped object, and
the emitted lists have the same members, none repeated — any heuristics on either side. In
two-valued mode (`stable = false`) the side condition of C05 (the conditions look at statements
only) is assumed of the ORIGINAL; it transfers. -/
theorem nogood_search_after_roundtrip (a : PAdf) (w : WF a.bdd.st) (hv : ∀ t ∈ a.ac, t < a.bdd.st.nodes.size)
    (heu heu' : SM.Heu) (stable : Bool)
    (hs : stable = false → ∀ t ∈ a.ac, ∀ σ τ : Asg, (∀ i, i < a.ac.length → σ i = τ i) →
      eval a.bdd.st t σ = eval a.bdd.st t τ) :
    let j := fixImportA (importA (exportA a))
    let r := rebuildP a.bdd.st.nodes
    let n := a.ac.length
    (∃ fuel fuel', (SM.ngSearch heu fuel a.bdd.st n a.ac stable).2.2.2 = true ∧
      (SM.ngSearch heu' fuel' j.bdd.st n j.ac stable).2.2.2 = true ∧
      SameAnswers (dec3 (SM.ngSearch heu' fuel' j.bdd.st n j.ac stable).2.1)
                  (dec3 (SM.ngSearch heu fuel a.bdd.st n a.ac stable).2.1)) ∧
    (∃ fuel fuel', (SM.ngSearch heu fuel a.bdd.st n a.ac stable).2.2.2 = true ∧
      (SM.ngSearch heu' fuel' r.st n a.ac stable).2.2.2 = true ∧
      SameAnswers (dec3 (SM.ngSearch heu' fuel' r.st n a.ac stable).2.1)
                  (dec3 (SM.ngSearch heu fuel a.bdd.st n a.ac stable).2.1)) := by
  intro j r n
  have h := roundtrip_sameFns a w hv
  rw [roundtripA_ac]
  exact ⟨h.1.ng n rfl heu heu' stable hs, h.2.ng n rfl heu heu' stable hs⟩

/-- grounded after the node-list rebuild (the export/import case is `grounded_after_roundtrip`) -/
theorem grounded_after_rebuild (a : PAdf) (w : WF a.bdd.st) (hv : ∀ t ∈ a.ac, t < a.bdd.st.nodes.size) :
    (groundedLoop StoreRA (a.ac.length + 1) (rebuildP a.bdd.st.nodes).st a.ac).2.map storeIsConst =
    (groundedLoop StoreRA (a.ac.length + 1) a.bdd.st a.ac).2.map storeIsConst :=
  (roundtrip_sameFns a w hv).2.grounded

/-! ### the text level: a concrete codec

For the web service's DTO, whose fields are decimal strings, the codec is concrete:
`Persist.decimalCodec` = (`Nat.repr`, `String.toNat?`) — what `usize::to_string` and
`str::parse::<usize>` compute on the decimal digits. -/

theorem simplified_roundtrip_decimal (a : PAdf) (w : WF a.bdd.st) :
    ∃ r, fromSimplified decimalCodec (toSimplified decimalCodec a) = some r ∧ r.names = a.names ∧
      r.ac = a.ac ∧ r.bdd.st.nodes = a.bdd.st.nodes ∧ WF r.bdd.st ∧ Persist.DepsOK r.bdd.st r.bdd.deps :=
  simplified_roundtrip decimalCodec a w

/-- the codec is not the identity in disguise: strings that are not decimal numerals are rejected
(the `unwrap` panic of `From<SimplifiedAdf>`), so `fromSimplified` can fail -/
example : fromSimplified decimalCodec ⟨[], [("0", "x", "1")], []⟩ = none ∧
    decimalCodec.dec "" = none := by
  constructor
  · have : decimalCodec.dec "x" = none := by
      show String.toNat? "x" = none
      rw [String.toNat?_eq_none_iff]
      apply Bool.eq_false_iff.mpr
      intro h
      have := (String.isNat_iff.mp h).2.1 'x' (by simp)
      revert this; decide
    simp [fromSimplified, decNode, this]
  · show String.toNat? "" = none
    rw [String.toNat?_eq_none_iff]
    exact Bool.eq_false_iff.mpr (fun h => (String.isNat_iff.mp h).1 rfl)

/-- one statement `a` with condition `a` (handle 2 = x0) -/
def x0Adf : PAdf :=
  { names := ["a"], bdd := ⟨(mkNode Store.init 0 0 1).1, #[[], [], [0]], {}⟩, ac := [2] }

theorem x0Adf_ok : WF x0Adf.bdd.st ∧ ∀ t ∈ x0Adf.ac, t < x0Adf.bdd.st.nodes.size := by
  constructor
  · exact (mkNode_spec Store.init WF_init 0 0 1 (by decide) (by decide) (by decide) (by decide) (by decide)).1
  · intro t ht
    have : t = 2 := by simpa [x0Adf] using ht
    subst this
    simp [x0Adf, mkNode, Store.init]

/-- non-vacuity of the instantiated theorems: `x0Adf` has a non-terminal root and a store with an inner node -/
example :
    SameAnswers (dec3 (stableAll (fixImportA (importA (exportA x0Adf))).bdd.st 1 [2]).2)
                (dec3 (stableAll x0Adf.bdd.st 1 [2]).2) ∧
    SameAnswers (dec3 (countAll (rebuildP x0Adf.bdd.st.nodes).st 1 [2] false).2)
                (dec3 (countAll x0Adf.bdd.st 1 [2] true).2) ∧
    (∃ r, fromSimplified decimalCodec (toSimplified decimalCodec x0Adf) = some r ∧ r.ac = [2]) :=
  ⟨(stable_after_roundtrip x0Adf x0Adf_ok.1 x0Adf_ok.2).1,
   (count_search_after_roundtrip x0Adf x0Adf_ok.1 x0Adf_ok.2 true false).2,
   let ⟨r, h, _, hac, _⟩ := simplified_roundtrip_decimal x0Adf x0Adf_ok.1
   ⟨r, h, hac⟩⟩

/-! ## from the JSON TEXT (`serde_json::to_string` / `to_writer`, `from_str`; CLI `--export` / `--import`)

`Json` models the text serde_json writes for an `Adf` — field order, `[[node,handle],…]` for the
vectorised unique table, string escaping by serde_json's `ESCAPE` table (`\"`, `\\`, `\b \f \n \r \t`,
other control characters `\u00XX`, everything else — DEL and all non-ASCII included — passed
through), numbers in decimal — and a reader for it (state-machine lexer skipping ` \n\t\r`, all JSON
escapes, no leading zeros, numbers below 2^64; then JSON values `Json.J` and serde's derived
visitors `Json.dAdf`: struct members in any order, unknown members skipped, a repeated or missing
member rejected, structs also as arrays of their fields). The iteration order of the two hash maps (`mapping`, `cache`) is a parameter of the
printer: any permutation `ml`, `cl` of the map's entries; so is the whitespace `w` between tokens
(`Json.noWs` is what serde_json writes). The hypothesis `Json.FitsA` says that every number written
is a `usize`; `Json.fitsA_of_wf` derives it from `WF`, `nodes.size ≤ 2^64`, valid root handles and
`usize` values in `mapping`. Not modelled (and never produced by `to_string`): surrogate-pair
escapes, and `true`/`false`/`null`/negative/fractional numbers inside UNKNOWN members (the model's
reader rejects such texts, serde skips the member). -/

/-- **decimal printer / reader on all naturals**: the digits of `n` are read back as `n` (no
bound in the digit reader; the token is emitted iff `n < 2^64`, as `usize` parsing demands) -/
theorem decimal_roundtrip (n : Nat) :
    Json.lex (Json.digits n) =
      if n = 0 then some [.num 0] else if n < Json.B64 then some [.num n] else none :=
  Json.decimal_roundtrip n

/-- the two terminal variable indices (2^64 − 2, 2^64 − 1: in every export) are read back -/
example : Json.lex (Json.digits VBOT) = some [.num VBOT] ∧ Json.lex (Json.digits VTOP) = some [.num VTOP] := by
  rw [decimal_roundtrip, decimal_roundtrip]; simp [VBOT, VTOP, Json.B64]

/-- **string escaping**: every string (any Unicode scalar values: quotes, backslashes, control
characters, non-ASCII) is read back from its escaped form, whatever follows -/
theorem string_roundtrip (s x : List Char) :
    Json.run .idle ('"' :: (Json.escape s ++ '"' :: x)) = (Json.run .idle x).map (Json.Tok.str s :: ·) := by
  have := Json.run_string s x
  simpa [Json.tokChars] using this

/-- **text_roundtrip**: `from_str (to_string adf)` is the identity on the persisted state — names,
root handles, node table; `mapping` and the unique table AS MAPS; skipped fields at their defaults —
for every order of the two hash maps, every whitespace, every label -/
theorem text_roundtrip (w : Nat → List Char) (hw : Json.WsOnly w) (a : PAdf) (m : HashMap String Nat)
    (ml : List (String × Nat)) (cl : List (Node × Nat)) (hml : ml.Perm m.toList)
    (hcl : cl.Perm a.bdd.st.uniq.toList) (f : Json.FitsA a ml cl) :
    ∃ a' m', Json.importText (Json.exportText w a ml cl) = some (a', m') ∧
      a'.names = a.names ∧ a'.ac = a.ac ∧ a'.bdd.st.nodes = a.bdd.st.nodes ∧
      (∀ n : Node, a'.bdd.st.uniq[n]? = a.bdd.st.uniq[n]?) ∧ (∀ k : String, m'[k]? = m[k]?) ∧
      a'.bdd.deps = #[] ∧ (∀ k : Nat, a'.bdd.cnt[k]? = none) ∧
      (∀ k : Nat × Nat × Bool, a'.bdd.st.resC[k]? = none) ∧ (∀ k : Nat × Nat × Nat, a'.bdd.st.iteC[k]? = none) :=
  Json.text_roundtrip w hw a m ml cl hml hcl f

/-- **import_fix from the text** (`import_fix` with the text in between) -/
theorem text_import_fix (w : Nat → List Char) (hw : Json.WsOnly w) (a : PAdf) (m : HashMap String Nat)
    (ml : List (String × Nat)) (cl : List (Node × Nat)) (hml : ml.Perm m.toList)
    (hcl : cl.Perm a.bdd.st.uniq.toList) (f : Json.FitsA a ml cl) (wf : WF a.bdd.st) :
    ∃ r, Json.importFixText (Json.exportText w a ml cl) = some r ∧
      r.names = a.names ∧ r.ac = a.ac ∧ r.bdd.st.nodes = a.bdd.st.nodes ∧
      (∀ n : Node, r.bdd.st.uniq[n]? = a.bdd.st.uniq[n]?) ∧
      (∀ k : Nat × Nat × Bool, r.bdd.st.resC[k]? = none) ∧ (∀ k : Nat × Nat × Nat, r.bdd.st.iteC[k]? = none) ∧
      WF r.bdd.st ∧ Persist.DepsOK r.bdd.st r.bdd.deps ∧ CntFull r.bdd.st r.bdd.cnt := by
  obtain ⟨a', _, _, h, _, h1, h2, h3, h4, h5, h6, hh⟩ := Json.text_import_fix w hw a m ml cl hml hcl f wf
  exact ⟨_, h, h1, h2, h3, h4, h5, h6, hh.wf, hh.deps, hh.cnt⟩

/-- **future operations, from the text**: every operation sequence run on the object read back
from the text (+ `fix_import`) issues the handle NUMBERS and builds the node table it does on the
never-exported original -/
theorem text_future_ops_same_handles (w : Nat → List Char) (hw : Json.WsOnly w) (a : PAdf) (m : HashMap String Nat)
    (ml : List (String × Nat)) (cl : List (Node × Nat)) (hml : ml.Perm m.toList)
    (hcl : cl.Perm a.bdd.st.uniq.toList) (f : Json.FitsA a ml cl) (wf : WF a.bdd.st)
    (ops : List Op) (hist : List Nat) (hh : ∀ k, k < hist.length → hget hist k < a.bdd.st.nodes.size)
    (hv : opsValid ops hist.length) :
    ∃ r, Json.importFixText (Json.exportText w a ml cl) = some r ∧
      (runOps ops r.bdd.st hist).2 = (runOps ops a.bdd.st hist).2 ∧
      (runOps ops r.bdd.st hist).1.nodes = (runOps ops a.bdd.st hist).1.nodes := by
  obtain ⟨r, h, _, _, hn, _, _, _, wr, _, _⟩ := text_import_fix w hw a m ml cl hml hcl f wf
  exact ⟨r, h, runOps_memo_transparent ops a.bdd.st r.bdd.st hist wf wr hn hh hv⟩

/-- **answers, from the text**: grounded, complete, stable (with and without pre-filter) and the
counting-guided search, computed on the object read back from the text, give the original's
answers (`SameAnswers`: same members, none repeated); the nogood-learning search follows in the
same way from `Json.text_sameFns` and `SameFns.ng` -/
theorem text_answers_equal (w : Nat → List Char) (hw : Json.WsOnly w) (a : PAdf) (m : HashMap String Nat)
    (ml : List (String × Nat)) (cl : List (Node × Nat)) (hml : ml.Perm m.toList)
    (hcl : cl.Perm a.bdd.st.uniq.toList) (f : Json.FitsA a ml cl) (wf : WF a.bdd.st)
    (hv : ∀ t ∈ a.ac, t < a.bdd.st.nodes.size) :
    ∃ r, Json.importFixText (Json.exportText w a ml cl) = some r ∧ r.names = a.names ∧ r.ac = a.ac ∧
      let n := a.ac.length
      (groundedLoop StoreRA (n + 1) r.bdd.st a.ac).2.map storeIsConst =
        (groundedLoop StoreRA (n + 1) a.bdd.st a.ac).2.map storeIsConst ∧
      SameAnswers (dec3 (completeAll r.bdd.st n a.ac).2.2) (dec3 (completeAll a.bdd.st n a.ac).2.2) ∧
      SameAnswers (dec3 (stableAll r.bdd.st n a.ac).2) (dec3 (stableAll a.bdd.st n a.ac).2) ∧
      SameAnswers (dec3 (Cli.stablePre r.bdd.st n a.ac).2) (dec3 (Cli.stablePre a.bdd.st n a.ac).2) ∧
      ∀ useA useA' : Bool,
        SameAnswers (dec3 (countAll r.bdd.st n a.ac useA').2) (dec3 (countAll a.bdd.st n a.ac useA).2) := by
  obtain ⟨r, h, hnm, hac, _, hs⟩ := Json.text_sameFns w hw a m ml cl hml hcl f wf hv
  exact ⟨r, h, hnm, hac, hs.grounded, hs.complete _ rfl, hs.stable _ rfl, hs.stablePre _ rfl,
    fun u u' => hs.count _ rfl u u'⟩

/-- **CLI `--lib naive --export PATH` on a free path, then `--lib naive --import PATH`** (`serde_json::to_writer`, then
`from_str` + `fix_import`; three-line file-system model `cliExport`, see the scope notes): the file holds the
text, and what is read back has the names, the root handles and the node table of the exporting run and
denotes the same functions — so the sections printed by the importing run are those of `text_answers_equal` -/
theorem cli_export_then_import (fs : String → Option String) (path : String) (free : (fs path).isNone)
    (a : PAdf) (m : HashMap String Nat) (ml : List (String × Nat)) (cl : List (Node × Nat))
    (hml : ml.Perm m.toList) (hcl : cl.Perm a.bdd.st.uniq.toList) (f : Json.FitsA a ml cl) (wf : WF a.bdd.st)
    (hv : ∀ t ∈ a.ac, t < a.bdd.st.nodes.size) :
    ∃ c r, cliExport fs path (String.ofList (Json.exportText Json.noWs a ml cl)) path = some c ∧
      Json.importFixText c.toList = some r ∧ r.names = a.names ∧ r.ac = a.ac ∧
      r.bdd.st.nodes = a.bdd.st.nodes ∧ SameFns a.bdd.st r.bdd.st a.ac := by
  obtain ⟨r, h, h1, h2, h3, h4⟩ := Json.text_sameFns Json.noWs Json.noWs_ok a m ml cl hml hcl f wf hv
  exact ⟨_, r, (export_never_overwrites fs path _ "").2.1 free, by rw [String.toList_ofList]; exact h, h1, h2, h3, h4⟩

/-- what else the reader takes, as serde's derived visitors do: the members of the outer struct in
any order, and members with other names skipped (older exports carry `"count_cache":{}`) -/
theorem reader_tolerates (o o' : List (List Char × Json.J)) (k : List Char) (v : Json.J)
    (hp : o.Perm o') (h1 : k ≠ Json.kOrdering) (h2 : k ≠ Json.kBdd) (h3 : k ≠ Json.kAc) :
    Json.dAdf (.obj o) = Json.dAdf (.obj o') ∧ Json.dAdf (.obj ((k, v) :: o)) = Json.dAdf (.obj o) :=
  ⟨Json.dAdf_perm hp, Json.dAdf_unknown k v o h1 h2 h3⟩

/-! non-vacuity at the text level: one statement whose label contains a quote, a backslash, a
newline, a control character, DEL, a two-byte and a four-byte character; condition = the statement
itself (handle 2, an inner node); whitespace between all tokens -/

def nastyLabel : String := String.ofList ['q', '"', '\\', '\n', '\x01', '\x7f', 'é', Char.ofNat 0x1F600]
def nastyAdf : PAdf := { x0Adf with names := [nastyLabel] }
def nastyMap : HashMap String Nat := (∅ : HashMap String Nat).insert nastyLabel 0
def someWs : Nat → List Char := fun i => if i % 2 = 0 then [' ', '\n'] else ['\t', '\r']

theorem someWs_ok : Json.WsOnly someWs := by
  intro i c hc
  unfold someWs at hc
  split at hc <;> simp at hc <;> rcases hc with h | h <;> subst h <;> decide

theorem nasty_fits : Json.FitsA nastyAdf nastyMap.toList nastyAdf.bdd.st.uniq.toList :=
  Json.fitsA_of_wf nastyAdf nastyMap _ _ x0Adf_ok.1 (by simp [nastyAdf, x0Adf, mkNode, Store.init, Json.B64])
    x0Adf_ok.2
    (fun k v h => by
      simp only [nastyMap, HashMap.getElem?_insert, HashMap.getElem?_empty] at h
      split at h <;> simp at h
      subst h; simp [Json.B64])
    (List.Perm.refl _) (List.Perm.refl _)

example :
    ∃ r, Json.importFixText (Json.exportText someWs nastyAdf nastyMap.toList nastyAdf.bdd.st.uniq.toList) = some r ∧
      r.names = [nastyLabel] ∧ r.ac = [2] ∧
      SameAnswers (dec3 (stableAll r.bdd.st 1 [2]).2) (dec3 (stableAll x0Adf.bdd.st 1 [2]).2) :=
  let ⟨r, h, hnm, hac, _, _, hs, _⟩ := text_answers_equal someWs someWs_ok nastyAdf nastyMap _ _
    (List.Perm.refl _) (List.Perm.refl _) nasty_fits x0Adf_ok.1 x0Adf_ok.2
  ⟨r, h, hnm, hac, hs⟩

/-- the lexer on a concrete text (kernel-evaluated): escapes, whitespace, numbers; and rejections
(leading zero, a raw control character in a string, a number that is no `usize`) -/
example :
    Json.lex ['[', ' ', '"', 'a', '\\', 'n', '\\', 'u', '0', '0', 'e', '9', '\\', '"', '"', ',', '\n', '1', '0', ']'] =
      some [.lk, .str ['a', '\n', 'é', '"'], .comma, .num 10, .rk] ∧
    Json.lex ['0', '1'] = none ∧ Json.lex ['"', '\n', '"'] = none ∧
    Json.lex (Json.digits Json.B64) = none := by
  refine ⟨by decide, by decide, by decide, ?_⟩
  rw [decimal_roundtrip]; simp [Json.B64]

/-! ## the CLI with a file system: `--export <path>` / `--import` in the text-level model (`CliM.runTextIO`)

`export_never_overwrites` above speaks about the three-line `cliExport`. `CliM.runTextIO` (CliIO.lean) is
the whole binary - invocation with optional `--export p` / `--import`, text of the input file, a
file-system snapshot (finite map path → content) - returning exit status, stdout and the file system
afterwards; it extends C15's `CliM.runText` (`C15.io_without_options_is_runText`). As `main.rs` has it:
only the naive arm knows the two options; the export happens after the object is built (or imported)
and BEFORE anything is printed; on an existing path - empty file or not - an error is logged, nothing is
written, and the run goes on with exit status 0 and the usual output. -/

/-- **the CLI never overwrites an existing file**: for every invocation (any arm, any flags, with or
without `--export`, `--import`), every input text and every file system, every path that existed
before the run has the same content afterwards; in particular an export onto an existing path -
whatever it holds, nothing included - changes nothing, and exporting twice leaves the first file as it was -/
theorem export_never_overwrites_fs {T : Type} (W : CliM.World T) (fuel : Nat) (io : CliM.InvIO) (ord : CliM.Orders)
    (t : List Char) (fs : CliM.FS) :
    (∀ q c, fs.get q = some c → (CliM.runTextIO W fuel io ord t fs).fs.get q = some c) ∧
    (∀ p, io.exportTo = some p → fs.has p = true → (CliM.runTextIO W fuel io ord t fs).fs = fs) ∧
    (∀ (io2 : CliM.InvIO) (ord2 : CliM.Orders) (t2 : List Char) q c,
      (CliM.runTextIO W fuel io ord t fs).fs.get q = some c →
      (CliM.runTextIO W fuel io2 ord2 t2 (CliM.runTextIO W fuel io ord t fs).fs).fs.get q = some c) := by
  refine ⟨fun q c h => CliM.runTextIO_keeps W fuel io ord t fs q c h, ?_,
    fun io2 ord2 t2 q c h => CliM.runTextIO_keeps W fuel io2 ord2 t2 _ q c h⟩
  intro p he hx
  rcases CliM.runTextIO_fs W fuel io ord t fs with e | ⟨p', _, he', hfree, _⟩
  · exact e
  · rw [he] at he'; cases he'
    unfold CliM.FS.has at hx; rw [hfree] at hx; cases hx

/-- the same with the input file read from the file system (`runFileIO`; a missing input is a panic) -/
theorem export_never_overwrites_file {T : Type} (W : CliM.World T) (fuel : Nat) (io : CliM.InvIO) (ord : CliM.Orders)
    (input : CliM.Path) (fs : CliM.FS) (q : CliM.Path) (c : List Char) (h : fs.get q = some c) :
    (CliM.runFileIO W fuel io ord input fs).fs.get q = some c := by
  unfold CliM.runFileIO
  cases fs.get input with
  | none => exact h
  | some t => exact CliM.runTextIO_keeps W fuel io ord t fs q c h

/-! scope note for the three statements that follow: `ord` is a PARAMETER - the statements hold for
every `ord`; the written text is the text serde_json produces exactly when `ord` lists the two hash maps' entries
(`ValidOrders o ord`, as in `RunsIO` / `export_never_overwrites_rel`). Paths are compared as texts (see `CliIO.lean`).
For `--import` the clauses about a run that panics before the export speak about JSON ERRORS; on an arbitrary JSON
text that parses but is not the export of a well-formed object the Rust `fix_import` can panic where the model goes
on (disclaimed in `CliIO.lean`): the import clauses are claimed for exports of well-formed objects. -/

/-- **a run writes at most one new path, the requested one**: the file system afterwards is the one
before, or the one before plus ONE binding: for the path given with `--export`, which was free, in the
naive arm, holding the compact JSON text of the object the arm built (`Json.print`, the two hash maps in
the orders `ord`); every path afterwards existed before or is the requested one -/
theorem export_writes_only_target {T : Type} (W : CliM.World T) (fuel : Nat) (io : CliM.InvIO) (ord : CliM.Orders)
    (t : List Char) (fs : CliM.FS) :
    let r := CliM.runTextIO W fuel io ord t fs
    (r.fs = fs ∨ ∃ p o, io.exportTo = some p ∧ fs.get p = none ∧ io.inv.mode = .naive ∧ CliM.objOf W io t = some o ∧
      r.refused = false ∧ r.fs = (p, Json.print (CliM.textAdfOf o ord)) :: fs) ∧
    (∀ q ∈ r.fs.paths, q ∈ fs.paths ∨ io.exportTo = some q) ∧
    r.fs.paths.length ≤ fs.paths.length + 1 := by
  intro r
  rcases CliM.runTextIO_fs W fuel io ord t fs with e | ⟨p, o, h1, h2, h3, h4, h5, e⟩
  · exact ⟨Or.inl e, fun q hq => Or.inl (by rw [← e]; exact hq), by show r.fs.paths.length ≤ _; rw [e]; omega⟩
  · refine ⟨Or.inr ⟨p, o, h1, h2, h3, h4, h5, e⟩, ?_, by show r.fs.paths.length ≤ _; rw [e]; simp [CliM.FS.paths]⟩
    intro q hq
    have hq' : q ∈ r.fs.paths := hq
    rw [e] at hq'
    simp only [CliM.FS.paths, List.map_cons, List.mem_cons] at hq'
    rcases hq' with h | h
    · exact Or.inr (by rw [h, h1])
    · exact Or.inl h

/-- when the file IS written, and when the refusal is logged: in the naive arm, once the object is built,
a free path receives the text and an existing one is refused; the other arms ignore the option; a run
that panics before (unparsable text, `from_parser` panic, JSON error) writes nothing -/
theorem export_happens_iff {T : Type} (W : CliM.World T) (fuel : Nat) (io : CliM.InvIO) (ord : CliM.Orders)
    (t : List Char) (fs : CliM.FS) (p : CliM.Path) (he : io.exportTo = some p) :
    (io.inv.mode ≠ .naive → CliM.runTextIO W fuel io ord t fs = ⟨CliM.runText W fuel io.inv t, fs, false⟩) ∧
    (io.inv.mode = .naive → CliM.objOf W io t = none → CliM.runTextIO W fuel io ord t fs = ⟨CliM.rejected, fs, false⟩) ∧
    (∀ o, io.inv.mode = .naive → CliM.objOf W io t = some o →
      (fs.has p = true → CliM.runTextIO W fuel io ord t fs = ⟨CliM.outOn fuel io.inv o, fs, true⟩) ∧
      (fs.has p = false →
        CliM.runTextIO W fuel io ord t fs = ⟨CliM.outOn fuel io.inv o, (p, CliM.exportText o ord) :: fs, false⟩)) :=
  ⟨fun hm => CliM.runTextIO_other W fuel io ord t fs hm,
   fun hm ho => CliM.runTextIO_naive_none W fuel io ord t fs hm ho,
   fun o hm ho => ⟨fun hx => by rw [CliM.runTextIO_naive W fuel io ord t fs hm o ho, CliM.runObjIO_has fuel io ord o fs p he hx],
                   fun hx => by rw [CliM.runTextIO_naive W fuel io ord t fs hm o ho, CliM.runObjIO_free fuel io ord o fs p he hx]⟩⟩

/-- **`--export p` on text `t`, then `--import` on the written file, prints what the direct run prints**
(naive arm; every combination of the section flags, every heuristic, every bound `fuel` on the
nogood-learning search - halted or not; the importing run may carry any sorting flag and a further
`--export`): the exporting run's exit status and stdout are those of the run without `--export`
(`CliM.runText`); if it panics nothing is written; otherwise the free path `p` holds the JSON text of the
object, the importing run builds an object with the same names, conditions and NODE TABLE, computes
the same blocks (same vectors in the same order) and prints the same lines with exit status 0.
Hypotheses on the object: at most 2^64 − 2 statements and 2^64 nodes, `usize` values in `mapping`
(`hml`), `ord.cl` an iteration order of the unique table. -/
theorem export_then_import_prints_same {T : Type} (W : CliM.World T) (han : ∀ ns, (W.anSort ns).Perm ns) (fuel : Nat)
    (i i' : CliM.Inv) (hm : i.mode = .naive) (hm' : i'.mode = .naive) (hf : i'.flags = i.flags) (hh : i'.heu = i.heu)
    (p : CliM.Path) (ord ord' : CliM.Orders) (t : List Char) (fs : CliM.FS) (free : fs.get p = none)
    (e' : Option CliM.Path) :
    let r1 := CliM.runTextIO W fuel ⟨i, some p, false⟩ ord t fs
    r1.out = CliM.runText W fuel i t ∧
    (CliM.parsedObj W i t = none → r1 = ⟨CliM.rejected, fs, false⟩) ∧
    ∀ o, CliM.parsedObj W i t = some o → o.names.length ≤ VBOT → o.store.nodes.size ≤ Json.B64 →
      (∀ kv ∈ ord.ml, kv.2 < Json.B64) → ord.cl.Perm o.store.uniq.toList →
      r1.out.exit = 0 ∧ r1.refused = false ∧ r1.fs = (p, CliM.exportText o ord) :: fs ∧
      (∃ o', CliM.importObj (CliM.exportText o ord) = some o' ∧ o'.names = o.names ∧ o'.ac = o.ac ∧
        o'.store.nodes = o.store.nodes ∧ CliM.blocksOn fuel i' o' = CliM.blocksOn fuel i o) ∧
      (CliM.runFileIO W fuel ⟨i', e', true⟩ ord' p r1.fs).out = CliM.runText W fuel i t := by
  intro r1
  have hplain : r1.out = CliM.runText W fuel i t := CliM.runTextIO_plain W fuel i (some p) ord t fs
  refine ⟨hplain, fun hn => CliM.runTextIO_naive_none W fuel _ ord t fs hm (by simp only [CliM.objOf]; exact hn), ?_⟩
  intro o ho hsz hnodes hml hcl
  have ⟨w, hlen, _, hv⟩ := CliM.parsedObj_ok W han i t o ho hsz
  have fits := CliM.fits_of_ok o ord w hnodes hv hml hcl
  have e1 : r1 = CliM.runObjIO fuel ⟨i, some p, false⟩ ord o fs :=
    CliM.runTextIO_naive W fuel ⟨i, some p, false⟩ ord t fs hm o (by simp only [CliM.objOf]; exact ho)
  have ⟨a, b, c, d, e⟩ := CliM.export_then_import_obj W fuel ⟨i, some p, false⟩ i' hm' hf hh p rfl ord ord' fs free
    o w hlen hcl fits e'
  rw [← e1] at a b c e
  exact ⟨by rw [c]; rfl, b, a, d, by rw [e, hplain]⟩

/-! non-vacuity of the export / import theorems: the two-statement object `a ↦ ¬b`, `b ↦ ¬a`
(`C14More.negStore`: four nodes, two stable models), flags `--grd --com --stm --stmng`, a file system
with one other file, export to the free path `x`, the maps in a non-canonical order -/

def ioObj : CliM.NaiveObj :=
  { names := [['a'], ['b']], mapping := HashMap.ofList [("a", 0), ("b", 1)], store := C14More.negStore, ac := [3, 2], n := 2 }
def ioOrd : CliM.Orders := ⟨[("b", 1), ("a", 0)], C14More.negStore.uniq.toList⟩
def ioInv : CliM.Inv := ⟨.naive, { grd := true, com := true, stm := true, stmng := true }, .none, .simple⟩
def ioFs : CliM.FS := [(['n'], ['k', 'e', 'e', 'p'])]

theorem ioOrd_fits : ∀ kv ∈ ioOrd.ml, kv.2 < Json.B64 := by
  intro kv h
  have : kv = ("b", 1) ∨ kv = ("a", 0) := by simpa [ioOrd] using h
  rcases this with h | h <;> subst h <;> simp [Json.B64]

theorem ioObj_fits : Json.Fits (CliM.textAdfOf ioObj ioOrd) :=
  CliM.fits_of_ok ioObj ioOrd C14More.negStore_WF
    (by show C14More.negStore.nodes.size ≤ _; rw [C14More.negStore_nodes]; simp [Json.B64])
    C14More.negAdf_ok.2 ioOrd_fits (List.Perm.refl _)

example :
    let r1 := CliM.runObjIO 1000 ⟨ioInv, some ['x'], false⟩ ioOrd ioObj ioFs
    r1.fs = [(['x'], CliM.exportText ioObj ioOrd), (['n'], ['k', 'e', 'e', 'p'])] ∧ r1.refused = false ∧
    (CliM.runFileIO CliMP.exW 1000 ⟨{ ioInv with sort := .lx }, none, true⟩ ⟨[], []⟩ ['x'] r1.fs).out = r1.out ∧
    -- a second export onto the now existing path is refused and changes nothing
    (CliM.runObjIO 1000 ⟨ioInv, some ['x'], false⟩ ⟨[], []⟩ ioObj r1.fs).fs = r1.fs ∧
    (CliM.runObjIO 1000 ⟨ioInv, some ['x'], false⟩ ⟨[], []⟩ ioObj r1.fs).refused = true := by
  intro r1
  have h := CliM.export_then_import_obj CliMP.exW 1000 ⟨ioInv, some ['x'], false⟩ { ioInv with sort := .lx } rfl rfl rfl
    ['x'] rfl ioOrd ⟨[], []⟩ ioFs (by decide) ioObj C14More.negStore_WF rfl (List.Perm.refl _)
    ioObj_fits none
  have hx : CliM.FS.has r1.fs ['x'] = true := by rw [h.1]; decide
  exact ⟨h.1, h.2.1, h.2.2.2.2, by rw [CliM.runObjIO_has 1000 _ _ ioObj r1.fs ['x'] rfl hx],
    by rw [CliM.runObjIO_has 1000 _ _ ioObj r1.fs ['x'] rfl hx]⟩


/-- the relational form (SOME iteration orders of the object's maps, `CliM.RunsIO`): whatever the orders,
existing files keep their content and at most the requested path is new -/
theorem export_never_overwrites_rel {T : Type} (W : CliM.World T) (fuel : Nat) (io : CliM.InvIO) (t : List Char)
    (fs : CliM.FS) (r : CliM.OutIO) (h : CliM.RunsIO W fuel io t fs r) :
    (∀ q c, fs.get q = some c → r.fs.get q = some c) ∧ (∀ q ∈ r.fs.paths, q ∈ fs.paths ∨ io.exportTo = some q) := by
  obtain ⟨ord, _, rfl⟩ := h
  exact ⟨fun q c hq => (export_never_overwrites_fs W fuel io ord t fs).1 q c hq,
    (export_writes_only_target W fuel io ord t fs).2.1⟩

/-- text-level non-vacuity (kernel-checked part): the text `s(b).s(a).ac(b,neg(a)).ac(a,neg(b)).` with `--lx`
is accepted, the naive arm builds an object `o` from it (names sorted: a, b) and the hypotheses of
`export_then_import_prints_same` on the number of statements and on `ord` hold for
`ord = ⟨[("b",1),("a",0)], o.store.uniq.toList⟩`; the remaining one, `o.store.nodes.size ≤ 2^64`, is an
evaluator check below (hash maps do not reduce in the kernel; the node table has 6 entries) -/
example : ∃ o, CliM.parsedObj CliMP.exW { ioInv with sort := .lx } CliMP.exText = some o ∧ o.names = [['a'], ['b']] ∧
    o.names.length ≤ VBOT ∧ (∀ kv ∈ ioOrd.ml, kv.2 < Json.B64) ∧
    (o.store.uniq.toList).Perm o.store.uniq.toList := by
  have hp : CliM.parsed CliMP.exW { ioInv with sort := .lx } CliMP.exText =
      some (CliM.sortState CliMP.exW.anSort .lx (ParserM.PState.ofFacts CliMP.exFacts)) :=
    CliMP.parsed_of_der CliMP.exW { ioInv with sort := .lx } CliMP.exText CliMP.exFacts CliMP.exText_der (by decide)
  obtain ⟨fs, _, hder, pres⟩ := CliMP.parsed_pres CliMP.exW (fun _ => List.Perm.refl _) _ _ _ hp
  have hfs : fs = CliMP.exFacts := hder.unique CliMP.exText_der
  subst hfs
  have hnames : CliMP.sortedNames CliMP.exW.anSort .lx (ParserM.namesOf CliMP.exFacts) = [['a'], ['b']] := by decide
  rw [show ({ ioInv with sort := .lx } : CliM.Inv).sort = .lx from rfl, hnames] at pres
  obtain ⟨_, s, ac, _, hfp, _⟩ := CliMP.items_facts pres (by unfold CliMP.WfOn; decide) (by simp [VBOT])
  have ho : ∃ o, CliM.parsedObj CliMP.exW { ioInv with sort := .lx } CliMP.exText = some o ∧
      o.names = (CliM.sortState CliMP.exW.anSort .lx (ParserM.PState.ofFacts CliMP.exFacts)).namelist := by
    unfold CliM.parsedObj
    rw [hp]
    simp only
    rw [hfp]
    exact ⟨_, rfl, rfl⟩
  obtain ⟨o, ho, hn⟩ := ho
  rw [pres.nl] at hn
  exact ⟨o, ho, hn, by rw [hn]; simp [VBOT], ioOrd_fits, List.Perm.refl _⟩

#guard ((CliM.parsedObj CliMP.exW { ioInv with sort := .lx } CliMP.exText).map fun o => o.store.nodes.size) == some 6
-- the text-level statement executed: export, import of the written text, same output; 8 lines
#guard
  let cl := ((CliM.parsedObj CliMP.exW { ioInv with sort := .lx } CliMP.exText).map fun o => o.store.uniq.toList).getD []
  let r1 := CliM.runTextIO CliMP.exW 1000 ⟨{ ioInv with sort := .lx }, some ['x'], false⟩ ⟨ioOrd.ml, cl.reverse⟩ CliMP.exText ioFs
  let r2 := CliM.runFileIO CliMP.exW 1000 ⟨ioInv, none, true⟩ ⟨[], []⟩ ['x'] r1.fs
  r1.out.exit == 0 && r1.out.stdout.length == 8 && r2.out == r1.out && r1.fs.map (·.1) == [['x'], ['n']] &&
  r1.out == CliM.runText CliMP.exW 1000 { ioInv with sort := .lx } CliMP.exText
section TextReader
open Json

/-- text level: members in another order, an unknown member (`"x":[]`), inner structs as arrays -/
example : Json.parse "{\"x\":[],\"ac\":[2],\"bdd\":[[],[]],\"ordering\":{\"mapping\":{},\"names\":[\"a\"]}}".toList
    = some ⟨["a"], [], [], [], [2]⟩ := by
  -- a literal is `String.ofList` of its characters by definition: the kernel need not decode its UTF-8
  rw [String.toList_ofList]
  decide +kernel
/-- a repeated known member is rejected; a missing one too -/
example : Json.parse "{\"ac\":[],\"ac\":[],\"bdd\":[[],[]],\"ordering\":[[],{}]}".toList = none ∧
    Json.parse "{\"bdd\":[[],[]],\"ordering\":[[],{}]}".toList = none := by
  rw [String.toList_ofList, String.toList_ofList]
  decide +kernel

end TextReader

end C14

#print axioms C14.future_ops_same_handles
#print axioms C14.future_ops_same_handles_roundtrips
#print axioms C14.complete_after_roundtrip
#print axioms C14.stable_after_roundtrip
#print axioms C14.count_search_after_roundtrip
#print axioms C14.nogood_search_after_roundtrip
#print axioms C14.simplified_roundtrip_decimal
#print axioms C14.decimal_roundtrip
#print axioms C14.string_roundtrip
#print axioms C14.text_roundtrip
#print axioms C14.text_import_fix
#print axioms C14.text_future_ops_same_handles
#print axioms C14.text_answers_equal
#print axioms C14.cli_export_then_import
#print axioms C14.reader_tolerates
#print axioms C14.export_never_overwrites_fs
#print axioms C14.export_never_overwrites_file
#print axioms C14.export_writes_only_target
#print axioms C14.export_happens_iff
#print axioms C14.export_then_import_prints_same
#print axioms C14.export_never_overwrites_rel
