import AdfObdd.FeatureOps
import AdfObdd.FeatureNg
import AdfObdd.FeatureLog
import AdfObdd.CountsMore
import AdfObdd.MemoCheckProofs
import AdfObdd.FeatureDepsCard
/-! # C12 — answers are independent of the cargo feature configuration

Model: `FeatureVariants.lean` carries BOTH bodies of every `cfg(feature = …)` split of
`obdd.rs`, selected by a value `c : Cfg` (`adhoccounting`, `adhoccountmodels`, `variablelist`;
`frontend`: with a sender attached, `node` appends each fresh node to the write-only log
`FStore.log`, section (f)): `newC`, `nodeC`, `restrictC`, `iteCfg`, `pathsC`, `modelsC`,
`maxDepthCfg`, `varDepsC`, `fixImportC`, on a store `FStore` = `Store` + `deps` (= `var_deps`) +
`cnt` (= `count_cache`). The reference is the feature-free development: `mkNode`, `restrictF`,
`iteF`, `runOps`, `paths`/`pathsF`, `countF` (= `modelcount_naive`), `depsOf`/`depsF`.

Invariant `FInv c z fs`: base store `WF`; with `variablelist` the table `deps` is exact
(`DepsOK`); every count entry agrees with the naive tuple in paths and depth, and in the model
components unless the feature set is the exception (`CntOK`); with `adhoccounting` every handle
has an entry (`CntFull`); in the exception configuration on a store nothing was imported into
(`z = true`) every inner node's entry has model components 0 (`CntZero`).

Sections: (a)–(d) diagram operations and the four queries; (e) every semantics (grounded,
complete, stable, counting search a/b, nogood search with every heuristic) over the configured
store, by a simulation `Rel c z fs s → same vectors, Rel again` (`FeatureSemantics`,
`FeatureSearch`, `FeatureNg`); (f) the `frontend` channel (`FeatureLog`); (g) path cubes, impacts,
imported stores (with and without `fix_import`), `models` after `fix_import` + new nodes.

## Scope and assumptions

* **`var_dependencies` is a set in Rust, a list here.** `var_dependencies_feature_independent` is a
  MEMBERSHIP statement; the list without `variablelist` repeats variables (`x0 ⊕ x1`: `[0, 1, 1]`).
  Consumers of `.len()` (`facet_count`, adf.rs:741) are covered by `var_dependencies_card…`: the
  number of distinct entries (`eraseDups.length`) is the number of essential variables.
* **`Bdd::recv` (obdd/frontend.rs:63-94, only with `frontend`) is NOT modelled in this file.** It
  pushes received nodes to `nodes`/`cache` and forwards them, but updates neither `var_deps` nor
  `count_cache`; with `variablelist`/`adhoccounting` a later `node`/`restrict`/query on such a node
  indexes `var_deps` out of range or hits `expect("Cache corrupted")`. The invariant `FInv` (tables
  as long as the node table, `CntFull`) therefore does not survive `recv`, and every theorem of this
  file is about stores reached by `new`, the operations, the queries, `fix_import` and
  `set_sender` ONLY. The receiving side is C19's subject (`Stream*`), under the feature-free store.
* **The channel behind `set_sender` is assumed unbounded**: the log `FStore.log` is a list to which
  `nodeC` always appends. The sender is supplied by the caller; with a bounded crossbeam channel
  `send` in `node` (obdd.rs:288-371) would block when the consumer lags — a liveness matter outside
  the model; a disconnected receiver makes `send` return `Err`, which the code only logs (the model's
  log then records what was attempted, not what was delivered).
* **Totalised lookups where Rust panics.** `lookupCN` (= `count_cache.get(..).expect(..)`,
  obdd.rs:379,395,412) defaults to `CN.zero`; `fs.deps.getD t []` (= `var_deps[t]`, obdd.rs:222
  and `var_dependencies`) defaults to `[]`; `nodeC` leaves the cache unchanged when a child has no
  entry (= `expect("Cache corrupted")`, obdd.rs:322,324). None of the defaults is reachable under
  `FInv` (`DepsOK` gives the table the node table's length, `CntFull` an entry per handle), which
  every theorem assumes or derives; OUTSIDE `FInv` (foreign handle, import without `fix_import` —
  section (g) `import_without_fix…` states exactly which queries are then still right) the model
  returns the default where the implementation aborts, so no theorem here may be read as "does not
  panic" for such inputs. -/
namespace C12

/-! ## (a) `restrict` and `if_then_else`: the `variablelist` shortcut changes neither handle nor node table -/

/-- Store level: the body with the shortcut ("variable not in the dependency set ⇒ return the
diagram") and the body without return the same handle and the same node table, from any two
well-formed stores with the same node table — whatever their restrict memos contain -/
theorem restrict_shortcut_same (s s' : Store) (w : WF s) (w' : WF s') (hn : s.nodes = s'.nodes)
    (t v : Nat) (b : Bool) (ht : t < s.nodes.size) :
    (restrictS scDeps (t+1) s t v b).2 = (restrictF (t+1) s' t v b).2 ∧
    (restrictS scDeps (t+1) s t v b).1.nodes = (restrictF (t+1) s' t v b).1.nodes := by
  have ⟨_, a, b'⟩ := restrictS_sim scDeps scDeps_sound (t+1) s s' t v b w w' hn ht (Nat.lt_succ_self _)
  exact ⟨b', a⟩

/-- the same with the shortcut reading the incrementally maintained table, under every feature set -/
theorem restrict_feature_independent (c : Cfg) (z : Bool) (fs : FStore) (s : Store) (r : Rel c z fs s)
    (t v : Nat) (b : Bool) (ht : t < s.nodes.size) :
    (restrictC c (t+1) fs t v b).2 = (restrictF (t+1) s t v b).2 ∧
    (restrictC c (t+1) fs t v b).1.base.nodes = (restrictF (t+1) s t v b).1.nodes ∧
    Rel c z (restrictC c (t+1) fs t v b).1 (restrictF (t+1) s t v b).1 :=
  have ⟨a, b'⟩ := (restrict_rel r.toA t v b ht).imp_right RelA.rel
  ⟨a, b'.nodes, b'⟩

/-- `if_then_else` built on either restrict body: same handle, same node table -/
theorem ite_feature_independent (c : Cfg) (z : Bool) (fs : FStore) (s : Store) (r : Rel c z fs s)
    (i t e : Nat) (hi : i < s.nodes.size) (ht : t < s.nodes.size) (he : e < s.nodes.size) :
    (iteCfg c (i+t+e+1) fs i t e).2 = (iteF (i+t+e+1) s i t e).2 ∧
    (iteCfg c (i+t+e+1) fs i t e).1.base.nodes = (iteF (i+t+e+1) s i t e).1.nodes ∧
    Rel c z (iteCfg c (i+t+e+1) fs i t e).1 (iteF (i+t+e+1) s i t e).1 :=
  have ⟨a, b'⟩ := (ite_rel r.toA i t e hi ht he).imp_right RelA.rel
  ⟨a, b'.nodes, b'⟩

/-- `node`: no table influences the result -/
theorem node_feature_independent (c : Cfg) (fs : FStore) (v lo hi : Nat) :
    (nodeC c fs v lo hi).2 = (mkNode fs.base v lo hi).2 ∧
    (nodeC c fs v lo hi).1.base = (mkNode fs.base v lo hi).1 :=
  ⟨(nodeC_base c fs v lo hi).2, (nodeC_base c fs v lo hi).1⟩

/-! ## (b) `var_dependencies`: the maintained table is the recursive set -/

/-- pushing a node keeps the table exact; the regeneration loop builds an exact table -/
theorem deps_table_exact :
    (∀ (s s' : Store) (tbl : Array (List Nat)) (v lo hi : Nat), TableWF s.nodes →
      s'.nodes = s.nodes.push ⟨v, lo, hi⟩ → lo < s.nodes.size → hi < s.nodes.size → DepsOK s tbl →
      DepsOK s' (tbl.push (depsEntry tbl v lo hi))) ∧
    (∀ s : Store, TableWF s.nodes → DepsOK s (genDeps #[] s.nodes)) :=
  ⟨DepsOK_push, genDeps_ok⟩

/-- `var_dependencies` with `variablelist` (table lookup) and without (recursion) give the same set -/
theorem var_dependencies_feature_independent (c : Cfg) (z : Bool) (fs : FStore) (inv : FInv c z fs) (t : Nat)
    (ht : t < fs.base.nodes.size) (x : Nat) :
    x ∈ varDepsC c fs t ↔ x ∈ depsOf fs.base t := varDepsC_exact c z fs t inv ht x

/-- **cardinality** (`facet_count`, adf.rs:741, and the heuristics read `var_dependencies(..).len()`;
the Rust value is a `HashSet` in both builds, the model value a list which without `variablelist`
repeats a variable once per occurrence). The number of DISTINCT entries of the model's list — the
`.len()` of the set the code builds — is, under every feature set, the number of variables the
diagram's function depends on: the length of any duplicate-free enumeration `L` of the essential
variables -/
theorem var_dependencies_card (c : Cfg) (z : Bool) (fs : FStore) (inv : FInv c z fs) (t : Nat)
    (ht : t < fs.base.nodes.size) (L : List Nat) (hL : L.Nodup)
    (hE : ∀ x, x ∈ L ↔ Essential (eval fs.base t) x) :
    (varDepsC c fs t).eraseDups.length = L.length :=
  DepsCard.distinct_length hL fun x =>
    ((varDepsC_exact c z fs t inv ht x).trans (deps_exact fs.base inv.wf t x ht)).trans (hE x).symm

/-- the same with the enumeration written out: the essential variables among `0 … n-1`
(`DepsCard.essentialBelow f n = (List.range n).filter (Essential f)`, classical), for every `n`
above the listed variables -/
theorem var_dependencies_card_range (c : Cfg) (z : Bool) (fs : FStore) (inv : FInv c z fs) (t : Nat)
    (ht : t < fs.base.nodes.size) (n : Nat) (hn : ∀ x ∈ depsOf fs.base t, x < n) :
    (varDepsC c fs t).eraseDups.length = (DepsCard.essentialBelow (eval fs.base t) n).length :=
  var_dependencies_card c z fs inv t ht _ (DepsCard.essentialBelow_nodup _ n)
    (DepsCard.mem_essentialBelow _ n fun x hx => hn x ((deps_exact fs.base inv.wf t x ht).mpr hx))

/-- the cardinality is the same under any two feature sets on stores with the same node table, and
equal to that of the recursive list -/
theorem var_dependencies_card_feature_independent (c : Cfg) (z : Bool) (fs : FStore) (inv : FInv c z fs) (t : Nat)
    (ht : t < fs.base.nodes.size) :
    (varDepsC c fs t).eraseDups.length = (depsOf fs.base t).eraseDups.length :=
  DepsCard.distinct_length (DepsCard.nodup_eraseDups _) fun x =>
    (varDepsC_exact c z fs t inv ht x).trans List.mem_eraseDups.symm

/-- LEMMAS ONLY: each table step keeps entries duplicate-free (`node` pushes; regeneration
from the EMPTY table) and a duplicate-free list's length is its cardinality.  These three facts are NOT tied to `FInv`:
no theorem here says that a reachable store's `var_deps` entry is `Nodup` (`TabInv.deps` = `DepsOK` is size +
membership only, and `fixImportC` regenerates from `fs.deps`, not from `#[]`), so "under `variablelist` the length of
the entry is the cardinality" is NOT a theorem of this development; the main theorems `var_dependencies_card*` use
`eraseDups.length` and do not need it. -/
theorem deps_table_nodup :
    (∀ (tbl : Array (List Nat)), (∀ l ∈ tbl.toList, l.Nodup) → ∀ (v lo hi : Nat),
      ∀ l ∈ (tbl.push (depsEntry tbl v lo hi)).toList, l.Nodup) ∧
    (∀ (ns : Array Node), ∀ l ∈ (genDeps #[] ns).toList, l.Nodup) ∧
    (∀ l : List Nat, l.Nodup → l.eraseDups.length = l.length) :=
  ⟨fun tbl h v lo hi => DepsCard.nodup_push tbl h _ (DepsCard.nodup_depsEntry tbl h v lo hi),
   fun ns => DepsCard.nodup_genDeps ns #[] (by simp), fun _ h => DepsCard.distinct_length h fun _ => Iff.rfl⟩

/-! ## (c) counts: ad hoc = memoised = naive, except memoised `models` with `adhoccounting` but without `adhoccountmodels` -/

/-- the literal transcription of `modelcount_naive` (five numbers) is `countF` together with `pathsF` -/
theorem naive_is_countF (s : Store) (t : Nat) :
    naive s t = ⟨(countF s (t+1) t).1, (countF s (t+1) t).2.1, (paths s t).1, (paths s t).2, (countF s (t+1) t).2.2⟩ :=
  naiveCN_eq s (t+1) t

/-- ad-hoc bookkeeping of `node`: the entry computed from the children's entries agrees with the
recursive tuple — paths and depth always, models with `adhoccountmodels` -/
theorem adhoc_entry_exact (em cm : Bool) (l h L H : CN) (hem : em = true → cm = true)
    (hl : CN.agree em l L) (hh : CN.agree em h H) : CN.agree em (CN.adhoc cm l h) (CN.combine L H) :=
  CN.agree_adhoc hem hl hh

theorem node_preserves_tables (c : Cfg) (z : Bool) (fs : FStore) (v lo hi : Nat) (inv : FInv c z fs)
    (hlo : lo < fs.base.nodes.size) (hhi : hi < fs.base.nodes.size) : TabInv c z (nodeC c fs v lo hi).1 :=
  nodeC_tab c z fs v lo hi inv.wf.table inv.tab hlo hhi

/-- `modelcount_memoization` on an exact cache returns the naive tuple and keeps the cache exact -/
theorem memo_is_naive (s : Store) (w : WF s) (cnt : CntCache) (hc : CntOK true s cnt) (t : Nat)
    (ht : t < s.nodes.size) :
    (memoCN s (t+1) cnt t).1 = naive s t ∧ CntOK true s (memoCN s (t+1) cnt t).2 := by
  have ⟨a, b, _, _⟩ := memoCN_spec true s w.table (t+1) cnt t hc ht (Nat.lt_succ_self _)
  exact ⟨CN.agree_true a, b⟩

/-- `paths`: ad hoc = memoised = naive, under every feature set and both values of the flag -/
theorem paths_feature_independent (c : Cfg) (z : Bool) (fs : FStore) (inv : FInv c z fs) (t : Nat)
    (ht : t < fs.base.nodes.size) (memo : Bool) :
    (pathsC c fs t memo).1 = paths fs.base t ∧ FInv c z (pathsC c fs t memo).2 :=
  have ⟨a, _, b⟩ := pathsC_exact c z fs t memo inv ht
  ⟨a, b⟩

/-- `models`: ad hoc = naive; memoised = naive unless (`adhoccounting` ∧ ¬`adhoccountmodels`) -/
theorem models_feature_independent (c : Cfg) (hv : c.valid) (z : Bool) (fs : FStore) (inv : FInv c z fs) (t : Nat)
    (ht : t < fs.base.nodes.size) (memo : Bool) (hex : c.exc = false ∨ memo = false) :
    (modelsC c fs t memo).1 = ((countF fs.base (t+1) t).1, (countF fs.base (t+1) t).2.1) ∧
    FInv c z (modelsC c fs t memo).2 :=
  have ⟨a, _, b⟩ := modelsC_exact c hv z fs t memo inv ht hex
  ⟨a, b⟩

/-- the documented exception, what it looks like: with `adhoccounting` but without
`adhoccountmodels` (this is the default feature set), on a store built by operations, memoised
`models` answers (0, 0) for every inner node — the cache entry written by `node` has model
components 0 — and that is never the naive answer -/
theorem models_exception (c : Cfg) (fs : FStore) (inv : FInv c true fs) (he : c.exc = true) (t : Nat)
    (ht2 : 2 ≤ t) (ht : t < fs.base.nodes.size) :
    (modelsC c fs t true).1 = (0, 0) ∧
    (modelsC c fs t true).1 ≠ ((countF fs.base (t+1) t).1, (countF fs.base (t+1) t).2.1) := by
  have ⟨a, _⟩ := modelsC_exception c fs t inv he ht2 ht
  refine ⟨a, ?_⟩
  rw [a]
  intro hcon
  have htot := counts_total_fuel fs.base inv.wf.table (t+1) t ht (Nat.lt_succ_self _)
  have h1 : (countF fs.base (t+1) t).1 = 0 := (Prod.mk.inj hcon).1.symm
  have h2 : (countF fs.base (t+1) t).2.1 = 0 := (Prod.mk.inj hcon).2.symm
  rw [h1, h2] at htot
  have : 0 < 2 ^ (countF fs.base (t+1) t).2.2 := Nat.pow_pos (by decide)
  omega

/-- after `fix_import` every entry is exact, model components included, under every feature set
(so the exception concerns nodes created afterwards only) -/
theorem import_counts_exact (c : Cfg) (fs : FStore) (w : WF fs.base) (hd : fs.deps = #[])
    (hc : CntOK true fs.base fs.cnt) : CntOK true (fixImportC c fs).base (fixImportC c fs).cnt :=
  (fixImportC_inv c fs w hd hc).2

/-- `max_depth` (repaired body): cached = recursive = depth component of the naive count -/
theorem max_depth_feature_independent (c : Cfg) (z : Bool) (fs : FStore) (inv : FInv c z fs) (t : Nat)
    (ht : t < fs.base.nodes.size) : maxDepthCfg c fs t = (countF fs.base (t+1) t).2.2 :=
  maxDepthCfg_exact c z fs t inv ht

theorem x0_nodes : (mkNode Store.init 0 0 1).1.nodes = #[⟨VBOT, 0, 0⟩, ⟨VTOP, 1, 1⟩, ⟨0, 0, 1⟩] := by
  simp [mkNode, Store.init]

/-- D3, in general: the unrepaired body answers 0 for every diagram as long as nothing is cached -/
theorem d3_unrepaired_always_zero (s : Store) : ∀ (fuel t : Nat), maxDepthC false s ∅ fuel t = 0 := by
  intro fuel
  induction fuel with
  | zero => intro t; rfl
  | succ f ih =>
    intro t
    rw [maxDepthC]
    simp only [Std.HashMap.getElem?_empty]
    split
    · rfl
    · cases s.nodes[t]? with
      | none => rfl
      | some n => simp [ih]

/-- D3: the body without `+ 1` answers 0 on the one-variable diagram (depth 1) while nothing is
cached; the repaired body answers 1 -/
theorem d3_unrepaired_wrong :
    maxDepthC false (mkNode Store.init 0 0 1).1 ∅ 3 2 = 0 ∧
    (countF (mkNode Store.init 0 0 1).1 3 2).2.2 = 1 ∧
    maxDepthC true (mkNode Store.init 0 0 1).1 ∅ 3 2 = 1 := by
  refine ⟨d3_unrepaired_always_zero _ 3 2, ?_, ?_⟩
  · simp [countF, x0_nodes]
  · simp [maxDepthC, x0_nodes]

/-! ## (d) `new` and `fix_import` establish the invariants -/

theorem new_establishes (c : Cfg) : FInv c true (newC c) ∧ Rel c true (newC c) Store.init :=
  ⟨newC_inv c, Rel.new c⟩

/-- `fix_import` on what deserialisation produces (tables marked `serde(skip)` empty) -/
theorem fix_import_establishes (c : Cfg) (nodes : Array Node) (uniq : Std.HashMap Node Nat)
    (w : WF ⟨nodes, uniq, ∅, ∅⟩) :
    FInv c false (fixImportC c (importC nodes uniq)) ∧
    Rel c false (fixImportC c (importC nodes uniq)) ⟨nodes, uniq, ∅, ∅⟩ := by
  have ⟨a, _⟩ := fixImportC_inv c (importC nodes uniq) w rfl (CntOK_empty _ _)
  exact ⟨a, a, w, rfl, fun _ => rfl⟩

theorem Rel.of_query {c : Cfg} {z : Bool} {fs fs' : FStore} {s : Store} (r : Rel c z fs s)
    (hb : fs'.base = fs.base) (inv : FInv c z fs') : Rel c z fs' s :=
  ⟨inv, r.wf, by rw [hb]; exact r.nodes, by rw [hb]; exact r.ite⟩

/-- every valid operation sequence, started on a fresh store, issues under every feature set
the handles and builds the node table of the feature-free reference model -/
theorem node_tables_feature_independent (c : Cfg) (ops : List Op) (hops : opsValid ops 2) :
    (runOpsC c ops (newC c) [0, 1]).2 = (runOps ops Store.init [0, 1]).2 ∧
    (runOpsC c ops (newC c) [0, 1]).1.base.nodes = (runOps ops Store.init [0, 1]).1.nodes ∧
    FInv c true (runOpsC c ops (newC c) [0, 1]).1 := by
  have ⟨a, r⟩ := run_rel c true ops (newC c) Store.init [0, 1] _ (Rel.new c) HistOK.init hops
  exact ⟨a, r.nodes, r.inv⟩

theorem node_tables_agree (c c' : Cfg) (ops : List Op) (hops : opsValid ops 2) :
    (runOpsC c ops (newC c) [0, 1]).2 = (runOpsC c' ops (newC c') [0, 1]).2 ∧
    (runOpsC c ops (newC c) [0, 1]).1.base.nodes = (runOpsC c' ops (newC c') [0, 1]).1.base.nodes := by
  have ⟨a, b, _⟩ := node_tables_feature_independent c ops hops
  have ⟨a', b', _⟩ := node_tables_feature_independent c' ops hops
  exact ⟨a.trans a'.symm, b.trans b'.symm⟩

/-- **C12**: after any valid operation sequence, under every feature set, every query on every
issued handle answers what the feature-free reference model answers — with the one documented
exception, whose answer is (0, 0) -/
theorem answers_feature_independent (c : Cfg) (hv : c.valid) (ops : List Op) (hops : opsValid ops 2)
    (t : Nat) (ht : t ∈ (runOps ops Store.init [0, 1]).2) (memo : Bool) :
    (pathsC c (runOpsC c ops (newC c) [0, 1]).1 t memo).1 = paths (runOps ops Store.init [0, 1]).1 t ∧
    ((c.exc = false ∨ memo = false) →
      (modelsC c (runOpsC c ops (newC c) [0, 1]).1 t memo).1 =
        ((countF (runOps ops Store.init [0, 1]).1 (t+1) t).1, (countF (runOps ops Store.init [0, 1]).1 (t+1) t).2.1)) ∧
    (c.exc = true → 2 ≤ t → (modelsC c (runOpsC c ops (newC c) [0, 1]).1 t true).1 = (0, 0)) ∧
    maxDepthCfg c (runOpsC c ops (newC c) [0, 1]).1 t = (countF (runOps ops Store.init [0, 1]).1 (t+1) t).2.2 ∧
    (∀ x, x ∈ varDepsC c (runOpsC c ops (newC c) [0, 1]).1 t ↔ x ∈ depsOf (runOps ops Store.init [0, 1]).1 t) := by
  have ⟨_, r⟩ := run_rel c true ops (newC c) Store.init [0, 1] _ (Rel.new c) HistOK.init hops
  have ⟨_, _, hM⟩ := runOps_refines ops Store.init [0, 1] _ WF_init HistOK.init hops
  have htM := hM.valid t ht
  have ⟨qp, qd, qv, qm⟩ := r.queries hv t htM memo
  exact ⟨qp, qm, fun he ht2 => (modelsC_exception c _ t r.inv he ht2 (r.size ▸ htM)).1, qd, qv⟩

/-- the cargo feature sets are valid configurations; the default one is the exception configuration -/
example : Cfg.default.valid ∧ Cfg.none.valid ∧ Cfg.all.valid ∧ Cfg.default.exc = true ∧ Cfg.all.exc = false ∧
    Cfg.none.exc = false := by
  refine ⟨?_, ?_, ?_, rfl, rfl, rfl⟩ <;> intro h <;> first | rfl | cases h

/-- non-vacuity of the operation-sequence theorems: x0, ¬x0, x0 ∨ ¬x0, restriction by a variable that
does not occur -/
example : opsValid [.var 0, .not 2, .or 2 3, .restrict 2 1 true] 2 ∧ Rel Cfg.default true (newC Cfg.default) Store.init :=
  ⟨⟨by simp [Op.valid, VBOT], by simp [Op.valid], by simp [Op.valid], by simp [Op.valid], trivial⟩, Rel.new _⟩

/-- non-vacuity of `models_exception`: the default feature set, the store after `var 0`, inner node 2 -/
example : FInv Cfg.default true (runOpsC Cfg.default [.var 0] (newC Cfg.default) [0, 1]).1 ∧
    Cfg.default.exc = true ∧ 2 < (runOpsC Cfg.default [.var 0] (newC Cfg.default) [0, 1]).1.base.nodes.size := by
  have ⟨_, b, c⟩ := node_tables_feature_independent Cfg.default [.var 0] ⟨by simp [Op.valid, VBOT], trivial⟩
  refine ⟨c, rfl, ?_⟩
  rw [b]
  simp [runOps, stepOp, mkNode, Store.init]

/-- non-vacuity of the cardinality theorems: the store of `x0, x1, x0 ⊕ x1` (the last handle, 5, is the ⊕) -/
example (c : Cfg) : FInv c true (runOpsC c [.var 0, .var 1, .xor 2 3] (newC c) [0, 1]).1 ∧
    ∀ t ∈ (runOps [.var 0, .var 1, .xor 2 3] Store.init [0, 1]).2,
      t < (runOpsC c [.var 0, .var 1, .xor 2 3] (newC c) [0, 1]).1.base.nodes.size := by
  have hv : opsValid [.var 0, .var 1, .xor 2 3] 2 :=
    ⟨by simp [Op.valid, VBOT], by simp [Op.valid, VBOT], by simp [Op.valid], trivial⟩
  have ⟨_, b, i⟩ := node_tables_feature_independent c [.var 0, .var 1, .xor 2 3] hv
  refine ⟨i, ?_⟩
  rw [b]
  have ⟨_, _, h3⟩ := runOps_refines [.var 0, .var 1, .xor 2 3] Store.init [0, 1] _ WF_init HistOK.init hv
  exact fun t ht => h3.valid t ht
#guard (runOps [.var 0, .var 1, .xor 2 3] Store.init [0, 1]).2 == [0, 1, 2, 3, 5]

/-- the node table that run produces (checked by evaluation below): x0, x1, ¬x1, x0 ⊕ x1 -/
def xorTable : Array Node := #[⟨VBOT, 0, 0⟩, ⟨VTOP, 1, 1⟩, ⟨0, 0, 1⟩, ⟨1, 0, 1⟩, ⟨1, 1, 0⟩, ⟨0, 3, 4⟩]
#guard (runOps [.var 0, .var 1, .xor 2 3] Store.init [0, 1]).1.nodes == xorTable
#guard varDepsC Cfg.none (runOpsC Cfg.none [.var 0, .var 1, .xor 2 3] (newC Cfg.none) [0, 1]).1 5 == [0, 1, 1]
#guard varDepsC Cfg.default (runOpsC Cfg.default [.var 0, .var 1, .xor 2 3] (newC Cfg.default) [0, 1]).1 5 == [0, 1]

/-- on that table the recursive list has a duplicate (length 3) and two distinct entries: the
membership statement alone does not determine `.len()`, the cardinality statement does -/
example : depsOf ⟨xorTable, ∅, ∅, ∅⟩ 5 = [0, 1, 1] ∧ (depsOf ⟨xorTable, ∅, ∅, ∅⟩ 5).eraseDups.length = 2 ∧
    depsEntry #[[], [], [0], [1], [1]] 0 3 4 = [0, 1] := by decide +kernel

/-- `fix_import_establishes` applies to the initial tables -/
example : WF ⟨Store.init.nodes, Store.init.uniq, ∅, ∅⟩ := WF_init

end C12

namespace C12

/-! ## (e) every semantics returns the same answers under every feature set

The semantics under a feature set `c` run on the configured store: `groundedLoop (CfgRA c)`,
`completeAllG (CfgRA c)`, `stableAllG (CfgRA c)` (the generic routines instantiated with the
restriction algebra of the configured store: `Bdd::restrict` with the `variablelist` shortcut and
the ad-hoc tables), `countAllC c` (`stable_count_optimisation_heu_a/b`; heuristics and `paths`
read the ad-hoc / memoised count cache and the dependency table, and thread the store because a
query may fill the cache) and `ngSearchC c` (`nogood_internal`, every heuristic). The reference is
what the driver executes against the real code: `groundedLoop StoreRA`, `completeAll`, `stableAll`,
`countAll`, `SM.ngSearch`. Hypothesis: `Rel c z fs s` (same node table, invariants of the tables);
no hypothesis on the vector `ac` is needed (outside the node table both stores return their
argument). `z` is arbitrary: built by operations or imported + `fix_import`. -/

theorem reference_is_generic (s : Store) (n : Nat) (ac : List Nat) :
    completeAllG StoreRA s n ac = completeAll s n ac ∧ stableAllG StoreRA s n ac = stableAll s n ac :=
  ⟨completeAllG_store s n ac, stableAllG_store s n ac⟩

/-- **C12, semantics**: grounded, complete, stable, the counting search with either heuristic and
the nogood search with every heuristic return — handle for handle — the vectors of the reference
model, under every feature set (`frontend` and an attached sender included: `Rel` does not
mention them) -/
theorem semantics_feature_independent (c : Cfg) (z : Bool) (fs : FStore) (s : Store) (r : Rel c z fs s)
    (n : Nat) (ac : List Nat) :
    (groundedLoop (CfgRA c) (n+1) fs ac).2 = (groundedLoop StoreRA (n+1) s ac).2 ∧
    (completeAllG (CfgRA c) fs n ac).2 = (completeAll s n ac).2 ∧
    (stableAllG (CfgRA c) fs n ac).2 = (stableAll s n ac).2 ∧
    (∀ useA, (countAllC c fs n ac useA).2 = (countAll s n ac useA).2) ∧
    (∀ heu fuel stable, (ngSearchC c heu fuel fs n ac stable).2 = (SM.ngSearch heu fuel s n ac stable).2) :=
  (semantics_sim (Stable.true c) r.relP n ac).1

/-- the stores after each semantics are again related (so queries and further runs agree too) -/
theorem semantics_keep_rel (c : Cfg) (z : Bool) (fs : FStore) (s : Store) (r : Rel c z fs s)
    (n : Nat) (ac : List Nat) :
    Rel c z (groundedLoop (CfgRA c) (n+1) fs ac).1 (groundedLoop StoreRA (n+1) s ac).1 ∧
    Rel c z (completeAllG (CfgRA c) fs n ac).1 (completeAll s n ac).1 ∧
    Rel c z (stableAllG (CfgRA c) fs n ac).1 (stableAll s n ac).1 ∧
    (∀ useA, Rel c z (countAllC c fs n ac useA).1 (countAll s n ac useA).1) ∧
    (∀ heu fuel stable, Rel c z (ngSearchC c heu fuel fs n ac stable).1 (SM.ngSearch heu fuel s n ac stable).1) := by
  have ⟨g, co, sa, cn, ng⟩ := (semantics_sim (Stable.true c) r.relP n ac).2
  exact ⟨g.1.rel, co.1.rel, sa.1.rel, fun u => (cn u).1.rel, fun heu f b => (ng heu f b).1.rel⟩

/-- build the conditions by any valid operation sequence under two feature sets, run any semantics on
any vector of handles — the answers coincide -/
theorem semantics_agree (c c' : Cfg) (ops : List Op) (hops : opsValid ops 2) (n : Nat) (ac : List Nat) :
    let fs := (runOpsC c ops (newC c) [0, 1]).1
    let fs' := (runOpsC c' ops (newC c') [0, 1]).1
    (groundedLoop (CfgRA c) (n+1) fs ac).2 = (groundedLoop (CfgRA c') (n+1) fs' ac).2 ∧
    (completeAllG (CfgRA c) fs n ac).2 = (completeAllG (CfgRA c') fs' n ac).2 ∧
    (stableAllG (CfgRA c) fs n ac).2 = (stableAllG (CfgRA c') fs' n ac).2 ∧
    (∀ useA, (countAllC c fs n ac useA).2 = (countAllC c' fs' n ac useA).2) ∧
    (∀ heu fuel stable, (ngSearchC c heu fuel fs n ac stable).2 = (ngSearchC c' heu fuel fs' n ac stable).2) := by
  intro fs fs'
  have ⟨_, r⟩ := run_rel c true ops (newC c) Store.init [0, 1] _ (Rel.new c) HistOK.init hops
  have ⟨_, r'⟩ := run_rel c' true ops (newC c') Store.init [0, 1] _ (Rel.new c') HistOK.init hops
  have ⟨a1, a2, a3, a4, a5⟩ := semantics_feature_independent c true fs _ r n ac
  have ⟨b1, b2, b3, b4, b5⟩ := semantics_feature_independent c' true fs' _ r' n ac
  exact ⟨a1.trans b1.symm, a2.trans b2.symm, a3.trans b3.symm, fun u => (a4 u).trans (b4 u).symm,
    fun h f st => (a5 h f st).trans (b5 h f st).symm⟩

/-- every section the command line tool prints (`--grd --com --twoval --stm --stmca --stmcb
--stmpre --stmrew --stmng`, naive and hybrid arm, every heuristic): `runCliC c` runs the sections
on the configured store, threading it from section to section as the tool does;
`stable_with_prefilter` (`stablePreG`) is the one routine not in `semantics_feature_independent` -/
theorem cli_sections_feature_independent (c : Cfg) (z : Bool) (fs : FStore) (s : Store) (r : Rel c z fs s)
    (m : Cli.Mode) (f : Cli.Flags) (heu : SM.Heu) (n : Nat) (ac : List Nat) :
    runCliC c m f heu fs n ac = Cli.run m f heu s n ac :=
  runCliC_sim (Stable.true c) m f heu fs s n ac r.relP

/-- C01 under every feature set: the grounded loop on the configured store computes the least fixpoint
of Γ — the generic theorem `grounded_correct` applies to `CfgRA c` -/
theorem grounded_correct_every_config (c : Cfg) (z : Bool) (fs : FStore) (inv : FInv c z fs) (fuel : Nat)
    (ac : List Nat) (hv : ∀ t ∈ ac, t < fs.base.nodes.size) (hf : ac.length < fuel) :
    let D := ac.map (eval fs.base)
    let g := (groundedLoop (CfgRA c) fuel fs ac).2.map storeIsConst
    Gam D g = g ∧ ∀ w', Gam D w' = w' → Le3 g w' :=
  grounded_correct (CfgRA c) fuel fs ac ⟨z, inv⟩ hv hf

/-! ## (f) `frontend`: the channel is write-only and carries exactly the created nodes

`FStore.sender` = a `crossbeam_channel::Sender` is attached (`set_sender`), `FStore.log` = the
arguments of the `send` calls of `Bdd::node`, oldest first. A failed `send` (receiver dropped) is
only logged by the code, so the calls are what there is to model. -/

theorem rel_setSender {c : Cfg} {z : Bool} {fs : FStore} {s : Store} (r : Rel c z fs s) : Rel c z fs.setSender s :=
  ⟨⟨r.inv.wf, r.inv.tab.deps, r.inv.tab.cnt, r.inv.tab.full, r.inv.tab.zero⟩, r.wf, r.nodes, r.ite⟩

/-- the answers of every semantics with a sender attached are those without, under every feature set -/
theorem sender_irrelevant (c : Cfg) (z : Bool) (fs : FStore) (s : Store) (r : Rel c z fs s) (n : Nat) (ac : List Nat) :
    (groundedLoop (CfgRA c) (n+1) fs.setSender ac).2 = (groundedLoop (CfgRA c) (n+1) fs ac).2 ∧
    (completeAllG (CfgRA c) fs.setSender n ac).2 = (completeAllG (CfgRA c) fs n ac).2 ∧
    (stableAllG (CfgRA c) fs.setSender n ac).2 = (stableAllG (CfgRA c) fs n ac).2 ∧
    (∀ useA, (countAllC c fs.setSender n ac useA).2 = (countAllC c fs n ac useA).2) ∧
    (∀ heu fuel stable, (ngSearchC c heu fuel fs.setSender n ac stable).2 = (ngSearchC c heu fuel fs n ac stable).2) := by
  have ⟨a1, a2, a3, a4, a5⟩ := semantics_feature_independent c z fs s r n ac
  have ⟨b1, b2, b3, b4, b5⟩ := semantics_feature_independent c z fs.setSender s (rel_setSender r) n ac
  exact ⟨b1.trans a1.symm, b2.trans a2.symm, b3.trans a3.symm, fun u => (b4 u).trans (a4 u).symm,
    fun h f st => (b5 h f st).trans (a5 h f st).symm⟩

theorem log_of_inv {c : Cfg} {fs0 fs : FStore} (h : LogInv c fs0.base.nodes.size fs0.log fs) (hs : fs.sender = true) :
    fs.log = fs0.log ++ (if c.frontend then StreamF.created fs0.base fs.base else []) := by
  have := h.2
  rw [hs, Bool.and_true] at this
  exact this

/-- **C12, frontend**: attach a sender to a store and run an operation sequence or any semantics.
Then (1) handles, node table and answers are those of the reference (which has no channel),
(2) with the feature the log has grown by exactly the nodes created, in creation order,
(3) without the feature it has not grown. -/
theorem frontend_channel (c : Cfg) (z : Bool) (fs : FStore) (s : Store) (r : Rel c z fs s) (n : Nat) (ac : List Nat) :
    let grow := fun (fs' : FStore) => fs'.log = fs.log ++ (if c.frontend then StreamF.created fs.base fs'.base else [])
    (∀ ops hist fns, HistOK s hist fns → opsValid ops hist.length →
      (runOpsC c ops fs.setSender hist).2 = (runOps ops s hist).2 ∧
      (runOpsC c ops fs.setSender hist).1.base.nodes = (runOps ops s hist).1.nodes ∧
      grow (runOpsC c ops fs.setSender hist).1) ∧
    grow (groundedLoop (CfgRA c) (n+1) fs.setSender ac).1 ∧
    grow (completeAllG (CfgRA c) fs.setSender n ac).1 ∧
    grow (stableAllG (CfgRA c) fs.setSender n ac).1 ∧
    (∀ useA, grow (countAllC c fs.setSender n ac useA).1) ∧
    (∀ heu fuel stable, grow (ngSearchC c heu fuel fs.setSender n ac stable).1) := by
  intro grow
  -- the log invariant alone does not say that the sender stays attached: carry the flag as a second predicate
  have st := Stable.and (LogInv.stable c fs.base.nodes.size fs.log) (stable_sender c true)
  have h : RelP c z (fun fs' => LogInv c fs.base.nodes.size fs.log fs' ∧ fs'.sender = true) True fs.setSender s :=
    ⟨(rel_setSender r).toA, LogInv.attach c fs, rfl⟩
  have fin : ∀ {fs' : FStore} {s' : Store},
      RelP c z (fun fs' => LogInv c fs.base.nodes.size fs.log fs' ∧ fs'.sender = true) True fs' s' → grow fs' :=
    fun hh => log_of_inv hh.2.1 hh.2.2
  have ⟨g, co, sa, cn, ng⟩ := (semantics_sim st h n ac).2
  refine ⟨?_, fin g, fin co, fin sa, fun u => fin (cn u), fun heu f b => fin (ng heu f b)⟩
  intro ops hist fns hh hv
  have ⟨a, b⟩ := run_relP c z st ops fs.setSender s hist fns h hh hv
  exact ⟨a, b.1.nodes, fin b⟩

/-- no sender (the state after `Bdd::new`) or feature off: no routine appends to the log -/
theorem no_sender_no_log (c : Cfg) (z : Bool) (fs : FStore) (s : Store) (r : Rel c z fs s)
    (hoff : (c.frontend && fs.sender) = false) (n : Nat) (ac : List Nat) :
    (∀ ops hist, (runOpsC c ops fs hist).1.log = fs.log) ∧
    (groundedLoop (CfgRA c) (n+1) fs ac).1.log = fs.log ∧
    (completeAllG (CfgRA c) fs n ac).1.log = fs.log ∧
    (stableAllG (CfgRA c) fs n ac).1.log = fs.log ∧
    (∀ useA, (countAllC c fs n ac useA).1.log = fs.log) ∧
    (∀ heu fuel stable, (ngSearchC c heu fuel fs n ac stable).1.log = fs.log) := by
  -- the log invariant with the flag off: the list of nodes sent since is empty
  have st := Stable.and (LogInv.stable c 0 fs.log) (stable_sender c fs.sender)
  have h : RelP c z (fun fs' => LogInv c 0 fs.log fs' ∧ fs'.sender = fs.sender) True fs s :=
    ⟨r.toA, LogInv.idle c fs hoff, rfl⟩
  have fin : ∀ {fs' : FStore}, LogInv c 0 fs.log fs' ∧ fs'.sender = fs.sender → fs'.log = fs.log := fun hh => by
    have := hh.1.2
    rw [hh.2, hoff, if_neg Bool.false_ne_true, List.append_nil] at this
    exact this
  have ⟨g, co, sa, cn, ng⟩ := (semantics_sim st h n ac).2
  exact ⟨fun ops hist => fin (runOpsC_pres st ops fs hist h.2), fin g.2, fin co.2, fin sa.2, fun u => fin (cn u).2,
    fun heu f b => fin (ng heu f b).2⟩

/-! ## (g) path cubes, impacts, imported stores -/

/-- `interpretations`, `passive_var_impact`, `active_var_impact` (and the membership test on
`var_dependencies` they are made of): same answers for every handle and every vector -/
theorem cubes_impacts_feature_independent (c : Cfg) (z : Bool) (fs : FStore) (s : Store) (r : Rel c z fs s) :
    (∀ t goal gv, cubesC fs t goal gv = cubesOf s t goal gv) ∧
    (∀ v interp, passiveC c fs v interp = passive s v interp) ∧
    (∀ v interp, activeC c fs v interp = active s v interp) ∧
    (∀ t v, depsHasC c fs t v = (depsOf s t).contains v) ∧
    (∀ t, (pathsQ c fs t).1 = paths s t) :=
  ⟨cubesC_rel r.toA, passiveC_rel r.toA, activeC_rel r.toA, depsHasC_rel r.toA,
   fun t => (pathsQ_rel (Stable.true c) r.relP t).1⟩

/-- `restrict` for every handle, valid or not, on a store of either origin (`z`) -/
theorem restrict_feature_independent_total (c : Cfg) (z : Bool) (fs : FStore) (s : Store) (r : Rel c z fs s)
    (t v : Nat) (b : Bool) :
    (restrictC c (t+1) fs t v b).2 = (restrictF (t+1) s t v b).2 ∧
    Rel c z (restrictC c (t+1) fs t v b).1 (restrictF (t+1) s t v b).1 := (restrict_rel_total r.toA t v b).imp_right RelA.rel

/-- **imported stores**: deserialise (`serde(skip)` tables empty), `fix_import`, then any valid
operation sequence over any valid handles of the imported table. Under every feature set: the
handles and the node table of the reference run from the bare imported tables; every query on an
issued handle answers as the reference — except memoised `models` in the exception
configuration, which is exact (the count at import time = the count now) on imported nodes and
(0, 0) on nodes created after the import -/
theorem answers_after_import (c : Cfg) (hv : c.valid) (nodes : Array Node) (uniq : Std.HashMap Node Nat)
    (w : WF ⟨nodes, uniq, ∅, ∅⟩) (hist : List Nat) (hh : ∀ t ∈ hist, t < nodes.size)
    (ops : List Op) (hops : opsValid ops hist.length) :
    let s0 : Store := ⟨nodes, uniq, ∅, ∅⟩
    let R := runOpsC c ops (fixImportC c (importC nodes uniq)) hist
    let M := runOps ops s0 hist
    R.2 = M.2 ∧ R.1.base.nodes = M.1.nodes ∧ Rel c false R.1 M.1 ∧
    ∀ t, t ∈ M.2 → ∀ memo,
      (pathsC c R.1 t memo).1 = paths M.1 t ∧
      maxDepthCfg c R.1 t = (countF M.1 (t+1) t).2.2 ∧
      (∀ x, x ∈ varDepsC c R.1 t ↔ x ∈ depsOf M.1 t) ∧
      ((c.exc = false ∨ memo = false) →
        (modelsC c R.1 t memo).1 = ((countF M.1 (t+1) t).1, (countF M.1 (t+1) t).2.1)) ∧
      (c.exc = true → 2 ≤ t → t < nodes.size →
        (modelsC c R.1 t true).1 = ((countF M.1 (t+1) t).1, (countF M.1 (t+1) t).2.1)) ∧
      (c.exc = true → nodes.size ≤ t → (modelsC c R.1 t true).1 = (0, 0)) := by
  intro s0 R M
  have r0 := (fix_import_establishes c nodes uniq w).2
  have hist0 := HistOK.ofValid s0 hist hh
  have stE := ExtFrom.stable c nodes
  have e0 : ExtFrom nodes (fixImportC c (importC nodes uniq)) := ⟨Nat.le_refl _, fun _ _ h => h⟩
  have ⟨q, rrA, ext⟩ := run_relP c false stE ops _ s0 hist _ ⟨r0.toA, e0⟩ hist0 hops
  have rr := rrA.rel
  have ⟨_, _, hM⟩ := runOps_refines ops s0 hist _ w hist0 hops
  refine ⟨q, rr.nodes, rr, ?_⟩
  intro t ht memo
  have htM : t < M.1.nodes.size := hM.valid t ht
  have htR : t < R.1.base.nodes.size := by rw [rr.nodes]; exact htM
  have ⟨qp, qd, qv, qm⟩ := rr.queries hv t htM memo
  have sp : c.exc = true → CntSplit nodes.size (naive s0) R.1 := fun he =>
    runOpsC_pres (CntSplit.stable c he nodes.size (naive s0)) ops _ hist (CntSplit.import c nodes uniq w)
  refine ⟨qp, qd, qv, qm, ?_, ?_⟩
  · intro he ht2 hk
    rw [(modelsC_split c he false R.1 rr.inv _ _ (sp he) t ht2 htR).2 hk]
    -- the tuple computed at import time is the tuple now
    have hold : naive s0 t = naive M.1 t :=
      (naive_ext s0 R.1.base w.table ext.2 t hk).symm.trans (naive_congr rr.nodes t)
    have ⟨m1, m2, _, _, _⟩ := naive_proj M.1 t
    rw [hold, m1, m2]
  · intro he hk
    have h2 : 2 ≤ t := by have := w.len; simp only at this; omega
    exact (modelsC_split c he false R.1 rr.inv _ _ (sp he) t h2 htR).1 hk

/-- a store imported WITHOUT `fix_import`: without `variablelist` and `adhoccounting` nothing
needs repair (`Rel` holds, hence everything above applies) -/
theorem import_without_fix (c : Cfg) (hv : c.variablelist = false) (ha : c.adhoccounting = false)
    (nodes : Array Node) (uniq : Std.HashMap Node Nat) (w : WF ⟨nodes, uniq, ∅, ∅⟩) :
    Rel c false (importC nodes uniq) ⟨nodes, uniq, ∅, ∅⟩ := by
  refine ⟨⟨w, ?_, CntOK_empty _ _, ?_, ?_⟩, w, rfl, fun _ => rfl⟩
  · intro h; rw [hv] at h; cases h
  · intro h; rw [ha] at h; cases h
  · intro h; cases h

/-- a store imported WITHOUT `fix_import`, with `variablelist`: the dependency table is empty until
`fix_import`; the code indexes it (`self.var_deps[tree.value()]`, a panic); the model's total lookup
takes the shortcut and returns the diagram unrestricted. Concretely, on the imported one-variable
table, `x0[x0 := ⊤]` comes back as handle 2 where the reference answers 1. This is the documented
precondition "call `fix_import` after deserialising", not an independence failure. -/
theorem import_without_fix_variablelist :
    let nodes : Array Node := #[⟨VBOT, 0, 0⟩, ⟨VTOP, 1, 1⟩, ⟨0, 0, 1⟩]
    ∀ uniq : Std.HashMap Node Nat,
    (restrictC Cfg.default 3 (importC nodes uniq) 2 0 true).2 = 2 ∧
    (restrictF 3 ⟨nodes, uniq, ∅, ∅⟩ 2 0 true).2 = 1 := by
  intro nodes uniq
  constructor
  · simp [restrictC, importC, nodes, Cfg.default]
  · simp [restrictF, nodes, VBOT, VTOP]

/-- non-vacuity of the semantics theorems: `Rel` holds, under each cargo feature set, with and without a
sender attached, for the store built by x0, x1, ¬x1, x0 ∧ ¬x1, x0 ∨ x1, (x0 ∧ ¬x1)[x1 := ⊤], which has
inner nodes (the vector `ac` of the theorems is unconstrained, e.g. `[5, 6]` with `n = 2`) -/
theorem semantics_example :
    let ops : List Op := [.var 0, .var 1, .not 3, .and 2 4, .or 2 3, .restrict 5 1 true]
    opsValid ops 2 ∧
    (∀ c, Rel c true (runOpsC c ops (newC c) [0, 1]).1 (runOps ops Store.init [0, 1]).1 ∧
          Rel c true (runOpsC c ops (newC c) [0, 1]).1.setSender (runOps ops Store.init [0, 1]).1) ∧
    4 ≤ (runOps ops Store.init [0, 1]).1.nodes.size := by
  intro ops
  have hv : opsValid ops 2 :=
    ⟨by simp [Op.valid, VBOT], by simp [Op.valid, VBOT], by simp [Op.valid], by simp [Op.valid], by simp [Op.valid],
      by simp [Op.valid], trivial⟩
  refine ⟨hv, ?_, ?_⟩
  · intro c
    have ⟨_, r⟩ := run_rel c true ops (newC c) Store.init [0, 1] _ (Rel.new c) HistOK.init hv
    exact ⟨r, rel_setSender r⟩
  · -- the first two operations already create two nodes; the table only grows
    have hv2 : opsValid [Op.var 0, .var 1] 2 := ⟨by simp [Op.valid, VBOT], by simp [Op.valid, VBOT], trivial⟩
    have ⟨w2, _, h2⟩ := runOps_refines [Op.var 0, .var 1] Store.init [0, 1] _ WF_init HistOK.init hv2
    have ⟨_, e, _⟩ := runOps_refines [Op.not 3, .and 2 4, .or 2 3, .restrict 5 1 true]
      (runOps [Op.var 0, .var 1] Store.init [0, 1]).1 (runOps [Op.var 0, .var 1] Store.init [0, 1]).2 _ w2 h2
      ⟨by simp [Op.valid, runOps], by simp [Op.valid, runOps], by simp [Op.valid, runOps], by simp [Op.valid, runOps], trivial⟩
    have sz : (runOps [Op.var 0, .var 1] Store.init [0, 1]).1.nodes.size = 4 := by
      simp [runOps, stepOp, mkNode, Store.init]
    have := e.1
    rw [sz] at this
    exact this

/-- `frontend_channel` on a concrete run: sender attached to a fresh store under the default feature set,
two variables created -/
theorem frontend_example :
    (runOpsC Cfg.default [.var 0, .var 1] (newC Cfg.default).setSender [0, 1]).1.log = [⟨0, 0, 1⟩, ⟨1, 0, 1⟩] := by
  have hv2 : opsValid [Op.var 0, .var 1] 2 := ⟨by simp [Op.valid, VBOT], by simp [Op.valid, VBOT], trivial⟩
  have ⟨_, b, g⟩ := (frontend_channel Cfg.default true (newC Cfg.default) Store.init (Rel.new _) 0 []).1
    [.var 0, .var 1] [0, 1] _ HistOK.init hv2
  rw [g]
  unfold StreamF.created
  rw [b]
  simp [runOps, stepOp, mkNode, Store.init, newC, Cfg.default]

/-- `answers_after_import` applies: the one-variable table as an imported store, histories over its
three handles, e.g. the operations x1, x0 ∧ x1 afterwards -/
theorem import_example :
    let s1 := (runOps [.var 0] Store.init [0, 1]).1
    WF ⟨s1.nodes, s1.uniq, ∅, ∅⟩ ∧ s1.nodes.size = 3 ∧ (∀ t ∈ [0, 1, 2], t < s1.nodes.size) ∧
    opsValid [.var 1, .and 2 3] [0, 1, 2].length := by
  intro s1
  have ⟨w, _, _⟩ := runOps_refines [.var 0] Store.init [0, 1] _ WF_init HistOK.init ⟨by simp [Op.valid, VBOT], trivial⟩
  have sz : s1.nodes.size = 3 := by simp [s1, runOps, stepOp, mkNode, Store.init]
  have hs : s1 = ⟨s1.nodes, s1.uniq, ∅, ∅⟩ := by simp [s1, runOps, stepOp, mkNode, Store.init]
  refine ⟨by rw [← hs]; exact w, sz, ?_, ⟨by simp [Op.valid, VBOT], by simp [Op.valid], trivial⟩⟩
  intro t ht
  rw [sz]
  simp at ht
  omega

end C12

/-! ## the real tables under every feature set

The count cache and the dependency lists exist only under some feature sets; the audit of the
REAL tables dumped from the implementation (`MemoCheck.memoCheckF`, run under every feature set,
with `exc` = the exception configuration and `deps = none` when `variablelist` is off) is a
verified checker: a positive verdict means the dumped tables are exactly what the invariant
`FInv` of this file says about the model's tables (`CntOK`: paths and depth always, model counts
unless the exception; `DepsOK`: the recursive dependency sets). -/
namespace C12

/-- the statement of `C11.memo_audit_sound`, available here without C11's imports -/
theorem memo_audit_sound (nv : Nat) (exc : Bool) (s : Store) (r : MemoCheck.Rows)
    (hwf : wfCheck s.nodes = true) (hc : MemoCheck.memoCheckF nv exc s.nodes r = true) :
    MemoCheck.MemoSound nv exc s r :=
  MemoCheck.memoCheckF_sound nv exc s r (wfCheck_sound s.nodes hwf) hc

end C12

#print axioms C12.answers_feature_independent
#print axioms C12.semantics_feature_independent
#print axioms C12.semantics_keep_rel
#print axioms C12.cli_sections_feature_independent
#print axioms C12.semantics_agree
#print axioms C12.grounded_correct_every_config
#print axioms C12.sender_irrelevant
#print axioms C12.frontend_channel
#print axioms C12.no_sender_no_log
#print axioms C12.cubes_impacts_feature_independent
#print axioms C12.answers_after_import
#print axioms C12.import_without_fix
#print axioms C12.import_without_fix_variablelist
#print axioms C12.semantics_example
#print axioms C12.frontend_example
#print axioms C12.import_example
#print axioms C12.var_dependencies_card
#print axioms C12.var_dependencies_card_range
#print axioms C12.var_dependencies_card_feature_independent
#print axioms C12.deps_table_nodup
