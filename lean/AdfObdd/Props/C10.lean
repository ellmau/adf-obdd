import AdfObdd.Equivar
import AdfObdd.Stable
import AdfObdd.EquivarMore
import AdfObdd.StableExact
import AdfObdd.SortProofs
import AdfObdd.CliFaithful
import AdfObdd.CliModes
import AdfObdd.NatLexOrder
/-! # C10 — answers do not depend on presentation (fact order, sorting, naming)

A presentation change (reordering the facts, a sort, consistent renaming) is a bijection `p` of the
statement numbers with inverse `q`; `Renamed p q D D'` says `D'` is `D` presented through `p`
(statement `i` sits at position `p i` and reads its atoms through `p`). Whitespace changes do not
reach this level (they are parser layout, C08).

`SameLabelMaps` speaks about the REFERENCE enumerations (`groundedLoop`, `completeAll`, `stableAll`);
the outputs of the other procedures - `--stmca` / `--stmcb` (`countAll`), `--stmpre` (`Cli.stablePre`),
`--stmng` / `--twoval` (`SM.ngSearch`) - are composed with it in the last section from the exactness
theorems C03/C04/C05 (`…_outputs_invariant`); `--stmrew` on both library arms under the hypothesis that
the library object denotes the native object's functions; the parser-level composition of that is NOT
proved (`stmrew_parser_level_statement`). `--an` (`varsort_alphanum`): `alphanum_reports_le_order` says
which order is reported, for an ARBITRARY comparison `le` (trust assumption of `IsVarsortAlphanum`);
`natural_lexical_cmp` itself is modelled as `CliM.NatLex.le` (`an_sort_is_varsort_alphanum`,
`varsort_alphanum_unique`; fidelity limits of that model to the crate: C15). -/
namespace C10

/-- the consequence operator commutes with every re-presentation -/
theorem consequence_operator_equivariant (p q : Nat → Nat) (D D' : List BoolFn) (w w' : I3)
    (h : Renamed p q D D') (hw : RenamedI p D.length w w') :
    RenamedI p D.length (Gam D w) (Gam D' w') := Gam_renamed p q D D' w w' h hw

/-- complete interpretations (fixpoints) correspond: read as maps from statement to value,
the sets of complete — and so of two-valued — models are the same -/
theorem complete_equivariant (p q : Nat → Nat) (D D' : List BoolFn) (w w' : I3)
    (h : Renamed p q D D') (hw : RenamedI p D.length w w') : Gam D w = w → Gam D' w' = w' :=
  complete_renamed p q D D' w w' h hw

/-- a re-presentation can be undone (`Renamed` is symmetric up to swapping the bijection and its
inverse), so every correspondence below holds in both directions -/
theorem presentation_symmetric (p q : Nat → Nat) (D D' : List BoolFn) (h : Renamed p q D D') :
    Renamed q p D' D := EquivarMore.Renamed.symm h

/-- the grounded interpretation: least fixpoints correspond -/
def lfp_equivariant_statement : Prop :=
  ∀ (p q : Nat → Nat) (D D' : List BoolFn) (g g' : I3), Renamed p q D D' → RenamedI p D.length g g' →
    IsLfp D g → IsLfp D' g'

/-- the fixpoint part is `complete_equivariant`; for leastness a fixpoint of the
re-presented framework is read back through `p` (a fixpoint of the original one, by symmetry) -/
theorem lfp_equivariant : lfp_equivariant_statement :=
  fun p q D D' g g' h hg hl => EquivarMore.lfp_renamed p q D D' g g' h hg hl

/-- since the least fixpoint is unique, THE grounded interpretations of two presentations
correspond (nothing assumed about `g'` except that it is the grounded interpretation of `D'`) -/
theorem grounded_equivariant (p q : Nat → Nat) (D D' : List BoolFn) (g g' : I3) (h : Renamed p q D D')
    (hg : IsLfp D g) (hg' : IsLfp D' g') : RenamedI p D.length g g' := by
  have h1 : RenamedI q D.length (EquivarMore.pull q D.length g) g :=
    EquivarMore.pull_spec q D.length g (fix_length hg.1) h.rangeq
  have h2 : RenamedI p D.length g (EquivarMore.pull q D.length g) := RenamedI.symm h.inv1 h.range h1
  have h3 : IsLfp D' (EquivarMore.pull q D.length g) := EquivarMore.lfp_renamed p q D D' g _ h h2 hg
  rw [← h3.unique hg']; exact h2

/-- the reduct commutes with every re-presentation -/
theorem reduct_equivariant (p q : Nat → Nat) (D D' : List BoolFn) (v v' : I3) (h : Renamed p q D D')
    (hv : RenamedI p D.length v v') : Renamed p q (redu D v) (redu D' v') :=
  EquivarMore.redu_renamed p q D D' v v' h hv

/-- stable models correspond (the definition as in C03: total, a model, every true statement is
true in the least fixpoint of the reduct) -/
theorem stable_equivariant (p q : Nat → Nat) (D D' : List BoolFn) (v v' : I3) (h : Renamed p q D D')
    (hv : RenamedI p D.length v v') :
    (TotalI v ∧ Gam D v = v ∧
      ∀ w : I3, IsLfp (redu D v) w → ∀ i : Nat, v[i]? = some (some true) → w[i]? = some (some true)) →
    (TotalI v' ∧ Gam D' v' = v' ∧
      ∀ w : I3, IsLfp (redu D' v') w → ∀ i : Nat, v'[i]? = some (some true) → w[i]? = some (some true)) :=
  EquivarMore.stable_renamed p q D D' v v' h hv

/-- composition with C01 / C02 / C03 — the functions the driver runs: for two presentations of one
framework on two (arbitrary, well-formed) stores, the grounded vectors correspond, and an
interpretation is among the complete / stable answers of the one iff the corresponding
interpretation is among the answers of the other -/
theorem answers_equivariant (p q : Nat → Nat) (s s' : Store) (n : Nat) (ac ac' : List Nat)
    (hw : WF s) (hw' : WF s') (hn : ac.length = n) (hn' : ac'.length = n)
    (hv : ∀ t ∈ ac, t < s.nodes.size) (hv' : ∀ t ∈ ac', t < s'.nodes.size)
    (h : Renamed p q (ac.map (eval s)) (ac'.map (eval s'))) :
    RenamedI p n ((groundedLoop StoreRA (n + 1) s ac).2.map storeIsConst)
      ((groundedLoop StoreRA (n + 1) s' ac').2.map storeIsConst) ∧
    ∀ v v' : I3, RenamedI p n v v' →
      (v ∈ (completeAll s n ac).2.2.map (fun x => x.map storeIsConst) ↔
        v' ∈ (completeAll s' n ac').2.2.map (fun x => x.map storeIsConst)) ∧
      (v ∈ (stableAll s n ac).2.map (fun x => x.map storeIsConst) ↔
        v' ∈ (stableAll s' n ac').2.map (fun x => x.map storeIsConst)) := by
  have hDl : (ac.map (eval s)).length = n := by simp [hn]
  constructor
  · have := grounded_equivariant p q _ _ _ _ h
      (grounded_native (n + 1) s ac hw hv (by omega)) (grounded_native (n + 1) s' ac' hw' hv' (by omega))
    rwa [hDl] at this
  · intro v v' hvv
    have hvv' : RenamedI p (ac.map (eval s)).length v v' := by rw [hDl]; exact hvv
    constructor
    · rw [(CompleteExact.completeAll_exact s n ac hw hn hv).2.1 v,
        (CompleteExact.completeAll_exact s' n ac' hw' hn' hv').2.1 v',
        EquivarMore.complete_renamed_iff p q _ _ v v' h hvv']
      simp [hvv.1, hvv.2.1]
    · have : StableExact.StableI (ac.map (eval s)) v ↔ StableExact.StableI (ac'.map (eval s')) v' :=
        EquivarMore.stable_renamed_iff p q _ _ v v' h hvv'
      rw [(StableExact.stableAll_exact s n ac hw hn hv).2 v, (StableExact.stableAll_exact s' n ac' hw' hn' hv').2 v', this]
      simp [hvv.1, hvv.2.1]

example : Renamed id id [fun σ => σ 0] [fun σ => σ 0] :=
  ⟨fun _ => rfl, fun _ => rfl, rfl, fun i h => h, fun i h => h, by
    intro i f h
    cases i with
    | zero => simp at h; subst h; simp
    | succ k => simp at h⟩

/-- non-vacuity with a proper reordering: `s(a). s(b). ac(a,b). ac(b,c(v)).` against
`s(b). s(a). ac(b,c(v)). ac(a,b).` (swap of the two statements) -/
def sw (k : Nat) : Nat := if k = 0 then 1 else if k = 1 then 0 else k

theorem sw_sw (k : Nat) : sw (sw k) = k := by
  unfold sw
  by_cases h0 : k = 0 <;> by_cases h1 : k = 1 <;> simp [h0, h1]

theorem sw_lt (i : Nat) (h : i < 2) : sw i < 2 := by
  unfold sw
  split
  · omega
  · split <;> omega

theorem swap_example : Renamed sw sw [fun σ => σ 1, fun _ => true] [fun _ => true, fun σ => σ 0] :=
  ⟨sw_sw, sw_sw, rfl, fun i h => sw_lt i h, fun i h => sw_lt i h, by
    intro i f h
    match i with
    | 0 => cases h; rfl
    | 1 => cases h; rfl
    | k + 2 => cases h⟩

example : RenamedI sw 2 [some true, none] [none, some true] :=
  ⟨rfl, rfl, fun i hi => match i, hi with
    | 0, _ => rfl
    | 1, _ => rfl⟩

/-- the theorems apply to it: the grounded interpretation `a ↦ T, b ↦ T` carries over -/
example (hl : IsLfp [fun σ => σ 1, fun _ => true] [some true, some true]) :
    IsLfp [fun _ => true, fun σ => σ 0] [some true, some true] :=
  lfp_equivariant sw sw _ _ _ _ swap_example
    (show RenamedI sw 2 [some true, some true] [some true, some true] from
      ⟨rfl, rfl, fun i hi => match i, hi with
        | 0, _ => rfl
        | 1, _ => rfl⟩) hl

end C10

/-! ## C10, from the parser object: sorting, fact order, renaming — answers as maps from LABELS

The theorems above assume a re-presentation `Renamed p q D D'`. Here it is DERIVED for the
presentation changes the property names, on the model of the parser object (`Parser6`),
`AdfParser::varsort_lexi` / `varsort_alphanum` (`SortModel`) and `Adf::from_parser` (`FromParser`):
* sorting: `namelist` is replaced by a permutation of itself and the indices are regenerated
  (`PState.resort`; `PState.sortBy`/`varsortLexi`, `IsVarsortAlphanum` are instances),
* any permutation of the facts, the `s(..)` facts included,
* consistent (injective) renaming of the labels.
Answers are compared as maps from label to truth value (`labelled names v`). Whitespace does not
reach this level: two texts with the same facts give the same parser object (C08). -/
namespace C10
open ParserM FromParser SortModel

/-- the answers the driver computes on a built framework with `n` statements -/
def groundedVec (n : Nat) (s : Store) (ac : List Nat) : I3 :=
  (groundedLoop StoreRA (n + 1) s ac).2.map storeIsConst
def completeVecs (n : Nat) (s : Store) (ac : List Nat) : List I3 :=
  (completeAll s n ac).2.2.map (fun x => x.map storeIsConst)
def stableVecs (n : Nat) (s : Store) (ac : List Nat) : List I3 :=
  (stableAll s n ac).2.map (fun x => x.map storeIsConst)

/-- the four statements about label maps, for two built frameworks with name lists `xs` / `ys`:
same grounded map; same set of complete maps; same set of stable maps; same set of two-valued maps
(two-valued model = complete and total; the nogood search of C05 returns exactly those) -/
def SameLabelMaps (xs ys : List Label) (s : Store) (ac : List Nat) (s' : Store) (ac' : List Nat) : Prop :=
  labelled xs (groundedVec xs.length s ac) = labelled ys (groundedVec ys.length s' ac') ∧
  (∀ m, m ∈ (completeVecs xs.length s ac).map (labelled xs) ↔
        m ∈ (completeVecs ys.length s' ac').map (labelled ys)) ∧
  (∀ m, m ∈ (stableVecs xs.length s ac).map (labelled xs) ↔
        m ∈ (stableVecs ys.length s' ac').map (labelled ys)) ∧
  (∀ m, (∃ v ∈ completeVecs xs.length s ac, TotalI v ∧ labelled xs v = m) ↔
        (∃ v' ∈ completeVecs ys.length s' ac', TotalI v' ∧ labelled ys v' = m))

theorem complete_len {n : Nat} {s : Store} {ac : List Nat} (hw : WF s) (hn : ac.length = n)
    (hv : ∀ t ∈ ac, t < s.nodes.size) {v : I3} (h : v ∈ completeVecs n s ac) : v.length = n :=
  (((CompleteExact.completeAll_exact s n ac hw hn hv).2.1 v).mp h).1

theorem stable_len {n : Nat} {s : Store} {ac : List Nat} (hw : WF s) (hn : ac.length = n)
    (hv : ∀ t ∈ ac, t < s.nodes.size) {v : I3} (h : v ∈ stableVecs n s ac) : v.length = n :=
  (((StableExact.stableAll_exact s n ac hw hn hv).2 v).mp h).1

theorem label_maps_of_renamed (xs ys : List Label) (nd : xs.Nodup) (hp : xs.Perm ys)
    (s s' : Store) (ac ac' : List Nat) (hw : WF s) (hw' : WF s')
    (hn : ac.length = xs.length) (hn' : ac'.length = xs.length)
    (hv : ∀ t ∈ ac, t < s.nodes.size) (hv' : ∀ t ∈ ac', t < s'.nodes.size)
    (h : Renamed (reindex xs ys) (reindex ys xs) (ac.map (eval s)) (ac'.map (eval s'))) :
    SameLabelMaps xs ys s ac s' ac' := by
  have A := answers_equivariant _ _ s s' xs.length ac ac' hw hw' hn hn' hv hv' h
  unfold SameLabelMaps
  rw [← hp.length_eq]
  refine ⟨labelled_of_renamedI hp A.1, ?_, ?_, ?_⟩
  · intro m
    simp only [List.mem_map]
    exact label_maps_of_corr nd hp (· ∈ completeVecs xs.length s ac) (· ∈ completeVecs xs.length s' ac')
      (fun v => complete_len hw hn hv) (fun v => complete_len hw' hn' hv')
      (fun v v' hr => (A.2 v v' hr).1) m
  · intro m
    simp only [List.mem_map]
    exact label_maps_of_corr nd hp (· ∈ stableVecs xs.length s ac) (· ∈ stableVecs xs.length s' ac')
      (fun v => stable_len hw hn hv) (fun v => stable_len hw' hn' hv')
      (fun v v' hr => (A.2 v v' hr).2) m
  · intro m
    have nd' := hp.nodup_iff.mp nd
    have key := label_maps_of_corr nd hp (fun v => v ∈ completeVecs xs.length s ac ∧ TotalI v)
      (fun v' => v' ∈ completeVecs xs.length s' ac' ∧ TotalI v')
      (fun v hv0 => complete_len hw hn hv hv0.1) (fun v hv0 => complete_len hw' hn' hv' hv0.1)
      (fun v v' hr => by
        have hr' : RenamedI (reindex ys xs) xs.length v' v :=
          RenamedI.symm (reindex_inv nd' hp.symm) (fun _ hj => reindex_lt' hp hj) hr
        exact and_congr (A.2 v v' hr).1
          ⟨EquivarMore.totalI_renamed (reindex_inv nd' hp.symm) (fun _ hj => reindex_lt' hp hj) hr,
           EquivarMore.totalI_renamed (reindex_inv nd hp) (fun _ hj => reindex_lt hp hj) hr'⟩) m
    simpa only [and_assoc] using key

theorem same_framework_label_maps {st st' : PState} {ns ns' : List Label} {acs acs' : List (Label × Fml)}
    (hP : Presents st ns acs) (hP' : Presents st' ns' acs') (hp : ns.Perm ns')
    (hc : ∀ l, (lastCond acs l).getD .bot = (lastCond acs' l).getD .bot)
    (hwf : ∀ lf ∈ acs, lf.1 ∈ ns ∧ ∀ a ∈ atomsOf lf.2, a ∈ ns)
    (hwf' : ∀ lf ∈ acs', lf.1 ∈ ns' ∧ ∀ a ∈ atomsOf lf.2, a ∈ ns') (hn : ns.length ≤ VBOT) :
    ∃ s ac s' ac', fromParser st = some (s, ac) ∧ fromParser st' = some (s', ac') ∧
      (WF s ∧ ac.length = ns.length ∧ ∀ t ∈ ac, t < s.nodes.size) ∧
      (WF s' ∧ ac'.length = ns.length ∧ ∀ t ∈ ac', t < s'.nodes.size) ∧
      Renamed (reindex ns ns') (reindex ns' ns) (ac.map (eval s)) (ac'.map (eval s')) ∧
      SameLabelMaps ns ns' s ac s' ac' := by
  obtain ⟨s, ac, s', ac', h, h', b, b', _, _, r⟩ := same_framework_renamed hP hP' hp hc hwf hwf' hn
  exact ⟨s, ac, s', ac', h, h', b, b', r,
    label_maps_of_renamed _ _ hP.nodup hp s s' ac ac' b.1 b'.1 b.2.1 b'.2.1 b.2.2 b'.2.2 r⟩

/-- for a well-formed ADF `fs` and ANY parser object `st` that presents a permutation `ns'` of the
declared names (dictionary = position map of `ns'`) with the conditions of `fs`: `st` is built and all
label maps coincide with those of the parser object as read -/
theorem presented_label_maps (fs : List Fact) (hwf : WellFormedAdf fs) (st : PState) (ns' : List Label)
    (hp : ns'.Perm (namesOf fs)) (hP : Presents st ns' (acsOf fs)) (hn : (namesOf fs).length ≤ VBOT) :
    ∃ s ac s' ac', fromParser (PState.ofFacts fs) = some (s, ac) ∧ fromParser st = some (s', ac') ∧
      Renamed (reindex (namesOf fs) ns') (reindex ns' (namesOf fs)) (ac.map (eval s)) (ac'.map (eval s')) ∧
      SameLabelMaps (namesOf fs) ns' s ac s' ac' := by
  obtain ⟨s, ac, s', ac', a, b, _, _, r, m⟩ :=
    same_framework_label_maps (presents_ofFacts fs) hP hp.symm (fun _ => rfl) hwf (wfOn_perm hp hwf) hn
  exact ⟨s, ac, s', ac', a, b, r, m⟩

/-- **sorting** (`same_framework_renamed` + `answers_equivariant`): for a well-formed ADF `fs` and ANY
permutation `ns'` of the declared names used as the new `namelist` (indices regenerated), the
re-sorted parser object is built, and all label maps coincide with those of the unsorted one.
No hypothesis on the number of conditions per statement. -/
theorem resorted_label_maps (fs : List Fact) (hwf : WellFormedAdf fs) (ns' : List Label)
    (hp : ns'.Perm (namesOf fs)) (hn : (namesOf fs).length ≤ VBOT) :
    ∃ s ac s' ac', fromParser (PState.ofFacts fs) = some (s, ac) ∧
      fromParser ((PState.ofFacts fs).resort ns') = some (s', ac') ∧
      Renamed (reindex (namesOf fs) ns') (reindex ns' (namesOf fs)) (ac.map (eval s)) (ac'.map (eval s')) ∧
      SameLabelMaps (namesOf fs) ns' s ac s' ac' :=
  presented_label_maps fs hwf _ ns' hp (presents_resort (presents_ofFacts fs) ns' hp) hn

/-- both sorting flags: `varsort_lexi` followed by a second sort (the CLI order) -/
theorem sorted_twice_label_maps (le1 le2 : Label → Label → Bool) (fs : List Fact) (hwf : WellFormedAdf fs)
    (hn : (namesOf fs).length ≤ VBOT) :
    ∃ s ac s' ac', fromParser (PState.ofFacts fs) = some (s, ac) ∧
      fromParser (((PState.ofFacts fs).sortBy le1).sortBy le2) = some (s', ac') ∧
      SameLabelMaps (namesOf fs) (((PState.ofFacts fs).sortBy le1).sortBy le2).namelist s ac s' ac' := by
  have h1 : (isort le1 (PState.ofFacts fs).namelist).Perm (namesOf fs) := by
    rw [(ofFacts_spec fs).1]; exact isort_perm le1 _
  have h2 : (isort le2 (isort le1 (PState.ofFacts fs).namelist)).Perm (namesOf fs) :=
    (isort_perm le2 _).trans h1
  obtain ⟨s, ac, s', ac', a, b, _, d⟩ := presented_label_maps fs hwf _ _ h2
    (presents_resort (presents_resort (presents_ofFacts fs) _ h1) _ (h2.trans h1.symm)) hn
  exact ⟨s, ac, s', ac', a, b, d⟩

theorem resorted_sameLabelMaps (fs : List Fact) (hwf : WellFormedAdf fs) (ns' : List Label)
    (hp : ns'.Perm (namesOf fs)) (hn : (namesOf fs).length ≤ VBOT) (s s' : Store) (ac ac' : List Nat)
    (h : fromParser (PState.ofFacts fs) = some (s, ac))
    (h' : fromParser ((PState.ofFacts fs).resort ns') = some (s', ac')) :
    SameLabelMaps (namesOf fs) ns' s ac s' ac' := by
  obtain ⟨_, _, _, _, e, e', _, M⟩ := resorted_label_maps fs hwf ns' hp hn
  rw [h] at e; rw [h'] at e'; cases e; cases e'
  exact M

/-- the four clauses of the property for any re-sorting, one theorem each (the conjuncts of
`SameLabelMaps`): grounded interpretation, complete, stable and two-valued models as (sets of) maps
from labels -/
theorem grounded_label_map_invariant (fs : List Fact) (hwf : WellFormedAdf fs) (ns' : List Label)
    (hp : ns'.Perm (namesOf fs)) (hn : (namesOf fs).length ≤ VBOT) (s s' : Store) (ac ac' : List Nat)
    (h : fromParser (PState.ofFacts fs) = some (s, ac))
    (h' : fromParser ((PState.ofFacts fs).resort ns') = some (s', ac')) :
    labelled (namesOf fs) (groundedVec (namesOf fs).length s ac) = labelled ns' (groundedVec ns'.length s' ac') :=
  (resorted_sameLabelMaps fs hwf ns' hp hn s s' ac ac' h h').1

theorem complete_label_maps_invariant (fs : List Fact) (hwf : WellFormedAdf fs) (ns' : List Label)
    (hp : ns'.Perm (namesOf fs)) (hn : (namesOf fs).length ≤ VBOT) (s s' : Store) (ac ac' : List Nat)
    (h : fromParser (PState.ofFacts fs) = some (s, ac))
    (h' : fromParser ((PState.ofFacts fs).resort ns') = some (s', ac')) (m : Label → Option (Option Bool)) :
    m ∈ (completeVecs (namesOf fs).length s ac).map (labelled (namesOf fs)) ↔
      m ∈ (completeVecs ns'.length s' ac').map (labelled ns') :=
  (resorted_sameLabelMaps fs hwf ns' hp hn s s' ac ac' h h').2.1 m

theorem stable_label_maps_invariant (fs : List Fact) (hwf : WellFormedAdf fs) (ns' : List Label)
    (hp : ns'.Perm (namesOf fs)) (hn : (namesOf fs).length ≤ VBOT) (s s' : Store) (ac ac' : List Nat)
    (h : fromParser (PState.ofFacts fs) = some (s, ac))
    (h' : fromParser ((PState.ofFacts fs).resort ns') = some (s', ac')) (m : Label → Option (Option Bool)) :
    m ∈ (stableVecs (namesOf fs).length s ac).map (labelled (namesOf fs)) ↔
      m ∈ (stableVecs ns'.length s' ac').map (labelled ns') :=
  (resorted_sameLabelMaps fs hwf ns' hp hn s s' ac ac' h h').2.2.1 m

theorem twovalued_label_maps_invariant (fs : List Fact) (hwf : WellFormedAdf fs) (ns' : List Label)
    (hp : ns'.Perm (namesOf fs)) (hn : (namesOf fs).length ≤ VBOT) (s s' : Store) (ac ac' : List Nat)
    (h : fromParser (PState.ofFacts fs) = some (s, ac))
    (h' : fromParser ((PState.ofFacts fs).resort ns') = some (s', ac')) (m : Label → Option (Option Bool)) :
    (∃ v ∈ completeVecs (namesOf fs).length s ac, TotalI v ∧ labelled (namesOf fs) v = m) ↔
      (∃ v' ∈ completeVecs ns'.length s' ac', TotalI v' ∧ labelled ns' v' = m) :=
  (resorted_sameLabelMaps fs hwf ns' hp hn s s' ac ac' h h').2.2.2 m

/-- instance: `varsort_lexi` (and `sortBy le` for every comparison function `le`) -/
theorem sortBy_label_maps (le : Label → Label → Bool) (fs : List Fact) (hwf : WellFormedAdf fs)
    (hn : (namesOf fs).length ≤ VBOT) :
    ∃ s ac s' ac', fromParser (PState.ofFacts fs) = some (s, ac) ∧
      fromParser ((PState.ofFacts fs).sortBy le) = some (s', ac') ∧
      SameLabelMaps (namesOf fs) ((PState.ofFacts fs).sortBy le).namelist s ac s' ac' := by
  have hp : (isort le (PState.ofFacts fs).namelist).Perm (namesOf fs) := by
    rw [(ofFacts_spec fs).1]; exact isort_perm le _
  obtain ⟨s, ac, s', ac', a, b, _, d⟩ := resorted_label_maps fs hwf _ hp hn
  exact ⟨s, ac, s', ac', a, b, d⟩

/-- instance: `varsort_alphanum`, whatever `natural_lexical_cmp` is (see `IsVarsortAlphanum`) -/
theorem alphanum_label_maps (le : Label → Label → Bool) (fs : List Fact) (st' : PState)
    (hs : IsVarsortAlphanum le (PState.ofFacts fs) st') (hwf : WellFormedAdf fs)
    (hn : (namesOf fs).length ≤ VBOT) :
    ∃ s ac s' ac', fromParser (PState.ofFacts fs) = some (s, ac) ∧ fromParser st' = some (s', ac') ∧
      SameLabelMaps (namesOf fs) st'.namelist s ac s' ac' := by
  have hp : st'.namelist.Perm (namesOf fs) := by
    have := hs.perm
    rwa [(ofFacts_spec fs).1] at this
  obtain ⟨s, ac, s', ac', a, b, _, d⟩ := resorted_label_maps fs hwf _ hp hn
  rw [← hs.state] at b
  exact ⟨s, ac, s', ac', a, b, d⟩

/-- **reordering the facts** (`same_framework_renamed` + `answers_equivariant`): two fact lists that
are permutations of each other — `s(..)` facts included, so the statements may be numbered
differently — are both built and have the same label maps. Hypotheses: well-formed, at most one
condition per statement (without it the claim is false: the last condition wins, C09). -/
theorem facts_permutation_invariant (fs gs : List Fact) (hp : fs.Perm gs)
    (hone : ((acsOf fs).map (·.1)).Nodup) (hwf : WellFormedAdf fs) (hn : (namesOf fs).length ≤ VBOT) :
    ∃ s ac s' ac', fromParser (PState.ofFacts fs) = some (s, ac) ∧
      fromParser (PState.ofFacts gs) = some (s', ac') ∧
      SameLabelMaps (namesOf fs) (namesOf gs) s ac s' ac' := by
  obtain ⟨s, ac, s', ac', a, b, _, _, _, m⟩ := same_framework_label_maps (presents_ofFacts fs) (presents_ofFacts gs)
    (namesOf_perm hp) (congrFun (condOf_perm hp hone)) hwf (wellFormed_perm hp hwf) hn
  exact ⟨s, ac, s', ac', a, b, m⟩

/-- reordering the facts AND sorting afterwards (any permutation `ns'` of the names as new name list) -/
theorem facts_permutation_then_sort_invariant (fs gs : List Fact) (hp : fs.Perm gs)
    (hone : ((acsOf fs).map (·.1)).Nodup) (hwf : WellFormedAdf fs) (hn : (namesOf fs).length ≤ VBOT)
    (ns' : List Label) (hns : ns'.Perm (namesOf gs)) :
    ∃ s ac s' ac', fromParser (PState.ofFacts fs) = some (s, ac) ∧
      fromParser ((PState.ofFacts gs).resort ns') = some (s', ac') ∧
      SameLabelMaps (namesOf fs) ns' s ac s' ac' := by
  obtain ⟨s, ac, s', ac', a, b, _, _, _, m⟩ := same_framework_label_maps (presents_ofFacts fs)
    (presents_resort (presents_ofFacts gs) ns' hns) ((namesOf_perm hp).trans hns.symm)
    (congrFun (condOf_perm hp hone)) hwf (wfOn_perm hns (wellFormed_perm hp hwf)) hn
  exact ⟨s, ac, s', ac', a, b, m⟩

/-- **consistent renaming**: for an injective relabelling `ρ` applied to every label of every fact,
`from_parser` builds literally the same store and `ac` vector (so every answer vector is the same),
the name list is the renamed name list, and reading any vector `v` with the new names gives at `ρ l`
what the old names give at `l` (and nothing at labels that are not a new name) -/
theorem renaming_invariant (ρ : Label → Label) (inj : ∀ a b, ρ a = ρ b → a = b) (fs : List Fact) :
    fromParser (PState.ofFacts (fs.map (Fact.rename ρ))) = fromParser (PState.ofFacts fs) ∧
    namesOf (fs.map (Fact.rename ρ)) = (namesOf fs).map ρ ∧
    (∀ (v : I3) (l : Label), labelled (namesOf (fs.map (Fact.rename ρ))) v (ρ l) = labelled (namesOf fs) v l) ∧
    (∀ (v : I3) (l' : Label), (∀ l ∈ namesOf fs, ρ l ≠ l') →
      labelled (namesOf (fs.map (Fact.rename ρ))) v l' = none) := by
  refine ⟨fromParser_rename ρ inj fs, namesOf_rename ρ inj fs, ?_, ?_⟩
  · intro v l; rw [namesOf_rename ρ inj]; exact labelled_rename ρ inj _ v l
  · intro v l' h; rw [namesOf_rename ρ inj]; exact labelled_rename_outside ρ _ v l' h

theorem maps_through_rename {ρ : Label → Label} {xs xs' ys : List Label}
    (key : ∀ v : I3, (fun l => labelled xs' v (ρ l)) = labelled xs v) {A B : List I3}
    (M : ∀ m, m ∈ A.map (labelled xs') ↔ m ∈ B.map (labelled ys)) :
    (∀ m', m' ∈ B.map (labelled ys) → (fun l => m' (ρ l)) ∈ A.map (labelled xs)) ∧
    (∀ m, m ∈ A.map (labelled xs) → ∃ m' ∈ B.map (labelled ys), ∀ l, m' (ρ l) = m l) := by
  constructor
  · intro m' hm'
    obtain ⟨v, hv, e⟩ := List.mem_map.mp ((M m').mpr hm')
    exact List.mem_map.mpr ⟨v, hv, by rw [← key, e]⟩
  · intro m hm
    obtain ⟨v, hv, e⟩ := List.mem_map.mp hm
    exact ⟨_, (M _).mp (List.mem_map.mpr ⟨v, hv, rfl⟩), fun l => by rw [← e, ← key]⟩

/-- renaming AND sorting afterwards (the sort of the renamed names is in general a different
permutation): the label maps correspond through `ρ` -/
theorem renaming_then_sort_invariant (ρ : Label → Label) (inj : ∀ a b, ρ a = ρ b → a = b) (fs : List Fact)
    (hwf : WellFormedAdf fs) (hn : (namesOf fs).length ≤ VBOT) (ns' : List Label)
    (hns : ns'.Perm (namesOf (fs.map (Fact.rename ρ)))) :
    ∃ s ac s' ac', fromParser (PState.ofFacts fs) = some (s, ac) ∧
      fromParser ((PState.ofFacts (fs.map (Fact.rename ρ))).resort ns') = some (s', ac') ∧
      (∀ l, labelled ns' (groundedVec ns'.length s' ac') (ρ l) =
            labelled (namesOf fs) (groundedVec (namesOf fs).length s ac) l) ∧
      (∀ m', m' ∈ (completeVecs ns'.length s' ac').map (labelled ns') →
         (fun l => m' (ρ l)) ∈ (completeVecs (namesOf fs).length s ac).map (labelled (namesOf fs))) ∧
      (∀ m, m ∈ (completeVecs (namesOf fs).length s ac).map (labelled (namesOf fs)) →
         ∃ m' ∈ (completeVecs ns'.length s' ac').map (labelled ns'), ∀ l, m' (ρ l) = m l) ∧
      (∀ m', m' ∈ (stableVecs ns'.length s' ac').map (labelled ns') →
         (fun l => m' (ρ l)) ∈ (stableVecs (namesOf fs).length s ac).map (labelled (namesOf fs))) ∧
      (∀ m, m ∈ (stableVecs (namesOf fs).length s ac).map (labelled (namesOf fs)) →
         ∃ m' ∈ (stableVecs ns'.length s' ac').map (labelled ns'), ∀ l, m' (ρ l) = m l) := by
  have hR := fromParser_rename ρ inj fs
  have hN := namesOf_rename ρ inj fs
  have hwf' : WellFormedAdf (fs.map (Fact.rename ρ)) :=
    (fromParser_isSome_iff _).mp (by rw [hR]; exact fromParser_isSome fs hwf)
  have hlen : (namesOf (fs.map (Fact.rename ρ))).length = (namesOf fs).length := by rw [hN, List.length_map]
  obtain ⟨s, ac, s', ac', a, b, _, M⟩ := resorted_label_maps _ hwf' ns' hns (by rw [hlen]; exact hn)
  rw [hR] at a
  unfold SameLabelMaps at M
  rw [hlen] at M
  have key : ∀ v : I3, (fun l => labelled (namesOf (fs.map (Fact.rename ρ))) v (ρ l)) = labelled (namesOf fs) v := by
    intro v; funext l; rw [hN]; exact labelled_rename ρ inj _ v l
  exact ⟨s, ac, s', ac', a, b, fun l => by rw [← M.1, ← key],
    (maps_through_rename key M.2.1).1, (maps_through_rename key M.2.1).2,
    (maps_through_rename key M.2.2.1).1, (maps_through_rename key M.2.2.1).2⟩

/-- **from two texts**: two texts of the documented format whose facts are permutations of each other
(`gs = fs`: the same facts laid out differently — whitespace; in general: facts reordered) are both
accepted and built, and have the same label maps -/
theorem texts_invariant (t t' : List Char) (fs gs : List Fact) (hd : DerFile fs t) (hd' : DerFile gs t')
    (hne : fs ≠ []) (hp : fs.Perm gs) (hone : ((acsOf fs).map (·.1)).Nodup) (hwf : WellFormedAdf fs)
    (hn : (namesOf fs).length ≤ VBOT) :
    ∃ st st' s ac s' ac', parse t = some st ∧ parse t' = some st' ∧
      fromParser st = some (s, ac) ∧ fromParser st' = some (s', ac') ∧
      SameLabelMaps st.namelist st'.namelist s ac s' ac' := by
  have hne' : gs ≠ [] := fun e => hne (by rw [e] at hp; exact hp.eq_nil)
  obtain ⟨s, ac, s', ac', a, b, m⟩ := facts_permutation_invariant fs gs hp hone hwf hn
  refine ⟨_, _, s, ac, s', ac', parse_of_der fs t hd hne, parse_of_der gs t' hd' hne', a, b, ?_⟩
  rw [(ofFacts_spec fs).1, (ofFacts_spec gs).1]
  exact m

/-- **lexicographic sorting reports in byte-wise label order**: after `varsort_lexi` the name list is
a permutation of the declared names in STRICTLY ascending byte order of the UTF-8 encodings (the `Ord`
of Rust's `String`; `byteLt_eq_cpLt`: the same as comparing the sequences of code points), the
dictionary sends every label `l` to `k` = the number of declared labels byte-wise below `l`, and
entry `k` of every vector is the value reported for `l`: position `k` belongs to the `k`-th smallest
label (counting from 0) -/
theorem lexi_reports_bytewise_order (fs : List Fact) :
    (varsortLexi (PState.ofFacts fs)).namelist.Perm (namesOf fs) ∧
    (varsortLexi (PState.ofFacts fs)).namelist.Pairwise (fun a b => byteLt a b = true) ∧
    (∀ a b : Label, byteLt a b = cpLt a b) ∧
    ∀ l ∈ namesOf fs,
      (varsortLexi (PState.ofFacts fs)).namelist[((namesOf fs).filter (fun x => byteLt x l)).length]? = some l ∧
      (varsortLexi (PState.ofFacts fs)).dictValue l = some ((namesOf fs).filter (fun x => byteLt x l)).length ∧
      ∀ v : I3, labelled (varsortLexi (PState.ofFacts fs)).namelist v l =
        v[((namesOf fs).filter (fun x => byteLt x l)).length]? := by
  have e : (varsortLexi (PState.ofFacts fs)).namelist = isort byteLe (namesOf fs) := by
    show isort byteLe (PState.ofFacts fs).namelist = _
    rw [(ofFacts_spec fs).1]
  have hp : (isort byteLe (namesOf fs)).Perm (namesOf fs) := isort_perm _ _
  have hs := isort_byteLe_strict (namesOf fs) (namesOf_nodup fs)
  rw [e]
  refine ⟨hp, hs, byteLt_eq_cpLt, ?_⟩
  intro l hl
  have hi := indexOf_sorted_count byteLt byteLt_irrefl byteLt_asymm _ hs l (hp.mem_iff.mpr hl)
  rw [(hp.filter _).length_eq] at hi
  refine ⟨indexOf_get _ _ _ hi, ?_, ?_⟩
  · have := (presents_resort (presents_ofFacts fs) _ hp).dict l
    rw [← hi]
    show dictGet ((PState.ofFacts fs).resort (isort byteLe (PState.ofFacts fs).namelist)).dict l = _
    rw [(ofFacts_spec fs).1]
    exact this
  · intro v
    unfold labelled
    rw [hi]; rfl

/-! ### non-vacuity: labels on which byte order and natural order differ -/

/-- `s(b). s(a9). s(10). s(B). s(a10). s(9).` with `ac(b, a9). ac(a9, neg(a9)). ac(10, c(v)). ac(B, and(10, b)).
ac(a10, neg(9)). ac(9, neg(a10)).` -/
def exFs : List Fact :=
  [.stmt ['b'], .stmt ['a','9'], .stmt ['1','0'], .stmt ['B'], .stmt ['a','1','0'], .stmt ['9'],
   .ac ['b'] (.atom ['a','9']), .ac ['a','9'] (.not (.atom ['a','9'])), .ac ['1','0'] .top,
   .ac ['B'] (.and (.atom ['1','0']) (.atom ['b'])), .ac ['a','1','0'] (.not (.atom ['9'])),
   .ac ['9'] (.not (.atom ['a','1','0']))]

/-- the same facts in another order (declarations last, conditions shuffled) -/
def exGs : List Fact :=
  [.ac ['9'] (.not (.atom ['a','1','0'])), .ac ['B'] (.and (.atom ['1','0']) (.atom ['b'])),
   .ac ['a','9'] (.not (.atom ['a','9'])), .ac ['b'] (.atom ['a','9']), .ac ['1','0'] .top,
   .ac ['a','1','0'] (.not (.atom ['9'])),
   .stmt ['9'], .stmt ['a','1','0'], .stmt ['B'], .stmt ['1','0'], .stmt ['a','9'], .stmt ['b']]

/-- byte order: `10 < 9 < B < a10 < a9 < b` (the natural order would be `9 < 10 < a9 < a10 < b, B`) -/
theorem exFs_lexi : (varsortLexi (PState.ofFacts exFs)).namelist =
    [['1','0'], ['9'], ['B'], ['a','1','0'], ['a','9'], ['b']] := by decide

theorem exFs_lexi_dict : (varsortLexi (PState.ofFacts exFs)).formulaOrder = some [5, 4, 0, 2, 3, 1] := by decide

/-- a sort in the natural order is another instance of `resort`; here with the expected result of
`natural_lexical_cmp` written down -/
def exNatural : List Label := [['9'], ['1','0'], ['a','9'], ['a','1','0'], ['b'], ['B']]

theorem exNatural_perm : exNatural.Perm (namesOf exFs) := by decide
theorem exFs_wf : WellFormedAdf exFs := by decide
theorem exFs_one : ((acsOf exFs).map (·.1)).Nodup := by decide
theorem exFs_perm : exFs.Perm exGs := by decide
theorem exFs_names_differ : namesOf exFs ≠ namesOf exGs := by decide

#guard (varsortLexi (PState.ofFacts exFs)).namelist.map String.ofList == ["10", "9", "B", "a10", "a9", "b"]
#guard (fromParser (varsortLexi (PState.ofFacts exFs))).isSome
#guard (fromParser ((PState.ofFacts exFs).resort exNatural)).isSome
-- the model's byte order is the `<` of Lean's (UTF-8) strings, also beyond ASCII
#guard [("10", "9"), ("9", "B"), ("B", "a10"), ("a10", "a9"), ("a9", "b"), ("z", "ä"), ("ä", "€"), ("€", "😀"),
  ("", "a"), ("a", "aa")].all fun (a, b) => byteLt a.toList b.toList && !byteLt b.toList a.toList && decide (a < b)
#guard [0x24, 0x7f, 0x80, 0xe4, 0x7ff, 0x800, 0x20ac, 0xffff, 0x10000, 0x1f600, 0x10ffff].all fun n =>
  (String.utf8EncodeChar (Char.ofNat n)).map UInt8.toNat == utf8Nat n

/-- the theorems apply to the example: unsorted, byte-sorted, naturally sorted and reordered facts
all have the same label maps -/
example : ∃ s ac s' ac', fromParser (PState.ofFacts exFs) = some (s, ac) ∧
    fromParser (varsortLexi (PState.ofFacts exFs)) = some (s', ac') ∧
    SameLabelMaps (namesOf exFs) (varsortLexi (PState.ofFacts exFs)).namelist s ac s' ac' :=
  sortBy_label_maps byteLe exFs exFs_wf (by decide)

example : ∃ s ac s' ac', fromParser (PState.ofFacts exFs) = some (s, ac) ∧
    fromParser ((PState.ofFacts exFs).resort exNatural) = some (s', ac') ∧
    Renamed (reindex (namesOf exFs) exNatural) (reindex exNatural (namesOf exFs))
      (ac.map (eval s)) (ac'.map (eval s')) ∧
    SameLabelMaps (namesOf exFs) exNatural s ac s' ac' :=
  resorted_label_maps exFs exFs_wf exNatural exNatural_perm (by decide)

example : ∃ s ac s' ac', fromParser (PState.ofFacts exFs) = some (s, ac) ∧
    fromParser (PState.ofFacts exGs) = some (s', ac') ∧
    SameLabelMaps (namesOf exFs) (namesOf exGs) s ac s' ac' :=
  facts_permutation_invariant exFs exGs exFs_perm exFs_one exFs_wf (by decide)

/-- the renumbering of the example is a proper one -/
example : (List.range 6).map (reindex (namesOf exFs) (varsortLexi (PState.ofFacts exFs)).namelist) =
    [5, 4, 0, 2, 3, 1] := by decide

/-- without "at most one condition per statement" reordering the facts is NOT harmless -/
example : condOf [.stmt ['a'], .ac ['a'] .top, .ac ['a'] .bot] ['a'] ≠
    condOf [.stmt ['a'], .ac ['a'] .bot, .ac ['a'] .top] ['a'] := by decide

/-! ### what order `--an` yields

`IsVarsortAlphanum le` leaves `natural_lexical_cmp` abstract. With the
comparison MODELLED (`CliM.NatLex.le`, CliWorld.lean; total, transitive, antisymmetric on all labels:
NatLexOrder.lean) the parser object after `varsort_alphanum` is determined:
there is exactly one name list that is a permutation of the old one and sorted w.r.t. `le`, the one
insertion sort computes (`CliM.NatLex.anSort`, what `CliM.sortState … .an` and the driver use). Fidelity
of `CliM.NatLex.le` to the crate is limited to labels within Latin-1 with digit runs below 2^64 (see `C15`, section
on `--an`). -/

/-- the model's `--an` is an instance of `IsVarsortAlphanum` for the modelled comparison -/
theorem an_sort_is_varsort_alphanum (st : PState) :
    IsVarsortAlphanum CliM.NatLex.le st (st.resort (CliM.NatLex.anSort st.namelist)) :=
  ⟨(CliM.NatLex.anSort_sorted_all st.namelist).1, (CliM.NatLex.anSort_sorted_all st.namelist).2, rfl⟩

/-- it is the ONLY instance: `sorted` + `perm` determine the name list (a sorted permutation w.r.t. an
antisymmetric comparison is unique, `List.Perm.eq_of_pairwise`), hence the state -/
theorem varsort_alphanum_determined (st st' : PState) (h : IsVarsortAlphanum CliM.NatLex.le st st') :
    st' = st.resort (CliM.NatLex.anSort st.namelist) := by
  have e : st'.namelist = CliM.NatLex.anSort st.namelist :=
    List.Perm.eq_of_pairwise (fun a b _ _ => CliM.NatLex.le_antisymm a b) h.sorted
      (CliM.NatLex.anSort_sorted_all st.namelist).2
      (h.perm.trans (CliM.NatLex.anSort_sorted_all st.namelist).1.symm)
  rw [h.state, e]

/-- `varsort_alphanum_determined` stated with `Nodup` (true of every `namelist`; the proof does not use it) -/
theorem varsort_alphanum_unique (st st' : PState) (nd : st.namelist.Nodup)
    (h : IsVarsortAlphanum CliM.NatLex.le st st') :
    st' = st.resort (CliM.NatLex.anSort st.namelist) :=
  varsort_alphanum_determined st st' h

#print axioms an_sort_is_varsort_alphanum
#print axioms varsort_alphanum_unique
#print axioms resorted_label_maps
#print axioms sorted_twice_label_maps
#print axioms texts_invariant
#print axioms grounded_label_map_invariant
#print axioms complete_label_maps_invariant
#print axioms stable_label_maps_invariant
#print axioms twovalued_label_maps_invariant
#print axioms sortBy_label_maps
#print axioms alphanum_label_maps
#print axioms facts_permutation_invariant
#print axioms facts_permutation_then_sort_invariant
#print axioms renaming_invariant
#print axioms renaming_then_sort_invariant
#print axioms lexi_reports_bytewise_order
#print axioms exFs_lexi

end C10

/-! ## outputs of the other procedures, and the order `--an` reports

`SameLabelMaps` compares the reference enumerations. Every other procedure the CLI offers for
stable / two-valued models has an exactness theorem with the SAME right-hand side as the reference
(C03 `stable_exact`, `stablepre_exact`; C04 `count_search_exact`; C05 via `CliF.ng_facts`: every
halted run), so its output, read as a set of label maps, is invariant too. `Built n s ac` collects
the side conditions of those theorems; `presented_built` re-states the parser-level theorem with it. -/
namespace C10
open ParserM FromParser SortModel

/-- the side conditions of C01–C05 on a built framework -/
structure Built (n : Nat) (s : Store) (ac : List Nat) : Prop where
  wf : WF s
  len : ac.length = n
  valid : ∀ t ∈ ac, t < s.nodes.size

/-- the right-hand side of C03 / C04 / C05 (stable mode) -/
def IsStableModel (D : List BoolFn) (n : Nat) (v : I3) : Prop :=
  v.length = n ∧ TotalI v ∧ Gam D v = v ∧
    ∀ w : I3, IsLfp (redu D v) w → ∀ i : Nat, v[i]? = some (some true) → w[i]? = some (some true)

/-- `out` (decoded vectors) is exactly the set of stable models of the built framework -/
def StableOutput (n : Nat) (s : Store) (ac : List Nat) (out : List I3) : Prop :=
  ∀ v : I3, v ∈ out ↔ IsStableModel (ac.map (eval s)) n v

/-- `out` is exactly the set of two-valued models (C05, two-valued mode) -/
def TwoValOutput (n : Nat) (s : Store) (ac : List Nat) (out : List I3) : Prop :=
  ∀ v : I3, v ∈ out ↔ (v.length = n ∧ TotalI v ∧ Gam (ac.map (eval s)) v = v)

theorem stableOutput_iff_reference {n : Nat} {s : Store} {ac : List Nat} (b : Built n s ac) {out : List I3}
    (h : StableOutput n s ac out) (v : I3) : v ∈ out ↔ v ∈ stableVecs n s ac :=
  (h v).trans ((C03.stable_exact s n ac b.wf b.len b.valid).2 v).symm

/-- **any two exact stable outputs** of two frameworks with the same label maps are the same set of
label maps -/
theorem stable_outputs_invariant (xs ys : List Label) (s s' : Store) (ac ac' : List Nat)
    (H : SameLabelMaps xs ys s ac s' ac') (b : Built xs.length s ac) (b' : Built ys.length s' ac')
    (out out' : List I3) (h : StableOutput xs.length s ac out) (h' : StableOutput ys.length s' ac' out')
    (m : Label → Option (Option Bool)) :
    m ∈ out.map (labelled xs) ↔ m ∈ out'.map (labelled ys) := by
  have e : ∀ m, m ∈ out.map (labelled xs) ↔ m ∈ (stableVecs xs.length s ac).map (labelled xs) := by
    intro m; simp only [List.mem_map, stableOutput_iff_reference b h]
  have e' : ∀ m, m ∈ out'.map (labelled ys) ↔ m ∈ (stableVecs ys.length s' ac').map (labelled ys) := by
    intro m; simp only [List.mem_map, stableOutput_iff_reference b' h']
  rw [e m, e' m]
  exact H.2.2.1 m

/-- **any two exact two-valued outputs** likewise -/
theorem twoval_outputs_invariant (xs ys : List Label) (s s' : Store) (ac ac' : List Nat)
    (H : SameLabelMaps xs ys s ac s' ac') (b : Built xs.length s ac) (b' : Built ys.length s' ac')
    (out out' : List I3) (h : TwoValOutput xs.length s ac out) (h' : TwoValOutput ys.length s' ac' out')
    (m : Label → Option (Option Bool)) :
    m ∈ out.map (labelled xs) ↔ m ∈ out'.map (labelled ys) := by
  have key : ∀ (zs : List Label) (t : Store) (bc : List Nat) (o : List I3), Built zs.length t bc →
      TwoValOutput zs.length t bc o →
      (m ∈ o.map (labelled zs) ↔ ∃ v ∈ completeVecs zs.length t bc, TotalI v ∧ labelled zs v = m) := by
    intro zs t bc o bb ho
    have ce := (CompleteExact.completeAll_exact t zs.length bc bb.wf bb.len bb.valid).2.1
    simp only [List.mem_map]
    constructor
    · rintro ⟨v, hv, rfl⟩
      have ⟨a, b, c⟩ := (ho v).mp hv
      exact ⟨v, (ce v).mpr ⟨a, c⟩, b, rfl⟩
    · rintro ⟨v, hv, ht, rfl⟩
      have ⟨a, c⟩ := (ce v).mp hv
      exact ⟨v, (ho v).mpr ⟨a, ht, c⟩, rfl⟩
  rw [key xs s ac out b h, key ys s' ac' out' b' h']
  exact H.2.2.2 m

/-- `--stm`, `--stmpre`, `--stmca`, `--stmcb` produce exact stable outputs on every built framework;
`--stmng` on every run that halted within its bound (and it halts from some bound on) -/
theorem procedures_exact {n : Nat} {s : Store} {ac : List Nat} (b : Built n s ac) :
    StableOutput n s ac (stableVecs n s ac) ∧
    StableOutput n s ac ((Cli.stablePre s n ac).2.map (fun v => v.map storeIsConst)) ∧
    (∀ useA, StableOutput n s ac ((countAll s n ac useA).2.map (fun v => v.map storeIsConst))) ∧
    (∀ h : SM.Heu, (∃ F0, ∀ F, F0 ≤ F → (SM.ngSearch h F s n ac true).2.2.2 = true) ∧
      ∀ F, (SM.ngSearch h F s n ac true).2.2.2 = true →
        StableOutput n s ac ((SM.ngSearch h F s n ac true).2.1.map (fun v => v.map storeIsConst))) := by
  refine ⟨(C03.stable_exact s n ac b.wf b.len b.valid).2, (C03.stablepre_exact s n ac b.wf b.len b.valid).2,
    fun useA => (C04.count_search_exact s n ac useA b.wf b.len b.valid).2, ?_⟩
  intro h
  have ⟨a, c⟩ := CliF.ng_facts h s n ac true b.wf b.len b.valid (fun hc => by cases hc)
  refine ⟨a, fun F hF v => ?_⟩
  rw [(c F hF).2.2.2 v]
  exact ⟨fun ⟨p, q, r, t⟩ => ⟨p, q, r, t rfl⟩, fun ⟨p, q, r, t⟩ => ⟨p, q, r, fun _ => t⟩⟩

/-- `--twoval`: exact two-valued output on every halted run, provided every condition reads
statements only (the side condition of C05's two-valued mode; true of every parsed framework whose
atoms are declared) -/
theorem twoval_procedure_exact {n : Nat} {s : Store} {ac : List Nat} (b : Built n s ac)
    (hsup : ∀ t ∈ ac, ∀ σ τ : Asg, (∀ i, i < n → σ i = τ i) → eval s t σ = eval s t τ) (h : SM.Heu) :
    (∃ F0, ∀ F, F0 ≤ F → (SM.ngSearch h F s n ac false).2.2.2 = true) ∧
    ∀ F, (SM.ngSearch h F s n ac false).2.2.2 = true →
      TwoValOutput n s ac ((SM.ngSearch h F s n ac false).2.1.map (fun v => v.map storeIsConst)) := by
  have ⟨a, c⟩ := CliF.ng_facts h s n ac false b.wf b.len b.valid (fun _ => hsup)
  refine ⟨a, fun F hF v => ?_⟩
  rw [(c F hF).2.2.2 v]
  exact ⟨fun ⟨p, q, r, _⟩ => ⟨p, q, r⟩, fun ⟨p, q, r⟩ => ⟨p, q, r, fun hc => by cases hc⟩⟩

/-- **`--stmca` / `--stmcb`** (and across the two: `useA`, `useA'` arbitrary): the printed stable
models, as label maps, do not depend on the presentation -/
theorem stmc_outputs_invariant (xs ys : List Label) (s s' : Store) (ac ac' : List Nat)
    (H : SameLabelMaps xs ys s ac s' ac') (b : Built xs.length s ac) (b' : Built ys.length s' ac')
    (useA useA' : Bool) (m : Label → Option (Option Bool)) :
    m ∈ ((countAll s xs.length ac useA).2.map (fun v => v.map storeIsConst)).map (labelled xs) ↔
      m ∈ ((countAll s' ys.length ac' useA').2.map (fun v => v.map storeIsConst)).map (labelled ys) :=
  stable_outputs_invariant xs ys s s' ac ac' H b b' _ _ ((procedures_exact b).2.2.1 useA)
    ((procedures_exact b').2.2.1 useA') m

/-- **`--stmpre`** -/
theorem stmpre_outputs_invariant (xs ys : List Label) (s s' : Store) (ac ac' : List Nat)
    (H : SameLabelMaps xs ys s ac s' ac') (b : Built xs.length s ac) (b' : Built ys.length s' ac')
    (m : Label → Option (Option Bool)) :
    m ∈ ((Cli.stablePre s xs.length ac).2.map (fun v => v.map storeIsConst)).map (labelled xs) ↔
      m ∈ ((Cli.stablePre s' ys.length ac').2.map (fun v => v.map storeIsConst)).map (labelled ys) :=
  stable_outputs_invariant xs ys s s' ac ac' H b b' _ _ (procedures_exact b).2.1 (procedures_exact b').2.1 m

/-- **`--stmng`**, any two heuristics, any two bounds within which the runs halted (the CLI's bound
is 1000000; `procedures_exact`: both halt from some bound on) -/
theorem stmng_outputs_invariant (xs ys : List Label) (s s' : Store) (ac ac' : List Nat)
    (H : SameLabelMaps xs ys s ac s' ac') (b : Built xs.length s ac) (b' : Built ys.length s' ac')
    (h h' : SM.Heu) (F F' : Nat) (hF : (SM.ngSearch h F s xs.length ac true).2.2.2 = true)
    (hF' : (SM.ngSearch h' F' s' ys.length ac' true).2.2.2 = true) (m : Label → Option (Option Bool)) :
    m ∈ ((SM.ngSearch h F s xs.length ac true).2.1.map (fun v => v.map storeIsConst)).map (labelled xs) ↔
      m ∈ ((SM.ngSearch h' F' s' ys.length ac' true).2.1.map (fun v => v.map storeIsConst)).map (labelled ys) :=
  stable_outputs_invariant xs ys s s' ac ac' H b b' _ _ (((procedures_exact b).2.2.2 h).2 F hF)
    (((procedures_exact b').2.2.2 h').2 F' hF') m

/-- **`--twoval`**, likewise, under the side condition of the two-valued mode on both sides -/
theorem twoval_search_outputs_invariant (xs ys : List Label) (s s' : Store) (ac ac' : List Nat)
    (H : SameLabelMaps xs ys s ac s' ac') (b : Built xs.length s ac) (b' : Built ys.length s' ac')
    (hsup : ∀ t ∈ ac, ∀ σ τ : Asg, (∀ i, i < xs.length → σ i = τ i) → eval s t σ = eval s t τ)
    (hsup' : ∀ t ∈ ac', ∀ σ τ : Asg, (∀ i, i < ys.length → σ i = τ i) → eval s' t σ = eval s' t τ)
    (h h' : SM.Heu) (F F' : Nat) (hF : (SM.ngSearch h F s xs.length ac false).2.2.2 = true)
    (hF' : (SM.ngSearch h' F' s' ys.length ac' false).2.2.2 = true) (m : Label → Option (Option Bool)) :
    m ∈ ((SM.ngSearch h F s xs.length ac false).2.1.map (fun v => v.map storeIsConst)).map (labelled xs) ↔
      m ∈ ((SM.ngSearch h' F' s' ys.length ac' false).2.1.map (fun v => v.map storeIsConst)).map (labelled ys) :=
  twoval_outputs_invariant xs ys s s' ac ac' H b b' _ _ ((twoval_procedure_exact b hsup h).2 F hF)
    ((twoval_procedure_exact b' hsup' h').2 F' hF') m

/-- any two exact stable procedures also agree WITH EACH OTHER on one framework (`xs = ys`, identity
presentation is not needed: both are exact) — e.g. `--stmca` against `--stmng` -/
theorem procedures_agree {n : Nat} {s : Store} {ac : List Nat} (b : Built n s ac) (out out' : List I3)
    (h : StableOutput n s ac out) (h' : StableOutput n s ac out') (v : I3) : v ∈ out ↔ v ∈ out' :=
  (h v).trans (h' v).symm

/-- **`--stmrew` / `--stmrew2`, library arm** (`Bio.bioStableRep` on the external library object, C03
`biodivine_rewriting_exact`): for every lawful library, if on each side the library object `acB`
denotes position by position the functions of the native object (`hsame`, what `bioBuild` /
`from_parser` establish: `CliMP.bioBuild_facts`), the printed stable models are the same label maps.
ASSUMPTION about the external crate as in C03: `W : Bio.Lawful L n` -/
theorem stmrew_library_outputs_invariant {T : Type} (L : Bio.Lib T) (xs ys : List Label)
    (W : Bio.Lawful L xs.length) (W' : Bio.Lawful L ys.length) (s s' : Store) (ac ac' : List Nat)
    (H : SameLabelMaps xs ys s ac s' ac') (b : Built xs.length s ac) (b' : Built ys.length s' ac')
    (rw rw' : Option T) (acB acB' : List T) (hv : ∀ a ∈ acB, W.Valid a) (hv' : ∀ a ∈ acB', W'.Valid a)
    (hl : acB.length = xs.length) (hl' : acB'.length = ys.length)
    (hsame : acB.map W.den = ac.map (eval s)) (hsame' : acB'.map W'.den = ac'.map (eval s'))
    (hg : Bio.GoodRewrite W acB rw) (hg' : Bio.GoodRewrite W' acB' rw') (m : Label → Option (Option Bool)) :
    m ∈ ((Bio.bioStableRep L rw acB).map (fun v => v.map storeIsConst)).map (labelled xs) ↔
      m ∈ ((Bio.bioStableRep L rw' acB').map (fun v => v.map storeIsConst)).map (labelled ys) := by
  apply stable_outputs_invariant xs ys s s' ac ac' H b b'
  · intro v
    rw [(C03.biodivine_rewriting_exact L xs.length W rw acB hv hl hg).2.1 v, hsame]; rfl
  · intro v
    rw [(C03.biodivine_rewriting_exact L ys.length W' rw' acB' hv' hl' hg').2.1 v, hsame']; rfl

/-- **`--stmrew` / `--stmrew2`, `hybrid_step_opt(false)` / `from_biodivine` pairing** (`Bio.nativeStableRep`: candidates
from the library object, test on the own store; C03 `native_rewriting_exact`), same hypotheses.  NOT the pairing the
CLI's default hybrid arm runs (pre-grounded native object, candidates from the un-grounded library object: `hsame`
fails there, `C03.hsame_fails_for_the_cli_pairing`) - for that see `stmrew_cli_hybrid_outputs_invariant` below -/
theorem stmrew_hybrid_outputs_invariant {T : Type} (L : Bio.Lib T) (xs ys : List Label)
    (W : Bio.Lawful L xs.length) (W' : Bio.Lawful L ys.length) (s s' : Store) (ac ac' : List Nat)
    (H : SameLabelMaps xs ys s ac s' ac') (b : Built xs.length s ac) (b' : Built ys.length s' ac')
    (rw rw' : Option T) (acB acB' : List T) (hv : ∀ a ∈ acB, W.Valid a) (hv' : ∀ a ∈ acB', W'.Valid a)
    (hl : acB.length = xs.length) (hl' : acB'.length = ys.length)
    (hsame : acB.map W.den = ac.map (eval s)) (hsame' : acB'.map W'.den = ac'.map (eval s'))
    (hg : Bio.GoodRewrite W acB rw) (hg' : Bio.GoodRewrite W' acB' rw') (m : Label → Option (Option Bool)) :
    m ∈ ((Bio.nativeStableRep s xs.length ac (Bio.stableModelCandidates L rw acB)).2.map
          (fun v => v.map storeIsConst)).map (labelled xs) ↔
      m ∈ ((Bio.nativeStableRep s' ys.length ac' (Bio.stableModelCandidates L rw' acB')).2.map
          (fun v => v.map storeIsConst)).map (labelled ys) := by
  apply stable_outputs_invariant xs ys s s' ac ac' H b b'
  · intro v
    rw [(C03.native_rewriting_exact L xs.length W s ac b.wf b.len b.valid rw acB hv hl hsame hg).2.2.1 v]; rfl
  · intro v
    rw [(C03.native_rewriting_exact L ys.length W' s' ac' b'.wf b'.len b'.valid rw' acB' hv' hl' hsame' hg').2.2.1 v]
    rfl

/-- `--stmrew` / `--stmrew2` as the CLI's HYBRID arm runs them: native object from `hybrid_step_opt(opt)`
(CLI: `opt = true`, PRE-GROUNDED), candidates from the un-grounded library object -/
theorem stmrew_cli_hybrid_outputs_invariant {T : Type} (L : Bio.Lib T) (xs ys : List Label)
    (W : Bio.Lawful L xs.length) (W' : Bio.Lawful L ys.length)
    (dump : T → List Node) (hd : Bio.DumpSpec W dump) (hd' : Bio.DumpSpec W' dump) (opt opt' : Bool)
    (s s' : Store) (ac ac' : List Nat)
    (H : SameLabelMaps xs ys s ac s' ac') (b : Built xs.length s ac) (b' : Built ys.length s' ac')
    (rw rw' : Option T) (acB acB' : List T) (hv : ∀ a ∈ acB, W.Valid a) (hv' : ∀ a ∈ acB', W'.Valid a)
    (hl : acB.length = xs.length) (hl' : acB'.length = ys.length)
    (hsame : acB.map W.den = ac.map (eval s)) (hsame' : acB'.map W'.den = ac'.map (eval s'))
    (hg : Bio.GoodRewrite W acB rw) (hg' : Bio.GoodRewrite W' acB' rw') (m : Label → Option (Option Bool)) :
    m ∈ ((Bio.nativeStableRep (Bio.hybridStep L dump opt acB).1 xs.length (Bio.hybridStep L dump opt acB).2
          (Bio.stableModelCandidates L rw acB)).2.map (fun v => v.map storeIsConst)).map (labelled xs) ↔
      m ∈ ((Bio.nativeStableRep (Bio.hybridStep L dump opt' acB').1 ys.length (Bio.hybridStep L dump opt' acB').2
          (Bio.stableModelCandidates L rw' acB')).2.map (fun v => v.map storeIsConst)).map (labelled ys) := by
  apply stable_outputs_invariant xs ys s s' ac ac' H b b'
  · intro v
    rw [(C03.native_rewriting_on_hybrid L xs.length W dump hd opt rw acB hv hl hg).2.2.1 v, hsame]; rfl
  · intro v
    rw [(C03.native_rewriting_on_hybrid L ys.length W' dump hd' opt' rw' acB' hv' hl' hg').2.2.1 v, hsame']; rfl

/-- NOT proved (kept as a statement): the same from the parser object alone, i.e. with the library
objects of BOTH presentations produced by `CliM.bioBuild` — missing is the derivation of `hsame`,
`hv`, `hg` for the re-sorted parser object from `CliMP.bioBuild_facts` in one composed theorem.
The libraries are a FAMILY indexed by the number of variables, as in `CliM.World` and C16: with ONE library `L`
and `∀ n, Bio.Lawful L n` the statement would be vacuous, since no library satisfies that - `sat_spec` at `n = 1`
and `n = 2` contradict each other on `satVals (evalExpr (.const true))` (`no_lib_lawful_for_all_n` below). -/
def stmrew_parser_level_statement : Prop :=
  ∀ {T : Type} (Lf : Nat → Bio.Lib T), (∀ n, n ≤ VBOT → Bio.Lawful (Lf n) n) →
    ∀ (fs : List Fact), WellFormedAdf fs → ∀ (ns' : List Label), ns'.Perm (namesOf fs) →
      (namesOf fs).length ≤ VBOT → ∀ (rew : Bool) (b b' : List T × Option T),
        CliM.bioBuild (Lf (namesOf fs).length) (PState.ofFacts fs) rew = some b →
        CliM.bioBuild (Lf (namesOf fs).length) ((PState.ofFacts fs).resort ns') rew = some b' →
        ∀ m, m ∈ ((Bio.bioStableRep (Lf (namesOf fs).length) b.2 b.1).map (fun v => v.map storeIsConst)).map
               (labelled (namesOf fs)) ↔
             m ∈ ((Bio.bioStableRep (Lf (namesOf fs).length) b'.2 b'.1).map (fun v => v.map storeIsConst)).map
               (labelled ns')

/-- no single library is lawful for every number of variables (why the statement above needs a family) -/
theorem no_lib_lawful_for_all_n {T : Type} (L : Bio.Lib T) (W : ∀ n, Bio.Lawful L n) : False := by
  have h1 := (W 1).evalExpr_spec (.const true) rfl
  have h2 := (W 2).evalExpr_spec (.const true) rfl
  have s1 := ((W 1).sat_spec _ h1.1).2 [true]
  have s2 := ((W 2).sat_spec _ h2.1).2 [true]
  rw [h1.2] at s1; rw [h2.2] at s2
  have m : [true] ∈ L.satVals (L.evalExpr (.const true)) := s1.mpr ⟨rfl, rfl⟩
  have := (s2.mp m).1; simp at this

/-- the parser-level source of all hypotheses at once: for a well-formed ADF and any parser object
presenting a permutation of its names (every sort, `--lx`, `--an`, both), both objects are built,
have the same label maps, and satisfy `Built` — so every `…_outputs_invariant` above applies -/
theorem presented_built (fs : List Fact) (hwf : WellFormedAdf fs) (st : PState) (ns' : List Label)
    (hp : ns'.Perm (namesOf fs)) (hP : Presents st ns' (acsOf fs)) (hn : (namesOf fs).length ≤ VBOT) :
    ∃ s ac s' ac', fromParser (PState.ofFacts fs) = some (s, ac) ∧ fromParser st = some (s', ac') ∧
      SameLabelMaps (namesOf fs) ns' s ac s' ac' ∧
      Built (namesOf fs).length s ac ∧ Built ns'.length s' ac' := by
  obtain ⟨s, ac, s', ac', a, b, c, c', _, m⟩ :=
    same_framework_label_maps (presents_ofFacts fs) hP hp.symm (fun _ => rfl) hwf (wfOn_perm hp hwf) hn
  exact ⟨s, ac, s', ac', a, b, m, ⟨c.1, c.2.1, c.2.2⟩, ⟨c'.1, by rw [hp.length_eq]; exact c'.2.1, c'.2.2⟩⟩

/-- **what order `--an` reports** (uses `IsVarsortAlphanum.sorted`): after `varsort_alphanum` the
name list is a duplicate-free permutation of the declared names, pairwise ordered by the comparison
`le` (ANY comparison - the statement is relative to it), and entry `k` of every
printed vector is the value of the label at position `k` of that list. So: statements are reported
in `le`-ascending label order; which order that is on concrete labels ("natural": digit runs by
value) rests on the crate `lexical-sort`, modelled as `CliM.NatLex.le` (`an_sort_is_varsort_alphanum`,
`varsort_alphanum_unique` above; fidelity limits of the model: C15) -/
theorem alphanum_reports_le_order (le : Label → Label → Bool) (fs : List Fact) (st' : PState)
    (hs : IsVarsortAlphanum le (PState.ofFacts fs) st') :
    st'.namelist.Perm (namesOf fs) ∧ st'.namelist.Nodup ∧
    st'.namelist.Pairwise (fun a b => le a b = true) ∧
    (∀ i j (hi : i < j) (hj : j < st'.namelist.length), le (st'.namelist[i]'(by omega)) st'.namelist[j] = true) ∧
    ∀ k (hk : k < st'.namelist.length) (v : I3), labelled st'.namelist v st'.namelist[k] = v[k]? := by
  have hp : st'.namelist.Perm (namesOf fs) := by
    have := hs.perm
    rwa [(ofFacts_spec fs).1] at this
  have nd : st'.namelist.Nodup := hp.nodup_iff.mpr (namesOf_nodup fs)
  refine ⟨hp, nd, hs.sorted, ?_, ?_⟩
  · intro i j hi hj
    exact List.pairwise_iff_getElem.mp hs.sorted i j (by omega) hj hi
  · intro k hk v
    unfold labelled
    rw [indexOf_of_get _ nd _ k (by simp [hk])]
    rfl

/-- non-vacuity of `alphanum_reports_le_order`: for the six labels of `exFs` the natural order
`exNatural` (9 < 10 < a9 < a10 < b < B) with ANY comparison under which that list is pairwise
ordered — here the relation "stands before in `exNatural`" — is an `IsVarsortAlphanum` result -/
example : IsVarsortAlphanum (fun a b => decide ((indexOf exNatural a).getD 9 ≤ (indexOf exNatural b).getD 9))
    (PState.ofFacts exFs) ((PState.ofFacts exFs).resort exNatural) :=
  ⟨by show exNatural.Perm (PState.ofFacts exFs).namelist; rw [(ofFacts_spec exFs).1]; exact exNatural_perm,
   by show exNatural.Pairwise _; decide, rfl⟩

/-- non-vacuity of the composed corollaries: `exFs` re-sorted to the natural order — both built,
same label maps, `Built` on both sides (6 statements, byte order ≠ natural order) -/
example : ∃ s ac s' ac', fromParser (PState.ofFacts exFs) = some (s, ac) ∧
    fromParser ((PState.ofFacts exFs).resort exNatural) = some (s', ac') ∧
    SameLabelMaps (namesOf exFs) exNatural s ac s' ac' ∧
    Built (namesOf exFs).length s ac ∧ Built exNatural.length s' ac' :=
  presented_built exFs exFs_wf _ exNatural exNatural_perm
    (presents_resort (presents_ofFacts exFs) exNatural exNatural_perm) (by decide)

end C10

#print axioms C10.stable_outputs_invariant
#print axioms C10.twoval_outputs_invariant
#print axioms C10.procedures_exact
#print axioms C10.twoval_procedure_exact
#print axioms C10.stmc_outputs_invariant
#print axioms C10.stmpre_outputs_invariant
#print axioms C10.stmng_outputs_invariant
#print axioms C10.twoval_search_outputs_invariant
#print axioms C10.stmrew_library_outputs_invariant
#print axioms C10.stmrew_hybrid_outputs_invariant
#print axioms C10.presented_built
#print axioms C10.alphanum_reports_le_order

#print axioms C10.stmrew_cli_hybrid_outputs_invariant
#print axioms C10.no_lib_lawful_for_all_n
#print axioms C10.procedures_agree
