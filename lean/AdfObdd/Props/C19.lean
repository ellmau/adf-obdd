import AdfObdd.StreamFull
import AdfObdd.StreamChain
import AdfObdd.StreamBounded
/-! # C19 — the streaming mirror reproduces the producer's node table under every schedule

`StreamF.recv` is a literal model of `Bdd::recv`; channels are FIFO lists; an event sequence is
any interleaving of producer operations (each creating 0..many nodes, each sent), deliveries of
single messages into the relay's channel, relay polls, receiver polls (and polls on the producer,
which has no receiving end).  All statements are for **every** event sequence from the state in
which the three stores are fresh.  The `_store` versions take a real diagram store (`Store`
with `stepOp`) as the producer.

**Relay chains of arbitrary length** (`StreamC`, second half of this file): producer → store₀ → store₁ → …
→ store_{k-1}, every store a `with_sender_receiver` relay, the last one with nobody behind it; events
additionally `poll i t` for every store and `dropFrom i` (the stores from `i` on are dropped: store `i-1` keeps
forwarding into a channel without receiver, the failing `send` is ignored as in the code).  `chain_*` are
the statements for every `k` and every schedule; the one-relay system above is the chain of length 2
(`one_relay_is_chain2`).

**ASSUMPTION: unbounded forwarding channels.** Every channel of the model
— producer → scheduler (`pend`), the inboxes `q` of the stores (`feed` in `StreamChain.lean`
appends without limit) — is an unbounded FIFO list, i.e. `crossbeam_channel::unbounded()`, the only
kind the repository itself creates (lib.rs:174, frontend.rs:103/159/160 tests). The channels are
supplied by the CALLER of `with_sender` / `with_receiver` / `with_sender_receiver`; with a
`bounded(cap)` channel the `send` inside `Bdd::recv` (frontend.rs:74) and inside `Bdd::node` blocks
while the next inbox is full. A relay blocked there has pushed the node but not forwarded it — a
state no `StreamC.Chain` represents (it violates `RInv`: `tbl_{i+1} ++ q_{i+1} = tbl_i`), and a
chain whose last store stops polling then deadlocks everything before it. So ALL theorems of this
file are statements about unbounded channels (or, equivalently, about bounded ones that never fill
up). For bounded channels only SAFETY is proved, on a separate model (`StreamBounded.lean`, `recv`
one message at a time with a `blocked` state, `resume` events): `bounded_forwarding` — conservation
up to the nodes in flight, every table a prefix of the producer's, no inbox above the bound, under
every schedule; `bounded_blocked_state` exhibits the unrepresentable state. NOT carried over to
bounded channels: `chain_poll_found`, the drain theorems, independence of downstream (a full inbox
behind a store DOES influence it), and any liveness claim. -/
namespace C19
open StreamF

/-- after `k` consumed messages a mirror holds exactly the producer's first `k + 2` nodes, in
order (`c` are the two constants every store starts with); the receiver never overtakes the
relay, the relay never the producer -/
theorem mirror_prefix {α : Type} (c : List α) (evs : List (Ev α)) :
    let s := run evs (Sys.init c)
    s.recv = s.prod.take (c.length + s.k2) ∧ s.recv.length = c.length + s.k2 ∧
    s.relay = s.prod.take (c.length + s.k1) ∧ s.relay.length = c.length + s.k1 ∧
    s.k2 ≤ s.k1 ∧ c.length + s.k1 ≤ s.prod.length := by
  intro s
  have h := run_inv c evs _ (Inv.init c)
  have ⟨a, b, d, e⟩ := h.mirror
  exact ⟨b, h.len2, a, h.len1, d, e⟩

/-- nothing is lost, duplicated or reordered: tables and channel contents concatenate to the
producer's table -/
theorem stream_conservation {α : Type} (c : List α) (evs : List (Ev α)) :
    let s := run evs (Sys.init c)
    s.relay ++ s.q1 ++ s.pend = s.prod ∧ s.recv ++ s.q2 = s.relay := by
  intro s
  have h := run_inv c evs _ (Inv.init c)
  exact ⟨h.up, h.down⟩

/-- once everything the producer sent has been consumed the tables are identical — for the relay,
and through the relay chain for the receiver -/
theorem drained_equal {α : Type} (c : List α) (evs : List (Ev α)) :
    let s := run evs (Sys.init c)
    (s.pend = [] → s.q1 = [] → s.relay = s.prod) ∧
    (s.pend = [] → s.q1 = [] → s.q2 = [] → s.recv = s.prod) := by
  intro s
  have h := run_inv c evs _ (Inv.init c)
  exact ⟨fun h0 h1 => (h.drained h0 h1).1, fun h0 h1 => (h.drained h0 h1).2⟩

/-- draining is always possible: deliver what is pending, let the relay and then the receiver
ask for a handle beyond the producer's table; both answer "not found", every channel is empty
and the three tables are identical -/
theorem drain_reaches_equal {α : Type} (c : List α) (evs : List (Ev α)) (T : Nat) :
    let s := run evs (Sys.init c)
    s.prod.length ≤ T →
    let s1 := (stepEv s (.deliver s.pend.length)).1
    let r2 := stepEv s1 (.relayPoll T)
    let r3 := stepEv r2.1 (.recvPoll T)
    r2.2 = some false ∧ r3.2 = some false ∧
    r3.1.pend = [] ∧ r3.1.q1 = [] ∧ r3.1.q2 = [] ∧ r3.1.relay = r3.1.prod ∧ r3.1.recv = r3.1.prod := by
  intro s hT s1 r2 r3
  have h1 : Inv c s1 := step_inv c s _ (run_inv c evs _ (Inv.init c))
  have hp : s1.pend = [] := List.drop_length
  have u1 : s1.relay ++ s1.q1 = s.prod := by have := h1.up; rwa [hp, List.append_nil] at this
  have ⟨f2, q2, t2⟩ := recv_beyond s1.q1 s1.relay T (by rw [← List.length_append, u1]; exact hT)
  have h2 : Inv c r2.1 := step_inv c s1 _ h1
  have d2 : r2.1.recv ++ r2.1.q2 = s.prod := h2.down.trans (t2.trans u1)
  have ⟨f3, q3, t3⟩ := recv_beyond r2.1.q2 r2.1.recv T (by rw [← List.length_append, d2]; exact hT)
  exact ⟨congrArg some f2, congrArg some f3, hp, q2, q3, t2.trans u1, t3.trans d2⟩

/-- a poll answers "found" iff the requested handle is present after polling — receiver, relay,
and a store without receiving end -/
theorem poll_found_iff {α : Type} (s : Sys α) (t : Nat) :
    ((stepEv s (.recvPoll t)).2 = some true ↔ t < (stepEv s (.recvPoll t)).1.recv.length) ∧
    ((stepEv s (.relayPoll t)).2 = some true ↔ t < (stepEv s (.relayPoll t)).1.relay.length) ∧
    ((stepEv s (.prodPoll t)).2 = some true ↔ t < (stepEv s (.prodPoll t)).1.prod.length) := by
  refine ⟨?_, ?_, ?_⟩
  · have := (recv_spec s.q2 s.recv t).2.2.2
    simp only [stepEv, Option.some.injEq]; exact this
  · have := (recv_spec s.q1 s.relay t).2.2.2
    simp only [stepEv, Option.some.injEq]; exact this
  · have := (recv_noReceiver ([] : List α) s.prod t).2.2
    simp only [stepEv, Option.some.injEq]; exact this

/-- a poll consumes exactly what it needs: nothing when the handle is present; it stops right
at the requested handle when that arrives (table length `t + 1`); otherwise it empties the
channel into the table -/
theorem poll_exact {α : Type} (s : Sys α) (t : Nat) :
    let r := stepEv s (.recvPoll t)
    (t < s.recv.length → r.1.recv = s.recv ∧ r.1.q2 = s.q2 ∧ r.2 = some true) ∧
    (s.recv.length ≤ t → r.2 = some true → r.1.recv.length = t + 1) ∧
    (r.2 = some false → r.1.q2 = [] ∧ r.1.recv = s.recv ++ s.q2) := by
  intro r
  have ⟨a, b, c⟩ := recv_exact s.q2 s.recv t
  refine ⟨?_, ?_, ?_⟩
  · intro h; have ⟨x, y, z⟩ := a h; exact ⟨x, y, by simp only [r, stepEv, z]⟩
  · intro h hf
    have hf' : (recv true s.q2 s.recv t).found = true := by simpa [r, stepEv] using hf
    exact b h hf'
  · intro hf
    have hf' : (recv true s.q2 s.recv t).found = false := by simpa [r, stepEv] using hf
    exact c hf'

/-- a relay forwards exactly the messages it consumed, in order, and appends exactly those to
its own table -/
theorem relay_forwards {α : Type} (s : Sys α) (t : Nat) :
    let r := (stepEv s (.relayPoll t)).1
    ∃ fwd, r.relay = s.relay ++ fwd ∧ r.q2 = s.q2 ++ fwd ∧ s.q1 = fwd ++ r.q1 ∧ r.k1 = s.k1 + fwd.length := by
  intro r
  have ⟨a, b, c, _⟩ := recv_spec s.q1 s.relay t
  refine ⟨(recv true s.q1 s.relay t).fwd, b, rfl, ?_, by simp only [r, stepEv, c]⟩
  have : s.relay ++ ((recv true s.q1 s.relay t).fwd ++ (recv true s.q1 s.relay t).q) = s.relay ++ s.q1 := by
    rw [← List.append_assoc, ← b]; exact a
  exact (List.append_cancel_left this).symm

/-- `mirror_prefix` with a real diagram store as producer: for every valid interleaving of
diagram-building operations with deliveries and polls, the producer's table stays canonical and
a mirror that consumed `k` messages holds exactly its first `k + 2` nodes -/
theorem mirror_prefix_store (evs : List PEv) (hv : pevsValid evs 2) :
    let p := prun evs PSys.init
    WF p.st ∧
    p.sys.recv = p.st.nodes.toList.take (2 + p.sys.k2) ∧ p.sys.recv.length = 2 + p.sys.k2 ∧
    p.sys.relay = p.st.nodes.toList.take (2 + p.sys.k1) ∧ p.sys.relay.length = 2 + p.sys.k1 ∧
    p.sys.k2 ≤ p.sys.k1 ∧ 2 + p.sys.k1 ≤ p.st.nodes.size := by
  intro p
  have h := prun_inv evs PSys.init PInv.init hv
  have ⟨a, b, d, e⟩ := h.inv.mirror
  have hc : (Store.init.nodes.toList).length = 2 := rfl
  rw [hc, h.tbl] at a b e
  have l1 := h.inv.len1
  have l2 := h.inv.len2
  rw [hc] at l1 l2
  exact ⟨h.wf, b, l2, a, l1, d, by simpa using e⟩

/-- with a real store as producer: drained channels ⇒ identical node tables (chain of length 2) -/
theorem drained_equal_store (evs : List PEv) (hv : pevsValid evs 2) :
    let p := prun evs PSys.init
    (p.sys.pend = [] → p.sys.q1 = [] → p.sys.relay = p.st.nodes.toList) ∧
    (p.sys.pend = [] → p.sys.q1 = [] → p.sys.q2 = [] → p.sys.recv = p.st.nodes.toList) := by
  intro p
  have h := prun_inv evs PSys.init PInv.init hv
  rw [← h.tbl]
  exact ⟨fun h0 h1 => (h.inv.drained h0 h1).1, fun h0 h1 => (h.inv.drained h0 h1).2⟩

/-! non-vacuity: a concrete schedule in which a poll falls between two node creations of one
operation sequence, a failing and a succeeding poll, and a valid store-level schedule -/
example :
    let s := run [.create [10, 11], .deliver 1, .relayPoll 3, .recvPoll 2, .create [12], .recvPoll 3]
                 (Sys.init [0, 1])
    s.relay = [0, 1, 10] ∧ s.recv = [0, 1, 10] ∧ s.pend = [11, 12] ∧ s.k1 = 1 := by decide
example : (stepEv (run [.create [10, 11], .deliver 2] (Sys.init [0, 1])) (.relayPoll 2)).2 = some true ∧
          (stepEv (run [.create [10, 11], .deliver 2] (Sys.init [0, 1])) (.relayPoll 4)).2 = some false := by decide
example : pevsValid [.op (.var 0), .ev (.deliver 1), .op (.not 2), .ev (.relayPoll 2), .ev (.recvPoll 2)] 2 := by
  simp [pevsValid, Op.valid, VBOT]

/-! ## the relay does not depend on its downstream receiver

In the code a relay forwards every consumed node into its own channel and ignores a failed send (the
receiving end may be gone): what the relay holds and answers is a function of the producer side only.
In the model this is the statement that receiver polls can be deleted from any schedule - in
particular from the point at which the receiver is dropped - without changing the producer, the
first channel, the relay's table, its counter or any of its answers. -/

def upstream {α : Type} (s : Sys α) : List α × List α × List α × List α × Nat :=
  (s.prod, s.pend, s.q1, s.relay, s.k1)

def isRecvPoll {α : Type} : Ev α → Bool
  | .recvPoll _ => true
  | _ => false

theorem upstream_ofSys {α : Type} (s s' : Sys α) :
    upstream s = upstream s' ↔ StreamC.upstream 1 (StreamC.ofSys s) = StreamC.upstream 1 (StreamC.ofSys s') := by
  simp only [upstream, StreamC.upstream, StreamC.ofSys, List.take_succ_cons, List.take_zero, Prod.mk.injEq,
    List.cons.injEq, StreamC.Relay.mk.injEq, and_true]

theorem downstream_ofEv {α : Type} (e : Ev α) : StreamC.downstreamEv 1 (StreamC.ofEv e) = isRecvPoll e := by
  cases e <;> rfl

/-- for every schedule, deleting all receiver polls (e.g. because
the receiver has gone away) leaves producer, pending messages, first channel, relay table and relay
counter exactly as they are -/
theorem relay_independent_of_receiver {α : Type} (evs : List (Ev α)) :
    ∀ s s' : Sys α, upstream s = upstream s' →
      upstream (run evs s) = upstream (run (evs.filter (fun e => !isRecvPoll e)) s') := by
  intro s s' h
  have := StreamC.upstream_independent 1 (evs.map StreamC.ofEv) _ _ ((upstream_ofSys s s').mp h)
  rw [List.filter_map] at this
  simp only [Function.comp_def, downstream_ofEv] at this
  rwa [upstream_ofSys, StreamC.ofSys_run, StreamC.ofSys_run]

/-- the relay gives the same answer to a poll placed after a schedule and after that schedule
without its receiver polls -/
theorem relay_answers_independent_of_receiver {α : Type} (evs : List (Ev α)) (c : List α) (t : Nat) :
    (stepEv (run evs (Sys.init c)) (.relayPoll t)).2 =
    (stepEv (run (evs.filter (fun e => !isRecvPoll e)) (Sys.init c)) (.relayPoll t)).2 := by
  have h := relay_independent_of_receiver evs (Sys.init c) _ rfl
  simp only [upstream, Prod.mk.injEq] at h
  simp only [stepEv, h.2.2.1, h.2.2.2.1]

example :
    upstream (run [.create [10, 11], .deliver 2, .recvPoll 5, .relayPoll 3, .recvPoll 2] (Sys.init [0, 1])) =
    upstream (run [.create [10, 11], .deliver 2, .relayPoll 3] (Sys.init [0, 1])) := by decide

end C19

namespace C19
open StreamC

/-- **every store of a chain of any length `k` holds a prefix of the producer's table**, verbatim and with the
same numbering: after consuming `r.k` messages exactly the producer's first `2 + r.k` nodes; no store
overtakes the one before it - for every schedule (creations, deliveries, polls anywhere, drops) -/
theorem chain_mirror_prefix {α : Type} (c : List α) (k : Nat) (evs : List (StreamC.Ev α)) :
    let s := StreamC.run evs (Chain.init c k)
    (∀ r ∈ s.relays, r.tbl = s.prod.take (c.length + r.k) ∧ r.tbl.length = c.length + r.k ∧
        c.length + r.k ≤ s.prod.length) ∧
    s.relays.Pairwise (fun a b => b.k ≤ a.k) := by
  intro s
  have h := StreamC.run_inv c evs _ (StreamC.Inv.init c k)
  have ⟨a, b⟩ := h.mirror
  obtain ⟨up, _, h2⟩ := h
  exact ⟨fun r hr => ⟨(a r hr).1, (rinv_mem c up _ h2 r hr).2, (a r hr).2⟩, b⟩

/-- handle by handle: whatever a store of the chain holds at handle `t` is the producer's node at `t` -/
theorem chain_same_node {α : Type} (c : List α) (k : Nat) (evs : List (StreamC.Ev α)) :
    let s := StreamC.run evs (Chain.init c k)
    ∀ r ∈ s.relays, ∀ t, t < r.tbl.length → r.tbl[t]? = s.prod[t]? := by
  intro s r hr t ht
  have h := (chain_mirror_prefix c k evs).1 r hr
  have e : r.tbl[t]? = (s.prod.take (c.length + r.k))[t]? := by rw [← h.1]
  rw [e, List.getElem?_take]
  rw [if_pos (by rw [← h.2.1]; exact ht)]

/-- **a poll that answers `true` has the handle, with the producer's node**: `store_i.recv(t)` placed after any
schedule answers "found" iff `t` is present in store `i` afterwards, and then the node at `t` is the producer's -/
theorem chain_poll_found {α : Type} (c : List α) (k : Nat) (evs : List (StreamC.Ev α)) (i t : Nat) :
    let s := StreamC.run evs (Chain.init c k)
    let r := StreamC.stepEv s (.poll i t)
    (r.2 = none ↔ s.relays.length ≤ i) ∧
    ∀ x, r.1.relays[i]? = some x → ((r.2 = some true ↔ t < x.tbl.length) ∧ (r.2 = some true → x.tbl[t]? = r.1.prod[t]?)) := by
  intro s r
  have ⟨_, b, cc⟩ := pollAt_found t s.relays i
  refine ⟨b, ?_⟩
  intro x hx
  have h1 := cc x hx
  refine ⟨h1, ?_⟩
  intro hf
  have := chain_same_node c k (evs ++ [.poll i t])
  simp only [StreamC.run, List.foldl_append, List.foldl_cons, List.foldl_nil] at this
  exact this x (List.mem_of_getElem? hx) t (h1.mp hf)

/-- **once all channels are drained every mirror equals the producer's table**, for every chain length -/
theorem chain_drained_equal {α : Type} (c : List α) (k : Nat) (evs : List (StreamC.Ev α)) :
    let s := StreamC.run evs (Chain.init c k)
    s.pend = [] → (∀ r ∈ s.relays, r.q = []) → ∀ r ∈ s.relays, r.tbl = s.prod := by
  intro s hp hq
  exact (StreamC.run_inv c evs _ (StreamC.Inv.init c k)).drained hp hq

/-- draining is always possible: deliver what is pending and let every store, front to back, ask for a
handle beyond the producer's table -/
theorem chain_drain_reaches_equal {α : Type} (c : List α) (k : Nat) (evs : List (StreamC.Ev α)) (T : Nat) :
    let s := StreamC.run evs (Chain.init c k)
    s.prod.length ≤ T →
    let s' := StreamC.run (.deliver s.pend.length :: (List.range s.relays.length).map (fun j => StreamC.Ev.poll j T)) s
    s'.prod = s.prod ∧ s'.pend = [] ∧ ∀ r ∈ s'.relays, r.q = [] ∧ r.tbl = s.prod := by
  intro s hT
  exact (StreamC.run_inv c evs _ (StreamC.Inv.init c k)).drain T hT

/-- **a relay whose downstream receiver was dropped keeps mirroring**: deleting from any schedule every event
that concerns the stores `i, i+1, …` (their polls; their being dropped, at whatever point) changes nothing in
the producer, the pending messages and the stores `0 … i-1` (tables, inboxes, counters) -/
theorem chain_relay_independent_of_downstream {α : Type} (c : List α) (k i : Nat) (evs : List (StreamC.Ev α)) :
    StreamC.upstream i (StreamC.run evs (Chain.init c k)) =
    StreamC.upstream i (StreamC.run (evs.filter (fun e => !StreamC.downstreamEv i e)) (Chain.init c k)) :=
  StreamC.upstream_independent i evs _ _ rfl

/-- store `j < i` gives the same answer to a poll placed after a schedule and after that schedule
without the events that concern the stores `i, i+1, …` -/
theorem chain_answers_independent_of_downstream {α : Type} (c : List α) (k i j t : Nat) (hj : j < i)
    (evs : List (StreamC.Ev α)) :
    (StreamC.stepEv (StreamC.run evs (Chain.init c k)) (.poll j t)).2 =
    (StreamC.stepEv (StreamC.run (evs.filter (fun e => !StreamC.downstreamEv i e)) (Chain.init c k)) (.poll j t)).2 :=
  (StreamC.upstream_step i _ _ (.poll j t) (chain_relay_independent_of_downstream c k i evs)
    (by simp [StreamC.downstreamEv]; omega)).2

/-- after the stores from `i` on are dropped, the remaining chain still satisfies everything above: in
particular store `i-1`, now without receiver behind it, still holds a prefix and still ends up equal -/
theorem chain_after_drop {α : Type} (c : List α) (k i : Nat) (evs more : List (StreamC.Ev α)) :
    let s := StreamC.run (evs ++ [.dropFrom i] ++ more) (Chain.init c k)
    s.relays.length ≤ i ∧ ∀ r ∈ s.relays, r.tbl = s.prod.take (c.length + r.k) := by
  intro s
  exact ⟨StreamC.length_after_drop i evs more _, fun r hr => ((chain_mirror_prefix c k _).1 r hr).1⟩

/-- the one-relay system of the first part is the chain of length 2 (relay = store 0, receiver = store 1) -/
theorem one_relay_is_chain2 {α : Type} (c : List α) (evs : List (StreamF.Ev α)) :
    StreamC.ofSys (StreamF.run evs (StreamF.Sys.init c)) = StreamC.run (evs.map StreamC.ofEv) (Chain.init c 2) := by
  rw [StreamC.ofSys_run, StreamC.ofSys_init]

/-- with a real diagram store as producer and a chain of any length: for every valid interleaving of
diagram-building operations with deliveries, polls and drops, the producer's table stays canonical, every
store holds exactly its first `2 + consumed` nodes, and drained channels mean identical tables -/
theorem chain_mirror_prefix_store (k : Nat) (evs : List StreamC.PEv) (hv : StreamC.pevsValid evs 2) :
    let p := StreamC.prun evs (StreamC.PChain.init k)
    WF p.st ∧
    (∀ r ∈ p.ch.relays, r.tbl = p.st.nodes.toList.take (2 + r.k) ∧ 2 + r.k ≤ p.st.nodes.size) ∧
    (p.ch.pend = [] → (∀ r ∈ p.ch.relays, r.q = []) → ∀ r ∈ p.ch.relays, r.tbl = p.st.nodes.toList) := by
  intro p
  have h := StreamC.prun_inv evs (StreamC.PChain.init k) (StreamC.PInv.init k) hv
  have hc : (Store.init.nodes.toList).length = 2 := rfl
  have ⟨a, _⟩ := h.inv.mirror
  refine ⟨h.wf, ?_, ?_⟩
  · intro r hr
    have := a r hr
    rw [hc, h.tbl] at this
    exact ⟨this.1, by simpa using this.2⟩
  · intro hp hq r hr
    rw [← h.tbl]; exact h.inv.drained hp hq r hr

/-! non-vacuity: a chain of four stores; polls fall between the two node creations of one operation; a poll
for a handle that is still in flight upstream fails, the same poll succeeds after the stores before it have
forwarded; then store 2 and 3 are dropped and store 1 keeps mirroring -/
example :
    let s := StreamC.run [.create [10, 11], .deliver 1, .poll 2 2, .poll 0 2, .poll 1 2, .poll 2 2, .create [12],
                          .dropFrom 2, .deliver 2, .poll 0 4, .poll 1 3] (Chain.init [0, 1] 4)
    s.prod = [0, 1, 10, 11, 12] ∧ s.relays.map (·.tbl) = [[0, 1, 10, 11, 12], [0, 1, 10, 11]] ∧
    s.relays.map (·.q) = [[], [12]] := by decide
example : (StreamC.stepEv (StreamC.run [.create [10, 11], .deliver 2, .poll 0 3] (Chain.init [0, 1] 3)) (.poll 1 2)).2 = some true ∧
          (StreamC.stepEv (StreamC.run [.create [10, 11], .deliver 2] (Chain.init [0, 1] 3)) (.poll 1 2)).2 = some false ∧
          (StreamC.stepEv (StreamC.run [.create [10, 11], .deliver 2] (Chain.init [0, 1] 3)) (.poll 3 2)).2 = none := by decide
example : StreamC.pevsValid [.op (.var 0), .ev (.deliver 1), .op (.not 2), .ev (.poll 0 2), .ev (.poll 2 2), .ev (.dropFrom 1)] 2 := by
  simp [StreamC.pevsValid, Op.valid, VBOT]

end C19
namespace C19

/-- the chain with forwarding channels of capacity `cap ≥ 1`
(`StreamB`: `recv` blocks in `send` while the next inbox is full, `resume` completes the pending
`send`): under every schedule conservation holds up to the nodes in flight, every store's table is
a prefix of the producer's, no inbox exceeds the bound -/
def bounded_forwarding_statement : Prop := StreamB.bounded_forwarding_statement

/-- **safety with bounded forwarding channels**, every capacity, chain length and schedule -/
theorem bounded_forwarding : bounded_forwarding_statement := StreamB.bounded_forwarding

/-- the state the unbounded model cannot represent, on a concrete schedule (capacity 1, two
relays): store 0 holds `[0,1,7,8]` and is blocked in `send(8)`, store 1 holds `[0,1]` with inbox
`[7]` — `tbl₁ ++ q₁ ≠ tbl₀`; after store 1 polls and the send is resumed, store 0's interrupted
`recv` returns `true` and conservation is restored -/
theorem bounded_blocked_state :
    let s := StreamB.run 1 StreamB.exSched (StreamB.BChain.init [0, 1] 2)
    s.relays = [⟨[], [0, 1, 7, 8], some (8, 3)⟩, ⟨[7], [0, 1], none⟩] ∧
    (∀ r0 r1, s.relays = [r0, r1] → r1.tbl ++ r1.q ≠ r0.tbl) ∧
    (StreamB.stepEv 1 (StreamB.run 1 (StreamB.exSched ++ [.poll 1 2]) (StreamB.BChain.init [0, 1] 2)) (.resume 0)).2 = some true ∧
    (StreamB.run 1 (StreamB.exSched ++ [.poll 1 2, .resume 0]) (StreamB.BChain.init [0, 1] 2)).relays =
      [⟨[], [0, 1, 7, 8], none⟩, ⟨[8], [0, 1, 7], none⟩] := StreamB.blocked_state_example

end C19
#print axioms C19.bounded_blocked_state
#print axioms C19.bounded_forwarding
#print axioms C19.chain_mirror_prefix
#print axioms C19.chain_poll_found
#print axioms C19.chain_drained_equal
#print axioms C19.chain_drain_reaches_equal
#print axioms C19.chain_relay_independent_of_downstream
#print axioms C19.chain_after_drop
#print axioms C19.chain_mirror_prefix_store
