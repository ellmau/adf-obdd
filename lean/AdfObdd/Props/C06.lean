import AdfObdd.OpsProofs
import AdfObdd.WfCheck
import AdfObdd.Rebuild
import AdfObdd.Bridge
import AdfObdd.WfCheckFast
import AdfObdd.Reach
/-! # C06 — the diagram store stays canonical: same handle iff same Boolean function

Reachable states are the results of `runOps` on the fresh store (any operation sequence, so any
order of construction, interleaved restrictions and cache contents), of the node-list rebuild
(re-import) and of the bridge replay. -/
namespace C06

/-- after any operation sequence the node table is reduced, ordered and duplicate free -/
theorem table_wf_reachable (ops : List Op) (hv : opsValid ops 2) :
    TableWF (runOps ops Store.init [0, 1]).1.nodes :=
  (runOps_refines ops Store.init [0, 1] _ WF_init HistOK.init hv).1.table

/-- two issued handles are equal exactly when the formulas denote the same Boolean function -/
theorem same_handle_iff_same_function (ops : List Op) (hv : opsValid ops 2) (i j : Nat)
    (hi : i < (runOps ops Store.init [0, 1]).2.length) (hj : j < (runOps ops Store.init [0, 1]).2.length) :
    let r := runOps ops Store.init [0, 1]
    let fs := semOps ops [fun _ => false, fun _ => true]
    hget r.2 i = hget r.2 j ↔ ∀ σ, fget fs i σ = fget fs j σ := by
  dsimp only
  have ⟨w, _, h⟩ := runOps_refines ops Store.init [0, 1] _ WF_init HistOK.init hv
  have ⟨vi, ei⟩ := h.ok i hi
  have ⟨vj, ej⟩ := h.ok j hj
  rw [← canonical _ w _ _ vi vj]
  simp only [ei, ej]

/-- a formula collapses to the top (bottom) handle iff it is valid (unsatisfiable) -/
theorem const_iff (ops : List Op) (hv : opsValid ops 2) (i : Nat)
    (hi : i < (runOps ops Store.init [0, 1]).2.length) :
    let r := runOps ops Store.init [0, 1]
    let fs := semOps ops [fun _ => false, fun _ => true]
    (hget r.2 i = 1 ↔ ∀ σ, fget fs i σ = true) ∧ (hget r.2 i = 0 ↔ ∀ σ, fget fs i σ = false) := by
  dsimp only
  have ⟨w, _, h⟩ := runOps_refines ops Store.init [0, 1] _ WF_init HistOK.init hv
  have ⟨vi, ei⟩ := h.ok i hi
  constructor
  · rw [eq_one_iff _ w _ vi]; simp only [ei]
  · rw [eq_zero_iff _ w _ vi]; simp only [ei]

/-- canonicity from any well-formed state (so also after a re-import or a bridge conversion) -/
theorem canonical_any (s : Store) (w : WF s) (a b : Nat) (ha : a < s.nodes.size) (hb : b < s.nodes.size) :
    (∀ σ, eval s a σ = eval s b σ) ↔ a = b := canonical s w a b ha hb

/-- re-import by replaying the plain node list: same numbering, exact unique table -/
theorem rebuild_same_table (orig : Store) (w : WF orig) :
    (rebuild orig.nodes).nodes = orig.nodes ∧
    ∀ n t, (rebuild orig.nodes).uniq[n]? = some t ↔ (2 ≤ t ∧ orig.nodes[t]? = some n) :=
  rebuild_id orig w

/-- bridge conversion: replaying an ordered dump into any well-formed store keeps it well formed -/
theorem bridge_wf (d : List Node) (hd : DumpOK d) (hlen : 2 ≤ d.length) (s : Store) (w : WF s) :
    WF (replayL (d.drop 2) s [0, 1]).1 ∧ Ext s (replayL (d.drop 2) s [0, 1]).1 :=
  let x := bridge_correct d hd hlen s w
  ⟨x.1, x.2.1⟩

/-- the checker run on every dumped *real* node table: if it says yes the table is reduced,
ordered and duplicate free -/
theorem checker_sound (ns : Array Node) (h : wfCheck ns = true) : TableWF ns := wfCheck_sound ns h

/-- a table the checker accepts is canonical: equal functions have equal handles -/
theorem checked_table_canonical (s : Store) (h : wfCheck s.nodes = true) (a b : Nat)
    (ha : a < s.nodes.size) (hb : b < s.nodes.size) :
    (∀ σ, eval s a σ = eval s b σ) ↔ a = b := canonical_of_check s h a b ha hb

/-- non-vacuity: the fresh store is well formed and a concrete sequence is valid -/
example : WF Store.init ∧ opsValid [.var 0, .not 2, .or 2 3] 2 :=
  ⟨WF_init, by simp [opsValid, Op.valid, VBOT]⟩

/-- non-vacuity of `canonical_any` / `bridge_wf`: the fresh store is well formed and the dump consisting
of the two terminals and the variable x0 is an ordered dump -/
example : WF Store.init ∧ DumpOK [⟨VBOT, 0, 0⟩, ⟨VTOP, 1, 1⟩, ⟨0, 0, 1⟩] :=
  ⟨WF_init, dump3_ok⟩

end C06

/-! ## the linear-time checker for large dumped tables

`wfCheck` tests for duplicate nodes by comparing all pairs, which is too slow for dumped real
tables with 100 000+ nodes. `wfCheckFast` (`WfCheckFast.lean`) makes one pass with a hash set of
the nodes seen so far; it is sound, complete, and the same function as `wfCheck`. -/
namespace C06

/-- the fast checker is sound: if it says yes the table is reduced, ordered and duplicate free -/
theorem fast_checker_sound (ns : Array Node) (h : wfCheckFast ns = true) : TableWF ns :=
  wfCheckFast_sound ns h

/-- the fast checker is complete: it raises no false alarm on a well-formed table -/
theorem fast_checker_complete (ns : Array Node) (h : TableWF ns) : wfCheckFast ns = true :=
  wfCheckFast_complete ns h

/-- what the fast checker buys: on a dumped table that passes it, two handles denote the same
Boolean function iff they are the same handle -/
theorem fast_checked_table_canonical (s : Store) (h : wfCheckFast s.nodes = true) (a b : Nat)
    (ha : a < s.nodes.size) (hb : b < s.nodes.size) :
    (∀ σ, eval s a σ = eval s b σ) ↔ a = b := Tab.canonical s (wfCheckFast_sound s.nodes h) a b ha hb

/-- every node table the model can reach passes the fast checker (so a `false` on a dumped real
table is a difference from every model state, not an artefact of the checker) -/
theorem reachable_tables_pass_fast (ops : List Op) (hv : opsValid ops 2) :
    wfCheckFast (runOps ops Store.init [0, 1]).1.nodes = true :=
  wfCheckFast_complete _ (table_wf_reachable ops hv)

/-- x1, x0 ∧ x1 and x0 → x1 as a node table -/
def fastExample : Array Node := #[⟨VBOT, 0, 0⟩, ⟨VTOP, 1, 1⟩, ⟨1, 0, 1⟩, ⟨0, 0, 2⟩, ⟨0, 1, 2⟩]

/-- non-vacuity: the fast checker says yes on this table — kernel-checked through
`wfCheckFast_eq_wfCheck` (the hash set itself does not reduce in the kernel), and by evaluation -/
theorem fastExample_passes : wfCheckFast fastExample = true := by
  rw [wfCheckFast_eq_wfCheck]; decide
#guard wfCheckFast fastExample

example : TableWF fastExample := fast_checker_sound fastExample fastExample_passes

/-- the fast checker says no on the same table with a duplicated node, with a redundant test, with a
child above its parent, and without the ⊤ terminal -/
example : wfCheckFast (fastExample.push ⟨0, 0, 2⟩) = false ∧ wfCheckFast (fastExample.push ⟨0, 2, 2⟩) = false ∧
    wfCheckFast (fastExample.push ⟨1, 0, 3⟩) = false ∧ wfCheckFast #[⟨VBOT, 0, 0⟩] = false := by
  simp only [wfCheckFast_eq_wfCheck]
  refine ⟨?_, ?_, ?_, ?_⟩ <;> decide
#guard !wfCheckFast (fastExample.push ⟨0, 0, 2⟩) && !wfCheckFast (fastExample.push ⟨0, 2, 2⟩) &&
  !wfCheckFast (fastExample.push ⟨1, 0, 3⟩) && !wfCheckFast #[⟨VBOT, 0, 0⟩]

end C06

#print axioms C06.fast_checker_sound
#print axioms C06.fast_checker_complete

/-! ## one reachability notion for "any sequence of operations, re-imports or bridge conversions"

`StoreReach` (`Reach.lean`): the fresh store; any diagram operation of `OpsModel` on operands that are
handles of the store; `Bdd::from(nodes)` of the node list (plain, and with the bookkeeping of
`variablelist`/`adhoccounting`); serde export → import → `fix_import`; bridge replay of an ordered
dump — in ANY interleaving. -/
namespace C06

/-- **every reachable store is well formed** (reduced, ordered, duplicate free, exact unique table,
sound memo tables). Preconditions carried by the constructors of `StoreReach`, not by this theorem:
operands must be handles of the store; `.var v` needs `v < VBOT = usize::MAX - 1` (the two largest
values are the terminals' pseudo-variables: the code's `Var::TOP`/`Var::BOT`); a bridge dump must be
ordered (`DumpOK`: children first, larger variables below — what biodivine's export guarantees). -/
theorem reach_wf {s : Store} (r : StoreReach s) : WF s := reach_wf_aux r

/-- on every reachable store two handles are equal exactly when they denote
the same Boolean function, and a handle is ⊤ (⊥) iff its function is valid (unsatisfiable) -/
theorem reach_same_handle_iff_same_function {s : Store} (r : StoreReach s) (a b : Nat)
    (ha : a < s.nodes.size) (hb : b < s.nodes.size) :
    (a = b ↔ ∀ σ, eval s a σ = eval s b σ) ∧
    (a = 1 ↔ ∀ σ, eval s a σ = true) ∧ (a = 0 ↔ ∀ σ, eval s a σ = false) :=
  have w := reach_wf r
  ⟨(canonical s w a b ha hb).symm, eq_one_iff s w a ha, eq_zero_iff s w a ha⟩

/-- the node table of a reachable store is reduced, ordered and duplicate free, so both checkers
accept it -/
theorem reach_table {s : Store} (r : StoreReach s) : TableWF s.nodes ∧ wfCheckFast s.nodes = true :=
  ⟨(reach_wf r).table, wfCheckFast_complete _ (reach_wf r).table⟩

/-- `runOps` from the fresh store stays inside `StoreReach` (so the earlier theorems of this file are
instances) -/
theorem runOps_reach : ∀ (ops : List Op) (s : Store) (hist : List Nat), StoreReach s →
    (∀ t ∈ hist, t < s.nodes.size) → opsValid ops hist.length → StoreReach (runOps ops s hist).1 := by
  intro ops
  induction ops with
  | nil => intro s hist r _ _; exact r
  | cons o ops ih =>
    intro s hist r hv ho
    exact ih _ _ (StoreReach.op s hist o r hv ho.1)
      (HistOK.step s hist _ o (reach_wf r) (HistOK.ofValid s hist hv) ho.1).valid (by simpa using ho.2)

/-- non-vacuity, using every constructor once: build x0 and ¬x0 in the fresh store, export and
re-import the object, rebuild it from its node list (both variants), then replay the dump
⊥, ⊤, x0 of a foreign library into it: the result is reachable, hence well formed and canonical -/
example : ∃ s : Store, StoreReach s ∧ WF s := by
  have r1 : StoreReach (runOps [.var 0, .not 2] Store.init [0, 1]).1 :=
    runOps_reach _ _ _ StoreReach.fresh (by simp [Store.init]) (by simp [opsValid, Op.valid, VBOT])
  have r2 := StoreReach.reimport ⟨_, #[], {}⟩ r1
  have r3 := StoreReach.rebuildBook _ (StoreReach.rebuild _ r2)
  have r4 := StoreReach.bridge _ _ r3 dump3_ok (by simp)
  exact ⟨_, r4, reach_wf r4⟩

end C06

#print axioms C06.reach_wf
#print axioms C06.reach_same_handle_iff_same_function
#print axioms C06.runOps_reach
