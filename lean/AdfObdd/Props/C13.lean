import AdfObdd.Counts
import AdfObdd.Cubes
import AdfObdd.CountsDef
import AdfObdd.CountsMore
import AdfObdd.PathsDepth
import AdfObdd.OpsProofs
import AdfObdd.TTSpec
import AdfObdd.TTDepthPaths
import AdfObdd.CountsWord
import AdfObdd.CubesExact
import AdfObdd.PathsWord
/-! # C13 — counts, depth, supports and path cubes of a diagram are exact

Model: `countF` (= `modelcount_naive`: counter-models, models, depth), `pathsF`, `depsF`
(= the recursive `var_dependencies`), `cubesF` (= `Bdd::interpretations`), `passive` / `active`
(`passive_var_impact` / `active_var_impact`), `moreModels` (`ModelCounts::more_models` as in /repo,
`models ≥ cmodels`; finding D4 is about the upstream body) — all on the proved store. Stated over
`Nat` (the code's `usize` arithmetic overflows for depth ≥ 64; the tie to the code is exercised on
diagrams of depth ≤ 63); the word-level statements are `count_word_exact` (model counts, depth
≤ 64, sharp) and `paths_word_exact` / `more_models_paths_word_iff` (path counts, total < 2^64,
in particular depth ≤ 63).

**Exception to the property text.** The property says the path
cubes of EVERY diagram are pairwise disjoint and cover exactly its (counter-)models. For the two
terminal diagrams this is FALSE of the code and of the model: `interpretations` returns the empty
list for ⊤ and ⊥, so the (empty) cube list of ⊤ covers none of ⊤'s models although every
assignment is one (likewise the counter-models of ⊥). `cubes_exact` therefore states the cover
clause for non-terminal handles only and the emptiness for terminals as a separate conjunct;
`cubes_terminal_not_cover` states the deviation itself. Disjointness and soundness hold for every
handle (vacuously on terminals). -/
namespace C13

/-- model count: `models(t) · 2^|vs| = #{satisfying assignments to vs} · 2^depth(t)` for every
strictly ascending variable list `vs` containing the variables of the diagram -/
theorem models_exact_ratio (s : Store) (w : WF s) (t : Nat) (ht : t < s.nodes.size)
    (vs : List Nat) (hvs : vs.Pairwise (· < ·)) (hdeps : ∀ x ∈ depsF s (t+1) t, x ∈ vs) (base : Asg) :
    (countF s (t+1) t).2.1 * 2 ^ vs.length = sat (eval s t) base vs * 2 ^ (countF s (t+1) t).2.2 :=
  models_ratio s w (t+1) t ht (Nat.lt_succ_self _) vs hvs hdeps base

/-- `var_dependencies` returns exactly the variables the function depends on -/
theorem deps_are_essential (s : Store) (w : WF s) (t x : Nat) (ht : t < s.nodes.size) :
    x ∈ depsOf s t ↔ Essential (eval s t) x := deps_exact s w t x ht

open Classical in
/-- passive impact of `v` = the number of listed diagrams whose FUNCTION essentially depends on
`v` (`Essential f v`: some assignment at which flipping `v` changes `f` - a notion that does not
mention the diagram). `decide` is the classical decision of that proposition; nothing here is
definitional: the model `passive` counts occurrences of `v` in the node lists `depsOf`. -/
theorem passive_counts_dependents (s : Store) (w : WF s) (v : Nat) (ts : List Nat)
    (hts : ∀ t ∈ ts, t < s.nodes.size) :
    passive s v ts = ts.countP (fun t => decide (Essential (eval s t) v)) := by
  unfold passive
  rw [← List.countP_eq_length_filter]
  apply List.countP_congr
  intro t ht
  simp only [List.contains_iff_mem, decide_eq_true_eq]
  exact deps_exact s w t v (hts t ht)

open Classical in
/-- active impact of `v` = the number of statements (positions `i < |ts|`) the FUNCTION of the
diagram listed at position `v` essentially depends on. `v < ts.length` is required (the code
indexes `termlist[var.value()]` and panics otherwise; the model's `getD` would speak about ⊥). -/
theorem active_counts_dependencies (s : Store) (w : WF s) (v : Nat) (ts : List Nat)
    (hv : v < ts.length) (ht : ts[v] < s.nodes.size) :
    active s v ts = (List.range ts.length).countP (fun i => decide (Essential (eval s ts[v]) i)) := by
  unfold active
  rw [← List.countP_eq_length_filter]
  have e : ts.getD v 0 = ts[v] := by simp [List.getD, hv]
  rw [e]
  apply List.countP_congr
  intro i _
  simp only [List.contains_iff_mem, decide_eq_true_eq]
  exact deps_exact s w ts[v] i ht

/-- a terminal diagram has no path cube (the code's behaviour; a unit test asserts it) -/
theorem cubes_terminal (s : Store) (t : Nat) (goal : Bool) (gv : Nat) (ht : t < 2) :
    cubesF s (t+1) t goal gv [] [] = [] :=
  cubesF_lt2 s _ ht goal gv [] []

/-- **the cube clause in one statement, true for EVERY handle `t` of a well-formed store**, every
goal value and every goal variable (`cs` = the result of `interpretations(t, goal, gv, [], [])`):
* the cubes are pairwise disjoint;
* each cube is sound (all its assignments give the function the goal value) and is consistent
  with the goal variable: it never fixes `gv` to the non-goal value, so moving an assignment of
  the cube to `gv := goal` stays inside the cube;
* for a NON-TERMINAL `t`: among the assignments that give the goal variable the goal value, the
  cubes cover exactly the (counter-)models of the function;
* for a TERMINAL `t` (⊥ or ⊤) the result is EMPTY - also where every assignment is a
  (counter-)model. This is the documented exception to "cover exactly" (the code returns
  `Vec::new()` first thing, a unit test asserts it; DESIGN §5 "Readings fixed here"). -/
theorem cubes_exact (s : Store) (w : WF s) (t : Nat) (goal : Bool) (gv : Nat) (ht : t < s.nodes.size) :
    (cubesF s (t+1) t goal gv [] []).Pairwise DisjPC ∧
    (∀ c ∈ cubesF s (t+1) t goal gv [] [], ∀ σ, InPC c σ →
        eval s t σ = goal ∧ InPC c (upd σ gv goal)) ∧
    (2 ≤ t → ∀ σ, σ gv = goal →
        (eval s t σ = goal ↔ ∃ c ∈ cubesF s (t+1) t goal gv [] [], InPC c σ)) ∧
    (t < 2 → cubesF s (t+1) t goal gv [] [] = []) := by
  have snd := fun c σ hc hin => (cubes_sound s w (t+1) t goal gv [] [] c σ ht (Nat.lt_succ_self _) hc hin).2
  refine ⟨cubes_disjoint s w (t+1) t goal gv [] [] ht (Nat.lt_succ_self _), ?_, ?_, cubes_terminal s t goal gv⟩
  · intro c hc σ hin
    exact ⟨snd c σ hc hin, cube_allows_goal s t goal gv c hc σ hin⟩
  · intro ht2 σ hgv
    constructor
    · exact cubes_cover s w (t+1) t goal gv [] [] σ ht (Nat.lt_succ_self _) ht2 ⟨by simp, by simp⟩ hgv
    · intro ⟨c, hc, hin⟩
      exact snd c σ hc hin

/-- **the deviation from "every diagram … cover exactly"**: on every store, for the terminal ⊤
every assignment is a model and for ⊥ every assignment is a counter-model, yet no assignment is
covered by a cube of `interpretations(⊤, true, gv)` resp. `interpretations(⊥, false, gv)` — the
cover clause FAILS for terminals (for the opposite goals, `(⊤, false)` and `(⊥, true)`, there is
nothing to cover and the empty list is exact) -/
theorem cubes_terminal_not_cover (s : Store) (gv : Nat) (σ : Asg) :
    (eval s 1 σ = true ∧ ¬ ∃ c ∈ cubesF s 2 1 true gv [] [], InPC c σ) ∧
    (eval s 0 σ = false ∧ ¬ ∃ c ∈ cubesF s 1 0 false gv [] [], InPC c σ) := by
  refine ⟨⟨eval_one s σ, ?_⟩, ⟨eval_zero s σ, ?_⟩⟩
  · rw [cubes_terminal s 1 true gv (by decide)]; simp
  · rw [cubes_terminal s 0 false gv (by decide)]; simp

/-- 'more models than counter-models' (`ModelCounts::more_models`, `models ≥ cmodels`) applied to
the MODEL counts of a diagram is true iff at least as many assignments (to any strictly ascending
variable list `vs` containing the diagram's variables) satisfy the function as falsify it -/
theorem more_models_iff (s : Store) (w : WF s) (t : Nat) (ht : t < s.nodes.size)
    (vs : List Nat) (hvs : vs.Pairwise (· < ·)) (hdeps : ∀ x ∈ depsF s (t+1) t, x ∈ vs) (base : Asg) :
    moreModels ((countF s (t+1) t).1, (countF s (t+1) t).2.1) = true ↔
      sat (eval s t) base vs ≥ sat (fun σ => !eval s t σ) base vs := by
  have h1 := models_exact_ratio s w t ht vs hvs hdeps base
  have h2 := cmodels_val s w.table t ht vs hvs hdeps base
  have := ratio_ge_iff _ _ _ _ _ _ (Nat.pow_pos (by decide : 0 < 2)) (Nat.pow_pos (by decide : 0 < 2)) h1 h2
  rw [← this]
  simp [moreModels]

/-- finding D4: the upstream comparison, `models ≥ min models cmodels`, holds always -/
theorem unrepaired_more_models_constant (cm m : Nat) : m ≥ min m cm := Nat.min_le_left _ _

/-- non-vacuity: in the fresh store with the variable x0, x0 is the inner node 2 -/
example : (mkNode Store.init 0 0 1).2 = 2 ∧ 2 < (mkNode Store.init 0 0 1).1.nodes.size := by
  simp [mkNode, Store.init]

/-- counter-models and models add up to `2^depth` -/
theorem counts_total (s : Store) (w : WF s) (t : Nat) (ht : t < s.nodes.size) :
    (countF s (t+1) t).1 + (countF s (t+1) t).2.1 = 2 ^ (countF s (t+1) t).2.2 :=
  counts_total_fuel s w.table (t+1) t ht (Nat.lt_succ_self _)

/-- counter-model count: `cmodels(t) · 2^|vs| = #{falsifying assignments to vs} · 2^depth(t)`
(same hypotheses as `models_exact_ratio`) -/
theorem cmodels_exact_ratio (s : Store) (w : WF s) (t : Nat) (ht : t < s.nodes.size)
    (vs : List Nat) (hvs : vs.Pairwise (· < ·)) (hdeps : ∀ x ∈ depsF s (t+1) t, x ∈ vs) (base : Asg) :
    (countF s (t+1) t).1 * 2 ^ vs.length =
      sat (fun σ => !eval s t σ) base vs * 2 ^ (countF s (t+1) t).2.2 :=
  cmodels_val s w.table t ht vs hvs hdeps base

/-- `pathsList` is the list of root-to-leaf paths of the unfolding (exactly the paths, none
twice, and every assignment following a path is evaluated to the path's terminal), and the
path counts are the numbers of listed paths ending in ⊥ resp. ⊤ -/
theorem paths_exact (s : Store) (w : WF s) (t : Nat) :
    (∀ p : DPath, p ∈ pathsList s (t+1) t ↔ IsPath s t p.1 p.2) ∧
    (pathsList s (t+1) t).Nodup ∧
    (∀ p ∈ pathsList s (t+1) t, ∀ σ, Follows σ p.1 → eval s t σ = p.2) ∧
    (paths s t).1 = (pathsList s (t+1) t).countP (fun p => !p.2) ∧
    (paths s t).2 = (pathsList s (t+1) t).countP (fun p => p.2) := by
  refine ⟨mem_pathsList_iff s w.table t, pathsList_nodup s (t+1) t, ?_, ?_, ?_⟩
  · intro p hp σ hσ
    exact path_eval s w.table t p.1 p.2 ((mem_pathsList_iff s w.table t p).mp hp) σ hσ
  · simp only [paths, pathsF_counts]
  · simp only [paths, pathsF_counts]

/-- the depth component is the length of a longest root-to-leaf path (0 for the terminals) -/
theorem depth_exact (s : Store) (w : WF s) (t : Nat) (ht : t < s.nodes.size) :
    (∀ p ∈ pathsList s (t+1) t, p.1.length ≤ (countF s (t+1) t).2.2) ∧
    (∃ p ∈ pathsList s (t+1) t, p.1.length = (countF s (t+1) t).2.2) ∧
    (t < 2 → (countF s (t+1) t).2.2 = 0) :=
  ⟨depth_upper s (t+1) t,
   depth_attained s w.table (t+1) t ht (Nat.lt_succ_self _),
   fun h => by
     rcases (by omega : t = 0 ∨ t = 1) with rfl | rfl
     · rw [countF_zero]
     · rw [countF_one]⟩

/-! ## tie to the executable truth-table specification (`Spec/TT.lean`, via `TTSpec.lean`) -/

/-- the comparisons of `counts_vs_truth_table` for a bare node table that is structurally well formed (what
`wfCheck` establishes for a table dumped from the implementation) -/
theorem counts_vs_truth_table_tab (s : Store) (h : TableWF s.nodes) (t : Nat) (ht : t < s.nodes.size) (nv tt : Nat)
    (hrep : TT.Rep nv tt (eval s t)) (hdeps : ∀ x ∈ depsF s (t+1) t, x < nv) :
    (countF s (t+1) t).2.1 * 2 ^ nv = TT.sat nv tt * 2 ^ (countF s (t+1) t).2.2 ∧
    (countF s (t+1) t).1 * 2 ^ nv = TT.unsat nv tt * 2 ^ (countF s (t+1) t).2.2 ∧
    (∀ x, x ∈ depsOf s t ↔ x ∈ TT.deps nv tt) := by
  have hdet : TT.DetBy nv (eval s t) := TT.detBy_eval s h t nv ht hdeps
  have hsorted : (List.range nv).Pairwise (· < ·) := List.pairwise_lt_range
  have hmem : ∀ x ∈ depsF s (t+1) t, x ∈ List.range nv := fun x hx => List.mem_range.mpr (hdeps x hx)
  have h1 := models_val s h t ht (List.range nv) hsorted hmem (fun _ => false)
  have h2 := cmodels_val s h t ht (List.range nv) hsorted hmem (fun _ => false)
  rw [List.length_range] at h1 h2
  rw [← TT.sat_eq hrep hdet (List.range nv) (List.Perm.refl _) (fun _ => false)] at h1
  rw [← TT.unsat_eq hrep hdet (List.range nv) (List.Perm.refl _) (fun _ => false)] at h2
  refine ⟨h1, h2, ?_⟩
  intro x
  rw [depsOf, Tab.deps_exact s h t x ht, TT.mem_deps_iff hrep hdet]

/-- if the truth table `tt` over `nv` variables represents the function of the diagram `t` and
the diagram's variables are below `nv`, then the counts of the diagram stand in the exact ratio
to `TT.sat` / `TT.unsat` of the table, and the dependency set is `TT.deps` of the table — the
comparisons the test driver performs -/
theorem counts_vs_truth_table (s : Store) (w : WF s) (t : Nat) (ht : t < s.nodes.size) (nv tt : Nat)
    (hrep : TT.Rep nv tt (eval s t)) (hdeps : ∀ x ∈ depsF s (t+1) t, x < nv) :
    (countF s (t+1) t).2.1 * 2 ^ nv = TT.sat nv tt * 2 ^ (countF s (t+1) t).2.2 ∧
    (countF s (t+1) t).1 * 2 ^ nv = TT.unsat nv tt * 2 ^ (countF s (t+1) t).2.2 ∧
    (∀ x, x ∈ depsOf s t ↔ x ∈ TT.deps nv tt) :=
  counts_vs_truth_table_tab s w.table t ht nv tt hrep hdeps

def x0Store : Store := (mkNode Store.init 0 0 1).1

theorem varStore_eval (v : Nat) (hv : v < VBOT) : eval (mkNode Store.init v 0 1).1 2 = fun σ => σ v := by
  funext σ
  have h := (opVar_good Store.init WF_init v hv).ev σ
  rw [show (mkNode Store.init v 0 1).2 = 2 by simp [mkNode, Store.init]] at h
  exact h

theorem x0Store_WF : WF x0Store := (opVar_good Store.init WF_init 0 (by decide)).wf

theorem x0Store_nodes : x0Store.nodes = #[⟨VBOT, 0, 0⟩, ⟨VTOP, 1, 1⟩, ⟨0, 0, 1⟩] := by
  simp [x0Store, mkNode, Store.init]

theorem x0Store_count : countF x0Store 3 2 = (1, 1, 1) := by
  rw [countF_congr (s := ⟨_, {}, {}, {}⟩) x0Store_nodes]; decide

theorem x0Store_deps : depsF x0Store 3 2 = [0] := by
  rw [depsF_congr (s := ⟨_, {}, {}, {}⟩) x0Store_nodes]; decide

/-- non-vacuity of `counts_total`, `depth_exact`: on the diagram of x0 the counts are (1, 1), depth 1 -/
example : WF x0Store ∧ 2 < x0Store.nodes.size ∧ countF x0Store 3 2 = (1, 1, 1) :=
  ⟨x0Store_WF, by rw [x0Store_nodes]; decide, x0Store_count⟩

/-- non-vacuity of `paths_exact`: the two paths of x0 -/
example : pathsList x0Store 3 2 = [([(0, false)], false), ([(0, true)], true)] ∧ paths x0Store 2 = (1, 1) := by
  unfold paths
  rw [pathsList_congr (s := ⟨_, {}, {}, {}⟩) x0Store_nodes, pathsF_congr (s := ⟨_, {}, {}, {}⟩) x0Store_nodes]
  decide

/-- non-vacuity of `models_exact_ratio` / `cmodels_exact_ratio`: the hypotheses hold for x0 over the variables [0, 1] -/
example : ([0, 1] : List Nat).Pairwise (· < ·) ∧ (∀ x ∈ depsF x0Store 3 2, x ∈ [0, 1]) ∧
    (countF x0Store 3 2).1 * 2 ^ 2 = sat (fun σ => !eval x0Store 2 σ) (fun _ => false) [0, 1] * 2 ^ 1 := by
  have hd : ∀ x ∈ depsF x0Store 3 2, x ∈ [0, 1] := by rw [x0Store_deps]; decide
  have := cmodels_exact_ratio x0Store x0Store_WF 2 (by rw [x0Store_nodes]; decide) [0, 1] (by decide) hd
    (fun _ => false)
  rw [x0Store_count] at this ⊢
  exact ⟨by decide, hd, this⟩

/-- the hypotheses of `counts_vs_truth_table` (and of `depth_vs_truth_table`, `paths_vs_truth_table`) hold for the
diagram of x0 over one variable -/
theorem x0_rep : TT.Rep 1 (TT.var 1 0) (eval x0Store 2) ∧ (∀ x ∈ depsF x0Store 3 2, x < 1) := by
  constructor
  · rw [show eval x0Store 2 = fun σ => σ 0 from varStore_eval 0 (by decide)]
    exact TT.rep_var 1 0
  · rw [x0Store_deps]; decide

/-- non-vacuity of `counts_vs_truth_table`: the table of x0 over one variable represents the
diagram of x0 -/
example : TT.Rep 1 (TT.var 1 0) (eval x0Store 2) ∧ (∀ x ∈ depsF x0Store 3 2, x < 1) := x0_rep

end C13

/-! ## depth and paths against the truth-table specification

`TT.depth` / `TT.paths` (`Spec/TT.lean`) compute depth and path counts of THE reduced ordered
diagram of a function from its truth table alone (order 0 < 1 < …). `TTDepthPaths.lean` proves
that they are the depth component of `countF` and the path counts `pathsF` of every diagram of a
well-formed store that denotes the function — so the `~ … paths … depth …` answers of the test
driver are theorem-backed in the same way as `sat` and `deps` are by `counts_vs_truth_table`. -/
namespace C13

/-- if the truth table `tt` over `nv` variables represents the function of the diagram `t` and
the diagram's variables are below `nv`, then `TT.depth` of the table is the depth component of
`countF` (the length of a longest root-to-leaf path, `depth_exact`) -/
theorem depth_vs_truth_table (s : Store) (w : WF s) (t : Nat) (ht : t < s.nodes.size) (nv tt : Nat)
    (hrep : TT.Rep nv tt (eval s t)) (hdeps : ∀ x ∈ depsF s (t+1) t, x < nv) :
    TT.depth nv tt = (countF s (t+1) t).2.2 :=
  TT.depth_eq s w.table t ht nv tt hrep hdeps

/-- under the same hypotheses `TT.paths` of the table is the pair (paths to ⊥, paths to ⊤) of `pathsF`
(the numbers of listed root-to-leaf paths, `paths_exact`) -/
theorem paths_vs_truth_table (s : Store) (w : WF s) (t : Nat) (ht : t < s.nodes.size) (nv tt : Nat)
    (hrep : TT.Rep nv tt (eval s t)) (hdeps : ∀ x ∈ depsF s (t+1) t, x < nv) :
    TT.paths nv tt = pathsF s (t+1) t ∧ TT.paths nv tt = paths s t :=
  ⟨TT.paths_eq s w.table t ht nv tt hrep hdeps, TT.paths_eq s w.table t ht nv tt hrep hdeps⟩

/-- `depth_vs_truth_table`, `paths_vs_truth_table` for a bare node table that is structurally well
formed (what `wfCheck` establishes for a table dumped from the implementation) -/
theorem depth_paths_vs_truth_table_tab (s : Store) (h : TableWF s.nodes) (t : Nat) (ht : t < s.nodes.size)
    (nv tt : Nat) (hrep : TT.Rep nv tt (eval s t)) (hdeps : ∀ x ∈ depsF s (t+1) t, x < nv) :
    TT.depth nv tt = (countF s (t+1) t).2.2 ∧ TT.paths nv tt = pathsF s (t+1) t :=
  ⟨TT.depth_eq s h t ht nv tt hrep hdeps, TT.paths_eq s h t ht nv tt hrep hdeps⟩

/-- by `x0_rep` the theorems apply to x0, and both sides are the values one expects (depth 1, one path each) -/
example : TT.depth 1 (TT.var 1 0) = (countF x0Store 3 2).2.2 ∧ TT.paths 1 (TT.var 1 0) = pathsF x0Store 3 2 ∧
    TT.depth 1 (TT.var 1 0) = 1 ∧ TT.paths 1 (TT.var 1 0) = (1, 1) :=
  ⟨depth_vs_truth_table x0Store x0Store_WF 2 (by rw [x0Store_nodes]; decide) 1 _ x0_rep.1 x0_rep.2,
   (paths_vs_truth_table x0Store x0Store_WF 2 (by rw [x0Store_nodes]; decide) 1 _ x0_rep.1 x0_rep.2).1,
   by decide, by decide⟩

/-- the diagram of x1 in a store over TWO variables: level 0 is skipped by the recursion -/
def x1Store : Store := (mkNode Store.init 1 0 1).1

theorem x1Store_WF : WF x1Store := (opVar_good Store.init WF_init 1 (by decide)).wf

theorem x1Store_nodes : x1Store.nodes = #[⟨VBOT, 0, 0⟩, ⟨VTOP, 1, 1⟩, ⟨1, 0, 1⟩] := by
  simp [x1Store, mkNode, Store.init]

/-- non-vacuity with a skipped level and an unused variable: x1 over the variables {0, 1}, and
x1 over {0, 1, 2}: depth 1 and one path each, although the tables have 4 resp. 8 rows -/
example : TT.Rep 2 (TT.var 2 1) (eval x1Store 2) ∧ (∀ x ∈ depsF x1Store 3 2, x < 2) ∧
    TT.depth 2 (TT.var 2 1) = (countF x1Store 3 2).2.2 ∧ TT.paths 2 (TT.var 2 1) = pathsF x1Store 3 2 ∧
    TT.depth 2 (TT.var 2 1) = 1 ∧ TT.paths 2 (TT.var 2 1) = (1, 1) ∧
    TT.depth 3 (TT.var 3 1) = (countF x1Store 3 2).2.2 := by
  have hf : eval x1Store 2 = fun σ => σ 1 := varStore_eval 1 (by decide)
  have hrep : TT.Rep 2 (TT.var 2 1) (eval x1Store 2) := by rw [hf]; exact TT.rep_var 2 1
  have hrep3 : TT.Rep 3 (TT.var 3 1) (eval x1Store 2) := by rw [hf]; exact TT.rep_var 3 1
  have hd : ∀ x ∈ depsF x1Store 3 2, x < 2 := by
    rw [depsF_congr (s := ⟨_, {}, {}, {}⟩) x1Store_nodes]; decide
  have hlt : 2 < x1Store.nodes.size := by rw [x1Store_nodes]; decide
  exact ⟨hrep, hd, depth_vs_truth_table x1Store x1Store_WF 2 hlt 2 _ hrep hd,
    (paths_vs_truth_table x1Store x1Store_WF 2 hlt 2 _ hrep hd).1, by decide, by decide,
    depth_vs_truth_table x1Store x1Store_WF 2 hlt 3 _ hrep3 (fun x hx => Nat.lt_succ_of_lt (hd x hx))⟩

end C13

#print axioms C13.depth_vs_truth_table
#print axioms C13.paths_vs_truth_table

/-! ## where the unbounded model coincides with the code's 64-bit arithmetic (`CountsWord.lean`)

`countF` counts over unbounded naturals, the code over `usize` (64 bit). Up to 64 levels nothing
the code computes leaves the machine word, so the two agree; at 65 levels they do not (recorded
finding D13). `countW` is the counter with every `+`, `*`, `2^·` wrapped and the exponents cast
to `u32` as in `modelcount_naive` — what a release build computes. -/
namespace C13

/-- counter-models and models add up to `2^depth`, and a non-terminal diagram has at least one of
each -/
theorem counts_sum (s : Store) (w : WF s) (t : Nat) (ht : t < s.nodes.size) :
    (countF s (t+1) t).1 + (countF s (t+1) t).2.1 = 2 ^ (countF s (t+1) t).2.2 ∧
    (2 ≤ t → 1 ≤ (countF s (t+1) t).1 ∧ 1 ≤ (countF s (t+1) t).2.1) :=
  counts_sum_fuel s w.table (t+1) t ht (Nat.lt_succ_self _)

/-- every final count of a diagram with at most 64 levels fits a 64-bit word; the terminals have
depth 0 and the counts (1, 0) (⊥) and (0, 1) (⊤) -/
theorem counts_fit_machine_word (s : Store) (w : WF s) (t : Nat) (ht : t < s.nodes.size)
    (hd : (countF s (t+1) t).2.2 ≤ 64) :
    (countF s (t+1) t).1 < 2 ^ 64 ∧ (countF s (t+1) t).2.1 < 2 ^ 64 ∧ (countF s (t+1) t).2.2 < 2 ^ 64 ∧
    (t = 0 → countF s (t+1) t = (1, 0, 0)) ∧ (t = 1 → countF s (t+1) t = (0, 1, 0)) := by
  have ⟨a, b, c⟩ := counts_fit_word_fuel s w.table (t+1) t ht (Nat.lt_succ_self _) hd
  exact ⟨a, b, c, fun h => by subst h; exact countF_zero s 0, fun h => by subst h; exact countF_one s 1⟩

/-- at an inner node `t = (var, lo, hi)` of a diagram with at most 64 levels, every value the
code computes from the children's results — the exponents `lo_exp`, `hi_exp` (`loExp`, `hiExp`:
the code's branch on `lodepth > hidepth`; equal to `depth - 1 - depth(child)`, `loExp_eq`,
`hiExp_eq`), the powers `2^lo_exp`, `2^hi_exp`, the four products, the two sums and the new depth
— is `< 2^64` (`StepFits`), and the sums and the depth are the node's result -/
theorem count_intermediates_fit (s : Store) (w : WF s) (t : Nat) (n : Node) (ht2 : 2 ≤ t)
    (hn : s.nodes[t]? = some n) (hd : (countF s (t+1) t).2.2 ≤ 64) :
    StepFits (countF s (n.lo+1) n.lo).1 (countF s (n.lo+1) n.lo).2.1 (countF s (n.lo+1) n.lo).2.2
             (countF s (n.hi+1) n.hi).1 (countF s (n.hi+1) n.hi).2.1 (countF s (n.hi+1) n.hi).2.2 ∧
    countF s (t+1) t =
      ((countF s (n.lo+1) n.lo).1 * 2 ^ loExp (countF s (n.lo+1) n.lo).2.2 (countF s (n.hi+1) n.hi).2.2 +
         (countF s (n.hi+1) n.hi).1 * 2 ^ hiExp (countF s (n.lo+1) n.lo).2.2 (countF s (n.hi+1) n.hi).2.2,
       (countF s (n.lo+1) n.lo).2.1 * 2 ^ loExp (countF s (n.lo+1) n.lo).2.2 (countF s (n.hi+1) n.hi).2.2 +
         (countF s (n.hi+1) n.hi).2.1 * 2 ^ hiExp (countF s (n.lo+1) n.lo).2.2 (countF s (n.hi+1) n.hi).2.2,
       max (countF s (n.lo+1) n.lo).2.2 (countF s (n.hi+1) n.hi).2.2 + 1) := by
  have ⟨_, hlo, hhi, _, _, _⟩ := w.inner t n ht2 hn
  have F := count_intermediates_fit_fuel s w.table t t n ht2 hn (Nat.lt_succ_self _) hd
  have el := countF_fuel s w.table n.lo t hlo
  have eh := countF_fuel s w.table n.hi t hhi
  rw [el, eh] at F
  refine ⟨F, ?_⟩
  rw [countF_node s t t n ht2 hn, el, eh, loExp_eq, hiExp_eq]

/-- on a diagram with at most 64 levels the 64-bit evaluation `countW` of the naive counter never
wraps and returns the model's numbers -/
theorem count_word_exact (s : Store) (w : WF s) (t : Nat) (ht : t < s.nodes.size)
    (hd : (countF s (t+1) t).2.2 ≤ 64) : countW s (t+1) t = countF s (t+1) t :=
  countW_eq_countF s w.table (t+1) t ht (Nat.lt_succ_self _) hd

/-- the bound 64 is sharp: `conj65` (built with `mkNode`; table `conjNodes 65 65`: node `j+2`
tests variable `64-j`, false → ⊥, true → node `j+1`) is well formed, its handle 66 denotes the
conjunction of the variables 0, …, 64, the model counts `2^65 - 1` counter-models, the 64-bit
evaluation `2^64 - 1` (the value measured on the release build) -/
theorem counts_overflow_at_65 :
    WF conj65 ∧ conj65.nodes = conjNodes 65 65 ∧ conj65.nodes.size = 67 ∧
    (∀ j, j < 65 → conj65.nodes[j+2]? = some ⟨64 - j, 0, j+1⟩) ∧
    (∀ σ, eval conj65 66 σ = true ↔ ∀ i, i < 65 → σ i = true) ∧
    countF conj65 67 66 = (2 ^ 65 - 1, 1, 65) ∧
    countW conj65 67 66 = (2 ^ 64 - 1, 1, 65) ∧
    countW conj65 67 66 ≠ countF conj65 67 66 := by
  unfold conj65
  have ⟨w, _, hnodes, hev⟩ := conjChain_spec 65 (by decide) 65 (Nat.le_refl _)
  have ⟨hF, hW⟩ := conj65_table_overflow _ w.table hnodes
  refine ⟨w, hnodes, by rw [hnodes, conjNodes_size], ?_, ?_, hF, hW, ?_⟩
  · intro j hj
    rw [hnodes, conjNodes_get 65 65 j hj, Nat.add_sub_add_right 64 1 j]
  · intro σ
    rw [hev σ]
    exact ⟨fun h i hi => h i (Nat.zero_le i) hi, fun h i _ hi => h i hi⟩
  · rw [hF, hW]; decide

/-- the conjunction of up to 64 variables is counted exactly by the 64-bit evaluation
(64 variables: `(2^64 - 1, 1)`); also non-vacuity of `count_word_exact` at the boundary -/
theorem counts_exact_up_to_64 (n : Nat) (hn : n ≤ 64) :
    countW (conjChain n n).1 (n+2) (n+1) = (2 ^ n - 1, 1, n) ∧
    countF (conjChain n n).1 (n+2) (n+1) = (2 ^ n - 1, 1, n) := by
  have ⟨w, _, hnodes, _⟩ := conjChain_spec n (by unfold VBOT; omega) n (Nat.le_refl _)
  have hF := countF_conj (conjChain n n).1 n n hnodes n (Nat.le_refl _)
  refine ⟨?_, hF⟩
  rw [countW_eq_countF _ w.table (n+2) (n+1) (by rw [hnodes, conjNodes_size]; omega) (Nat.lt_succ_self _)
    (by rw [hF]; exact hn), hF]

end C13

#print axioms C13.counts_sum
#print axioms C13.counts_fit_machine_word
#print axioms C13.count_intermediates_fit
#print axioms C13.count_word_exact
#print axioms C13.counts_overflow_at_65
#print axioms C13.counts_exact_up_to_64

namespace C13

/-- the two impact measures against the executable truth-table specification: if `tts[k]` is a
table over `nv` variables representing the function of `ts[k]` (and the diagrams' variables are
below `nv`), then the impacts are the counts of `TT.deps` memberships - every term computable -/
theorem impacts_vs_truth_tables (s : Store) (w : WF s) (v nv : Nat) (ts tts : List Nat)
    (hlen : tts.length = ts.length) (hts : ∀ t ∈ ts, t < s.nodes.size)
    (hrep : ∀ k (hk : k < ts.length), TT.Rep nv (tts[k]'(hlen ▸ hk)) (eval s ts[k]))
    (hdeps : ∀ t ∈ ts, ∀ x ∈ depsF s (t+1) t, x < nv) :
    passive s v ts = ((List.range ts.length).filter (fun k => (TT.deps nv (tts.getD k 0)).contains v)).length ∧
    (∀ _hv : v < ts.length, active s v ts =
      ((List.range ts.length).filter (fun i => (TT.deps nv (tts.getD v 0)).contains i)).length) := by
  have key : ∀ k (hk : k < ts.length) x, x ∈ depsOf s ts[k] ↔ x ∈ TT.deps nv (tts.getD k 0) := by
    intro k hk x
    have e : tts.getD k 0 = tts[k]'(hlen ▸ hk) := (List.getElem_eq_getD 0).symm
    rw [e]
    exact (counts_vs_truth_table s w ts[k] (hts _ (List.getElem_mem hk)) nv _ (hrep k hk)
      (hdeps _ (List.getElem_mem hk))).2.2 x
  constructor
  · unfold passive
    rw [← List.countP_eq_length_filter, ← List.countP_eq_length_filter]
    have : ts = (List.range ts.length).map (fun k => ts.getD k 0) := by
      apply List.ext_getElem (by simp)
      intro i h1 h2; simp [List.getD, h1]
    conv => lhs; rw [this]
    rw [List.countP_map]
    apply List.countP_congr
    intro k hk
    have hk' := List.mem_range.mp hk
    have e : ts.getD k 0 = ts[k] := (List.getElem_eq_getD 0).symm
    simp only [Function.comp, e, List.contains_iff_mem]
    exact key k hk' v
  · intro hv
    unfold active
    have e : ts.getD v 0 = ts[v] := (List.getElem_eq_getD 0).symm
    rw [e, ← List.countP_eq_length_filter, ← List.countP_eq_length_filter]
    apply List.countP_congr
    intro i _
    simp only [List.contains_iff_mem]
    exact key v hv i

/-- `more_models` applied to the PATH counts (`Bdd::paths(t).more_models()`, what the counting heuristics
and the counting-guided search evaluate): true iff at least as many root-to-leaf paths of the
unfolding end in ⊤ as end in ⊥ -/
theorem more_models_paths_iff (s : Store) (w : WF s) (t : Nat) :
    moreModels (paths s t) = true ↔
      (pathsList s (t+1) t).countP (fun p => p.2) ≥ (pathsList s (t+1) t).countP (fun p => !p.2) := by
  have ⟨_, _, _, h1, h2⟩ := paths_exact s w t
  rw [← h1, ← h2]
  simp [moreModels]

/-- path counts at word level: `pathsW` is `pathsF` with every addition wrapped to 64 bits (what a
release build of `modelcount_naive`'s path components / the ad-hoc bookkeeping computes). If the
total number of root-to-leaf paths fits a word the two agree (no hypothesis on the store:
sub-diagrams' counts are summands); a diagram of depth ≤ 63 has at most `2^63` paths, so the bound
holds there -/
theorem paths_word_exact (s : Store) (t : Nat) :
    ((paths s t).1 + (paths s t).2 < 2 ^ 64 → pathsW s (t+1) t = paths s t) ∧
    ((countF s (t+1) t).2.2 ≤ 63 → pathsW s (t+1) t = paths s t) ∧
    (paths s t).1 + (paths s t).2 ≤ 2 ^ (countF s (t+1) t).2.2 :=
  ⟨pathsW_eq_pathsF s (t+1) t, pathsW_eq_of_depth s (t+1) t, paths_le_pow_depth s (t+1) t⟩

/-- `more_models` on the PATH counts as the 64-bit code computes them (the variant the counting
heuristics and the counting-guided search use): under the bound — total path count below `2^64`,
e.g. depth ≤ 63 — it is true iff at least as many root-to-leaf paths end in ⊤ as in ⊥. Beyond the
bound nothing is claimed (sums wrap; cf. `counts_overflow_at_65` for the model counts) -/
theorem more_models_paths_word_iff (s : Store) (w : WF s) (t : Nat)
    (hb : (paths s t).1 + (paths s t).2 < 2 ^ 64 ∨ (countF s (t+1) t).2.2 ≤ 63) :
    moreModels (pathsW s (t+1) t) = true ↔
      (pathsList s (t+1) t).countP (fun p => p.2) ≥ (pathsList s (t+1) t).countP (fun p => !p.2) := by
  have e : pathsW s (t+1) t = paths s t := by
    rcases hb with hb | hb
    · exact (paths_word_exact s t).1 hb
    · exact (paths_word_exact s t).2.1 hb
  rw [e]
  exact more_models_paths_iff s w t

/-- `more_models_iff` for the numbers the 64-bit code computes (`countW`) on a diagram of at most
64 levels -/
theorem more_models_word_iff (s : Store) (w : WF s) (t : Nat) (ht : t < s.nodes.size)
    (hd : (countF s (t+1) t).2.2 ≤ 64)
    (vs : List Nat) (hvs : vs.Pairwise (· < ·)) (hdeps : ∀ x ∈ depsF s (t+1) t, x ∈ vs) (base : Asg) :
    moreModels ((countW s (t+1) t).1, (countW s (t+1) t).2.1) = true ↔
      sat (eval s t) base vs ≥ sat (fun σ => !eval s t σ) base vs := by
  rw [countW_eq_countF s w.table (t+1) t ht (Nat.lt_succ_self _) hd]
  exact more_models_iff s w t ht vs hvs hdeps base

/-- the conjunction x0 ∧ x1 built by two `mkNode` calls: handle 3, table ⊥, ⊤, (1,⊥,⊤), (0,⊥,2) -/
def and01Store : Store := (mkNode x1Store 0 0 2).1

theorem and01Store_nodes : and01Store.nodes = #[⟨VBOT, 0, 0⟩, ⟨VTOP, 1, 1⟩, ⟨1, 0, 1⟩, ⟨0, 0, 2⟩] := by
  simp [and01Store, x1Store, mkNode, Store.init]

theorem and01Store_WF : WF and01Store :=
  (mkNode_spec x1Store x1Store_WF 0 0 2 (by rw [x1Store_nodes]; decide) (by rw [x1Store_nodes]; decide)
    (by decide) (by rw [topVar_zero x1Store_WF]; decide)
    (by rw [topVar_of_get (n := ⟨1, 0, 1⟩) (by rw [x1Store_nodes]; rfl)]; decide)).1

theorem and01Store_count : countF and01Store 4 3 = (3, 1, 2) := by
  rw [countF_congr (s := ⟨_, {}, {}, {}⟩) and01Store_nodes]; decide

theorem and01Store_deps : depsF and01Store 4 3 = [0, 1] := by
  rw [depsF_congr (s := ⟨_, {}, {}, {}⟩) and01Store_nodes]; decide

/-- non-vacuity of `cubes_exact` on a non-terminal handle with a NON-EMPTY cube list: the
counter-model cubes of x0 ∧ x1 (goal variable 5, not in the diagram) are `x0 ∧ ¬x1` and `¬x0`;
with goal variable 0 and goal `true` only the first survives for the counter-models, and the
model cube is `x0 ∧ x1`; the store is well formed and 3 is a handle of it -/
example : WF and01Store ∧ 3 < and01Store.nodes.size ∧
    cubesF and01Store 4 3 false 5 [] [] = [([1], [0]), ([0], [])] ∧
    cubesF and01Store 4 3 false 0 [] [] = [([0], [])] ∧
    cubesF and01Store 4 3 true 0 [] [] = [([], [0, 1])] ∧
    cubesF and01Store 4 3 true 1 [] [] = [([], [0, 1])] := by
  simp only [cubesF_congr (s := ⟨_, {}, {}, {}⟩) and01Store_nodes]
  exact ⟨and01Store_WF, by rw [and01Store_nodes]; decide, by decide, by decide, by decide, by decide⟩

/-- the terminal exception on `and01Store`: the handle ⊥ has no cube although every assignment is a
counter-model of ⊥ -/
example : cubesF and01Store 1 0 false 5 [] [] = [] ∧ (∀ σ, eval and01Store 0 σ = false) :=
  ⟨(cubes_exact and01Store and01Store_WF 0 false 5 (by rw [and01Store_nodes]; decide)).2.2.2 (by decide),
   fun σ => eval_zero _ σ⟩

/-- non-vacuity of the word-level path statements: x0 ∧ x1 has depth 2 ≤ 63, two paths to ⊥ and
one to ⊤, the 64-bit recursion returns the same, and `more_models` on them is false -/
example : (countF and01Store 4 3).2.2 ≤ 63 ∧ pathsW and01Store 4 3 = (2, 1) ∧ paths and01Store 3 = (2, 1) ∧
    moreModels (pathsW and01Store 4 3) = false := by
  have hc := and01Store_count
  have hp : paths and01Store 3 = (2, 1) := by
    unfold paths; rw [pathsF_congr (s := ⟨_, {}, {}, {}⟩) and01Store_nodes]; decide
  have hw : pathsW and01Store 4 3 = (2, 1) := by
    rw [(paths_word_exact and01Store 3).2.1 (by rw [hc]; decide), hp]
  refine ⟨by rw [hc]; decide, hw, hp, ?_⟩
  rw [hw]; decide

/-- non-vacuity of the impact theorems: over the list `[3, 2]` (statement 0 has condition
x0 ∧ x1, statement 1 has condition x1) the hypotheses hold, passive impact of variable 1 is 2,
of variable 0 is 1, active impact of statement 0 is 2 and of statement 1 is 1 -/
example : (∀ t ∈ [3, 2], t < and01Store.nodes.size) ∧
    passive and01Store 1 [3, 2] = 2 ∧ passive and01Store 0 [3, 2] = 1 ∧
    active and01Store 0 [3, 2] = 2 ∧ active and01Store 1 [3, 2] = 1 := by
  unfold passive active depsOf
  simp only [depsF_congr (s := ⟨_, {}, {}, {}⟩) and01Store_nodes]
  exact ⟨by rw [and01Store_nodes]; decide, by decide, by decide, by decide, by decide⟩

/-- non-vacuity of `more_models_iff`: x0 ∧ x1 over the variables [0, 1] has 3 counter-models and
one model, so `more_models` is false, and so says the count of assignments -/
example : ([0, 1] : List Nat).Pairwise (· < ·) ∧ (∀ x ∈ depsF and01Store 4 3, x ∈ [0, 1]) ∧
    countF and01Store 4 3 = (3, 1, 2) ∧
    ¬ (sat (eval and01Store 3) (fun _ => false) [0, 1] ≥
        sat (fun σ => !eval and01Store 3 σ) (fun _ => false) [0, 1]) := by
  have hd : ∀ x ∈ depsF and01Store 4 3, x ∈ [0, 1] := by rw [and01Store_deps]; decide
  refine ⟨by decide, hd, and01Store_count, ?_⟩
  rw [← more_models_iff and01Store and01Store_WF 3 (by rw [and01Store_nodes]; decide) [0, 1] (by decide) hd,
    and01Store_count]
  decide

end C13

#print axioms C13.cubes_exact
#print axioms C13.passive_counts_dependents
#print axioms C13.active_counts_dependencies
#print axioms C13.impacts_vs_truth_tables
#print axioms C13.more_models_iff
#print axioms C13.more_models_paths_iff
#print axioms C13.more_models_word_iff
#print axioms C13.cubes_terminal_not_cover
#print axioms C13.paths_word_exact
#print axioms C13.more_models_paths_word_iff
