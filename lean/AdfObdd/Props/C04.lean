import AdfObdd.CountExact
import AdfObdd.AdfPipeline
import AdfObdd.CountWitness
/-! # C04 — the counting-guided stable search returns exactly the stable models

`GK.search` (`CountSearchK.lean`) is the recursion of `two_val_model_counts_logic` (as repaired by D1):
pick a statement undecided in `interpr` and `will_be` by the heuristic's `min_by`, enumerate the path
cubes of its residual towards the goal value threading the store through the sibling branches, then
conclude the opposite value; the leaf runs `apply_interpretation` in the store as well. The concrete
model `countLogic` / `countAll` (`CountModel.lean`, what the driver runs handle for handle against
the Rust) IS `GK.search` instantiated with the code's steps `countParams` — there is no separate
simulation and no `partial def`. `search_exact` is about every instance that satisfies the laws
`GK.CSound`, `concrete_steps_lawful` says the code's steps do, and `count_search_exact` puts grounded
start, search and stability filter together. -/
namespace C04

/-- the generic machine: store only extended, complete, sound, pairwise-disjoint outputs, every output
good, `n + 1` levels of recursion — for every selection strategy (both heuristics, any tie-breaking) -/
theorem search_exact {S C K O : Type} {T : Asg → Prop} {P : GK.CParams S C K O} {V : GK.View S C K O}
    (hP : GK.CSound T P V) (fuel : Nat) (s : S) (c : C) (hinv : V.Inv s c) (hf : V.n - V.mu c < fuel) :
    GK.Spec T V s c (GK.search P fuel s c) := GK.search_spec hP fuel s c hinv hf

/-- what `Spec` says, spelled out: every target assignment of the start region lies in the region of
an output, every output region lies inside the start region, output regions are pairwise disjoint
(hence each model once) -/
theorem spec_meaning {S C K O : Type} {T : Asg → Prop} {V : GK.View S C K O} {s : S} {c : C} {r : S × List O}
    (h : GK.Spec T V s c r) :
    (∀ σ, T σ → V.Reg c σ → ∃ o ∈ r.2, V.RegO o σ) ∧
    (∀ o ∈ r.2, ∀ σ, V.RegO o σ → V.Reg c σ) ∧ r.2.Pairwise (GK.DisjO V) ∧ (∀ o ∈ r.2, V.Good o) :=
  ⟨h.cover, h.sound, h.disj, h.good⟩

/-- the cube laws the concrete instance needs are theorems about the model of `Bdd::interpretations` -/
theorem cube_laws (s : Store) (w : WF s) (t : Nat) (goal : Bool) (gv : Nat) (ht : t < s.nodes.size) (ht2 : 2 ≤ t) :
    (cubesF s (t+1) t goal gv [] []).Pairwise DisjPC ∧
    (∀ σ, σ gv = goal → eval s t σ = goal → ∃ c ∈ cubesF s (t+1) t goal gv [] [], InPC c σ) :=
  ⟨cubes_disjoint s w (t+1) t goal gv [] [] ht (Nat.lt_succ_self _),
   fun σ h1 h2 => cubes_cover s w (t+1) t goal gv [] [] σ ht (Nat.lt_succ_self _) ht2 ⟨by simp, by simp⟩ h1 h2⟩

/-- the final filter is the stability test of C03 -/
theorem final_filter_is_stability (D : List BoolFn) (v w : I3) (hlen : v.length = D.length) (ht : TotalI v)
    (hw : IsLfp (redu D v) w) :
    w = v ↔ (Gam D v = v ∧ ∀ (i : Nat), v[i]? = some (some true) → w[i]? = some (some true)) :=
  stable_check_iff D v w hlen ht hw

/-- the steps of `two_val_model_counts_logic` (cube step = `applyCube` + `new_int[idx] = goal` + one
propagation step + `check_consistency`; flip step = restriction of every entry + one propagation
step + the two `no_inf_inconsistency` tests + `will_be[idx]`; leaf; both heuristics `useA`) satisfy
the laws of the generic machine — for every target set `T`, under the invariant `CI.CInv` (`WF s`,
lengths, valid handles, the vector is residual relative to `T`, `will_be[i]` constant ⇒
`interpr[i]` the same constant) -/
theorem concrete_steps_lawful (n : Nat) (ac : List Nat) (T : Asg → Prop) (useA : Bool) :
    GK.CSound T (countParams ac useA) (CI.view n ac T) := CI.csound n ac T useA

/-- the recursion of the code, started in any state satisfying the invariant: complete for `T`,
sound, pairwise disjoint, all outputs total of length `n`, store only extended; fuel `n + 1` -/
theorem count_logic_spec {n : Nat} {ac : List Nat} {T : Asg → Prop} (useA : Bool) {s : Store}
    {interp wb : List Nat} (hinv : CI.CInv n ac T s (interp, wb)) :
    GK.Spec T (CI.view n ac T) s (interp, wb) (countLogic ac useA (n + 1) s interp wb) :=
  CI.countLogic_spec useA hinv

/-- the grounded vector with `will_be = [u; n]` satisfies the invariant, for the target set of the
(pointwise) two-valued models of the conditions -/
theorem start_invariant (s : Store) (n : Nat) (ac : List Nat) (w : WF s) (hn : ac.length = n)
    (hv : ∀ t ∈ ac, t < s.nodes.size) :
    CI.CInv n ac (CI.TM (ac.map (eval s))) (groundedLoop StoreRA (n + 1) s ac).1
      ((groundedLoop StoreRA (n + 1) s ac).2, List.replicate n 2) :=
  (CI.start_inv s n ac w hn hv).1

/-- the concrete model `countAll` (what the driver runs, handle-exact with the
code): the decided parts of the returned vectors are exactly the stable models, each once -/
def count_search_exact_statement : Prop :=
  ∀ (s : Store) (n : Nat) (ac : List Nat) (useA : Bool), WF s → ac.length = n → (∀ t ∈ ac, t < s.nodes.size) →
    let D := ac.map (eval s)
    let out := (countAll s n ac useA).2.map (fun v => v.map storeIsConst)
    out.Nodup ∧ ∀ v : I3, v ∈ out ↔
      (v.length = n ∧ TotalI v ∧ Gam D v = v ∧
        ∀ w : I3, IsLfp (redu D v) w → ∀ i : Nat, v[i]? = some (some true) → w[i]? = some (some true))

/-- **C04**: `stable_count_optimisation_heu_a/b` on the store model return exactly the stable models,
no model lost to pruning, none invented, each reported once -/
theorem count_search_exact : count_search_exact_statement := by
  intro s n ac useA w hn hv
  exact CI.countAll_exact s n ac useA w hn hv

/-- C04 end to end from the written acceptance conditions (`from_parser` model + search) -/
theorem count_search_end_to_end (fms : List Fm) (useA : Bool) (hn : fms.length ≤ VBOT)
    (hv : ∀ f ∈ fms, f.atomsOK) :
    let b := buildNative fms.length fms
    let out := (countAll b.1 fms.length b.2 useA).2.map (fun v => v.map storeIsConst)
    out.Nodup ∧ ∀ v : I3, v ∈ out ↔ CI.IsStable fms.length (fms.map Fm.sem) v := by
  intro b out
  have ⟨w, hl, hvalid, e⟩ := buildNative_fns _ fms hn hv
  have := CI.countAll_exact b.1 fms.length b.2 useA w hl hvalid
  rw [e] at this
  exact this

/-- the hypotheses of `search_exact` are satisfiable by the concrete instance: the laws hold
(`concrete_steps_lawful`) and the invariant holds of a real start state -/
example : ∃ (s : Store) (c : CState), (CI.view 1 [1] (CI.TM ([1].map (eval Store.init)))).Inv s c :=
  ⟨_, _, start_invariant Store.init 1 [1] WF_init rfl (by simp [Store.init])⟩

example : GK.Spec (CI.TM ([1].map (eval Store.init))) (CI.view 1 [1] (CI.TM ([1].map (eval Store.init))))
    (groundedLoop StoreRA 2 Store.init [1]).1 ((groundedLoop StoreRA 2 Store.init [1]).2, List.replicate 1 2)
    (countLogic [1] true 2 (groundedLoop StoreRA 2 Store.init [1]).1 (groundedLoop StoreRA 2 Store.init [1]).2
      (List.replicate 1 2)) :=
  count_logic_spec true (start_invariant Store.init 1 [1] WF_init rfl (by simp [Store.init]))

/-- `count_search_exact` on a real ADF (one statement with condition ⊤): the right-hand side is
inhabited, so the stable model `[t]` is in the answer -/
example : [some true] ∈ (countAll Store.init 1 [1] true).2.map (fun v => v.map storeIsConst) := by
  have h := (count_search_exact Store.init 1 [1] true WF_init rfl (by simp [Store.init])).2 [some true]
  apply h.mpr
  have hD : [1].map (eval Store.init) = [fun _ => true] := by
    simp only [List.map_cons, List.map_nil]; congr 1
  simp only [hD]
  refine ⟨rfl, (all_isSome_iff_total [some true]).mp rfl, ?_, ?_⟩
  · simp only [Gam, List.map_cons, List.map_nil]
    congr 1
    exact constOf_some.mpr (fun _ => rfl)
  · intro w hw i hi
    have hi0 : i = 0 := by
      rcases Nat.lt_or_ge i 1 with h' | h'
      · omega
      · rw [List.getElem?_eq_none (by simpa using h')] at hi; cases hi
    subst hi0
    rw [← hw.1]
    simp only [Gam, redu, List.map_cons, List.map_nil, List.getElem?_cons_zero, Option.some.injEq]
    exact constOf_some.mpr (fun _ => rfl)

/-- `cube_laws` on a non-terminal handle with a NON-EMPTY cube list: in the store holding x0 ∧ x1
(handle 3, built by two `mkNode` calls, well formed) the counter-model cubes are `x0 ∧ ¬x1` and
`¬x0`, and they are pairwise disjoint and cover the counter-models -/
example : WF CW.andStore ∧ cubesF CW.andStore 4 3 false 5 [] [] = [([1], [0]), ([0], [])] ∧
    ([([1], [0]), ([0], [])] : List PCube).Pairwise DisjPC ∧
    (∀ σ, σ 5 = false → eval CW.andStore 3 σ = false →
      ∃ c ∈ ([([1], [0]), ([0], [])] : List PCube), InPC c σ) := by
  have hc : cubesF CW.andStore 4 3 false 5 [] [] = [([1], [0]), ([0], [])] := by
    simp [cubesF, CW.andStore_nodes]
  have h := cube_laws CW.andStore CW.andStore_WF 3 false 5 (by simp [CW.andStore_nodes]) (by decide)
  rw [hc] at h
  exact ⟨CW.andStore_WF, hc, h.1, h.2⟩

/-- **`count_search_exact` instantiated on a framework where the search branches**: the
three-statement framework `s(a).s(b).s(c).ac(a,c).ac(b,and(b,a)).ac(c,c).`, compiled by the
`from_parser` model. Its grounded interpretation decides nothing
(`CW.grounded_uuu`: the all-undecided vector is the least fixpoint), so the search starts with
three undecided statements and has to pick, enumerate cubes and flip. The theorem applies (all
hypotheses discharged), its specification side is computed at the level of Boolean functions:
`FFF` is a stable model and therefore IS in the answer; `TTT` is a two-valued model that is not
stable (`CW.ttt_not_stable`) and therefore is NOT in the answer; no vector is reported twice —
for both heuristics. -/
theorem count_search_exact_branching_instance (useA : Bool) :
    let b := buildNative 3 CW.fms
    let out := (countAll b.1 3 b.2 useA).2.map (fun v => v.map storeIsConst)
    WF b.1 ∧ b.2.length = 3 ∧ (∀ t ∈ b.2, t < b.1.nodes.size) ∧
    b.2.map (eval b.1) = CW.D ∧ IsLfp CW.D [none, none, none] ∧
    out.Nodup ∧ [some false, some false, some false] ∈ out ∧ [some true, some true, some true] ∉ out := by
  intro b out
  have ⟨w, hl, hvalid, e⟩ := buildNative_fns _ CW.fms CW.fms_ok.1 CW.fms_ok.2
  have main := count_search_end_to_end CW.fms useA CW.fms_ok.1 CW.fms_ok.2
  exact ⟨w, hl, hvalid, e, CW.grounded_uuu, main.1, (main.2 _).mpr CW.fff_stable,
    fun hin => CW.ttt_not_stable ((main.2 _).mp hin)⟩

example : ∃ (fms : List Fm), fms.length ≤ VBOT ∧ ∀ f ∈ fms, f.atomsOK :=
  ⟨[.atom 0], by simp [VBOT], by simp [Fm.atomsOK, VBOT]⟩

/-! ### D1 replay: the unrepaired cube loop loses a stable model

`countParams … (unrepaired := true)` cuts the cube list at the first cube that contradicts the
current vectors — the closure of the outer `try_for_each` that returned `res`. On the framework
`s(a).s(b).s(c).s(d).ac(a,xor(b,d)).ac(b,c).ac(c,c).ac(d,c).` the only stable model `FFFF` is
lost. Evaluation by the compiler's interpreter (`#guard`):
the kernel cannot evaluate the store's hash tables (`mixHash` is opaque), so this is a replay, not a
theorem. That `FFFF` must be found by the repaired code is `count_search_exact`. -/
def d1Witness : Store × List Nat := buildNative 4 [.xor (.atom 1) (.atom 3), .atom 2, .atom 2, .atom 2]

#guard (countAll d1Witness.1 4 d1Witness.2 true).2 == [[0, 0, 0, 0]]
#guard (countAll d1Witness.1 4 d1Witness.2 false).2 == [[0, 0, 0, 0]]
#guard (countAllUnrepaired d1Witness.1 4 d1Witness.2 true).2 == []
#guard (countAllUnrepaired d1Witness.1 4 d1Witness.2 false).2 == []

end C04

#print axioms C04.count_search_exact
#print axioms C04.count_search_exact_branching_instance

