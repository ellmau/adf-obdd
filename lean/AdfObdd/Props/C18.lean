import AdfObdd.NgStore
import AdfObdd.NgModel
import AdfObdd.NgSpecFacts
import AdfObdd.NgWideFacts
/-! # C18 — nogood store: sound deductions, no spurious conflicts, nothing forgotten

Model (`NgStore.lean`): the store as the repaired `lib/src/nogoods.rs` implements it — `n + 1`
buckets indexed by nogood size, `add_ng` for the modes `None` / `Equiv` / `Subsume`, mode switches
at any time (`set_dup_elem`), `conclusions` line by line (`conclusionsR`: enumerate/filter bucket
selection, `try_from_pair_iter` dropping a contradictory bucket, contradiction test,
`disjunction`, `is_violating` scan) and `conclusion_closure` (`closureR`).

Every theorem is about an **arbitrary history** `cs` of adds and mode switches applied to the
fresh store `NgStore.new n` and speaks about the nogoods that were **added** (`added cs`), not
about what happens to be stored. Precondition (stated, respected by the generator; the code
panics on `store[len]` otherwise): nogoods and interpretations are vectors of the width `n` the
store was created with, i.e. they mention only variables below `n`.
`Matches g σ`: the total assignment `σ` agrees with every literal of `g`; `AvoidsL gs σ`: `σ`
matches none of `gs`; `PSub g A`: every literal of `g` is in `A`. -/
namespace C18
open NgStore

abbrev after (n : Nat) (cs : List Cmd) : NgStore := run (new n) cs

abbrev Shaped (n : Nat) (cs : List Cmd) : Prop := ∀ g ∈ added cs, g.length = n

/-- the running example: two variables, one add in each of the three modes (the store starts in
`Equiv`), a nested pair (the second add is subsumed by the first and skipped) -/
def demo : List Cmd :=
  [.add [none, some false], .mode .subsume, .add [some true, some false], .mode .none, .add [some false, none]]

example : Shaped 2 demo := by
  intro g hg
  simp only [demo, added, List.mem_cons, List.not_mem_nil, or_false] at hg
  rcases hg with rfl | rfl | rfl <;> rfl

/-- `NoGood::conclude`: every total assignment that extends the interpretation and does not match
the nogood gives the concluded value -/
theorem conclude_sound {g A : PA} {p : Nat} {b : Bool} (h : conclude g A = some (p, b))
    (σ : Asg) (hm : Matches A σ) (hav : ¬ Matches g σ) : σ p = b :=
  _root_.conclude_sound h σ hm hav

example : conclude [some true, some false] [some true, none] = some (1, true) := by decide +kernel

/-- every history keeps the store in shape: `n + 1` buckets, every stored nogood is a vector of
width `n` and sits in the bucket of its size -/
theorem store_invariant (n : Nat) (cs : List Cmd) (hs : Shaped n cs) : NgInv n (after n cs).buckets :=
  (run_spec n cs hs).inv

example : (after 2 demo).buckets = [[], [[none, some false], [some false, none]], []] := by decide +kernel

/-- `add_ng` in **every mode** (`None`, `Equiv`, `Subsume`), on any store with a bucket for the
new nogood: afterwards exactly the total assignments excluded before or matched by the new nogood
are excluded. The empty nogood is not special: it is matched by every assignment. -/
theorem add_semantics (st : NgStore) (g : PA) (hsz : size g < st.buckets.length) (σ : Asg) :
    Excluded (st.addNg g).buckets σ ↔ Excluded st.buckets σ ∨ Matches g σ := by
  have new : Matches g σ → Excluded (st.addNg g).buckets σ := fun hm => by
    obtain ⟨h', h2, h3⟩ := addNg_new st g hsz
    exact ⟨h', h2, matches_of_psub h3 hm⟩
  constructor
  · rintro ⟨h, hs, hm⟩
    rcases addNg_sub st g h hs with h1 | rfl
    · exact Or.inl ⟨h, h1, hm⟩
    · exact Or.inr hm
  · rintro (⟨h, hs, hm⟩ | hm)
    · rcases addNg_keep st g h hs with h1 | h1
      · exact ⟨h, h1, hm⟩
      · exact new (matches_of_psub h1 hm)
    · exact new hm

example : size [some true, some false] < (after 2 [.mode .subsume, .add [some true, none]]).buckets.length := by decide +kernel

/-- **nothing forgotten, nothing invented**: after any history (any modes, switched at any time)
the store excludes exactly the union of what the added nogoods exclude -/
theorem history_semantics (n : Nat) (cs : List Cmd) (hs : Shaped n cs) (σ : Asg) :
    Excluded (after n cs).buckets σ ↔ ExcludedBy (added cs) σ :=
  (run_spec n cs hs).excl σ

example : Excluded (after 2 demo).buckets (fun _ => false) ∧ ¬ Excluded (after 2 demo).buckets (fun _ => true) := by
  rw [← excludedB_iff, ← excludedB_iff]; decide +kernel

/-- the empty nogood excludes everything, whatever else the history contains and in whichever
mode it was added (fails for the unrepaired code: `unrepaired_D10_empty_nogood_dropped`) -/
theorem empty_nogood_excludes_everything (n : Nat) (cs : List Cmd) (hs : Shaped n cs)
    (he : List.replicate n none ∈ added cs) (σ : Asg) : Excluded (after n cs).buckets σ := by
  rw [history_semantics n cs hs σ]
  refine ⟨_, he, ?_⟩
  intro i b hi
  unfold pget at hi
  rw [List.getElem?_replicate] at hi
  split at hi <;> cases hi

example : List.replicate 2 none ∈ added [.mode .subsume, .add [some true, none], .add [none, none]] := by decide +kernel

/-- every added nogood stays represented: some stored nogood is contained in it (in `Subsume`
mode the added one itself may have been skipped or removed in favour of a stronger one) -/
theorem added_covered (n : Nat) (cs : List Cmd) (hs : Shaped n cs) (g : PA) (hg : g ∈ added cs) :
    ∃ h, Stored (after n cs).buckets h ∧ PSub h g :=
  (run_spec n cs hs).cover g hg

/-- the skipped `{x0=T, x1=F}` of the example is covered by the stored `{x1=F}` -/
example : [some true, some false] ∈ added demo ∧ Stored (after 2 demo).buckets [none, some false] ∧
    PSub [none, some false] [some true, some false] :=
  ⟨by decide +kernel, ⟨1, _, rfl, by decide +kernel⟩, (violating_iff _ _).mp (by decide +kernel)⟩

/-- only added nogoods are stored -/
theorem stored_added (n : Nat) (cs : List Cmd) (hs : Shaped n cs) (h : PA)
    (hst : Stored (after n cs).buckets h) : h ∈ added cs :=
  (run_spec n cs hs).sub h hst

example : Stored (after 2 demo).buckets [none, some false] := ⟨1, _, rfl, by decide +kernel⟩

/-- **sound deductions**: an answer `Some r` of `conclusions` extends the interpretation, and every
total assignment that extends the interpretation and avoids ALL ADDED nogoods agrees with `r` -/
theorem conclusions_sound (n : Nat) (cs : List Cmd) (hs : Shaped n cs) (A r : PA) (hA : A.length = n)
    (h : (after n cs).conclusions A = some r) :
    PSub A r ∧ r.length = n ∧ ∀ σ, Matches A σ → AvoidsL (added cs) σ → Matches r σ :=
  (run_spec n cs hs).conclusions_sound hA h

example : (after 2 demo).conclusions [none, none] = some [some true, some true] := by decide +kernel

/-- **no spurious conflict**: `conclusions` answers `None` only if no total extension of the
interpretation avoids all added nogoods -/
theorem conflict_sound (n : Nat) (cs : List Cmd) (hs : Shaped n cs) (A : PA) (hA : A.length = n)
    (h : (after n cs).conclusions A = none) : ∀ σ, Matches A σ → ¬ AvoidsL (added cs) σ :=
  (run_spec n cs hs).conflict_sound h

example : (after 2 demo).conclusions [some false, none] = none := by decide +kernel

/-- **no missed conflict**: if the interpretation itself matches some ADDED nogood (even one that
`Subsume` skipped or removed, even the empty one), `conclusions` answers `None` -/
theorem conflict_direct (n : Nat) (cs : List Cmd) (hs : Shaped n cs) (A g : PA) (hA : A.length = n)
    (hg : g ∈ added cs) (hp : PSub g A) : (after n cs).conclusions A = none :=
  (run_spec n cs hs).conflict_direct hA hg hp

/-- the skipped nogood `{x0=T, x1=F}` of the example is still answered -/
example : [some true, some false] ∈ added demo ∧ ¬ Stored (after 2 demo).buckets [some true, some false] ∧
    (after 2 demo).conclusions [some true, some false] = none := by
  refine ⟨by decide +kernel, ?_, by decide +kernel⟩
  rw [stored_iff_mem]
  have : (after 2 demo).buckets = [[], [[none, some false], [some false, none]], []] := by decide +kernel
  rw [this]
  simp

/-- the three answers of `conclusion_closure`:
`Update R` — `R` keeps every decided position and decides strictly more, every total extension of
the input that avoids all added nogoods agrees with `R`, and `R` matches no added nogood;
`Inconsistent` — no total extension of the input avoids all added nogoods;
`NoUpdate` — the input matches no added nogood -/
theorem closure_sound (n : Nat) (cs : List Cmd) (hs : Shaped n cs) (A : PA) (hA : A.length = n) :
    (∀ R, (after n cs).closure A = Closure.update R →
        PSub A R ∧ size A < size R ∧ R.length = n ∧
        (∀ σ, Matches A σ → AvoidsL (added cs) σ → Matches R σ) ∧ ∀ g ∈ added cs, ¬ PSub g R) ∧
    ((after n cs).closure A = Closure.inconsistent → ∀ σ, Matches A σ → ¬ AvoidsL (added cs) σ) ∧
    ((after n cs).closure A = Closure.noUpdate → ∀ g ∈ added cs, ¬ PSub g A) :=
  (run_spec n cs hs).closure_sound hA

example : (after 2 demo).closure [none, none] = Closure.update [some true, some true] := by rfl
example : (after 2 demo).closure [some true, some true] = Closure.noUpdate := by rfl
example : (after 2 demo).closure [none, some false] = Closure.inconsistent := by rfl

/-- an interpretation that matches an added nogood is `Inconsistent` -/
theorem closure_direct (n : Nat) (cs : List Cmd) (hs : Shaped n cs) (A g : PA) (hA : A.length = n)
    (hg : g ∈ added cs) (hp : PSub g A) : (after n cs).closure A = Closure.inconsistent :=
  (run_spec n cs hs).closure_direct hA hg hp

example : [some true, some false] ∈ added demo ∧ PSub [some true, some false] [some true, some false] :=
  ⟨by decide +kernel, PSub.refl _⟩

/-- **the unit-flip law** (`cl_flip`, what the termination of the nogood search rests on) on the
real store: if for an undecided `v` the nogood `H ∪ {v=b}` was added and every added nogood either
has a literal complemented in `H` or contains `H ∪ {v=b}`, then `conclusion_closure` answers
`Update (H ∪ {v=¬b})` — in every mode, whatever `Subsume` skipped or removed -/
theorem closure_flip (n : Nat) (cs : List Cmd) (hs : Shaped n cs) (H : PA) (v : Nat) (b : Bool)
    (h : FlipPre n (added cs) H v b) :
    (after n cs).closure H = Closure.update (setAt H v (!b)) :=
  (run_spec n cs hs).closure_flip h

/-- after backtracking to `{x0=F}` from the choice `x1=T` the learned `{x0=F, x1=T}` flips it -/
example : FlipPre 2 (added [.add [some true, none], .add [some false, some true]]) [some false, none] 1 true ∧
    (after 2 [.add [some true, none], .add [some false, some true]]).closure [some false, none] =
      Closure.update [some false, some false] := by
  refine ⟨⟨rfl, by decide +kernel, rfl, ?_, by decide +kernel, ?_⟩, rfl⟩
  · intro g hg
    simp only [added, List.mem_cons, List.not_mem_nil, or_false] at hg
    rcases hg with rfl | rfl <;> rfl
  · intro g hg
    simp only [added, List.mem_cons, List.not_mem_nil, or_false] at hg
    rcases hg with rfl | rfl
    · exact Or.inl ⟨0, true, rfl, rfl⟩
    · exact Or.inr (PSub.refl _)

/-- **termination of `conclusion_closure`**: the `while update` loop of the code has no bound; in
the model it carries a fuel. Once the fuel exceeds the number of undecided positions the answer
does not depend on it (every continuing round decides a new position), and the loop ends in a
conflict or in an interpretation that one more `conclusions` call leaves unchanged — never
because the fuel ran out. `closureR` starts the loop with fuel `n + 1` after a first round that
decided something, which is enough. -/
theorem closure_terminates (n : Nat) (cs : List Cmd) (hs : Shaped n cs) (r : PA) (hr : r.length = n)
    (fuel : Nat) (hf : n - size r < fuel) :
    (∀ fuel', fuel ≤ fuel' → closureLoopR (after n cs).buckets fuel' r = closureLoopR (after n cs).buckets fuel r) ∧
    (closureLoopR (after n cs).buckets fuel r = Closure.inconsistent ∨
     ∃ R val, closureLoopR (after n cs).buckets fuel r = Closure.update R ∧
       (after n cs).conclusions R = some val ∧ (updateVec val R).2 = false) :=
  NgStore.closure_terminates _ r fuel (hr ▸ hf)

example : closureLoopR (after 2 demo).buckets 3 [none, none] = Closure.update [some true, some true] := by rfl

/-! ## the executable specification of the check means the property, and the model passes it

`NgSpec` (`Spec/Ng.lean`) is what the model driver evaluates on the IMPLEMENTATION's answers
(`~` lines): it knows the number of variables and the flat list of added nogoods and enumerates
all `2^n` total assignments. -/

/-- the `conclusions` check of the specification accepts an answer iff the answer satisfies the
property: `None` only without an avoiding total extension; `Some r` only if the interpretation
matches no added nogood, `r` extends it and is forced -/
theorem spec_concl_meaning (n : Nat) (gs : List PA) (A : PA) (hgs : ∀ g ∈ gs, g.length = n) (hA : A.length = n) :
    (NgSpec.conclViolations n gs A none = [] ↔ ∀ σ, Matches A σ → ¬ AvoidsL gs σ) ∧
    ∀ r, r.length = n →
      (NgSpec.conclViolations n gs A (some r) = [] ↔
        (¬ ∃ g ∈ gs, PSub g A) ∧ (r.length = A.length ∧ PSub A r) ∧
        ∀ σ, Matches A σ → AvoidsL gs σ → Matches r σ) :=
  have hgs' : ∀ g ∈ gs, g.length ≤ n := fun g hg => Nat.le_of_eq (hgs g hg)
  ⟨NgSpec.conclViolations_none hgs' (Nat.le_of_eq hA),
   fun _ hr => NgSpec.conclViolations_some hgs' (Nat.le_of_eq hA) (Nat.le_of_eq hr)⟩

example : NgSpec.conclViolations 2 (added demo) [none, none] (some [some true, some true]) = [] ∧
    NgSpec.conclViolations 2 (added demo) [none, none] none = ["spurious-conflict"] := by decide +kernel

/-- the `conclusion_closure` check of the specification accepts an answer iff the clause of
`closure_sound` for that answer holds and the unit-flip clause `flipOK` does -/
theorem spec_closure_meaning (n : Nat) (gs : List PA) (A : PA) (hgs : ∀ g ∈ gs, g.length = n) (hA : A.length = n) :
    (NgSpec.closureViolations n gs A .inconsistent = [] ↔
      (∀ σ, Matches A σ → ¬ AvoidsL gs σ) ∧ NgSpec.flipOK n gs A .inconsistent = true) ∧
    (NgSpec.closureViolations n gs A .noUpdate = [] ↔
      (¬ ∃ g ∈ gs, PSub g A) ∧ NgSpec.flipOK n gs A .noUpdate = true) ∧
    (∀ r, r.length = n →
      (NgSpec.closureViolations n gs A (.update r) = [] ↔
        (¬ ∃ g ∈ gs, PSub g A) ∧ (r.length = A.length ∧ PSub A r) ∧ size A < size r ∧
        (∀ σ, Matches A σ → AvoidsL gs σ → Matches r σ) ∧ (¬ ∃ g ∈ gs, PSub g r) ∧
        NgSpec.flipOK n gs A (.update r) = true)) ∧
    -- the unit-flip clause rejects an answer only where the law `closure_flip` mandates another one
    (∀ ans, NgSpec.flipOK n gs A ans = false →
      ∃ v b, FlipPre n gs A v b ∧ ans ≠ .update (setAt A v (!b))) := by
  have hgs' : ∀ g ∈ gs, g.length ≤ n := fun g hg => Nat.le_of_eq (hgs g hg)
  refine ⟨NgSpec.closureViolations_inconsistent hgs' (Nat.le_of_eq hA), NgSpec.closureViolations_noUpdate,
   fun _ hr => NgSpec.closureViolations_update hgs' (Nat.le_of_eq hA) (Nat.le_of_eq hr), ?_⟩
  intro ans hno
  unfold NgSpec.flipOK at hno
  cases hd : NgSpec.flipDue n gs A with
  | none => rw [hd] at hno; cases hno
  | some R =>
    rw [hd] at hno
    obtain ⟨v, b, hpre, rfl⟩ := NgSpec.flipDue_sound hgs hA hd
    exact ⟨v, b, hpre, by simpa using hno⟩

example : NgSpec.closureViolations 2 (added demo) [none, none] (.update [some true, some true]) = [] ∧
    NgSpec.closureViolations 2 (added demo) [none, none] .noUpdate = [] ∧
    NgSpec.closureViolations 2 (added demo) [none, some false] .noUpdate = ["missed-direct-conflict"] ∧
    NgSpec.closureViolations 2 [[some true, none], [some false, some true]] [some false, none] .noUpdate =
      ["missed-unit-flip"] := by decide +kernel

/-- the store check accepts a dump iff the dumped nogoods exclude exactly the total assignments
the added ones exclude -/
theorem spec_store_meaning (n : Nat) (gs stored : List PA) (hgs : ∀ g ∈ gs, g.length = n)
    (hst : ∀ g ∈ stored, g.length = n) :
    NgSpec.storeViolations n gs stored = [] ↔ ∀ σ, ExcludedBy stored σ ↔ ExcludedBy gs σ :=
  NgSpec.storeViolations_nil (fun g hg => Nat.le_of_eq (hgs g hg)) (fun g hg => Nat.le_of_eq (hst g hg))

example : NgSpec.storeViolations 2 (added demo) (after 2 demo).buckets.flatten = [] ∧
    NgSpec.storeViolations 2 (added demo) [[none, some false]] = ["forgotten:FT"] := by decide +kernel

/-- **the model always passes the specification**: after every history, for every interpretation,
the answers of the model's `conclusions` and `conclusion_closure` and the contents of its store
are accepted by the three checks — so a `~ violated` line of the check can only come from an
implementation answer that differs from the model's -/
theorem model_passes_spec (n : Nat) (cs : List Cmd) (hs : Shaped n cs) (A : PA) (hA : A.length = n) :
    NgSpec.conclViolations n (added cs) A ((after n cs).conclusions A) = [] ∧
    NgSpec.closureViolations n (added cs) A (NgSpec.ofClosure ((after n cs).closure A)) = [] ∧
    NgSpec.storeViolations n (added cs) (after n cs).buckets.flatten = [] :=
  NgSpec.passes_spec (run_spec n cs hs) hs hA

example : (after 2 demo).conclusions [none, none] = some [some true, some true] ∧
    NgSpec.ofClosure ((after 2 demo).closure [none, none]) = .update [some true, some true] := ⟨by decide +kernel, rfl⟩

/-- `addNg` of the nogood-search model (`NgModel.lean`, used by C05) is `add_ng` in mode `Equiv` -/
theorem search_addNg_eq (buckets : List (List PA)) (g : PA) :
    _root_.addNg buckets g = (NgStore.addNg ⟨buckets, .equiv⟩ g).buckets := rfl

example : _root_.addNg [[], [], []] [none, some true] = [[], [[none, some true]], []] := by decide +kernel

/-! ## the code before the repairs

`NgOrig.*`: `size` buckets indexed by size − 1 with the empty nogood skipped
(D10), `Subsume` removing the stored nogoods contained in the new one (D8b), and the fold of
`conclusions` testing `is_violating` (D8a). Each theorem negates, on the witness of DESIGN.md §5,
the property theorem above that the repaired code satisfies on the same input. -/

/-- D8a: nogoods `{x1=F}`, `{x0=T,x1=F}`, interpretation `{x0=T}`: the unrepaired `conclusions`
reports a conflict although `x0=T, x1=T` extends the interpretation and avoids both
(negation of `conflict_sound`); the repaired code concludes `x1=T` -/
theorem unrepaired_D8a_spurious_conflict :
    let cs : List Cmd := [.add [none, some false], .add [some true, some false]]
    let A : PA := [some true, none]
    let σ : Asg := fun _ => true
    NgOrig.conclusions (NgOrig.run (NgOrig.new 2) cs).buckets A = none ∧
    conclusionsD8a (after 2 cs).buckets A = none ∧
    Matches A σ ∧ AvoidsL (added cs) σ ∧
    (after 2 cs).conclusions A = some [some true, some true] := by
  refine ⟨by decide +kernel, by decide +kernel, ?_, ?_, by decide +kernel⟩
  · rw [← matchesB_iff]; decide +kernel
  · intro g hg
    rw [← matchesB_iff]
    simp only [added, List.mem_cons, List.not_mem_nil, or_false] at hg
    rcases hg with rfl | rfl <;> decide +kernel

/-- D8b: mode `Subsume`, add `{x0=T}` then `{x0=T,x1=F}`: the unrepaired `add_ng` removes the
stronger stored nogood, afterwards `x0=T, x1=T` is no longer excluded although the first added
nogood matches it (negation of `history_semantics`); the repaired code keeps `{x0=T}` -/
theorem unrepaired_D8b_subsume_forgets :
    let cs : List Cmd := [.mode .subsume, .add [some true, none], .add [some true, some false]]
    let σ : Asg := fun _ => true
    ExcludedBy (added cs) σ ∧ ¬ Excluded (NgOrig.run (NgOrig.new 2) cs).buckets σ ∧
    Excluded (after 2 cs).buckets σ ∧
    (NgOrig.run (NgOrig.new 2) cs).buckets = [[], [[some true, some false]]] ∧
    (after 2 cs).buckets = [[], [[some true, none]], []] := by
  refine ⟨⟨[some true, none], by decide +kernel, ?_⟩, ?_, ?_, by decide +kernel, by decide +kernel⟩
  · rw [← matchesB_iff]; decide +kernel
  · rw [← excludedB_iff]; decide +kernel
  · rw [← excludedB_iff]; decide +kernel

/-- D10: one variable, the empty nogood is added (any mode): the unrepaired `add_ng` drops it, so
nothing is excluded although the empty nogood is matched by every assignment, and `conclusions`
answers `Some` (negation of `history_semantics` / `conflict_direct`); the repaired code excludes
everything and reports the conflict -/
theorem unrepaired_D10_empty_nogood_dropped (m : DupMode) :
    let cs : List Cmd := [.mode m, .add [none]]
    let σ : Asg := fun _ => true
    ExcludedBy (added cs) σ ∧ ¬ Excluded (NgOrig.run (NgOrig.new 1) cs).buckets σ ∧
    NgOrig.conclusions (NgOrig.run (NgOrig.new 1) cs).buckets [none] = some [none] ∧
    Excluded (after 1 cs).buckets σ ∧ (after 1 cs).conclusions [none] = none := by
  refine ⟨⟨[none], by simp [added], ?_⟩, ?_, ?_, ?_, ?_⟩
  · rw [← matchesB_iff]; decide +kernel
  · rw [← excludedB_iff]; cases m <;> decide +kernel
  · cases m <;> decide +kernel
  · rw [← excludedB_iff]; cases m <;> decide +kernel
  · cases m <;> decide +kernel

example : Shaped 2 [.add [none, some false], .add [some true, some false]] ∧
    Shaped 2 [.mode .subsume, .add [some true, none], .add [some true, some false]] ∧
    Shaped 1 [.mode .subsume, .add [none]] := by
  refine ⟨?_, ?_, ?_⟩ <;> intro g hg <;>
    simp only [added, List.mem_cons, List.not_mem_nil, or_false] at hg
  · rcases hg with rfl | rfl <;> rfl
  · rcases hg with rfl | rfl <;> rfl
  · subst hg; rfl

/-! ## wide stores: the search-based specification

Beyond 10 variables the model driver cannot enumerate all `2^n` total assignments; it judges the
implementation's answers with `Spec/NgWide.lean`, whose only new ingredient is the backtracking
search `NgSpec.avoidingExt n gs A` for a total assignment (value list of length `n`) that extends
the interpretation `A` and matches none of the nogoods `gs`. Width hypotheses as checked by the
driver: interpretation, answers and nogoods are vectors of width `n`. -/

/-- **the search is sound**: what it returns is a total assignment over `n` variables that extends
the interpretation and matches no nogood -/
theorem wide_spec_sound (n : Nat) (gs : List PA) (A : PA) (t : List Bool) (hgs : ∀ g ∈ gs, g.length = n)
    (hA : A.length = n) (h : NgSpec.avoidingExt n gs A = some t) :
    t.length = n ∧ NgSpec.matchesT A t = true ∧ (∀ g ∈ gs, NgSpec.matchesT g t = false) ∧
    Matches A (NgSpec.asg t) ∧ AvoidsL gs (NgSpec.asg t) :=
  have hgs' : ∀ g ∈ gs, g.length ≤ n := fun g hg => Nat.le_of_eq (hgs g hg)
  have ⟨a, b, c⟩ := NgSpec.avoidingExt_some hgs' hA h
  have ⟨_, d, e⟩ := NgSpec.avoidingExt_sound hgs' hA h
  ⟨a, b, c, d, e⟩

/-- **the search is complete**: if it returns nothing, no total assignment extends the
interpretation and avoids all nogoods — neither among the value lists of length `n` nor among all
assignments -/
theorem wide_spec_complete (n : Nat) (gs : List PA) (A : PA) (hgs : ∀ g ∈ gs, g.length = n)
    (hA : A.length = n) (h : NgSpec.avoidingExt n gs A = none) :
    (¬ ∃ t : List Bool, t.length = n ∧ NgSpec.matchesT A t = true ∧ ∀ g ∈ gs, NgSpec.matchesT g t = false) ∧
    ∀ σ, Matches A σ → ¬ AvoidsL gs σ :=
  have hgs' : ∀ g ∈ gs, g.length ≤ n := fun g hg => Nat.le_of_eq (hgs g hg)
  ⟨NgSpec.avoidingExt_none hgs' hA h, (NgSpec.avoidingExt_none_iff hgs' hA).mp h⟩

/-- non-vacuity at a width the brute-force specification cannot reach, on the witness of the seeded
mutation "duplicate test modulo 64": `{x3=T,x5=F}`, `{x67=T,x69=F}` over 70 variables. The
interpretation `{x67=T}` has an avoiding extension, `{x67=T,x69=F}` has none. -/
def wideDemo : List PA :=
  [setAt (setAt (List.replicate 70 none) 3 true) 5 false, setAt (setAt (List.replicate 70 none) 67 true) 69 false]

example : (NgSpec.avoidingExt 70 wideDemo (setAt (List.replicate 70 none) 67 true)).isSome = true ∧
    NgSpec.avoidingExt 70 wideDemo (setAt (setAt (List.replicate 70 none) 67 true) 69 false) = none ∧
    NgSpec.avoidingExt 2 (added demo) [none, none] = some [true, true] ∧
    NgSpec.avoidingExt 2 (added demo) [some false, none] = none := by decide +kernel

/-- **the W-checks of `conclusions` and `conclusion_closure` are the brute-force checks**: same
clauses, same verdicts — so `spec_concl_meaning` / `spec_closure_meaning` apply to them verbatim -/
theorem wide_spec_eq (n : Nat) (gs : List PA) (A : PA) (hgs : ∀ g ∈ gs, g.length = n) (hA : A.length = n) :
    NgSpec.conclViolationsW n gs A none = NgSpec.conclViolations n gs A none ∧
    (∀ r, r.length = n → NgSpec.conclViolationsW n gs A (some r) = NgSpec.conclViolations n gs A (some r)) ∧
    NgSpec.closureViolationsW n gs A .inconsistent = NgSpec.closureViolations n gs A .inconsistent ∧
    NgSpec.closureViolationsW n gs A .noUpdate = NgSpec.closureViolations n gs A .noUpdate ∧
    (∀ r, r.length = n → NgSpec.closureViolationsW n gs A (.update r) = NgSpec.closureViolations n gs A (.update r)) := by
  have hgs' : ∀ g ∈ gs, g.length ≤ n := fun g hg => Nat.le_of_eq (hgs g hg)
  refine ⟨NgSpec.conclViolationsW_eq hgs' hA none (fun _ h => by cases h),
    fun r hr => NgSpec.conclViolationsW_eq hgs' hA (some r) (fun r' h => by cases h; exact Nat.le_of_eq hr),
    NgSpec.closureViolationsW_eq hgs' hA _ (fun _ h => by cases h),
    NgSpec.closureViolationsW_eq hgs' hA _ (fun _ h => by cases h),
    fun r hr => NgSpec.closureViolationsW_eq hgs' hA _ (fun r' h => by cases h; exact Nat.le_of_eq hr)⟩

/-- **the W-check of the store means the property** and accepts exactly the dumps the brute-force
check accepts; a witness it reports is a total assignment excluded by one of the two sets only -/
theorem wide_spec_store (n : Nat) (gs stored : List PA) (hgs : ∀ g ∈ gs, g.length = n)
    (hst : ∀ g ∈ stored, g.length = n) :
    (NgSpec.storeViolationsW n gs stored = [] ↔ ∀ σ, ExcludedBy stored σ ↔ ExcludedBy gs σ) ∧
    (NgSpec.storeViolationsW n gs stored = [] ↔ NgSpec.storeViolations n gs stored = []) ∧
    (∀ t, NgSpec.escaping n gs stored = some t →
      t.length = n ∧ ExcludedBy gs (NgSpec.asg t) ∧ ¬ ExcludedBy stored (NgSpec.asg t)) ∧
    (∀ t, NgSpec.escaping n stored gs = some t →
      t.length = n ∧ ExcludedBy stored (NgSpec.asg t) ∧ ¬ ExcludedBy gs (NgSpec.asg t)) :=
  ⟨NgSpec.storeViolationsW_nil hgs hst, NgSpec.storeViolationsW_iff hgs hst,
   fun _ h => NgSpec.escaping_some hgs (fun g hg => Nat.le_of_eq (hst g hg)) h,
   fun _ h => NgSpec.escaping_some hst (fun g hg => Nat.le_of_eq (hgs g hg)) h⟩

/-- the store that lost `{x67=T,x69=F}` as a "duplicate" is rejected, with a witness; the full one passes -/
example : NgSpec.storeViolationsW 70 wideDemo wideDemo = [] ∧
    (NgSpec.storeViolationsW 70 wideDemo (wideDemo.take 1)).length = 1 ∧
    NgSpec.storeViolationsW 2 (added demo) [[none, some false]] = ["forgotten:FT"] ∧
    NgSpec.conclViolationsW 2 (added demo) [none, none] none = ["spurious-conflict"] ∧
    NgSpec.conclViolationsW 70 wideDemo (setAt (setAt (List.replicate 70 none) 67 true) 69 false)
      (some (setAt (setAt (List.replicate 70 none) 67 true) 69 false)) = ["missed-direct-conflict"] := by
  decide +kernel

/-- **the model always passes the W-specification**, at every width -/
theorem model_passes_wide_spec (n : Nat) (cs : List Cmd) (hs : Shaped n cs) (A : PA) (hA : A.length = n) :
    NgSpec.conclViolationsW n (added cs) A ((after n cs).conclusions A) = [] ∧
    NgSpec.closureViolationsW n (added cs) A (NgSpec.ofClosure ((after n cs).closure A)) = [] ∧
    NgSpec.storeViolationsW n (added cs) (after n cs).buckets.flatten = [] :=
  NgSpec.passes_wide_spec (run_spec n cs hs) hs hA

end C18
