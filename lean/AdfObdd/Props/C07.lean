import AdfObdd.OpsProofs
/-! # C07 — diagram operations compute the Boolean function they name

Model: `stepOp` / `runOps` (`OpsModel.lean`) over the store (`restrictF`, `iteF`, `mkNode`
with the unique table and both memo tables). The theorems hold from *any* well-formed state, i.e.
for every prior operation history and every memo content satisfying the invariant (warm or cold). -/
namespace C07

/-- every single operation returns a valid handle whose function is the named function of the
operands' functions (restriction = cofactor); the store stays well formed and only grows -/
theorem op_correct (s : Store) (hist : List Nat) (fs : List BoolFn) (op : Op)
    (w : WF s) (h : HistOK s hist fs) (hv : op.valid hist.length) :
    WF (stepOp s hist op).1 ∧ Ext s (stepOp s hist op).1 ∧
    (stepOp s hist op).2 < (stepOp s hist op).1.nodes.size ∧
    ∀ σ, eval (stepOp s hist op).1 (stepOp s hist op).2 σ = semOp fs op σ :=
  let g := stepOp_good s hist fs op w h hv
  ⟨g.wf, g.ext, g.lt, g.ev⟩

/-- no operation changes the function denoted by a previously issued handle -/
theorem old_handles_unchanged (s : Store) (hist : List Nat) (fs : List BoolFn) (op : Op)
    (w : WF s) (h : HistOK s hist fs) (hv : op.valid hist.length) (t : Nat) (ht : t < s.nodes.size) :
    ∀ σ, eval (stepOp s hist op).1 t σ = eval s t σ :=
  fun σ => eval_ext w (stepOp_good s hist fs op w h hv).ext t σ ht

/-- every operation sequence from the fresh store: the k-th issued handle denotes the k-th
function of the specification `semOps`, for all k at once (so earlier results stay correct) -/
theorem sequence_correct (ops : List Op) (hv : opsValid ops 2) :
    let r := runOps ops Store.init [0, 1]
    WF r.1 ∧ HistOK r.1 r.2 (semOps ops [fun _ => false, fun _ => true]) :=
  let x := runOps_refines ops Store.init [0, 1] _ WF_init HistOK.init hv
  ⟨x.1, x.2.2⟩

/-- `sequence_correct` from any well-formed state (warm memo tables) -/
theorem sequence_correct_from (ops : List Op) (s : Store) (hist : List Nat) (fs : List BoolFn)
    (w : WF s) (h : HistOK s hist fs) (hv : opsValid ops hist.length) :
    WF (runOps ops s hist).1 ∧ Ext s (runOps ops s hist).1 ∧
    HistOK (runOps ops s hist).1 (runOps ops s hist).2 (semOps ops fs) :=
  runOps_refines ops s hist fs w h hv

/-- the named functions are the intended ones (restriction is the cofactor, etc.) -/
theorem semantics_table (fs : List BoolFn) (a b v : Nat) (c : Bool) (σ : Asg) :
    semOp fs (.not a) σ = !(fget fs a σ) ∧
    semOp fs (.and a b) σ = (fget fs a σ && fget fs b σ) ∧
    semOp fs (.or a b) σ = (fget fs a σ || fget fs b σ) ∧
    semOp fs (.imp a b) σ = (!(fget fs a σ) || fget fs b σ) ∧
    semOp fs (.iff a b) σ = (fget fs a σ == fget fs b σ) ∧
    semOp fs (.xor a b) σ = (fget fs a σ != fget fs b σ) ∧
    semOp fs (.var v) σ = σ v ∧ semOp fs (.const c) σ = c ∧
    semOp fs (.restrict a v c) σ = fget fs a (upd σ v c) :=
  ⟨rfl, rfl, rfl, rfl, rfl, rfl, rfl, rfl, rfl⟩

/-- non-vacuity: a concrete valid sequence (x0, x1, x0 ∧ x1, restrict, xor) meets the hypotheses -/
example : opsValid [.var 0, .var 1, .and 2 3, .restrict 4 0 true, .xor 5 3] 2 := by
  simp [opsValid, Op.valid, VBOT]

/-- non-vacuity of the single-operation theorems: the fresh store with its two constants and the
operation `⊥ ∧ ⊤` meet all hypotheses -/
example : WF Store.init ∧ HistOK Store.init [0, 1] [fun _ => false, fun _ => true] ∧ (Op.and 0 1).valid 2 ∧
    (0 : Nat) < Store.init.nodes.size :=
  ⟨WF_init, HistOK.init, by simp [Op.valid], by simp [Store.init]⟩

end C07
