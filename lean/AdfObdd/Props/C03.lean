import AdfObdd.Stable
import AdfObdd.PreGround3
import AdfObdd.AdfModel
import AdfObdd.StableExact
import AdfObdd.OpsProofs
import AdfObdd.BioProofs
import AdfObdd.HybridExample
import AdfObdd.HybridCli
/-! # C03 — enumerate-and-check stable semantics

The code's test for a two-valued candidate `v`: restrict every condition by `v`'s false statements
(the reduct), compute the grounded interpretation of the result, compare information values at
ALL positions. The definition: `v` is a two-valued model whose TRUE statements are re-derived.
After the native loop: the biodivine back-end (`adfbiodivine.rs`) with both single-formula rewriting
variants, then the hybrid back-end (`hybrid_step_opt` + the native stable searches) end to end. -/
namespace C03

/-- the code's test and the definition coincide, for every total candidate -/
theorem check_iff_stable (D : List BoolFn) (v w : I3) (hlen : v.length = D.length) (ht : TotalI v)
    (hw : IsLfp (redu D v) w) :
    w = v ↔ (Gam D v = v ∧ ∀ (i : Nat), v[i]? = some (some true) → w[i]? = some (some true)) :=
  stable_check_iff D v w hlen ht hw

/-- hybrid with pre-grounding: for a total `v` above the grounded interpretation the reduct of the
pre-grounded conditions has the same least fixpoint, so the same candidates pass -/
theorem pregrounded_same_reduct_lfp (D : List BoolFn) (g v L : I3) (hg : IsLfp D g) (hgv : Le3 g v) :
    IsLfp (redu (pre D g) v) L ↔ IsLfp (redu D v) L := pre_reduct_lfp_iff D g v L hg hgv

/-- at the candidate itself the reduct's operator agrees with Γ, total or not (used for the
pre-filter: a stable model passes "is a two-valued model", so the pre-filter rejects no stable model) -/
theorem reduct_agrees_on_total (D : List BoolFn) (v : I3) : Gam (redu D v) v = Gam D v := Gam_redu_total D v

/-- the statement about `stableAll` (the function the driver runs): read as
interpretations the answers contain no duplicate and are exactly the stable models — total, a
model, and every true statement is true in the least fixpoint of the reduct -/
def stable_exact_statement : Prop :=
  ∀ (s : Store) (n : Nat) (ac : List Nat), WF s → ac.length = n → (∀ t ∈ ac, t < s.nodes.size) →
    let D := ac.map (eval s)
    let out := (stableAll s n ac).2.map (fun v => v.map storeIsConst)
    out.Nodup ∧ ∀ v : I3, v ∈ out ↔
      (v.length = n ∧ TotalI v ∧ Gam D v = v ∧
        ∀ w : I3, IsLfp (redu D v) w → ∀ i : Nat, v[i]? = some (some true) → w[i]? = some (some true))

/-- `stable_exact_statement` for any enumeration function (instantiated with `Cli.stablePre`, the model of
`stable_with_prefilter`) -/
def stable_exact_for (f : Store → Nat → List Nat → Store × List (List Nat)) : Prop :=
  ∀ (s : Store) (n : Nat) (ac : List Nat), WF s → ac.length = n → (∀ t ∈ ac, t < s.nodes.size) →
    let D := ac.map (eval s)
    let out := (f s n ac).2.map (fun v => v.map storeIsConst)
    out.Nodup ∧ ∀ v : I3, v ∈ out ↔
      (v.length = n ∧ TotalI v ∧ Gam D v = v ∧
        ∀ w : I3, IsLfp (redu D v) w → ∀ i : Nat, v[i]? = some (some true) → w[i]? = some (some true))

/-- `restrictFalse` / `mapFalse` compute the reduct: the new handles denote the conditions with the
candidate's false statements replaced by ⊥ -/
theorem mapFalse_is_reduct (s : Store) (cand ac : List Nat) (hw : WF s) (hv : ∀ t ∈ ac, t < s.nodes.size) :
    WF (mapFalse s cand ac).1 ∧ Ext s (mapFalse s cand ac).1 ∧
    (∀ t ∈ (mapFalse s cand ac).2, t < (mapFalse s cand ac).1.nodes.size) ∧
    (mapFalse s cand ac).2.map (eval (mapFalse s cand ac).1) =
      redu (ac.map (eval s)) (cand.map storeIsConst) :=
  mapFalse_spec cand ac s hw hv

/-- the code's test on one total candidate, started in any well-formed store, decides the
definition (reduct by `mapFalse`, its least fixpoint by `groundedLoop`, comparison at all positions) -/
theorem test_decides_stability (s : Store) (n : Nat) (ac cand : List Nat) (hw : WF s) (hn : ac.length = n)
    (hv : ∀ t ∈ ac, t < s.nodes.size) (hcl : cand.length = n)
    (hct : ∀ i, i < cand.length → cand.getD i 0 < 2) :
    let red := mapFalse s cand ac
    let grd := groundedLoop StoreRA (n + 1) red.1 red.2
    WF grd.1 ∧ Ext s grd.1 ∧
    ((cand.zip grd.2).all (fun (a, b) => sameInfo a b) = true ↔
      StableExact.StableI (ac.map (eval s)) (cand.map storeIsConst)) :=
  StableExact.stable_test_spec s n ac cand hw hn hv hcl hct

/-- the loop of `Adf::stable` is the filter of C20's two-valued enumeration of the grounded
vector by the definition; completeness because every stable model is a total fixpoint, hence above
the grounded interpretation (C01), hence the decided part of a completion of the grounded vector -/
theorem stable_exact : stable_exact_statement :=
  StableExact.stableAll_exact

/-- `stable` and `stable_with_prefilter` emit the same list (same vectors, same order) -/
theorem stablepre_same_answers (s : Store) (n : Nat) (ac : List Nat) (hw : WF s) (hn : ac.length = n)
    (hv : ∀ t ∈ ac, t < s.nodes.size) : (Cli.stablePre s n ac).2 = (stableAll s n ac).2 := by
  rw [(StableExact.stablePre_filter s n ac hw hn hv).2, (StableExact.stableAll_filter s n ac hw hn hv).2]

/-- `stable_with_prefilter` gives the same answers in the same order — the pre-filter
("is a two-valued model", the filter of C02 on the candidate) rejects no stable model -/
theorem stablepre_exact : stable_exact_for Cli.stablePre := by
  intro s n ac hw hn hv
  rw [stablepre_same_answers s n ac hw hn hv]
  exact stable_exact s n ac hw hn hv

theorem stable_store (s : Store) (n : Nat) (ac : List Nat) (hw : WF s) (hn : ac.length = n)
    (hv : ∀ t ∈ ac, t < s.nodes.size) :
    (WF (stableAll s n ac).1 ∧ Ext s (stableAll s n ac).1) ∧
    (WF (Cli.stablePre s n ac).1 ∧ Ext s (Cli.stablePre s n ac).1) :=
  ⟨(StableExact.stableAll_filter s n ac hw hn hv).1, (StableExact.stablePre_filter s n ac hw hn hv).1⟩

example : TotalI [some true, some false] := by
  intro i hi
  have : i = 0 ∨ i = 1 := by simp at hi; omega
  rcases this with h | h <;> subst h <;> simp

/-! non-vacuity: the hypotheses of `stable_exact` are satisfiable and its conclusion is neither
always true nor always false — one statement with condition ⊤ on the initial store: `T` is an
answer, `F` is not -/
example : [some true] ∈ (stableAll Store.init 1 [1]).2.map (fun v => v.map storeIsConst) := by
  refine ((stable_exact Store.init 1 [1] WF_init rfl (by simp [Store.init])).2 [some true]).mpr
    ⟨rfl, ?_, by simp [Gam, constOf_some, eval_one], ?_⟩
  · intro i hi
    have : i = 0 := by simp at hi; omega
    subst this; exact ⟨true, rfl⟩
  · intro w hw i hi
    have h0 : i = 0 := by
      rcases Nat.lt_or_ge i 1 with h | h
      · omega
      · rw [List.getElem?_eq_none (by simpa using h)] at hi; cases hi
    subst h0
    have e : Gam (redu (List.map (eval Store.init) [1]) [some true]) w = [some true] := by
      simp [Gam, redu, constOf_some, eval_one]
    rw [← hw.1, e]; rfl

example : [some false] ∉ (stableAll Store.init 1 [1]).2.map (fun v => v.map storeIsConst) := by
  intro h
  have := (((stable_exact Store.init 1 [1] WF_init rfl (by simp [Store.init])).2 [some false]).mp h).2.2.1
  have e : Gam (List.map (eval Store.init) [1]) [some false] = [some true] := by
    simp [Gam, constOf_some, eval_one]
  rw [e] at this; cases this

end C03

namespace C03
open Bio (BExpr)

/-- the definition used throughout C03, as one predicate (`StableExact.StableI` unfolded). The quantifier
`∀ w, IsLfp (redu D v) w → …` is not vacuous: every list of conditions has a least fixpoint
(`C01.grounded_biodivine_model_is_lfp`), unique by `C01.grounded_unique`. -/
def Stable (D : List BoolFn) (v : I3) : Prop :=
  TotalI v ∧ Gam D v = v ∧
    ∀ w : I3, IsLfp (redu D v) w → ∀ i : Nat, v[i]? = some (some true) → w[i]? = some (some true)

/-- `Adf::stable` of the SECOND back-end (model: `Bio.bioStable` — the two-valued iterator over
`grounded_internal(&self.ac)`, filtered by "`grounded_internal` of the conditions restricted by the
candidate's FALSE statements has the candidate's information values at all positions").

ASSUMPTION ABOUT THE EXTERNAL LIBRARY (`biodivine_lib_bdd`, not modelled): `W : Bio.Lawful L n`,
see `C02.biodivine_complete_exact`. For every lawful library and valid conditions the answers,
read as interpretations, contain no duplicate and are exactly the stable models; in particular
the answer is `[]` when there is none. -/
theorem biodivine_stable_exact {T : Type} (L : Bio.Lib T) (n : Nat) (W : Bio.Lawful L n)
    (ac : List T) (hv : ∀ a ∈ ac, W.Valid a) (hn : ac.length = n) :
    let D := ac.map W.den
    let out := (Bio.bioStable L ac).map (fun v => v.map storeIsConst)
    out.Nodup ∧ (∀ v : I3, v ∈ out ↔ (v.length = n ∧ Stable D v)) ∧
    ((∀ v : I3, ¬ (v.length = n ∧ Stable D v)) → Bio.bioStable L ac = []) := by
  have h := Bio.bioStable_exact W ac hv hn
  exact ⟨h.1, h.2, fun hnone => Bio.nil_of_none _ _ _ h.2 hnone⟩

/-- `Adf::stable_bdd_representation` of the biodivine back-end (model: `Bio.bioStableRep`): the
candidates are the `sat_valuations` of ONE diagram — the rewriting prepared at construction if
there is one (`rw = some r`), else `stable_representation()` = `⋀ᵢ (acᵢ ↔ xᵢ)` — filtered by the
same reduct test as `stable`.

ASSUMPTION ABOUT THE EXTERNAL LIBRARY: `W : Bio.Lawful L n`; the clause used here in addition to
C02's is `sat_spec`: `sat_valuations` yields every satisfying total valuation of the `n` declared
variables exactly once, in any order (the theorem for an explicit candidate list with exactly
this hypothesis: `Bio.rep_answers` with `Bio.stableTest_iff`).

`Bio.GoodRewrite W ac rw`: nothing for `rw = none`; for `rw = some r`, `r` is a diagram of the
variable set that is true at every two-valued model of the conditions. Then: no duplicate, exactly
the stable models, `[]` when there is none. -/
theorem biodivine_rewriting_exact {T : Type} (L : Bio.Lib T) (n : Nat) (W : Bio.Lawful L n)
    (rw : Option T) (ac : List T) (hv : ∀ a ∈ ac, W.Valid a) (hn : ac.length = n)
    (hg : Bio.GoodRewrite W ac rw) :
    let D := ac.map W.den
    let out := (Bio.bioStableRep L rw ac).map (fun v => v.map storeIsConst)
    out.Nodup ∧ (∀ v : I3, v ∈ out ↔ (v.length = n ∧ Stable D v)) ∧
    ((∀ v : I3, ¬ (v.length = n ∧ Stable D v)) → Bio.bioStableRep L rw ac = []) := by
  have h := Bio.bioStableRep_exact W rw ac hv hn hg
  exact ⟨h.1, h.2, fun hnone => Bio.nil_of_none _ _ _ h.2 hnone⟩

/-- variant 1, `from_parser` + `stable_bdd_representation()`: the formula is built on demand from
the conditions; no further hypothesis -/
theorem biodivine_rewriting_on_demand_exact {T : Type} (L : Bio.Lib T) (n : Nat) (W : Bio.Lawful L n)
    (ac : List T) (hv : ∀ a ∈ ac, W.Valid a) (hn : ac.length = n) :
    let D := ac.map W.den
    let out := (Bio.bioStableRep L none ac).map (fun v => v.map storeIsConst)
    out.Nodup ∧ (∀ v : I3, v ∈ out ↔ (v.length = n ∧ Stable D v)) ∧
    ((∀ v : I3, ¬ (v.length = n ∧ Stable D v)) → Bio.bioStableRep L none ac = []) :=
  biodivine_rewriting_exact L n W none ac hv hn trivial

/-- variant 2, `from_parser_with_stm_rewrite`: `n` declared statements, `order` =
`formula_order()`, `fs` = the conditions in file order (closed: they mention declared statements
only), the object's conditions are `Bio.acOf` (= `from_parser`), its rewriting `Bio.stmRewriting`
(one equivalence per condition OF THE FILE). Hypothesis: NO STATEMENT HAS TWO CONDITIONS
(`order.Nodup`) — without it the theorem is false, see `prepared_rewriting_duplicate_counterexample`.
A statement without condition is allowed (its condition is `mk_false`, the formula does not
constrain it, the reduct test rejects the extra candidates). -/
theorem biodivine_rewriting_prepared_exact {T : Type} (L : Bio.Lib T) (n : Nat) (W : Bio.Lawful L n)
    (order : List Nat) (fs : List BExpr) (hf : ∀ φ ∈ fs, φ.closed n = true) (ho : ∀ o ∈ order, o < n)
    (hl : order.length = fs.length) (hnd : order.Nodup) :
    let ac := Bio.acOf L n order fs
    let D := ac.map W.den
    let out := (Bio.bioStableRep L (some (Bio.stmRewriting L order fs)) ac).map (fun v => v.map storeIsConst)
    out.Nodup ∧ (∀ v : I3, v ∈ out ↔ (v.length = n ∧ Stable D v)) ∧
    ((∀ v : I3, ¬ (v.length = n ∧ Stable D v)) →
      Bio.bioStableRep L (some (Bio.stmRewriting L order fs)) ac = []) := by
  have ⟨a, b, _⟩ := Bio.acOf_spec W n order fs hf
  exact biodivine_rewriting_exact L n W _ _ b a (Bio.stmRewriting_good W order fs hf ho hnd hl)

/-- when every statement has EXACTLY one condition the two constructions — `stm_rewriting` over the
parser's formulas in file order, `stable_representation()` folded over `ac` in statement order —
denote the same Boolean function (so they have the same candidates) -/
theorem rewritings_same_function {T : Type} (L : Bio.Lib T) (n : Nat) (W : Bio.Lawful L n)
    (order : List Nat) (fs : List BExpr) (hf : ∀ φ ∈ fs, φ.closed n = true)
    (h1 : Bio.ExactlyOne n order) (hl : order.length = fs.length) :
    W.den (Bio.stmRewriting L order fs) = W.den (Bio.stableRepresentation L (Bio.acOf L n order fs)) :=
  Bio.rewritings_same_function W n order fs (Nat.le_refl n) hf h1 hl

/-- `Adf::stable_bdd_representation(&mut self, biodivine)` of the NATIVE back-end (`adf.rs`; model:
`Bio.nativeStableRep`): candidates from the biodivine object (`stable_model_candidates`, either
rewriting), reduct / grounding / comparison on the own store.

ASSUMPTION ABOUT THE EXTERNAL LIBRARY: `W : Bio.Lawful L n` as above (only the candidate
generation uses the library). `hsame`: the biodivine object is the one the native object was
instantiated from — position by position the same Boolean functions. Then the loop keeps the store
well formed, only extends it, and the answers are exactly the stable models, each once.
NOTE: `hsame` is FALSE for the pairing the CLI's hybrid arm runs (pre-grounded native object, candidates
from the un-grounded biodivine object: `hsame_fails_for_the_cli_pairing`); the theorem for that pairing
is `native_rewriting_on_hybrid` below. This one covers a native object and a biodivine object built
from the same conditions (`Adf::from_biodivine`, i.e. `hybrid_step_opt(false)`, or two `from_parser`s). -/
theorem native_rewriting_exact {T : Type} (L : Bio.Lib T) (n : Nat) (W : Bio.Lawful L n)
    (s : Store) (ac : List Nat) (hw : WF s) (hn : ac.length = n) (hvs : ∀ t ∈ ac, t < s.nodes.size)
    (rw : Option T) (acB : List T) (hv : ∀ a ∈ acB, W.Valid a) (hnB : acB.length = n)
    (hsame : acB.map W.den = ac.map (eval s)) (hg : Bio.GoodRewrite W acB rw) :
    let D := ac.map (eval s)
    let r := Bio.nativeStableRep s n ac (Bio.stableModelCandidates L rw acB)
    let out := r.2.map (fun v => v.map storeIsConst)
    (WF r.1 ∧ Ext s r.1) ∧ out.Nodup ∧ (∀ v : I3, v ∈ out ↔ (v.length = n ∧ Stable D v)) ∧
    ((∀ v : I3, ¬ (v.length = n ∧ Stable D v)) → r.2 = []) := by
  have h := Bio.nativeStableRep_exact W s ac hw hn hvs rw acB hv hnB hsame hg
  exact ⟨h.1, h.2.1, h.2.2, fun hnone => Bio.nil_of_none _ _ _ h.2.2 hnone⟩

/-! ### non-vacuity on the computable truth-table library (`Bio.ttLib`, lawful: `Bio.ttLawful`)

Three statements, facts in the order `ac(c, and(a, neg(b))). ac(a, neg(b)). ac(b, neg(a)).`
(`formula_order = [2, 0, 1]`); stable models `{a, c}` and `{b}`. -/
def exOrder : List Nat := [2, 0, 1]
def exFs : List BExpr := [.and (.var 0) (.not (.var 1)), .not (.var 1), .not (.var 0)]

example : Bio.acOf (Bio.ttLib 3) 3 exOrder exFs = [51, 85, 34] := by decide

theorem exStable_eval : (Bio.bioStable (Bio.ttLib 3) [51, 85, 34]).map (fun v => v.map storeIsConst) =
    [[some false, some true, some false], [some true, some false, some true]] := by decide

example : (Bio.bioStable (Bio.ttLib 3) [51, 85, 34]).map Bio.toI3 =
    [[some false, some true, some false], [some true, some false, some true]] := exStable_eval
example : (Bio.bioStableRep (Bio.ttLib 3) none [51, 85, 34]).map Bio.toI3 =
    [[some false, some true, some false], [some true, some false, some true]] := by decide
theorem exPrepared_eval : (Bio.bioStableRep (Bio.ttLib 3) (some (Bio.stmRewriting (Bio.ttLib 3) exOrder exFs))
      (Bio.acOf (Bio.ttLib 3) 3 exOrder exFs)).map (fun v => v.map storeIsConst) =
    [[some false, some true, some false], [some true, some false, some true]] := by decide

example : (Bio.bioStableRep (Bio.ttLib 3) (some (Bio.stmRewriting (Bio.ttLib 3) exOrder exFs))
      (Bio.acOf (Bio.ttLib 3) 3 exOrder exFs)).map Bio.toI3 =
    [[some false, some true, some false], [some true, some false, some true]] := exPrepared_eval

theorem exValid : ∀ a ∈ [51, 85, 34], (Bio.ttLawful 3).Valid a := by
  intro a ha
  apply Bio.ttValid_of_lt
  have : a = 51 ∨ a = 85 ∨ a = 34 := by simpa using ha
  rcases this with h | h | h <;> subst h <;> decide

/-- the hypotheses of `biodivine_stable_exact` hold for the example, and the theorem turns the computed
membership into the definition -/
example : Stable ([51, 85, 34].map (Bio.ttDen 3)) [some true, some false, some true] :=
  (((biodivine_stable_exact (Bio.ttLib 3) 3 (Bio.ttLawful 3) [51, 85, 34] exValid rfl).2.1 _).mp
    (by rw [exStable_eval]; decide)).2
/-- conversely, a non-answer is not stable -/
example : ¬ Stable ([51, 85, 34].map (Bio.ttDen 3)) [some true, some false, some false] := by
  intro h
  have := ((biodivine_stable_exact (Bio.ttLib 3) 3 (Bio.ttLawful 3) [51, 85, 34] exValid rfl).2.1
    [some true, some false, some false]).mpr ⟨rfl, h⟩
  rw [exStable_eval] at this
  revert this
  decide

/-- the same through the prepared rewriting: its hypotheses hold for the written example -/
example : Stable ((Bio.acOf (Bio.ttLib 3) 3 exOrder exFs).map (Bio.ttDen 3)) [some false, some true, some false] :=
  (((biodivine_rewriting_prepared_exact (Bio.ttLib 3) 3 (Bio.ttLawful 3) exOrder exFs (by decide)
    (by decide) rfl (by decide)).2.1 _).mp (by rw [exPrepared_eval]; decide)).2

/-- `Bio.ExactlyOne` is satisfiable: the two rewritings of the example are the same function -/
example : (Bio.ttLawful 3).den (Bio.stmRewriting (Bio.ttLib 3) exOrder exFs) =
    (Bio.ttLawful 3).den (Bio.stableRepresentation (Bio.ttLib 3) (Bio.acOf (Bio.ttLib 3) 3 exOrder exFs)) :=
  rewritings_same_function (Bio.ttLib 3) 3 (Bio.ttLawful 3) exOrder exFs (by decide)
    ⟨by decide, by decide, by decide⟩ rfl

/-- the native variant on the initial store: one statement with condition ⊤, candidates from the
truth-table library; hypotheses satisfiable, the answer is `T` -/
example : (Bio.nativeStableRep Store.init 1 [1] (Bio.stableModelCandidates (Bio.ttLib 1) none [3])).2 = [[1]] := by
  decide
example : Stable ([1].map (eval Store.init)) [some true] := by
  have hsame : [3].map (Bio.ttLawful 1).den = [1].map (eval Store.init) := by
    have e : (Bio.ttLawful 1).den 3 = (fun _ => true) :=
      funext ((Bio.tt_isTrue 1 3 (Bio.ttValid_of_lt (by decide))).mp (by decide))
    have e2 : eval Store.init 1 = (fun _ => true) := funext (fun σ => eval_one _ σ)
    simp [e, e2]
  have h := native_rewriting_exact (Bio.ttLib 1) 1 (Bio.ttLawful 1) Store.init [1] WF_init rfl
    (by simp [Store.init]) none [3]
    (fun a ha => Bio.ttValid_of_lt (by have : a = 3 := by simpa using ha
                                       subst this; decide)) rfl hsame trivial
  exact ((h.2.2.1 [some true]).mp (by decide)).2

/-- COUNTEREXAMPLE to the prepared variant without `order.Nodup`: the file
`s(a). ac(a, c(f)). ac(a, c(v)).` gives statement `a` two conditions. `from_parser` keeps the last
one (`⊤`: the only stable model makes `a` true, `stable` finds it), `stm_rewriting` conjoins BOTH
equivalences (`(a ↔ ⊥) ∧ (a ↔ ⊤)`, unsatisfiable): no candidate, the stable model is lost. -/
theorem prepared_rewriting_duplicate_counterexample :
    let L := Bio.ttLib 1
    let ac := Bio.acOf L 1 [0, 0] [.const false, .const true]
    (Bio.bioStable L ac).map Bio.toI3 = [[some true]] ∧
    (Bio.bioStableRep L none ac).map Bio.toI3 = [[some true]] ∧
    Bio.bioStableRep L (some (Bio.stmRewriting L [0, 0] [.const false, .const true])) ac = [] := by
  decide

end C03

namespace C03

/-- the stable models of the mutual attack `a : ¬b`, `b : ¬a`, read off `Bio.bioStable` on the
truth-table library -/
theorem exMutual_stable (v : I3) :
    (v.length = 2 ∧ Stable (Bio.exMutual.map Fm.sem) v) ↔
      v ∈ [[some false, some true], [some true, some false]] := by
  have t : v ∈ (Bio.bioStable (Bio.ttLib 2) (Bio.fromFormulas (Bio.ttLib 2) Bio.exMutual)).map
      (fun v => v.map storeIsConst) ↔ _ := Bio.tt_stable Bio.exMutual Bio.exMutual_ok v
  rw [show (Bio.bioStable (Bio.ttLib 2) (Bio.fromFormulas (Bio.ttLib 2) Bio.exMutual)).map
      (fun v => v.map storeIsConst) = [[some false, some true], [some true, some false]] by decide] at t
  exact t.symm

theorem exChain2_stable (v : I3) :
    (v.length = 2 ∧ Stable (Bio.exChain2.map Fm.sem) v) ↔ v ∈ [[some true, some true]] := by
  have t : v ∈ (Bio.bioStable (Bio.ttLib 2) (Bio.fromFormulas (Bio.ttLib 2) Bio.exChain2)).map
      (fun v => v.map storeIsConst) ↔ _ := Bio.tt_stable Bio.exChain2 Bio.exChain2_ok v
  rw [show (Bio.bioStable (Bio.ttLib 2) (Bio.fromFormulas (Bio.ttLib 2) Bio.exChain2)).map
      (fun v => v.map storeIsConst) = [[some true, some true]] by decide] at t
  exact t.symm

/-- **the oracle beyond truth-table size** (see `C02.complete_exact_from_formulas`): the stable
enumeration of the model on the freshly compiled store lists exactly the stable models of the
WRITTEN formulas, for frameworks of any size -/
theorem stable_exact_from_formulas (fms : List Fm) (hn : fms.length ≤ VBOT) (hv : ∀ f ∈ fms, f.atomsOK) :
    let b := buildNative fms.length fms
    let D := fms.map Fm.sem
    let out := (stableAll b.1 fms.length b.2).2.map (fun v => v.map storeIsConst)
    out.Nodup ∧ ∀ v : I3, v ∈ out ↔
      (v.length = fms.length ∧ TotalI v ∧ Gam D v = v ∧
        ∀ w : I3, IsLfp (redu D v) w → ∀ i : Nat, v[i]? = some (some true) → w[i]? = some (some true)) := by
  obtain ⟨w, hl, hlt, hf⟩ := buildNative_fns _ fms hn hv
  have h := stable_exact (buildNative fms.length fms).1 fms.length (buildNative fms.length fms).2 w hl hlt
  simp only at h
  rw [hf] at h
  exact h

/-- native example with TWO statements and TWO stable models: `s(a). s(b). ac(a,neg(b)). ac(b,neg(a)).`
compiled by the `from_parser` model; `stableAll` on the compiled store returns exactly `T F` and `F T`
(through `stable_exact_from_formulas`; stability by evaluation on the truth-table library) -/
example :
    let b := buildNative 2 Bio.exMutual
    let out := (stableAll b.1 2 b.2).2.map (fun v => v.map storeIsConst)
    [some true, some false] ∈ out ∧ [some false, some true] ∈ out ∧
    [some true, some true] ∉ out ∧ [some false, some false] ∉ out ∧ out.Nodup := by
  have h := stable_exact_from_formulas Bio.exMutual (by simp [Bio.exMutual, VBOT])
    (fun f hf => NConc.atomsOK_of_lt (by simp [Bio.exMutual, VBOT]) f (Bio.exMutual_ok f hf))
  have key : ∀ v : I3, v ∈ (stableAll (buildNative 2 Bio.exMutual).1 2 (buildNative 2 Bio.exMutual).2).2.map
      (fun v => v.map storeIsConst) ↔ v ∈ [[some false, some true], [some true, some false]] :=
    fun v => (h.2 v).trans (exMutual_stable v)
  refine ⟨(key _).mpr (by decide), (key _).mpr (by decide), fun hin => ?_, fun hin => ?_, h.1⟩
  · have := (key _).mp hin; revert this; decide
  · have := (key _).mp hin; revert this; decide

theorem rewriting_choice_good {T : Type} (L : Bio.Lib T) (fms : List Fm) (W : Bio.Lawful L fms.length)
    (hv : ∀ f ∈ fms, NConc.atomsLt fms.length f) (prepared : Bool) :
    Bio.GoodRewrite W (Bio.fromFormulas L fms)
      (if prepared then some (Bio.rewritingOfFormulas L fms) else none) := by
  cases prepared with
  | false => exact trivial
  | true => exact Bio.rewritingOfFormulas_good fms W hv

/-- **`hsame` derived.** `native_rewriting_exact` for a native object and a biodivine object instantiated
from ONE written framework (`fms`: one condition per statement, declaration order, every atom a statement;
native `from_parser` model `buildNative`, biodivine `from_parser` model `Bio.fromFormulas` =
`eval_expression ∘ to_boolean_expr`; `prepared` chooses `from_parser_with_stm_rewrite`): no hypothesis
about the two objects is left, and the answers are the stable models of the WRITTEN conditions -/
theorem native_rewriting_exact_from_formulas {T : Type} (L : Bio.Lib T) (fms : List Fm)
    (W : Bio.Lawful L fms.length) (hn : fms.length ≤ VBOT)
    (hv : ∀ f ∈ fms, NConc.atomsLt fms.length f) (prepared : Bool) :
    let b := buildNative fms.length fms
    let rw := if prepared then some (Bio.rewritingOfFormulas L fms) else none
    let r := Bio.nativeStableRep b.1 fms.length b.2 (Bio.stableModelCandidates L rw (Bio.fromFormulas L fms))
    let out := r.2.map (fun v => v.map storeIsConst)
    (WF r.1 ∧ Ext b.1 r.1) ∧ out.Nodup ∧
    (∀ v : I3, v ∈ out ↔ (v.length = fms.length ∧ Stable (fms.map Fm.sem) v)) ∧
    ((∀ v : I3, ¬ (v.length = fms.length ∧ Stable (fms.map Fm.sem) v)) → r.2 = []) := by
  intro b rw
  have hok : ∀ f ∈ fms, f.atomsOK := fun f hf => NConc.atomsOK_of_lt hn f (hv f hf)
  obtain ⟨w, hl, hlt, hf⟩ := buildNative_fns _ fms hn hok
  obtain ⟨a1, a2, _, _⟩ := Bio.fromFormulas_spec fms W hv
  have hg := rewriting_choice_good L fms W hv prepared
  have h := native_rewriting_exact L fms.length W b.1 b.2 w hl hlt rw (Bio.fromFormulas L fms) a2 a1
    (Bio.native_bio_same_functions fms W hn hv) hg
  simp only at h
  rw [hf] at h
  exact h

/-- non-vacuity: the mutual attack, candidates from the truth-table library, both rewriting variants -/
example (prepared : Bool) :
    let b := buildNative 2 Bio.exMutual
    let rw := if prepared then some (Bio.rewritingOfFormulas (Bio.ttLib 2) Bio.exMutual) else none
    let r := Bio.nativeStableRep b.1 2 b.2
      (Bio.stableModelCandidates (Bio.ttLib 2) rw (Bio.fromFormulas (Bio.ttLib 2) Bio.exMutual))
    [some true, some false] ∈ r.2.map (fun v => v.map storeIsConst) ∧
    [some true, some true] ∉ r.2.map (fun v => v.map storeIsConst) := by
  have h := native_rewriting_exact_from_formulas (Bio.ttLib 2) Bio.exMutual (Bio.ttLawful 2)
    (by simp [Bio.exMutual, VBOT]) Bio.exMutual_ok prepared
  refine ⟨(h.2.2.1 _).mpr ((exMutual_stable _).mpr (by decide)), fun hin => ?_⟩
  have := (exMutual_stable _).mp ((h.2.2.1 _).mp hin)
  revert this; decide

end C03

namespace C03

/-- **hybrid back-end, end to end** (`Adf::stable` and `Adf::stable_with_prefilter` on the native object
built by `hybrid_step_opt(opt)`, model `Bio.hybridStep`): without duplicates exactly the stable models of
the ORIGINAL conditions `ac.map W.den`, both variants the same list, both values of the flag.
Assumptions about the external crate: `W`, `hd` (see `C01.hybrid_grounded_is_lfp`). -/
theorem hybrid_stable_exact {T : Type} (L : Bio.Lib T) (n : Nat) (W : Bio.Lawful L n)
    (dump : T → List Node) (hd : Bio.DumpSpec W dump) (opt : Bool)
    (ac : List T) (hv : ∀ a ∈ ac, W.Valid a) (hn : ac.length = n) :
    let r := Bio.hybridStep L dump opt ac
    let out := (stableAll r.1 n r.2).2.map (fun v => v.map storeIsConst)
    out.Nodup ∧ (∀ v : I3, v ∈ out ↔ (v.length = n ∧ Stable (ac.map W.den) v)) ∧
    (Cli.stablePre r.1 n r.2).2 = (stableAll r.1 n r.2).2 :=
  Bio.hybrid_stable W hd opt ac hv hn

/-- the counting-guided search (`stable_count_optimisation_heu_a/b`, C04) on the hybrid-built object -/
theorem hybrid_count_search_exact {T : Type} (L : Bio.Lib T) (n : Nat) (W : Bio.Lawful L n)
    (dump : T → List Node) (hd : Bio.DumpSpec W dump) (opt useA : Bool)
    (ac : List T) (hv : ∀ a ∈ ac, W.Valid a) (hn : ac.length = n) :
    let r := Bio.hybridStep L dump opt ac
    let out := (countAll r.1 n r.2 useA).2.map (fun v => v.map storeIsConst)
    out.Nodup ∧ ∀ v : I3, v ∈ out ↔ (v.length = n ∧ Stable (ac.map W.den) v) :=
  Bio.hybrid_count W hd opt useA ac hv hn

/-- the nogood-learning search (C05) on the hybrid-built object, every built-in heuristic: halts and
emits each stable model (`stable = true`) resp. each two-valued model (`stable = false`) of the ORIGINAL
conditions once. `hsup` (two-valued mode only, as in `C05.ng_search_exact`): the conditions depend on the
`n` statements only - derived for parsed frameworks in `hybrid_ng_search_from_formulas` -/
theorem hybrid_ng_search_exact {T : Type} (L : Bio.Lib T) (n : Nat) (W : Bio.Lawful L n)
    (dump : T → List Node) (hd : Bio.DumpSpec W dump) (h : SM.Heu) (opt stable : Bool)
    (ac : List T) (hv : ∀ a ∈ ac, W.Valid a) (hn : ac.length = n)
    (hsup : stable = false → ∀ a ∈ ac, TT.DetBy n (W.den a)) :
    let r := Bio.hybridStep L dump opt ac
    ∃ fuel, (SM.ngSearch h fuel r.1 n r.2 stable).2.2.2 = true ∧
      let D := ac.map W.den
      let out := (SM.ngSearch h fuel r.1 n r.2 stable).2.1.map (fun v => v.map storeIsConst)
      out.Nodup ∧ ∀ v : I3, v ∈ out ↔
        (v.length = n ∧ TotalI v ∧ Gam D v = v ∧
          (stable = true → ∀ w : I3, IsLfp (redu D v) w → ∀ i : Nat, v[i]? = some (some true) → w[i]? = some (some true))) := by
  intro r
  have ⟨hl, d⟩ := Bio.hybridStep_denotes W hd opt ac hv hn
  have tr := SameSem.hyb opt (Bio.bioGrounded_lfp W ac hv hn).2
  have hs : stable = false → ∀ t ∈ r.2, ∀ σ τ : Asg, (∀ i, i < n → σ i = τ i) → eval r.1 t σ = eval r.1 t τ :=
    fun hst t ht => hyb_detBy opt
      (fun f hf => by obtain ⟨a, ha, rfl⟩ := List.mem_map.mp hf; exact hsup hst a ha)
      (eval r.1 t) (d.den ▸ List.mem_map_of_mem ht)
  obtain ⟨fuel, h1, h2, h3⟩ := NConc.ng_end_to_end h r.1 n r.2 stable d.wf hl d.valid hs
  refine ⟨fuel, h1, h2, fun v => ?_⟩
  rw [h3 v, d.den]
  cases stable with
  | true =>
    -- the last three conjuncts are `StableI`
    have := tr.stable_iff v
    unfold StableExact.StableI at this
    simp only [true_implies]
    exact and_congr_right' this
  | false =>
    simp only [Bool.false_eq_true, false_implies, and_true]
    exact and_congr_right' (and_congr_right' (tr.fix v))

/-- enumeration and counting-guided search from the WRITTEN framework (biodivine `from_parser`,
`hybrid_step_opt`, native search): the stable models of the written conditions; the nogood search is
`hybrid_ng_search_from_formulas` -/
theorem hybrid_stable_from_formulas {T : Type} (L : Bio.Lib T) (fms : List Fm) (W : Bio.Lawful L fms.length)
    (dump : T → List Node) (hd : Bio.DumpSpec W dump) (opt useA : Bool)
    (hv : ∀ f ∈ fms, NConc.atomsLt fms.length f) :
    let r := Bio.hybridStep L dump opt (Bio.fromFormulas L fms)
    let out := (stableAll r.1 fms.length r.2).2.map (fun v => v.map storeIsConst)
    let outc := (countAll r.1 fms.length r.2 useA).2.map (fun v => v.map storeIsConst)
    (out.Nodup ∧ ∀ v : I3, v ∈ out ↔ (v.length = fms.length ∧ Stable (fms.map Fm.sem) v)) ∧
    (outc.Nodup ∧ ∀ v : I3, v ∈ outc ↔ (v.length = fms.length ∧ Stable (fms.map Fm.sem) v)) := by
  have ⟨a, b, c, _⟩ := Bio.fromFormulas_spec fms W hv
  have h1 := Bio.hybrid_stable W hd opt _ b a
  have h2 := Bio.hybrid_count W hd opt useA _ b a
  rw [c] at h1 h2
  exact ⟨⟨h1.1, h1.2.1⟩, h2⟩

theorem hybrid_ng_search_from_formulas {T : Type} (L : Bio.Lib T) (fms : List Fm) (W : Bio.Lawful L fms.length)
    (dump : T → List Node) (hd : Bio.DumpSpec W dump) (h : SM.Heu) (opt stable : Bool)
    (hv : ∀ f ∈ fms, NConc.atomsLt fms.length f) :
    let r := Bio.hybridStep L dump opt (Bio.fromFormulas L fms)
    ∃ fuel, (SM.ngSearch h fuel r.1 fms.length r.2 stable).2.2.2 = true ∧
      let D := fms.map Fm.sem
      let out := (SM.ngSearch h fuel r.1 fms.length r.2 stable).2.1.map (fun v => v.map storeIsConst)
      out.Nodup ∧ ∀ v : I3, v ∈ out ↔
        (v.length = fms.length ∧ TotalI v ∧ Gam D v = v ∧
          (stable = true → ∀ w : I3, IsLfp (redu D v) w → ∀ i : Nat, v[i]? = some (some true) → w[i]? = some (some true))) := by
  have ⟨a, b, c, d⟩ := Bio.fromFormulas_spec fms W hv
  have := hybrid_ng_search_exact L fms.length W dump hd h opt stable _ b a (fun _ => d)
  rw [c] at this; exact this

/-- non-vacuity (lawful truth-table library over two variables with its decision-tree dump): the mutual
attack through the hybrid pipeline, both flags, enumeration and counting search: `T F` and `F T` are
answers, `T T` is not -/
example (opt useA : Bool) :
    let r := Bio.hybridStep (Bio.ttLib 2) Bio.ttDump2 opt (Bio.fromFormulas (Bio.ttLib 2) Bio.exMutual)
    let out := (stableAll r.1 2 r.2).2.map (fun v => v.map storeIsConst)
    let outc := (countAll r.1 2 r.2 useA).2.map (fun v => v.map storeIsConst)
    ([some true, some false] ∈ out ∧ [some false, some true] ∈ out ∧ [some true, some true] ∉ out) ∧
    ([some true, some false] ∈ outc ∧ [some false, some true] ∈ outc ∧ [some true, some true] ∉ outc) := by
  have h := hybrid_stable_from_formulas (Bio.ttLib 2) Bio.exMutual (Bio.ttLawful 2) Bio.ttDump2
    Bio.ttDump2_spec opt useA Bio.exMutual_ok
  have t := exMutual_stable
  refine ⟨⟨(h.1.2 _).mpr ((t _).mpr (by decide)), (h.1.2 _).mpr ((t _).mpr (by decide)), fun hin => ?_⟩,
    ⟨(h.2.2 _).mpr ((t _).mpr (by decide)), (h.2.2 _).mpr ((t _).mpr (by decide)), fun hin => ?_⟩⟩
  · have := (t _).mp ((h.1.2 _).mp hin); revert this; decide
  · have := (t _).mp ((h.2.2 _).mp hin); revert this; decide

/-- non-vacuity of `hybrid_ng_search_exact` / `…_from_formulas`: every heuristic, both flags, both modes -
the search on the hybrid-built mutual attack halts and `T F` is among its answers -/
example (h : SM.Heu) (opt stable : Bool) :
    let r := Bio.hybridStep (Bio.ttLib 2) Bio.ttDump2 opt (Bio.fromFormulas (Bio.ttLib 2) Bio.exMutual)
    ∃ fuel, (SM.ngSearch h fuel r.1 2 r.2 stable).2.2.2 = true ∧
      [some true, some false] ∈ (SM.ngSearch h fuel r.1 2 r.2 stable).2.1.map (fun v => v.map storeIsConst) := by
  obtain ⟨fuel, h1, _, h3⟩ := hybrid_ng_search_from_formulas (Bio.ttLib 2) Bio.exMutual (Bio.ttLawful 2)
    Bio.ttDump2 Bio.ttDump2_spec h opt stable Bio.exMutual_ok
  have st := (exMutual_stable [some true, some false]).mpr (by decide)
  exact ⟨fuel, h1, (h3 _).mpr ⟨st.1, st.2.1, st.2.2.1, fun _ => st.2.2.2⟩⟩

/-! ### the rewriting variants AS THE DEFAULT (HYBRID) CLI ARM RUNS THEM

`bin/src/main.rs`, hybrid arm: `naive_adf = adf.hybrid_step()` (native object from the PRE-GROUNDED
residual diagrams), then for `--stmrew` and `--stmrew2` `naive_adf.stable_bdd_representation(&adf)`
(`adf.rs`): `adf.stable_model_candidates()` on the UN-grounded biodivine object - the `sat_valuations` of
the rewriting prepared at construction (`--stmrew`: `from_parser_with_stm_rewrite`) or of
`stable_representation()` (`--stmrew2`) - and the reduct test of `stable` on the pre-grounded native
store. The two objects do NOT denote the same functions as soon as grounding decides a statement, so
`native_rewriting_exact` (hypothesis `hsame`) does not apply. -/

/-- `hsame` of `native_rewriting_exact` fails for the pairing the CLI runs: on `s(a). s(b). ac(a,c(v)).
ac(b,a).` the pre-grounded native handles are `[1, 1]` (both ⊤), the biodivine conditions the tables
`[15, 10]` (⊤ and `x0`) -/
theorem hsame_fails_for_the_cli_pairing :
    let acB := Bio.fromFormulas (Bio.ttLib 2) Bio.exChain2
    let r := Bio.hybridStep (Bio.ttLib 2) Bio.ttDump2 true acB
    r.2 = [1, 1] ∧ acB = [15, 10] ∧
    acB.map (Bio.ttLawful 2).den ≠ r.2.map (eval r.1) := by
  have e : (Bio.hybridStep (Bio.ttLib 2) Bio.ttDump2 true (Bio.fromFormulas (Bio.ttLib 2) Bio.exChain2)).2 = [1, 1] := by
    decide
  have e2 : Bio.fromFormulas (Bio.ttLib 2) Bio.exChain2 = [15, 10] := by decide
  refine ⟨e, e2, fun h => ?_⟩
  rw [e, e2] at h
  simp only [List.map_cons, List.map_nil, List.cons.injEq, and_true] at h
  have := congrFun h.2 (fun _ => false)
  rw [eval_one] at this
  revert this
  show Bio.ttDen 2 10 (fun _ => false) ≠ true
  decide

/-- **`Adf::stable_bdd_representation(&biodivine)` on the hybrid-built object** - native object from
`hybrid_step_opt(opt)` (the CLI: `opt = true`), candidates
from the ORIGINAL biodivine conditions `ac` (`rw = some r`: a prepared rewriting, `--stmrew`; `rw = none`:
`stable_representation()`, `--stmrew2`), reduct test on the native store: the store stays well formed and
is only extended, no duplicate, exactly the stable models of the ORIGINAL conditions, `[]` if there is none.
Assumptions about the external crate: `W`, `hd` (see `C01.hybrid_grounded_is_lfp`); `hg`: the prepared
rewriting is true at every two-valued model (nothing for `none`). -/
theorem native_rewriting_on_hybrid {T : Type} (L : Bio.Lib T) (n : Nat) (W : Bio.Lawful L n)
    (dump : T → List Node) (hd : Bio.DumpSpec W dump) (opt : Bool) (rw : Option T)
    (ac : List T) (hv : ∀ a ∈ ac, W.Valid a) (hn : ac.length = n) (hg : Bio.GoodRewrite W ac rw) :
    let r := Bio.hybridStep L dump opt ac
    let res := Bio.nativeStableRep r.1 n r.2 (Bio.stableModelCandidates L rw ac)
    let out := res.2.map (fun v => v.map storeIsConst)
    (WF res.1 ∧ Ext r.1 res.1) ∧ out.Nodup ∧
    (∀ v : I3, v ∈ out ↔ (v.length = n ∧ Stable (ac.map W.den) v)) ∧
    ((∀ v : I3, ¬ (v.length = n ∧ Stable (ac.map W.den) v)) → res.2 = []) := by
  have h := Bio.native_rewriting_on_hybrid W hd opt rw ac hv hn hg
  exact ⟨h.1, h.2.1, h.2.2, fun hnone => Bio.nil_of_none _ _ _ h.2.2 hnone⟩

/-- `--stmrew2` in the hybrid arm (`from_parser`, no prepared rewriting: the candidates are the models of
`stable_representation()`): no further hypothesis -/
theorem hybrid_stmrew2_exact {T : Type} (L : Bio.Lib T) (n : Nat) (W : Bio.Lawful L n)
    (dump : T → List Node) (hd : Bio.DumpSpec W dump) (opt : Bool)
    (ac : List T) (hv : ∀ a ∈ ac, W.Valid a) (hn : ac.length = n) :
    let r := Bio.hybridStep L dump opt ac
    let res := Bio.nativeStableRep r.1 n r.2 (Bio.stableModelCandidates L none ac)
    let out := res.2.map (fun v => v.map storeIsConst)
    out.Nodup ∧ ∀ v : I3, v ∈ out ↔ (v.length = n ∧ Stable (ac.map W.den) v) :=
  let h := native_rewriting_on_hybrid L n W dump hd opt none ac hv hn trivial
  ⟨h.2.1, h.2.2.1⟩

/-- `--stmrew` in the hybrid arm (`from_parser_with_stm_rewrite`: conditions `Bio.acOf`, prepared rewriting
`Bio.stmRewriting` over the conditions OF THE FILE). Hypothesis `hnd`: no statement has two conditions -
without it the stable model of `s(a).ac(a,c(f)).ac(a,c(v)).` is lost
(`prepared_rewriting_duplicate_counterexample`; the same candidate list feeds this arm). -/
theorem hybrid_stmrew_exact {T : Type} (L : Bio.Lib T) (n : Nat) (W : Bio.Lawful L n)
    (dump : T → List Node) (hd : Bio.DumpSpec W dump) (opt : Bool)
    (order : List Nat) (fs : List Bio.BExpr) (hf : ∀ φ ∈ fs, φ.closed n = true) (ho : ∀ o ∈ order, o < n)
    (hl : order.length = fs.length) (hnd : order.Nodup) :
    let ac := Bio.acOf L n order fs
    let r := Bio.hybridStep L dump opt ac
    let res := Bio.nativeStableRep r.1 n r.2 (Bio.stableModelCandidates L (some (Bio.stmRewriting L order fs)) ac)
    let out := res.2.map (fun v => v.map storeIsConst)
    out.Nodup ∧ ∀ v : I3, v ∈ out ↔ (v.length = n ∧ Stable (ac.map W.den) v) := by
  have ⟨a, b, _⟩ := Bio.acOf_spec W n order fs hf
  have h := native_rewriting_on_hybrid L n W dump hd opt _ _ b a (Bio.stmRewriting_good W order fs hf ho hnd hl)
  exact ⟨h.2.1, h.2.2.1⟩

/-- both flags from the WRITTEN framework (one condition per statement, declaration order): the printed
vectors are the stable models of the written conditions -/
theorem hybrid_rewriting_from_formulas {T : Type} (L : Bio.Lib T) (fms : List Fm) (W : Bio.Lawful L fms.length)
    (dump : T → List Node) (hd : Bio.DumpSpec W dump) (opt prepared : Bool)
    (hv : ∀ f ∈ fms, NConc.atomsLt fms.length f) :
    let acB := Bio.fromFormulas L fms
    let rw := if prepared then some (Bio.rewritingOfFormulas L fms) else none
    let r := Bio.hybridStep L dump opt acB
    let res := Bio.nativeStableRep r.1 fms.length r.2 (Bio.stableModelCandidates L rw acB)
    let out := res.2.map (fun v => v.map storeIsConst)
    out.Nodup ∧ ∀ v : I3, v ∈ out ↔ (v.length = fms.length ∧ Stable (fms.map Fm.sem) v) := by
  intro acB rw
  have ⟨a, b, c, _⟩ := Bio.fromFormulas_spec fms W hv
  have hg := rewriting_choice_good L fms W hv prepared
  have h := native_rewriting_on_hybrid L fms.length W dump hd opt rw _ b a hg
  simp only at h
  rw [c] at h
  exact ⟨h.2.1, h.2.2.1⟩

/-- non-vacuity ON THE PAIRING WHERE `hsame` FAILS (`hsame_fails_for_the_cli_pairing`): `s(a). s(b).
ac(a,c(v)). ac(b,a).`, pre-grounded native object (`opt = true`, both handles ⊤), candidates from the
un-grounded truth-table conditions, both rewriting variants: the answer is the one stable model `T T` -/
example (prepared : Bool) :
    let acB := Bio.fromFormulas (Bio.ttLib 2) Bio.exChain2
    let rw := if prepared then some (Bio.rewritingOfFormulas (Bio.ttLib 2) Bio.exChain2) else none
    let r := Bio.hybridStep (Bio.ttLib 2) Bio.ttDump2 true acB
    let res := Bio.nativeStableRep r.1 2 r.2 (Bio.stableModelCandidates (Bio.ttLib 2) rw acB)
    [some true, some true] ∈ res.2.map (fun v => v.map storeIsConst) ∧
    [some true, some false] ∉ res.2.map (fun v => v.map storeIsConst) := by
  have h := hybrid_rewriting_from_formulas (Bio.ttLib 2) Bio.exChain2 (Bio.ttLawful 2) Bio.ttDump2
    Bio.ttDump2_spec true prepared Bio.exChain2_ok
  refine ⟨(h.2 _).mpr ((exChain2_stable _).mpr (by decide)), fun hin => ?_⟩
  have := (exChain2_stable _).mp ((h.2 _).mp hin)
  revert this; decide

/-- non-vacuity on the mutual attack (two stable models, nothing decided by grounding), both flags of
`hybrid_step_opt`, both rewriting variants -/
example (opt prepared : Bool) :
    let acB := Bio.fromFormulas (Bio.ttLib 2) Bio.exMutual
    let rw := if prepared then some (Bio.rewritingOfFormulas (Bio.ttLib 2) Bio.exMutual) else none
    let r := Bio.hybridStep (Bio.ttLib 2) Bio.ttDump2 opt acB
    let res := Bio.nativeStableRep r.1 2 r.2 (Bio.stableModelCandidates (Bio.ttLib 2) rw acB)
    [some true, some false] ∈ res.2.map (fun v => v.map storeIsConst) ∧
    [some false, some true] ∈ res.2.map (fun v => v.map storeIsConst) ∧
    [some true, some true] ∉ res.2.map (fun v => v.map storeIsConst) := by
  have h := hybrid_rewriting_from_formulas (Bio.ttLib 2) Bio.exMutual (Bio.ttLawful 2) Bio.ttDump2
    Bio.ttDump2_spec opt prepared Bio.exMutual_ok
  refine ⟨(h.2 _).mpr ((exMutual_stable _).mpr (by decide)), (h.2 _).mpr ((exMutual_stable _).mpr (by decide)),
    fun hin => ?_⟩
  have := (exMutual_stable _).mp ((h.2 _).mp hin)
  revert this; decide

/-- **"the answer is the empty set, not an error"**: the enumeration is a total
function and, when the framework has no stable model, returns `[]` - native object -/
theorem stable_none_then_empty (s : Store) (n : Nat) (ac : List Nat) (hw : WF s) (hn : ac.length = n)
    (hv : ∀ t ∈ ac, t < s.nodes.size)
    (hnone : ∀ v : I3, ¬ (v.length = n ∧ Stable (ac.map (eval s)) v)) :
    (stableAll s n ac).2 = [] ∧ (Cli.stablePre s n ac).2 = [] := by
  have h1 := stable_exact s n ac hw hn hv
  have h2 := stablepre_exact s n ac hw hn hv
  exact ⟨Bio.nil_of_none _ _ _ h1.2 hnone, Bio.nil_of_none _ _ _ h2.2 hnone⟩

/-- `stable_none_then_empty` for the hybrid-built object (all searches of the hybrid arm) -/
theorem hybrid_stable_none_then_empty {T : Type} (L : Bio.Lib T) (n : Nat) (W : Bio.Lawful L n)
    (dump : T → List Node) (hd : Bio.DumpSpec W dump) (opt useA : Bool) (rw : Option T)
    (ac : List T) (hv : ∀ a ∈ ac, W.Valid a) (hn : ac.length = n) (hg : Bio.GoodRewrite W ac rw)
    (hnone : ∀ v : I3, ¬ (v.length = n ∧ Stable (ac.map W.den) v)) :
    let r := Bio.hybridStep L dump opt ac
    (stableAll r.1 n r.2).2 = [] ∧ (Cli.stablePre r.1 n r.2).2 = [] ∧ (countAll r.1 n r.2 useA).2 = [] ∧
    (Bio.nativeStableRep r.1 n r.2 (Bio.stableModelCandidates L rw ac)).2 = [] := by
  intro r
  have h1 := hybrid_stable_exact L n W dump hd opt ac hv hn
  have h2 := hybrid_count_search_exact L n W dump hd opt useA ac hv hn
  have h3 := native_rewriting_on_hybrid L n W dump hd opt rw ac hv hn hg
  have e1 : (stableAll r.1 n r.2).2 = [] := Bio.nil_of_none _ _ _ h1.2.1 hnone
  exact ⟨e1, by rw [h1.2.2]; exact e1, Bio.nil_of_none _ _ _ h2.2 hnone, h3.2.2.2 hnone⟩

/-- non-vacuity: `s(a). ac(a, neg(a)).` has no stable model; the native enumeration on the compiled
framework answers `[]` (through the theorem; `Stable` refuted on both total candidates) -/
example : (stableAll (buildNative 1 [Fm.not (.atom 0)]).1 1 (buildNative 1 [Fm.not (.atom 0)]).2).2 = [] := by
  obtain ⟨w, hl, hlt, hf⟩ := buildNative_fns 1 [Fm.not (.atom 0)] (by simp [VBOT])
    (fun f hf => by simp at hf; subst hf; simp [Fm.atomsOK, VBOT])
  refine (stable_none_then_empty _ 1 _ w hl hlt ?_).1
  rw [hf]
  rintro v ⟨hlen, ht, hg, _⟩
  match v, hlen with
  | [x], _ =>
    have h0 := ht 0 (by simp)
    cases x with
    | none => simp at h0
    | some b =>
      have : Gam [Fm.sem (Fm.not (.atom 0))] [some b] = [some (!b)] := by
        cases b <;> simp [Gam, constOf_some, Fm.sem, over, upd]
      simp only [List.map_cons, List.map_nil] at hg
      rw [this] at hg
      cases b <;> simp at hg

end C03

#print axioms C03.native_rewriting_on_hybrid
#print axioms C03.hybrid_stmrew_exact
#print axioms C03.hybrid_rewriting_from_formulas
#print axioms C03.hsame_fails_for_the_cli_pairing
#print axioms C03.hybrid_stmrew2_exact
#print axioms C03.stable_none_then_empty
#print axioms C03.hybrid_stable_none_then_empty
