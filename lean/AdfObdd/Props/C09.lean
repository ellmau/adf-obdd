import AdfObdd.AdfPipeline
import AdfObdd.Bridge
import AdfObdd.IsoCheck
import AdfObdd.PreGround
import AdfObdd.FromParserProofs
import AdfObdd.HybridExample
import AdfObdd.WfCheck
import AdfObdd.HybridCli
import AdfObdd.StoreLib
import AdfObdd.CliModesProofs
/-! # C09 — compilation to diagrams preserves every acceptance condition (native + bridge) -/
namespace C09

/-- native compilation of one formula of any size (`Adf::term`), from any well-formed store -/
theorem compile_one (φ : Fm) (s : Store) (w : WF s) (h : φ.atomsOK) :
    WF (compile s φ).1 ∧ Ext s (compile s φ).1 ∧ (compile s φ).2 < (compile s φ).1.nodes.size ∧
    ∀ σ, eval (compile s φ).1 (compile s φ).2 σ = φ.sem σ :=
  let g := compile_correct φ s w h
  ⟨g.wf, g.ext, g.lt, g.ev⟩

/-- the whole framework as `Adf::from_parser` builds it: the handle stored for each statement
denotes exactly the Boolean function of that statement's condition; any number of statements,
any formula sizes, any variable order (the order is the numbering of the atoms) -/
theorem from_parser_correct (n : Nat) (fms : List Fm) (hn : n ≤ VBOT) (hv : ∀ f ∈ fms, f.atomsOK) :
    WF (buildNative n fms).1 ∧ (buildNative n fms).2.length = fms.length ∧
    ∀ (i t : Nat) (f : Fm), (buildNative n fms).2[i]? = some t → fms[i]? = some f →
      t < (buildNative n fms).1.nodes.size ∧ ∀ σ, eval (buildNative n fms).1 t σ = f.sem σ :=
  buildNative_correct n fms hn hv

/-- bridge (`from_biodivine_vector`): replaying an ordered dump (two terminals first, children before
parents with larger variables; reducedness not needed) through `node` into any well-formed store
yields for every dump index a valid handle with that entry's function -/
theorem bridge_preserves (d : List Node) (hd : DumpOK d) (hlen : 2 ≤ d.length) (s : Store) (w : WF s) :
    let r := replayL (d.drop 2) s [0, 1]
    WF r.1 ∧ Ext s r.1 ∧ r.2.length = d.length ∧
    ∀ (j t : Nat) (f : BoolFn), r.2[j]? = some t → Den d j f → t < r.1.nodes.size ∧ ∀ σ, eval r.1 t σ = f σ :=
  bridge_correct d hd hlen s w

/-- verified validator run on every explored real store: if both tables pass `wfCheck` and the
memoised structural comparison says yes, the two handles denote the same Boolean function -/
theorem validator_sound (sa sb : Store) (ca : wfCheck sa.nodes = true) (cb : wfCheck sb.nodes = true)
    (fuel a b : Nat) (h : (isoF sa.nodes sb.nodes fuel {} a b).1 = true) :
    ∀ σ, eval sa a σ = eval sb b σ := isoCheck_sound sa sb ca cb fuel a b h

/-- what `from_biodivine_vector` does with the first two dump entries: NOTHING - for `idx == 0` it pushes
`Term(0)`, for `idx == 1` it pushes `Term(1)`, without parsing the entry. The model (`Bio.termVec`) is
faithful to that: two dumps that differ only in their first two entries are replayed identically. The
assumption "entry 0 is the ⊥ terminal, entry 1 the ⊤ terminal" is therefore not a shape condition the
code could violate or check; it is part of HOW A DUMP IS READ AS A FUNCTION (`Den d 0 = ⊥`, `Den d 1 = ⊤`,
Bridge.lean) and enters every theorem through `Bio.DumpSpec` ("the last entry denotes the diagram").
`Bio.dumpTerminals` is the shape biodivine actually writes (`|nv,0,0|nv,1,1|`); it is NOT checked anywhere:
the harness never sees a biodivine dump (it validates the bridged native table with `wfCheck`/`isoCheck`). -/
theorem bridge_ignores_terminal_entries (a b a' b' : Node) (rest : List Node) (s : Store) :
    Bio.termVec (a :: b :: rest) s = Bio.termVec (a' :: b' :: rest) s ∧
    Bio.termVec (a :: b :: rest) s = replayL ((a :: b :: rest).drop 2) s [0, 1] := ⟨rfl, rfl⟩

/-- **hybrid import** (`hybrid_step_opt(opt)` = optional biodivine grounding + `from_biodivine_vector`; model
`Bio.hybridStep`, HybridModel.lean: every diagram dumped and replayed through `Bdd::node` into ONE fresh
store, in statement order; `is_true` / `is_false` diagrams become `Term(1)` / `Term(0)` without a dump).
The built store is well formed and position by position the handle of statement `i` is valid and denotes
 * `opt = false` (also `Adf::from_biodivine`): the acceptance condition of statement `i` itself;
 * `opt = true` (`hybrid_step`): that condition with the grounded interpretation `g` substituted for the
   decided statements - `g` being the least fixpoint of Γ and the vector biodivine's `grounded` reports.
Assumptions about the external crate, as hypotheses: `W : Bio.Lawful L n`, `hd : Bio.DumpSpec W dump`. -/
theorem hybrid_import_function {T : Type} (L : Bio.Lib T) (n : Nat) (W : Bio.Lawful L n)
    (dump : T → List Node) (hd : Bio.DumpSpec W dump) (opt : Bool)
    (ac : List T) (hv : ∀ a ∈ ac, W.Valid a) (hn : ac.length = n) :
    let r := Bio.hybridStep L dump opt ac
    let g := (Bio.bioGrounded L ac).map storeIsConst
    WF r.1 ∧ r.2.length = n ∧ IsLfp (ac.map W.den) g ∧
    ∀ (i t : Nat) (a : T), r.2[i]? = some t → ac[i]? = some a →
      t < r.1.nodes.size ∧ ∀ σ, eval r.1 t σ = W.den a (if opt then over σ 0 g else σ) := by
  intro r g
  have ⟨hl, d⟩ := Bio.hybridStep_denotes W hd opt ac hv hn
  refine ⟨d.wf, hl, (Bio.bioGrounded_lfp W ac hv hn).2, fun i t a hi ha => ⟨d.valid t (List.mem_of_getElem? hi), fun σ => ?_⟩⟩
  cases opt with
  | false => exact congrFun (map_eq_map_get d.den hi ha) σ
  | true => exact congrFun (map_eq_map_get (d.den.trans List.map_map) hi ha) σ

/-- the residual vector handed over by `hybrid_step`: biodivine's `grounded_internal` returns valid
diagrams denoting `pre D g` - every condition restricted by the least fixpoint `g` (not merely by the
snapshots of the individual rounds) -/
theorem biodivine_residual_is_pregrounded {T : Type} (L : Bio.Lib T) (n : Nat) (W : Bio.Lawful L n)
    (ac : List T) (hv : ∀ a ∈ ac, W.Valid a) (hn : ac.length = n) :
    let g := (Bio.groundedInternal L ac).map L.isConst
    (∀ y ∈ Bio.groundedInternal L ac, W.Valid y) ∧ IsLfp (ac.map W.den) g ∧
    (Bio.groundedInternal L ac).map W.den = pre (ac.map W.den) g :=
  let h := Bio.groundedInternal_pre W ac hv (by omega)
  ⟨h.1, h.2.2.1, h.2.2.2⟩

/-- `hybrid_import_function` in terms of the WRITTEN conditions (biodivine `from_parser` = `Bio.fromFormulas`): the handle
of statement `i` denotes the written condition `fms[i]` (`opt = false`) resp. that condition with the
grounded interpretation substituted (`opt = true`) -/
theorem hybrid_import_written_condition {T : Type} (L : Bio.Lib T) (fms : List Fm) (W : Bio.Lawful L fms.length)
    (dump : T → List Node) (hd : Bio.DumpSpec W dump) (opt : Bool)
    (hv : ∀ f ∈ fms, NConc.atomsLt fms.length f) :
    let r := Bio.hybridStep L dump opt (Bio.fromFormulas L fms)
    let g := (Bio.bioGrounded L (Bio.fromFormulas L fms)).map storeIsConst
    WF r.1 ∧ r.2.length = fms.length ∧ IsLfp (fms.map Fm.sem) g ∧
    ∀ (i t : Nat) (f : Fm), r.2[i]? = some t → fms[i]? = some f →
      t < r.1.nodes.size ∧ ∀ σ, eval r.1 t σ = f.sem (if opt then over σ 0 g else σ) := by
  intro r g
  have ⟨a, b, c, _⟩ := Bio.fromFormulas_spec fms W hv
  have h := hybrid_import_function L fms.length W dump hd opt _ b a
  simp only at h
  rw [c] at h
  refine ⟨h.1, h.2.1, h.2.2.1, ?_⟩
  intro i t f ht hf
  have hi : i < (Bio.fromFormulas L fms).length := a ▸ lt_length_of_get? hf
  have hx : (Bio.fromFormulas L fms)[i]? = some (Bio.fromFormulas L fms)[i] := List.getElem?_eq_getElem hi
  have hden : W.den (Bio.fromFormulas L fms)[i] = f.sem := map_eq_map_get c hx hf
  have := h.2.2.2 i t _ ht hx
  rw [hden] at this
  exact this

/-- non-vacuity of `hybrid_import_function` (lawful truth-table library over two variables, decision-tree
dump): `s(a). s(b). ac(a,c(v)). ac(b,a).`; with `opt = true` the handle of `b` denotes `a`'s condition …
the constant ⊤ (`a` is true in the grounded interpretation), with `opt = false` it denotes the variable `a` -/
example :
    (let r := Bio.hybridStep (Bio.ttLib 2) Bio.ttDump2 true (Bio.fromFormulas (Bio.ttLib 2) Bio.exChain2)
     ∀ t, r.2[1]? = some t → ∀ σ, eval r.1 t σ = true) ∧
    (let r := Bio.hybridStep (Bio.ttLib 2) Bio.ttDump2 false (Bio.fromFormulas (Bio.ttLib 2) Bio.exChain2)
     ∀ t, r.2[1]? = some t → ∀ σ, eval r.1 t σ = σ 0) := by
  have hg : (Bio.bioGrounded (Bio.ttLib 2) (Bio.fromFormulas (Bio.ttLib 2) Bio.exChain2)).map storeIsConst =
      [some true, some true] := by decide
  have h := fun opt => (hybrid_import_written_condition (Bio.ttLib 2) Bio.exChain2 (Bio.ttLawful 2)
    Bio.ttDump2 Bio.ttDump2_spec opt Bio.exChain2_ok).2.2.2 1
  constructor
  · intro r t ht σ
    rw [(h true t (.atom 0) ht rfl).2 σ, if_pos rfl, hg]
    rfl
  · intro r t ht σ
    rw [(h false t (.atom 0) ht rfl).2 σ]
    rfl

/-! ### the bridge the CLI model runs is the bridge of these theorems

Two models of `from_biodivine_vector` exist: `Bio.bridgeOne / bridgeAll / hybridStep` (HybridModel.lean;
every hybrid theorem of C01-C03 and `hybrid_import_function` above) and `CliM.bridgeOne / bridgeAll /
hybridStep` (CliModes.lean; what `CliM.runText`, C15 and the model driver execute). They are the same
function wherever a non-constant diagram has a dump with its two terminal entries - in particular under
`Bio.DumpSpec` - and differ only on a one-entry dump (the last pushed term is the initial `Term(0)`; the
CLI model reads index `length - 1` of `[0, 1]`), which no lawful world produces. -/

theorem cli_bridge_is_this_bridge {T : Type} (L : Bio.Lib T) (dump : T → List Node) (s : Store) (t : T)
    (h : L.isTrue t = false → L.isFalse t = false → 2 ≤ (dump t).length) :
    CliM.bridgeOne L dump s t = Bio.bridgeOne L dump s t := Bio.bridgeOne_agree L dump s t h

/-- `hybrid_step()`, what `main.rs` calls: the hybrid theorems of C01, C02, C03 and C09 are about the
function the driver runs in its hybrid arm -/
theorem cli_hybrid_step_is_this_hybrid_step {T : Type} (L : Bio.Lib T) (n : Nat) (W : Bio.Lawful L n)
    (dump : T → List Node) (hd : Bio.DumpSpec W dump) (ac : List T) (hv : ∀ a ∈ ac, W.Valid a)
    (hn : ac.length ≤ n) :
    CliM.hybridStep L dump ac = Bio.hybridStep L dump true ac := Bio.hybridStep_agree W hd ac hv hn

/-- the only difference between the two models (unreachable under `DumpSpec`): a one-entry dump of a
non-constant diagram -/
example : (Bio.bridgeOne (Bio.ttLib 1) (fun _ => [⟨1, 0, 0⟩]) Store.init 2).2 = 0 ∧
    (CliM.bridgeOne (Bio.ttLib 1) (fun _ => [⟨1, 0, 0⟩]) Store.init 2).2 = 1 := by decide

/-! ### `DumpSpec` is satisfiable by dumps of the shape biodivine writes

The instances used in the examples above (`Bio.ttDump2_spec`, `Bio.ttDump_spec`) dump FULL, UNREDUCED
decision trees. Real dumps are reduced and shared and skip levels, e.g. `|3,0,0|3,1,1|2,0,1|1,0,2|0,3,2|`.
`Bio.storeLib` (StoreLib.lean) is the project's own verified ROBDD store as a `Bio.Lib`: a diagram is a
pair (node table, handle), binary operations import the second operand by replaying its dump
(`Bio.importInto` - the loop of `from_biodivine_vector` itself), `restrict` is the store's cofactor,
`sat_valuations` walks the diagram. It is lawful for every number of variables the store can number,
and its dump - the node table up to the handle: terminals first, children before parents, root last,
REDUCED, SHARED, levels skipped - satisfies `DumpSpec`. NOTE: `DumpSpec` remains an assumption about the
external crate; no real biodivine dump is ever checked (the harness validates the bridged native table
with `wfCheck` / `isoCheck`, it never sees the dump text). -/

theorem dump_spec_holds_for_reduced_shared_diagrams (nv : Nat) (hn : nv ≤ VBOT) :
    ∃ W : Bio.Lawful (Bio.storeLib nv) nv, Bio.DumpSpec W Bio.storeDump :=
  ⟨Bio.storeLawful nv hn, Bio.storeDump_spec nv hn⟩

theorem store_dump_is_ordered (s : Store) (w : WF s) (t : Nat) (ht : t < s.nodes.size) :
    DumpOK (Bio.storeDump (s, t)) ∧ (Bio.storeDump (s, t)).length = t + 1 ∧
    Den (Bio.storeDump (s, t)) ((Bio.storeDump (s, t)).length - 1) (eval s t) := by
  have hl := Bio.storeDump_len s t ht
  refine ⟨Bio.storeDump_ok s w t, hl, ?_⟩
  rw [hl]
  exact Bio.storeDump_den s w t ht t (Nat.le_refl t)

/-- a concrete dump in biodivine's own layout (terminal entries `|3,0,0|3,1,1|`): `(x0 ∧ x2) ∨ (x1 ∧ x2)`
over three variables; node 2 (`x2`) is SHARED by nodes 3 and 4, the high edge of the root SKIPS level 1.
It is ordered and its last entry denotes the function; and it is (up to the two terminal entries, which
the bridge never reads) the dump of a valid diagram of `Bio.storeLib 3` -/
theorem real_shaped_dump :
    Bio.realDump = [⟨3, 0, 0⟩, ⟨3, 1, 1⟩, ⟨2, 0, 1⟩, ⟨1, 0, 2⟩, ⟨0, 3, 2⟩] ∧ DumpOK Bio.realDump ∧
    (∃ f, Den Bio.realDump (Bio.realDump.length - 1) f ∧ ∀ σ, f σ = ((σ 0 && σ 2) || (σ 1 && σ 2))) ∧
    (Bio.storeDump (Bio.exStore, 4)).drop 2 = Bio.realDump.drop 2 :=
  ⟨rfl, Bio.realDump_ok, ⟨_, Bio.realDump_den, Bio.realDump_sem⟩, Bio.exStore_dump_real⟩

/-- two tables holding `x0 ∧ x1` under DIFFERENT handles (the second has an extra node and another
numbering) -/
def isoA : Store :=
  { nodes := #[⟨VBOT, 0, 0⟩, ⟨VTOP, 1, 1⟩, ⟨1, 0, 1⟩, ⟨0, 0, 2⟩], uniq := {}, resC := {}, iteC := {} }
def isoB : Store :=
  { nodes := #[⟨VBOT, 0, 0⟩, ⟨VTOP, 1, 1⟩, ⟨5, 0, 1⟩, ⟨1, 0, 1⟩, ⟨0, 0, 3⟩], uniq := {}, resC := {}, iteC := {} }

/-- non-vacuity of `validator_sound`: both tables pass `wfCheck`, the comparison of handle 3 with handle 4
says YES (`isoF … = true`, two inner levels, the memo is used), hence the functions are equal; and it says
NO for handle 3 against handle 3 (`x0 ∧ x1` vs `x1`) -/
example : wfCheck isoA.nodes = true ∧ wfCheck isoB.nodes = true ∧
    (isoF isoA.nodes isoB.nodes 3 {} 3 4).1 = true ∧ (isoF isoA.nodes isoB.nodes 3 {} 3 3).1 = false ∧
    ∀ σ, eval isoA 3 σ = eval isoB 4 σ := by
  have h : (isoF isoA.nodes isoB.nodes 3 {} 3 4).1 = true := by simp [isoF, isoA, isoB]
  have wa : wfCheck isoA.nodes = true := by decide
  have wb : wfCheck isoB.nodes = true := by decide
  exact ⟨wa, wb, h, by simp [isoF, isoA, isoB], validator_sound isoA isoB wa wb 3 3 4 h⟩

example : (Fm.and (.atom 0) (.not (.atom 1))).atomsOK := by simp [Fm.atomsOK, VBOT]

end C09

/-! ## `from_parser` on files with the facts in ANY order (`FromParser`, `FromParserProofs`)

`FromParser.fromParser : PState → Option (Store × List Nat)` is `Adf::from_parser` on the parser object
(`none` = panic): variables `0 .. dict_size`, `ac = vec![Term(0); dict_size]`, then every condition in
FILE order compiled on the running store and written at `formula_order[k]`, atoms resolved through the
dictionary. `condFns fs` = for the `p`-th declared label the index-level Boolean function of the LAST
condition written for it (⊥ if none). `from_parser_correct` above (`buildNative`) is the special case
"one condition per statement, in declaration order" (`FromParser.buildNative_eq_placeCompile`). -/
namespace C09
open ParserM FromParser

/-- `from_parser` panics exactly on the files that are not well-formed ADFs: some condition is
given for an undeclared label (the `expect` in `formula_order`) or mentions an undeclared label
(the `expect` in `term`); declarations may follow their uses -/
theorem from_parser_panics_exactly (fs : List Fact) :
    ((fromParser (PState.ofFacts fs)).isSome = true ↔ WellFormedAdf fs) ∧
    (WellFormedAdf fs ↔ ∀ l f, Fact.ac l f ∈ fs → Fact.stmt l ∈ fs ∧ ∀ a ∈ atomsOf f, Fact.stmt a ∈ fs) := by
  refine ⟨fromParser_isSome_iff fs, ?_⟩
  constructor
  · intro h l f hm
    have ⟨h1, h2⟩ := h (l, f) ((acsOf_mem fs l f).mpr hm)
    exact ⟨(namesOf_mem fs l).mp h1, fun a ha => (namesOf_mem fs a).mp (h2 a ha)⟩
  · intro h lf hlf
    have ⟨h1, h2⟩ := h lf.1 lf.2 ((acsOf_mem fs lf.1 lf.2).mp hlf)
    exact ⟨(namesOf_mem fs lf.1).mpr h1, fun a ha => (namesOf_mem fs a).mpr (h2 a ha)⟩

/-- whatever the order of the facts (conditions before declarations, conditions in another order
than the declarations, no or several conditions for a statement): the built store is well formed and
position `p` of `ac` is a valid handle of the function of the `p`-th declared statement's condition -/
theorem from_parser_any_order_correct (fs : List Fact) (s : Store) (ac : List Nat)
    (h : fromParser (PState.ofFacts fs) = some (s, ac)) (hn : (namesOf fs).length ≤ VBOT) :
    WF s ∧ ac.length = (namesOf fs).length ∧ (∀ t ∈ ac, t < s.nodes.size) ∧ ac.map (eval s) = condFns fs :=
  fromParser_correct fs s ac h hn

/-- **the library-side `from_parser` preserves every acceptance condition, facts in ANY order** (the
counterpart of `from_parser_any_order_correct` for `adfbiodivine::Adf::from_parser`, model
`CliM.bioBuild`): on a well-formed file whose labels the library accepts it does not panic, yields one
valid diagram per statement, and diagram `p` denotes the function of the last condition written for the
`p`-th declared statement (⊥ if none) -/
theorem biodivine_from_parser_any_order {T : Type} (L : Bio.Lib T) (fs : List Fact)
    (W : Bio.Lawful L (namesOf fs).length) (hwf : WellFormedAdf fs) (hn : (namesOf fs).length ≤ VBOT)
    (hnames : (namesOf fs).all CliM.bioNameOK = true) (rew : Bool) :
    ∃ (acB : List T) (rw : Option T), CliM.bioBuild L (PState.ofFacts fs) rew = some (acB, rw) ∧
      acB.length = (namesOf fs).length ∧ (∀ x ∈ acB, W.Valid x) ∧ acB.map W.den = condFns fs := by
  obtain ⟨acB, rw, hb, hl, hv, hden, _⟩ := CliMP.bioBuild_facts W (CliMP.pres_ofFacts fs) hwf hn hnames rew
  exact ⟨acB, rw, hb, hl, hv, hden⟩

/-- the hybrid pipeline from a file with the facts in any order (C02/C03 composed; stated here because
`CliModesProofs` imports `Props/C02`, `Props/C03`): `complete` lists exactly the fixpoints of Γ for
`condFns fs`, `stable` exactly its stable models, each once -/
theorem hybrid_complete_stable_from_facts {T : Type} (L : Bio.Lib T) (fs : List Fact)
    (W : Bio.Lawful L (namesOf fs).length) (dump : T → List Node) (hd : Bio.DumpSpec W dump) (opt : Bool)
    (hwf : WellFormedAdf fs) (hn : (namesOf fs).length ≤ VBOT)
    (hnames : (namesOf fs).all CliM.bioNameOK = true) :
    ∃ (acB : List T) (rw : Option T), CliM.bioBuild L (PState.ofFacts fs) false = some (acB, rw) ∧
      let n := (namesOf fs).length
      let r := Bio.hybridStep L dump opt acB
      let co := (completeAll r.1 n r.2).2.2.map (fun v => v.map storeIsConst)
      let sb := (stableAll r.1 n r.2).2.map (fun v => v.map storeIsConst)
      (co.Nodup ∧ ∀ w : I3, w ∈ co ↔ (w.length = n ∧ Gam (condFns fs) w = w)) ∧
      (sb.Nodup ∧ ∀ v : I3, v ∈ sb ↔ (v.length = n ∧ StableExact.StableI (condFns fs) v)) := by
  obtain ⟨acB, rw, hb, hl, hv, hden⟩ := biodivine_from_parser_any_order L fs W hwf hn hnames false
  refine ⟨acB, rw, hb, ?_⟩
  have h1 := C02.hybrid_complete_exact L _ W dump hd opt acB hv hl
  have h2 := Bio.hybrid_stable W hd opt acB hv hl
  rw [hden] at h1 h2
  exact ⟨⟨h1.1, h1.2.1⟩, ⟨h2.1, h2.2.1⟩⟩

/-- no condition: ⊥, and the entry is the initial `Term(0)`; several conditions: the last one -/
theorem from_parser_zero_or_several (fs : List Fact) :
    (∀ l, (∀ f, Fact.ac l f ∉ fs) → condOf fs l = .bot) ∧
    (∀ (s : Store) (ac : List Nat) (p : Nat) (l : Label), fromParser (PState.ofFacts fs) = some (s, ac) → (namesOf fs)[p]? = some l →
      (∀ f, Fact.ac l f ∉ fs) → ac[p]? = some 0) ∧
    (∀ pre post l f, fs = pre ++ Fact.ac l f :: post → (∀ g, Fact.ac l g ∉ post) → condOf fs l = f) :=
  ⟨fun l h => condOf_no_condition fs l h,
   fun s ac p l h hp hno => fromParser_no_condition fs s ac h p l hp hno,
   fun pre post l f e h => e ▸ condOf_last_wins pre post l f h⟩

/-- two files with the same facts, the same order of declarations and at most one condition per
statement: both are built and yield position-wise the same Boolean functions. Handles may differ
(two stores, node numbers follow the compilation order — example below). Without the "at most one
condition" hypothesis the statement is false: the last condition wins. -/
theorem from_parser_any_fact_order (fs gs : List Fact) (hp : fs.Perm gs)
    (hnames : namesOf fs = namesOf gs) (hone : ((acsOf fs).map (·.1)).Nodup)
    (hwf : WellFormedAdf fs) (hn : (namesOf fs).length ≤ VBOT) :
    ∃ s ac s' ac', fromParser (PState.ofFacts fs) = some (s, ac) ∧
      fromParser (PState.ofFacts gs) = some (s', ac') ∧
      ac.length = (namesOf fs).length ∧ ac'.length = (namesOf fs).length ∧
      ac.map (eval s) = ac'.map (eval s') ∧
      ∀ (p t t' : Nat), ac[p]? = some t → ac'[p]? = some t' → ∀ σ, eval s t σ = eval s' t' σ := by
  obtain ⟨⟨s, ac⟩, h1⟩ := Option.isSome_iff_exists.mp (fromParser_isSome fs hwf)
  obtain ⟨⟨s', ac'⟩, h2⟩ := Option.isSome_iff_exists.mp (fromParser_isSome gs (wellFormed_perm hp hwf))
  obtain ⟨_, l1, _, d1⟩ := fromParser_correct fs s ac h1 hn
  obtain ⟨_, l2, _, d2⟩ := fromParser_correct gs s' ac' h2 (hnames ▸ hn)
  have e : ac.map (eval s) = ac'.map (eval s') := by
    rw [d1, d2]; unfold condFns; rw [← hnames, condOf_perm hp hone]
  refine ⟨s, ac, s', ac', h1, h2, l1, hnames ▸ l2, e, ?_⟩
  intro p t t' ht ht' σ
  have := congrArg (fun D => D[p]?) e
  simp only [List.getElem?_map, ht, ht', Option.map_some, Option.some.injEq] at this
  exact congrFun this σ

/-- `ac(b,neg(b)). s(a). s(b). ac(a,neg(a)).` — the condition of `b` before every declaration, the
conditions in the order b, a -/
private def exA : List Fact :=
  [.ac ['b'] (.not (.atom ['b'])), .stmt ['a'], .stmt ['b'], .ac ['a'] (.not (.atom ['a']))]
/-- `s(a). ac(a,neg(a)). s(b). ac(b,neg(b)).` — the same facts in the usual order -/
private def exB : List Fact :=
  [.stmt ['a'], .ac ['a'] (.not (.atom ['a'])), .stmt ['b'], .ac ['b'] (.not (.atom ['b']))]

/-- non-vacuity of `from_parser_any_fact_order`: all hypotheses hold for `exA`, `exB` -/
example : ∃ s ac s' ac', fromParser (PState.ofFacts exA) = some (s, ac) ∧
    fromParser (PState.ofFacts exB) = some (s', ac') ∧ ac.length = 2 ∧ ac'.length = 2 ∧
    ac.map (eval s) = ac'.map (eval s') := by
  have hp : exA.Perm exB := by decide
  have ⟨s, ac, s', ac', h1, h2, h3, h4, h5, _⟩ := from_parser_any_fact_order exA exB hp
    (by decide) (by decide) (by decide) (by simp [VBOT, exA, namesOf])
  exact ⟨s, ac, s', ac', h1, h2, h3, h4, h5⟩
-- … and the handles do differ: the nodes of ¬b and ¬a are created in the other order
#guard (fromParser (PState.ofFacts exA)).map (·.2) == some [5, 4]
#guard (fromParser (PState.ofFacts exB)).map (·.2) == some [4, 5]
-- non-vacuity of `from_parser_panics_exactly`: a well-formed file with a use before the declaration,
-- a condition for an undeclared label, an undeclared atom
example : WellFormedAdf exA := by decide
example : ¬ WellFormedAdf [.stmt ['a'], .ac ['b'] .top] := by decide
example : ¬ WellFormedAdf [.stmt ['a'], .ac ['a'] (.atom ['b'])] := by decide
#guard (fromParser (PState.ofFacts [.stmt ['a'], .ac ['b'] .top])).isNone
#guard (fromParser (PState.ofFacts [.stmt ['a'], .ac ['a'] (.atom ['b'])])).isNone
-- zero / several conditions: `s(a). s(b). ac(a,c(v)). ac(a,b).` — `a` gets `b` (last wins), `b` gets ⊥
example : condOf [.stmt ['a'], .stmt ['b'], .ac ['a'] .top, .ac ['a'] (.atom ['b'])] ['a'] = .atom ['b'] ∧
    condOf [.stmt ['a'], .stmt ['b'], .ac ['a'] .top, .ac ['a'] (.atom ['b'])] ['b'] = .bot := by decide
#guard (fromParser (PState.ofFacts [.stmt ['a'], .stmt ['b'], .ac ['a'] .top, .ac ['a'] (.atom ['b'])])).map (·.2)
  == some [3, 0]
-- without "at most one condition per statement" the order of the facts matters
#guard (fromParser (PState.ofFacts [.stmt ['a'], .stmt ['b'], .ac ['a'] (.atom ['b']), .ac ['a'] .top])).map (·.2)
  == some [1, 0]

end C09

#print axioms C09.hybrid_import_written_condition
#print axioms C09.cli_bridge_is_this_bridge
#print axioms C09.cli_hybrid_step_is_this_hybrid_step
#print axioms C09.dump_spec_holds_for_reduced_shared_diagrams
#print axioms C09.store_dump_is_ordered
#print axioms C09.real_shaped_dump
#print axioms C09.biodivine_from_parser_any_order
#print axioms C09.hybrid_complete_stable_from_facts
