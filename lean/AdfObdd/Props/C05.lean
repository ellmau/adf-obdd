import AdfObdd.ClosureSound
import AdfObdd.SearchModel
import AdfObdd.Stable
import AdfObdd.NgEndToEnd
import AdfObdd.NgChannel
import AdfObdd.NgPartialHeu
import AdfObdd.NgChannelMore
import AdfObdd.NgFuelBound
/-! # C05 — the nogood-learning search is exact and terminates for every heuristic

`ng_search_exact` (= `ng_search_statement`): for the executable model `SM.ngSearch` (`SM.ngIter`/`SM.ngRun`, what
the driver runs handle for handle against `Adf::nogood_internal`), every heuristic of `SM.Heu` (Simple, both
counting heuristics, the scripted shape of Rand/custom heuristics under every seed), every well-formed store and
every valid vector of acceptance conditions: there is a fuel within which the loop halts, and the emitted
interpretations are, without repetition, exactly the stable models (`stable = true`) resp. the two-valued models
(`stable = false`) of the conditions' Boolean functions. `ng_search_exact_from_formulas` is the same from the
written conditions (`from_parser` model), where the only side condition of the two-valued mode — the conditions
mention statements of the framework only — is a property of the text. The fuel is explicit: at every fuel
`≥ NConc.ngBound n = 2^(n+3)` (`n` statements) the loop has halted with the exact answer.

The proof has three layers.
1. `NGen`: an abstract machine over the type `V` of the interpretation vector (`dec : V → PA`) and of the nogood
   store, all laws relativised to shape predicates carried by the invariant; the heuristic is an oracle indexed by
   the iteration number. Safety `NGen.run_exact`, liveness `NGen.halts_within` (big-step induction; an iteration
   that changes the vector but not its decided part is followed by one that classifies: `GLive.gam_idem`).
2. `NSem`: the instance `V := List BoolFn` (denotations of the handle vector), buckets with `addNg`, the concrete
   `conclusionClosure`, `semRound`, semantic consistency/leaf tests — no free parameter left but the raw heuristic
   answers. On denotations the machine's test "`gam cur ≠ cur`" is the code's `update_fp` on handles (canonicity),
   so the simulation is LOCK-STEP.
3. `NConc`: every concrete operation computes the semantic one under `v ↦ v.map (eval s)`; the oracle is read off
   the concrete run itself.

**Channel clause** (`channel_variants_statement`): the search as a producer that `send`s each model into a channel
(unbounded or bounded) and drops the sender when `nogood_internal` returns, a consumer iterating over the receiver,
EVERY schedule of the two (`Channel.lean`, `NgChannel.lean`). In `Chan.Cfg` the flag `closed` means "the ONE sender
the search was handed is dropped"; it coincides with "channel disconnected" only when no clone exists - the clone
model is `Chan.MCfg`. `Chan.run` treats `bounded(0)` as "always full"; the rendezvous model is `Chan.Zero`. -/
namespace C05

theorem generic_exact_if_halts {V Sto : Type} {T : Asg → Prop} {P : NGen.GParams V Sto} (hP : NGen.GSound T P)
    (fuel k : Nat) (s s' : NGen.St V Sto) (hinv : NGen.SInv T P s) (hr : NGen.run P k fuel s = some s') :
    (∀ σ, T σ → ∃ o ∈ s'.out, Matches o σ) ∧ (∀ o ∈ s'.out, ∀ σ, Matches o σ → T σ) ∧ s'.out.Nodup ∧
    (∀ o ∈ s'.out, P.twoVal o = true ∧ P.OkG o) :=
  NGen.run_exact hP fuel k s s' hinv hr

theorem generic_terminates {V Sto : Type} {P : NGen.GParams V Sto} {n : Nat} {mu : PA → Nat} (hL : NGen.GLive P n mu)
    (g : V) (st : Sto) (hok : P.Ok g) (hoks : P.OkS st) (hemp : ∀ x, ¬ P.Mem st x) (k : Nat) :
    ∃ fuel s', NGen.run P k fuel { cur := g, store := st, stack := [], backtrack := false, choice := false, out := [] } = some s' := by
  obtain ⟨fuel, s', -, h⟩ := NGen.halts_within hL g st hok hoks hemp k
  exact ⟨fuel, s', h⟩

theorem semantic_laws_sound {D : List BoolFn} {n : Nat} {stable : Bool} (hD : D.length = n)
    (hS : stable = false → ∀ f ∈ D, NSem.Supp n f) (raw : Nat → Option (Nat × Bool)) :
    NGen.GSound (NSem.Target D n stable) (NSem.semP D n stable raw) := NSem.sem_sound hD hS raw

theorem semantic_laws_live {D : List BoolFn} {n : Nat} {stable : Bool} (raw : Nat → Option (Nat × Bool)) :
    NGen.GLive (NSem.semP D n stable raw) n size := NSem.sem_live raw

theorem semantic_machine_exact {D : List BoolFn} {n : Nat} {stable : Bool} (hD : D.length = n)
    (hS : stable = false → ∀ f ∈ D, NSem.Supp n f) (raw : Nat → Option (Nat × Bool))
    (V0 : List BoolFn) (hok : NSem.OkV D n stable V0) (hg : ∀ σ, NSem.Target D n stable σ → Matches (cv V0) σ)
    (fuel : Nat) (s' : NGen.St (List BoolFn) (List (List PA)))
    (hr : NGen.run (NSem.semP D n stable raw) 0 fuel (NSem.initSt V0 n) = some s') :
    (∀ σ, NSem.Target D n stable σ → ∃ o ∈ s'.out, Matches o σ) ∧
    (∀ o ∈ s'.out, ∀ σ, Matches o σ → NSem.Target D n stable σ) ∧ s'.out.Nodup ∧
    (∀ o ∈ s'.out, NSem.twoV o = true ∧ o.length = n) :=
  NSem.sem_exact hD hS raw V0 hok hg fuel s' hr

theorem semantic_machine_halts {D : List BoolFn} {n : Nat} {stable : Bool} (raw : Nat → Option (Nat × Bool))
    (V0 : List BoolFn) (hok : NSem.OkV D n stable V0) :
    ∃ fuel s', NGen.run (NSem.semP D n stable raw) 0 fuel (NSem.initSt V0 n) = some s' :=
  NSem.sem_halts raw V0 hok

/-- `conclusion_closure` on handle vectors = the `PA`-level closure, then `update_term_vec` -/
theorem concrete_closure_is_abstract_closure (bs : List (List PA)) (v : List Nat) :
    SM.closureF bs v = NConc.liftC v (conclusionClosure bs (toPA v)) := NConc.closureF_eq bs v

theorem leaf_test_decides_stability (s : Store) (n : Nat) (ac cand : List Nat) (w : WF s)
    (hac : ∀ t ∈ ac, t < s.nodes.size) (hl : ac.length = n) (hc : cand.length = n) :
    WF (stabilityCheck s n ac cand).1 ∧ Ext s (stabilityCheck s n ac cand).1 ∧
    ((stabilityCheck s n ac cand).2 = true ↔
      ∀ w', IsLfp (redu (ac.map (eval s)) (toPA cand)) w' → w' = toPA cand) :=
  NConc.stabilityCheck_spec s n ac cand w hac hl hc

/-- for the scripted (Rand/custom) shape this covers EVERY generator output -/
theorem heuristics_valid (h : SM.Heu) (s : Store) (v : List Nat) (time i t : Nat)
    (hc : SM.heuCall h s v time = some (i, t)) :
    t < 2 ∧ i < v.length ∧ ∃ x, v[i]? = some x ∧ isTV x = false := NConc.heuCall_valid h s v time i t hc

theorem heuristics_total (h : SM.Heu) (s : Store) (v : List Nat) (time : Nat)
    (hc : SM.heuCall h s v time = none) : v.all isTV = true := NConc.heuCall_none h s v time hc

/-- `NConc.cIter` takes an arbitrary heuristic FUNCTION in the place of `SM.heuCall h` -/
theorem concrete_iteration_phases (h : SM.Heu) (n : Nat) (ac : List Nat) (stable : Bool) (st : SM.NgS) :
    SM.ngIter h n ac stable st = NConc.cIter (SM.heuCall h) n ac stable st := NConc.ngIter_eq h n ac stable st

theorem builtin_heuristics_ok (h : SM.Heu) : NConc.HeuOK (SM.heuCall h) := NConc.heuOK_builtin h

/-- lock-step simulation: one concrete iteration is one iteration of the semantic machine whose heuristic
oracle answers, in iteration `k`, what the concrete heuristic answers (`hraw`) -/
theorem concrete_iteration_is_abstract_iteration {s0 : Store} {n : Nat} (ac : List Nat) (stable : Bool)
    (raw : Nat → Option (Nat × Bool)) (w0 : WF s0) (hac0 : ∀ t ∈ ac, t < s0.nodes.size) (hn : ac.length = n)
    {h : NConc.CHeu} (hok : NConc.HeuOK h) (k : Nat) {c : SM.NgS} {a : NConc.ASt} (hr : NConc.Rel c a)
    (hi : NConc.CInv s0 n c) (hraw : raw k = NConc.conv (h c.s c.cur c.time)) :
    match NGen.iter (NConc.PP s0 n ac stable raw) k a with
    | NGen.Res.done a' => (NConc.cIter h n ac stable c).done = true ∧ (NConc.cIter h n ac stable c).out.map toPA = a'.out
    | NGen.Res.cont a' => NConc.Rel (NConc.cIter h n ac stable c) a' ∧ NConc.CInv s0 n (NConc.cIter h n ac stable c) :=
  (NConc.sim_iter ac stable raw w0 hac0 hn hok k hr hi hraw).1

/-- full statement for the concrete machine. The last hypothesis, for the two-valued mode only: the
conditions depend on the statements `0 … n-1` only (for a framework that comes out of the parser: every
atom is a declared statement). Without it the two-valued claim is false of the model — store
`mkNode Store.init 5 0 1`, `n = 1`, `ac = [2]` (the condition of statement 0 is the foreign variable 5):
the search emits `[1]` and `[0]`, neither of which is a fixpoint of `Γ` (`#guard` at the end of this
file); the consistency test only looks at entries that are constant. (The parser cannot produce such conditions: an
undeclared atom makes `from_parser` panic; so this is a side condition of the statement about
arbitrary handle vectors, not a defect of the code.) The stable mode needs nothing: its stability
test re-derives every value. -/
def ng_search_statement : Prop :=
  ∀ (h : SM.Heu) (s : Store) (n : Nat) (ac : List Nat) (stable : Bool),
    WF s → ac.length = n → (∀ t ∈ ac, t < s.nodes.size) →
    (stable = false → ∀ t ∈ ac, ∀ σ τ : Asg, (∀ i, i < n → σ i = τ i) → eval s t σ = eval s t τ) →
    ∃ fuel, (SM.ngSearch h fuel s n ac stable).2.2.2 = true ∧
      let D := ac.map (eval s)
      let out := (SM.ngSearch h fuel s n ac stable).2.1.map (fun v => v.map storeIsConst)
      out.Nodup ∧ ∀ v : I3, v ∈ out ↔
        (v.length = n ∧ TotalI v ∧ Gam D v = v ∧
          (stable = true → ∀ w : I3, IsLfp (redu D v) w → ∀ i : Nat, v[i]? = some (some true) → w[i]? = some (some true)))

/-- **C05**: the concrete nogood-learning search halts and emits exactly the stable models (two-valued
mode: exactly the two-valued models), each once — for every heuristic of `SM.Heu`, every well-formed
store, every valid vector of conditions -/
theorem ng_search_exact : ng_search_statement := by
  intro h s n ac stable w hn hv hsup
  exact NConc.ng_end_to_end h s n ac stable w hn hv hsup

/-- **C05 for arbitrary custom heuristics**: the same for the loop run with ANY function of (store,
vector shown, number of earlier calls) that always proposes an undecided statement with a truth
value (`NConc.HeuOK`) — `NConc.cSearch hc` is `SM.ngSearch` with `hc` in the place of `SM.heuCall h`
(`NConc.ngSearch_eq`) -/
theorem ng_search_exact_any_heuristic (hc : NConc.CHeu) (hok : NConc.HeuOK hc) (s : Store) (n : Nat) (ac : List Nat)
    (stable : Bool) (w0 : WF s) (hn : ac.length = n) (hac0 : ∀ t ∈ ac, t < s.nodes.size)
    (hsup : stable = false → ∀ t ∈ ac, ∀ σ τ : Asg, (∀ i, i < n → σ i = τ i) → eval s t σ = eval s t τ) :
    ∃ fuel, (NConc.cSearch hc fuel s n ac stable).2.2.2 = true ∧
      let D := ac.map (eval s)
      let out := (NConc.cSearch hc fuel s n ac stable).2.1.map (fun v => v.map storeIsConst)
      out.Nodup ∧ ∀ v : I3, v ∈ out ↔
        (v.length = n ∧ TotalI v ∧ Gam D v = v ∧
          (stable = true → ∀ w : I3, IsLfp (redu D v) w → ∀ i : Nat, v[i]? = some (some true) → w[i]? = some (some true))) :=
  NConc.search_exact_any_heuristic hc hok s n ac stable w0 hn hac0 hsup

theorem ng_search_exact_stable (h : SM.Heu) (s : Store) (n : Nat) (ac : List Nat) (w : WF s) (hn : ac.length = n)
    (hv : ∀ t ∈ ac, t < s.nodes.size) :
    ∃ fuel, (SM.ngSearch h fuel s n ac true).2.2.2 = true ∧
      let D := ac.map (eval s)
      let out := (SM.ngSearch h fuel s n ac true).2.1.map (fun v => v.map storeIsConst)
      out.Nodup ∧ ∀ v : I3, v ∈ out ↔
        (v.length = n ∧ TotalI v ∧ Gam D v = v ∧
          ∀ w : I3, IsLfp (redu D v) w → ∀ i : Nat, v[i]? = some (some true) → w[i]? = some (some true)) := by
  obtain ⟨fuel, h1, h2, h3⟩ := ng_search_exact h s n ac true w hn hv (fun hc => by cases hc)
  refine ⟨fuel, h1, h2, ?_⟩
  intro v
  rw [h3 v]
  constructor
  · intro ⟨a, b, c, d⟩; exact ⟨a, b, c, d rfl⟩
  · intro ⟨a, b, c, d⟩; exact ⟨a, b, c, fun _ => d⟩

/-- C05 end to end from the written acceptance conditions (`from_parser` model + search): the side
condition of the two-valued mode is "every atom is a statement of the framework" -/
theorem ng_search_exact_from_formulas (h : SM.Heu) (fms : List Fm) (stable : Bool) (hn : fms.length ≤ VBOT)
    (hv : ∀ f ∈ fms, NConc.atomsLt fms.length f) :
    ∃ fuel, (SM.ngSearch h fuel (buildNative fms.length fms).1 fms.length (buildNative fms.length fms).2 stable).2.2.2 = true ∧
      let D := fms.map Fm.sem
      let out := (SM.ngSearch h fuel (buildNative fms.length fms).1 fms.length (buildNative fms.length fms).2 stable).2.1.map
        (fun v => v.map storeIsConst)
      out.Nodup ∧ ∀ v : I3, v ∈ out ↔
        (v.length = fms.length ∧ TotalI v ∧ Gam D v = v ∧
          (stable = true → ∀ w : I3, IsLfp (redu D v) w → ∀ i : Nat, v[i]? = some (some true) → w[i]? = some (some true))) := by
  have ⟨w, hl, hvalid, e, hsup⟩ := NConc.compiled_facts fms hn hv
  have := ng_search_exact h _ fms.length _ stable w hl hvalid (fun _ => hsup)
  simp only [e] at this
  exact this

/-! ## the explicit iteration bound

`ng_search_exact` says "there is a fuel". The termination argument (induction on the number `d` of
undecided statements, `AdfObdd/NgBound.lean`) counts the iterations (`NGen.bigstepN`): exploring the subtree
below a state with `d` undecided statements takes at most `stepsT d` iterations, `stepsT 0 = 2`,
`stepsT (d+1) = 2 * stepsT d + 6`, i.e. `8 * 2^d - 6`; from the start state two more iterations are needed. The simulation concrete ↔ semantic machine is
lock-step, so the same number bounds `SM.ngRun` (`AdfObdd/NgFuelBound.lean`):

    NConc.ngBound n = 2^(n+3)      (n = number of statements; not tight)

It is exponential in `n` (it has to be: the loop emits up to `2^n` models), so it reaches the driver's
10^6 exactly for `n ≤ 16`. For larger frameworks "halted within 10^6" stays a hypothesis of the CLI /
server theorems and is established by evaluation only; the Rust loop itself has no bound. -/

theorem generic_terminates_within {V Sto : Type} {P : NGen.GParams V Sto} {n : Nat} {mu : PA → Nat}
    (hL : NGen.GLive P n mu) (g : V) (st : Sto) (hok : P.Ok g) (hoks : P.OkS st) (hemp : ∀ x, ¬ P.Mem st x) (k : Nat) :
    ∃ fuel s', fuel ≤ NGen.stepsT n + 2 ∧
      NGen.run P k fuel { cur := g, store := st, stack := [], backtrack := false, choice := false, out := [] } = some s' :=
  NGen.halts_within hL g st hok hoks hemp k

theorem generic_step_count_closed_form (d : Nat) : NGen.stepsT d + 6 = 8 * 2 ^ d := NGen.stepsT_closed d

theorem generic_step_count_le_bound (n : Nat) : NGen.stepsT n + 2 ≤ NConc.ngBound n := NConc.stepsT_le_ngBound n

/-- halting needs neither the support hypothesis of the two-valued mode nor anything about the heuristic
beyond `SM.Heu`; the loop has halted at EVERY fuel from `2^(n+3)` on -/
def ng_search_halts_within_statement : Prop :=
  ∀ (h : SM.Heu) (s : Store) (n : Nat) (ac : List Nat) (stable : Bool),
    WF s → ac.length = n → (∀ t ∈ ac, t < s.nodes.size) →
    ∀ fuel, NConc.ngBound n ≤ fuel → (SM.ngSearch h fuel s n ac stable).2.2.2 = true

/-- **C05, explicit fuel**: `SM.ngSearch` has halted within `NConc.ngBound n = 2^(n+3)` iterations -/
theorem ng_search_halts_within_explicit_bound : ng_search_halts_within_statement := by
  intro h s n ac stable w hn hv fuel hf
  exact NConc.ngSearch_halts_within h s n ac stable w hn hv fuel hf

theorem ng_search_halts_within_any_heuristic (hc : NConc.CHeu) (hok : NConc.HeuOK hc) (s : Store) (n : Nat)
    (ac : List Nat) (stable : Bool) (w0 : WF s) (hn : ac.length = n) (hac0 : ∀ t ∈ ac, t < s.nodes.size) :
    ∀ fuel, NConc.ngBound n ≤ fuel → (NConc.cSearch hc fuel s n ac stable).2.2.2 = true :=
  NConc.search_halts_within_any_heuristic hc hok s n ac stable w0 hn hac0

/-- **`ng_search_exact` with the quantifier over the fuel turned round**: at EVERY fuel `≥ 2^(n+3)` the
search has halted and the emitted list is exactly the models, each once -/
theorem ng_search_exact_within_explicit_bound (h : SM.Heu) (s : Store) (n : Nat) (ac : List Nat) (stable : Bool)
    (w : WF s) (hn : ac.length = n) (hv : ∀ t ∈ ac, t < s.nodes.size)
    (hsup : stable = false → ∀ t ∈ ac, ∀ σ τ : Asg, (∀ i, i < n → σ i = τ i) → eval s t σ = eval s t τ) :
    ∀ fuel, NConc.ngBound n ≤ fuel → (SM.ngSearch h fuel s n ac stable).2.2.2 = true ∧
      let D := ac.map (eval s)
      let out := (SM.ngSearch h fuel s n ac stable).2.1.map (fun v => v.map storeIsConst)
      out.Nodup ∧ ∀ v : I3, v ∈ out ↔
        (v.length = n ∧ TotalI v ∧ Gam D v = v ∧
          (stable = true → ∀ w : I3, IsLfp (redu D v) w → ∀ i : Nat, v[i]? = some (some true) → w[i]? = some (some true))) := by
  intro fuel hf
  -- the result at a fuel within which the search halts does not depend on the fuel
  have hhalt := ng_search_halts_within_explicit_bound h s n ac stable w hn hv fuel hf
  obtain ⟨f0, h0, hex⟩ := ng_search_exact h s n ac stable w hn hv hsup
  rw [NConc.ngSearch_eq_of_done h s n ac stable h0 hhalt]
  exact ⟨h0, hex⟩

theorem ng_search_exact_within_from_formulas (h : SM.Heu) (fms : List Fm) (stable : Bool) (hn : fms.length ≤ VBOT)
    (hv : ∀ f ∈ fms, NConc.atomsLt fms.length f) :
    ∀ fuel, NConc.ngBound fms.length ≤ fuel →
      (SM.ngSearch h fuel (buildNative fms.length fms).1 fms.length (buildNative fms.length fms).2 stable).2.2.2 = true ∧
      let D := fms.map Fm.sem
      let out := (SM.ngSearch h fuel (buildNative fms.length fms).1 fms.length (buildNative fms.length fms).2 stable).2.1.map
        (fun v => v.map storeIsConst)
      out.Nodup ∧ ∀ v : I3, v ∈ out ↔
        (v.length = fms.length ∧ TotalI v ∧ Gam D v = v ∧
          (stable = true → ∀ w : I3, IsLfp (redu D v) w → ∀ i : Nat, v[i]? = some (some true) → w[i]? = some (some true))) := by
  intro fuel hf
  have ⟨w, hl, hvalid, e, hsup⟩ := NConc.compiled_facts fms hn hv
  have := ng_search_exact_within_explicit_bound h _ fms.length _ stable w hl hvalid (fun _ => hsup) fuel hf
  simp only [e] at this
  exact this

theorem explicit_bound_2 : NConc.ngBound 2 = 32 := rfl
theorem explicit_bound_5 : NConc.ngBound 5 = 256 := rfl
theorem explicit_bound_6 : NConc.ngBound 6 = 512 := rfl
theorem explicit_bound_8 : NConc.ngBound 8 = 2048 := rfl
theorem explicit_bound_16 : NConc.ngBound 16 = 524288 := rfl
theorem explicit_bound_17 : NConc.ngBound 17 = 1048576 := rfl

/-- **the driver's bound `10^6` suffices for at most 16 statements** (every heuristic, both modes) -/
theorem ng_search_halts_within_driver_bound (h : SM.Heu) (s : Store) (n : Nat) (ac : List Nat) (stable : Bool)
    (w : WF s) (hn : ac.length = n) (hv : ∀ t ∈ ac, t < s.nodes.size) (h16 : n ≤ 16) :
    (SM.ngSearch h 1000000 s n ac stable).2.2.2 = true :=
  ng_search_halts_within_explicit_bound h s n ac stable w hn hv 1000000
    ((NConc.ngBound_le_million_iff n).mpr h16)

theorem builtin_heuristics_valid (h : SM.Heu) (s : Store) (v : List Nat) (time i t : Nat)
    (hc : SM.heuCall h s v time = some (i, t)) : t < 2 ∧ ∃ x, (x, i) ∈ v.zipIdx ∧ isTV x = false := by
  have ⟨h1, h2, x, h3, h4⟩ := NConc.heuCall_valid h s v time i t hc
  refine ⟨h1, x, ?_, h4⟩
  rw [List.mem_zipIdx_iff_getElem?]
  simpa using h3

/-- the right-hand side of `ng_search_statement`, for a list of handle vectors -/
def ExactModels (s : Store) (n : Nat) (ac : List Nat) (stable : Bool) (res : List (List Nat)) : Prop :=
  let D := ac.map (eval s)
  let out := res.map (fun v => v.map storeIsConst)
  out.Nodup ∧ ∀ v : I3, v ∈ out ↔
    (v.length = n ∧ TotalI v ∧ Gam D v = v ∧
      (stable = true → ∀ w : I3, IsLfp (redu D v) w → ∀ i : Nat, v[i]? = some (some true) → w[i]? = some (some true)))

/-- full statement of the channel clause for `stable_nogood_channel` (`stable = true`) and
`two_val_nogood_channel` (`stable = false`): there is a list `res` - the list `SM.ngSearch` returns, which is
exactly the stable resp. two-valued models, each once - such that for EVERY channel capacity (`none` =
unbounded, `some k` = `bounded(k)`) and EVERY schedule of producer and consumer steps
 1. what the consumer has received, followed by what is queued, is a prefix of `res`;
 2. once the sender is dropped, received ++ queued = `res`, and the events at the sending end were: one `send`
    per element of `res`, in order, then the `close` - and (3.) before that no `close`;
 4. whenever the consumer's `for … in receiver` has ended, it has received exactly `res` (same order, same
    multiplicities) and the channel is closed and empty;
 5. if the capacity is ≥ 1, every schedule with `m` fair rounds (`m` ≥ the total work) ends the consumer's loop;
 6. after the sender is dropped nothing changes at the sending end under any continuation of the schedule. -/
def channel_variants_statement : Prop :=
  ∀ (h : SM.Heu) (s : Store) (n : Nat) (ac : List Nat) (stable : Bool),
    WF s → ac.length = n → (∀ t ∈ ac, t < s.nodes.size) →
    (stable = false → ∀ t ∈ ac, ∀ σ τ : Asg, (∀ i, i < n → σ i = τ i) → eval s t σ = eval s t τ) →
    ∃ fuel, (SM.ngSearch h fuel s n ac stable).2.2.2 = true ∧
      let res := (SM.ngSearch h fuel s n ac stable).2.1
      ExactModels s n ac stable res ∧
      ∀ (cap : Option Nat) (sched : List Chan.Ev),
        let c := NConc.chanRun (SM.heuCall h) cap sched s n ac stable
        (c.got ++ c.buf <+: res) ∧
        (c.closed = true → c.got ++ c.buf = res ∧ c.log = res.map Chan.ChEv.send ++ [Chan.ChEv.close]) ∧
        (c.closed = false → ∀ e ∈ c.log, e ≠ Chan.ChEv.close) ∧
        (c.consDone = true → c.got = res ∧ c.closed = true ∧ c.buf = []) ∧
        ((∀ k, cap = some k → 1 ≤ k) → ∀ m, Chan.Fair m sched → fuel + res.length + 1 + res.length + 1 ≤ m →
            c.consDone = true) ∧
        (c.closed = true → ∀ more : List Chan.Ev,
            let c' := NConc.chanRun (SM.heuCall h) cap (sched ++ more) s n ac stable
            c'.closed = true ∧ c'.log = c.log ∧ c'.got ++ c'.buf = c.got ++ c.buf)

theorem channel_variants_any_heuristic (hc : NConc.CHeu) (hok : NConc.HeuOK hc) (s : Store) (n : Nat) (ac : List Nat)
    (stable : Bool) (w0 : WF s) (hn : ac.length = n) (hac0 : ∀ t ∈ ac, t < s.nodes.size)
    (hsup : stable = false → ∀ t ∈ ac, ∀ σ τ : Asg, (∀ i, i < n → σ i = τ i) → eval s t σ = eval s t τ) :
    ∃ fuel, (NConc.cSearch hc fuel s n ac stable).2.2.2 = true ∧
      let res := (NConc.cSearch hc fuel s n ac stable).2.1
      ExactModels s n ac stable res ∧
      ∀ (cap : Option Nat) (sched : List Chan.Ev),
        let c := NConc.chanRun hc cap sched s n ac stable
        (c.got ++ c.buf <+: res) ∧
        (c.closed = true → c.got ++ c.buf = res ∧ c.log = res.map Chan.ChEv.send ++ [Chan.ChEv.close]) ∧
        (c.closed = false → ∀ e ∈ c.log, e ≠ Chan.ChEv.close) ∧
        (c.consDone = true → c.got = res ∧ c.closed = true ∧ c.buf = []) ∧
        ((∀ k, cap = some k → 1 ≤ k) → ∀ m, Chan.Fair m sched → fuel + res.length + 1 + res.length + 1 ≤ m →
            c.consDone = true) ∧
        (c.closed = true → ∀ more : List Chan.Ev,
            let c' := NConc.chanRun hc cap (sched ++ more) s n ac stable
            c'.closed = true ∧ c'.log = c.log ∧ c'.got ++ c'.buf = c.got ++ c.buf) := by
  obtain ⟨fuel, hd, hex⟩ := ng_search_exact_any_heuristic hc hok s n ac stable w0 hn hac0 hsup
  refine ⟨fuel, hd, hex, ?_⟩
  intro cap sched
  have ⟨a, b, c, d, e⟩ := NConc.channel_delivers hc cap s n ac stable hd sched
  exact ⟨a, b, c, d, e, fun hcl more => NConc.channel_frozen_after_close hc cap s n ac stable sched more hcl⟩

/-- **C05, channel clause**: the channel variants deliver exactly the stable (resp. two-valued) models, each
once, in the order in which `SM.ngSearch` lists them, under every schedule and every capacity; the sender is
dropped exactly after the last model was sent, nothing is sent afterwards, and the consumer's loop over the
channel ends (under every fair schedule) having received exactly that list -/
theorem channel_variants_deliver_exactly : channel_variants_statement := by
  intro h s n ac stable w hn hv hsup
  have := channel_variants_any_heuristic (SM.heuCall h) (NConc.heuOK_builtin h) s n ac stable w hn hv hsup
  simp only [← NConc.ngSearch_eq] at this
  exact this

theorem iterator_variant_exact_any_mode (h : SM.Heu) (s : Store) (n : Nat) (ac : List Nat) (stable : Bool) (w : WF s)
    (hn : ac.length = n) (hv : ∀ t ∈ ac, t < s.nodes.size)
    (hsup : stable = false → ∀ t ∈ ac, ∀ σ τ : Asg, (∀ i, i < n → σ i = τ i) → eval s t σ = eval s t τ) :
    ∃ fuel, (SM.ngSearch h fuel s n ac stable).2.2.2 = true ∧
      let res := (SM.ngSearch h fuel s n ac stable).2.1
      ExactModels s n ac stable res ∧
      ∀ a b, fuel + res.length + 1 ≤ a → res.length + 1 ≤ b →
        let c := NConc.chanRun (SM.heuCall h) none (List.replicate a Chan.Ev.prod ++ List.replicate b Chan.Ev.cons) s n ac stable
        c.consDone = true ∧ c.got = res := by
  obtain ⟨fuel, hd, hex⟩ := ng_search_exact h s n ac stable w hn hv hsup
  refine ⟨fuel, hd, hex, ?_⟩
  intro a b ha hb
  rw [NConc.ngSearch_eq] at hd ha hb ⊢
  exact NConc.iterator_variant (SM.heuCall h) s n ac stable hd a b ha hb

/-- **the iterator variant `stable_nogood`**: unbounded channel created inside, the whole search first, the
sender dropped at its end, then `r.iter().collect()`: the collection ends and is exactly the list of stable
models `SM.ngSearch` returns (`a`, `b` = numbers of producer / consumer steps granted, any sufficiently large) -/
theorem iterator_variant_exact (h : SM.Heu) (s : Store) (n : Nat) (ac : List Nat) (w : WF s) (hn : ac.length = n)
    (hv : ∀ t ∈ ac, t < s.nodes.size) :
    ∃ fuel, (SM.ngSearch h fuel s n ac true).2.2.2 = true ∧
      let res := (SM.ngSearch h fuel s n ac true).2.1
      ExactModels s n ac true res ∧
      ∀ a b, fuel + res.length + 1 ≤ a → res.length + 1 ≤ b →
        let c := NConc.chanRun (SM.heuCall h) none (List.replicate a Chan.Ev.prod ++ List.replicate b Chan.Ev.cons) s n ac true
        c.consDone = true ∧ c.got = res :=
  iterator_variant_exact_any_mode h s n ac true w hn hv (fun hc => by cases hc)

/-- **the CLI's `--twoval` consumer** (bin/src/main.rs:238-242: `unbounded()`, the whole call of
`two_val_nogood_channel`, then `for model in receiver.into_iter()`): sequential and two-valued.  This schedule
is not `Chan.Fair m` for useful `m`, so clause 5 of `channel_variants_statement` does not reach it; here it is:
the loop over the receiver ends and has received exactly the list of two-valued models the search returns -/
theorem iterator_variant_exact_two_valued (h : SM.Heu) (s : Store) (n : Nat) (ac : List Nat) (w : WF s)
    (hn : ac.length = n) (hv : ∀ t ∈ ac, t < s.nodes.size)
    (hsup : ∀ t ∈ ac, ∀ σ τ : Asg, (∀ i, i < n → σ i = τ i) → eval s t σ = eval s t τ) :
    ∃ fuel, (SM.ngSearch h fuel s n ac false).2.2.2 = true ∧
      let res := (SM.ngSearch h fuel s n ac false).2.1
      ExactModels s n ac false res ∧
      ∀ a b, fuel + res.length + 1 ≤ a → res.length + 1 ≤ b →
        let c := NConc.chanRun (SM.heuCall h) none (List.replicate a Chan.Ev.prod ++ List.replicate b Chan.Ev.cons) s n ac false
        c.consDone = true ∧ c.got = res :=
  iterator_variant_exact_any_mode h s n ac false w hn hv (fun _ => hsup)

theorem rendezvous_any_heuristic (hc : NConc.CHeu) (hok : NConc.HeuOK hc) (s : Store) (n : Nat) (ac : List Nat)
    (stable : Bool) (w0 : WF s) (hn : ac.length = n) (hac0 : ∀ t ∈ ac, t < s.nodes.size)
    (hsup : stable = false → ∀ t ∈ ac, ∀ σ τ : Asg, (∀ i, i < n → σ i = τ i) → eval s t σ = eval s t τ) :
    ∃ fuel, (NConc.cSearch hc fuel s n ac stable).2.2.2 = true ∧
      let res := (NConc.cSearch hc fuel s n ac stable).2.1
      ExactModels s n ac stable res ∧
      ∀ (sched : List Chan.Ev),
        let c := NConc.chanRunZ hc sched s n ac stable
        (c.got <+: res ∧ c.buf = []) ∧
        (c.closed = true → c.got = res ∧ c.log = res.map Chan.ChEv.send ++ [Chan.ChEv.close]) ∧
        (c.consDone = true → c.got = res ∧ c.closed = true) ∧
        (∀ m, Chan.Fair m sched → fuel + res.length + 1 + res.length + 1 ≤ m → c.consDone = true) := by
  obtain ⟨fuel, hd, hex⟩ := ng_search_exact_any_heuristic hc hok s n ac stable w0 hn hac0 hsup
  exact ⟨fuel, hd, hex, fun sched => NConc.rendezvous_delivers hc s n ac stable hd sched⟩

/-- **`bounded(0)`** (crossbeam's zero-capacity channel is a rendezvous: `send` completes when a receiver takes
the message).  `Chan.run` with `cap = some 0` never sends (`full (some 0) _ = true`), so the clauses of
`channel_variants_statement` hold there for the wrong reason and clause 5 excludes it.  In the rendezvous model
`Chan.Zero` (the hand-over is one joint event, linearised as the consumer's step; a producer standing at `send`
is blocked) clauses 1, 2, 4 and 5 of `channel_variants_statement` hold with nothing ever queued -/
theorem rendezvous_channel_delivers_exactly (h : SM.Heu) (s : Store) (n : Nat) (ac : List Nat) (stable : Bool) (w : WF s)
    (hn : ac.length = n) (hv : ∀ t ∈ ac, t < s.nodes.size)
    (hsup : stable = false → ∀ t ∈ ac, ∀ σ τ : Asg, (∀ i, i < n → σ i = τ i) → eval s t σ = eval s t τ) :
    ∃ fuel, (SM.ngSearch h fuel s n ac stable).2.2.2 = true ∧
      let res := (SM.ngSearch h fuel s n ac stable).2.1
      ExactModels s n ac stable res ∧
      ∀ (sched : List Chan.Ev),
        let c := NConc.chanRunZ (SM.heuCall h) sched s n ac stable
        (c.got <+: res ∧ c.buf = []) ∧
        (c.closed = true → c.got = res ∧ c.log = res.map Chan.ChEv.send ++ [Chan.ChEv.close]) ∧
        (c.consDone = true → c.got = res ∧ c.closed = true) ∧
        (∀ m, Chan.Fair m sched → fuel + res.length + 1 + res.length + 1 ≤ m → c.consDone = true) := by
  have := rendezvous_any_heuristic (SM.heuCall h) (NConc.heuOK_builtin h) s n ac stable w hn hv hsup
  simp only [← NConc.ngSearch_eq] at this
  exact this

theorem receiver_dropped_any_heuristic (hc : NConc.CHeu) (hok : NConc.HeuOK hc) (s : Store) (n : Nat) (ac : List Nat)
    (stable : Bool) (w0 : WF s) (hn : ac.length = n) (hac0 : ∀ t ∈ ac, t < s.nodes.size)
    (hsup : stable = false → ∀ t ∈ ac, ∀ σ τ : Asg, (∀ i, i < n → σ i = τ i) → eval s t σ = eval s t τ) :
    ∃ fuel, (NConc.cSearch hc fuel s n ac stable).2.2.2 = true ∧
      let res := (NConc.cSearch hc fuel s n ac stable).2.1
      ExactModels s n ac stable res ∧
      ∀ (cap : Option Nat) (sched : List Chan.Ev) (more : List Chan.DEv),
        (NConc.chanRun hc cap sched s n ac stable).sent < res.length →
        fuel < more.count Chan.DEv.prod →
        let c := NConc.chanRunD hc cap (sched.map Chan.Ev.toD ++ Chan.DEv.dropRecv :: more) s n ac stable
        c.panicked = true ∧ c.base.got = (NConc.chanRun hc cap sched s n ac stable).got := by
  obtain ⟨fuel, hd, hex⟩ := ng_search_exact_any_heuristic hc hok s n ac stable w0 hn hac0 hsup
  exact ⟨fuel, hd, hex, fun cap sched more hlt hmore =>
    NConc.receiver_dropped_panics hc cap s n ac stable hd sched more hlt hmore⟩

/-- **the receiver is dropped before the last model was sent: the `.expect("Sender should accept results")` at
the send site (adf.rs:923) panics** - with the concrete producer `NConc.ngProducer` (the search itself), any
capacity: after ANY schedule `sched` in which fewer models were handed to the channel than the search finds
(`sent < res.length`), the consumer drops the receiver; every continuation `more` containing more than `fuel`
producer steps ends with the producer thread panicked (the unwinding drops the sender), and the consumer has
exactly what it had received when it dropped the receiver.  (If all models were already sent there is nothing
to panic about: `Chan.no_pending_no_panic`.)  For `cap = some 0` the model `Chan.DCfg` never sends
(`Chan.cap0_never_sends` below), so `got = []` and `sent < res.length` is trivially true there; the rendezvous
channel is only treated without receiver drop. -/
theorem receiver_dropped_before_last_model_panics (h : SM.Heu) (s : Store) (n : Nat) (ac : List Nat) (stable : Bool)
    (w : WF s) (hn : ac.length = n) (hv : ∀ t ∈ ac, t < s.nodes.size)
    (hsup : stable = false → ∀ t ∈ ac, ∀ σ τ : Asg, (∀ i, i < n → σ i = τ i) → eval s t σ = eval s t τ) :
    ∃ fuel, (SM.ngSearch h fuel s n ac stable).2.2.2 = true ∧
      let res := (SM.ngSearch h fuel s n ac stable).2.1
      ExactModels s n ac stable res ∧
      ∀ (cap : Option Nat) (sched : List Chan.Ev) (more : List Chan.DEv),
        (NConc.chanRun (SM.heuCall h) cap sched s n ac stable).sent < res.length →
        fuel < more.count Chan.DEv.prod →
        let c := NConc.chanRunD (SM.heuCall h) cap (sched.map Chan.Ev.toD ++ Chan.DEv.dropRecv :: more) s n ac stable
        c.panicked = true ∧ c.base.got = (NConc.chanRun (SM.heuCall h) cap sched s n ac stable).got := by
  have := receiver_dropped_any_heuristic (SM.heuCall h) (NConc.heuOK_builtin h) s n ac stable w hn hv hsup
  simp only [← NConc.ngSearch_eq] at this
  exact this

/-- **several searches of one object on clones of one sender** (the library's own test, adf.rs "multi-threaded
usage": `stable_nogood_channel(h1, s.clone()); stable_nogood_channel(h2, s.clone()); two_val_nogood_channel(h3, s)`
in one thread, `while let Ok(v) = r.recv()` in another).  `hs` = the calls (heuristic, stable?), in order, on the
object with store `s`; every search starts on the store its predecessor left behind.  There are fuels (in `c0 :: cs`)
within which all searches halt; every search returns exactly the stable resp. two-valued models of the object's
conditions (`NConc.ngAllExact`); and in the explicit clone model `Chan.MCfg` (sender COUNT; a search drops only
the handle it was handed; the channel is disconnected when the count is 0), for every capacity and schedule:
 1. received ++ queued is a prefix of the concatenation `all` of the k result lists;
 2. the count is 0 iff the last call has returned, then exactly k handles were dropped; with fewer than k drops a
    handle is alive and the consumer's loop has NOT ended (the first k-1 drops do not disconnect);
 3. when the count is 0: received ++ queued = `all`;
 4. when the consumer's loop has ended it has received exactly `all`, count 0, queue empty;
 5. (capacity ≥ 1 or unbounded) every schedule with `m` fair rounds ends the consumer's loop.
For `cap = some 0` `Chan.MCfg` never sends, so clauses 1-4 hold there with `got = buf = []` for the wrong reason; the
rendezvous channel is only treated for ONE search without clones (`rendezvous_channel_delivers_exactly`). -/
theorem shared_sender_clones_deliver (x : SM.Heu × Bool) (tl : List (SM.Heu × Bool)) (s : Store) (n : Nat) (ac : List Nat)
    (w : WF s) (hn : ac.length = n) (hv : ∀ t ∈ ac, t < s.nodes.size)
    (hsup : (∃ y ∈ x :: tl, y.2 = false) → ∀ t ∈ ac, ∀ σ τ : Asg, (∀ i, i < n → σ i = τ i) → eval s t σ = eval s t τ) :
    ∃ (c0 : NConc.CHeu × Bool × Nat) (cs : List (NConc.CHeu × Bool × Nat)),
      (c0 :: cs).map (fun c => (c.1, c.2.1)) = (x :: tl).map (fun y => (SM.heuCall y.1, y.2)) ∧
      NConc.ngAllDone n ac s (c0 :: cs) ∧ NConc.ngAllExact n ac (ac.map (eval s)) s (c0 :: cs) ∧
      ∀ cap : Option Nat, ∃ m, ∀ sched : List Chan.Ev,
        let c := NConc.chanRunM cap sched n ac s c0 cs
        let all := (NConc.ngResults n ac s (c0 :: cs)).flatten
        (c.got ++ c.buf <+: all) ∧
        ((c.senders = 0 ↔ c.running = false) ∧ (c.senders = 0 → c.drops = cs.length + 1) ∧
          (c.drops < cs.length + 1 → 1 ≤ c.senders ∧ c.consDone = false)) ∧
        (c.senders = 0 → c.got ++ c.buf = all) ∧
        (c.consDone = true → c.got = all ∧ c.senders = 0 ∧ c.buf = []) ∧
        ((∀ k, cap = some k → 1 ≤ k) → Chan.Fair m sched → c.consDone = true) := by
  obtain ⟨calls, h1, h2, h3⟩ := NConc.ng_fuels_exist n ac (ac.map (eval s))
    ((x :: tl).map (fun y => (SM.heuCall y.1, y.2))) s
    (by intro y hy; obtain ⟨z, _, rfl⟩ := List.mem_map.mp hy; exact NConc.heuOK_builtin z.1) w hn hv rfl
    (by
      intro ⟨y, hy, hy2⟩
      obtain ⟨z, hz, rfl⟩ := List.mem_map.mp hy
      exact hsup ⟨z, hz, hy2⟩)
  cases calls with
  | nil => simp at h1
  | cons c0 cs =>
    exact ⟨c0, cs, h1, h2, h3, fun cap => NConc.clones_deliver_ng cap n ac s c0 cs h2⟩

/-- what the code does with a heuristic answer `None` (`adf.rs:851-853`: `backtrack = true`): the iteration
continues exactly as after a conflict; on an empty stack the search ends -/
theorem none_answer_is_a_conflict (hc : NConc.CHeu) (n : Nat) (ac : List Nat) (stable : Bool) (st : SM.NgS)
    (hch : st.choice = true) (hn : hc st.s st.cur st.time = none) :
    NConc.cIter hc n ac stable st =
      NConc.cIter hc n ac stable { st with choice := false, backtrack := true, trace := st.trace ++ [st.cur], time := st.time + 1 } ∧
    (st.stack = [] → (NConc.cIter hc n ac stable st).done = true ∧ (NConc.cIter hc n ac stable st).out = st.out) :=
  ⟨NConc.cIter_none hc n ac stable st hch hn, NConc.cIter_none_empty_stack hc n ac stable st hch hn⟩

/-- **`HeuOK.total` is necessary** (why `ng_search_exact_any_heuristic` asks a custom heuristic to answer whenever
something is undecided): for EVERY framework with two different models `v1 ≠ v2` (in the sense of the right-hand
side of `ng_search_exact`) and EVERY heuristic that answers `None` the first time it is asked, the search halts
with the EMPTY result - both models, and all others, are lost -/
theorem heuristic_totality_necessary (hc : NConc.CHeu) (hfirst : ∀ st v, hc st v 0 = none)
    (s : Store) (n : Nat) (ac : List Nat) (stable : Bool)
    (w0 : WF s) (hn : ac.length = n) (hac0 : ∀ t ∈ ac, t < s.nodes.size)
    (hsup : stable = false → ∀ t ∈ ac, ∀ σ τ : Asg, (∀ i, i < n → σ i = τ i) → eval s t σ = eval s t τ)
    (v1 v2 : I3) (hne : v1 ≠ v2)
    (m : ∀ v, v = v1 ∨ v = v2 → (v.length = n ∧ TotalI v ∧ Gam (ac.map (eval s)) v = v ∧
          (stable = true → ∀ w : I3, IsLfp (redu (ac.map (eval s)) v) w → ∀ i : Nat, v[i]? = some (some true) → w[i]? = some (some true)))) :
    ∃ fuel, (NConc.cSearch hc fuel s n ac stable).2.2.2 = true ∧ (NConc.cSearch hc fuel s n ac stable).2.1 = [] :=
  NConc.first_call_none_models hc hfirst s n ac stable w0 hn hac0 hsup v1 v2 hne m

/-- the hypotheses of `ng_search_exact` are satisfiable and its right-hand side is inhabited: one
statement with condition ⊤, stable mode -/
example (h : SM.Heu) : ∃ fuel, (SM.ngSearch h fuel Store.init 1 [1] true).2.2.2 = true ∧
    [some true] ∈ (SM.ngSearch h fuel Store.init 1 [1] true).2.1.map (fun v => v.map storeIsConst) := by
  obtain ⟨fuel, h1, _, h3⟩ := ng_search_exact h Store.init 1 [1] true WF_init rfl (by simp [Store.init])
    (fun hc => by cases hc)
  refine ⟨fuel, h1, (h3 [some true]).mpr ?_⟩
  have hD : [1].map (eval Store.init) = [fun _ => true] := by
    simp only [List.map_cons, List.map_nil]; congr 1
  simp only [hD]
  refine ⟨rfl, ?_, ?_, ?_⟩
  · intro i hi
    have : i = 0 := by simpa using hi
    subst this; exact ⟨true, rfl⟩
  · simp only [Gam, List.map_cons, List.map_nil]
    congr 1
    exact constOf_some.mpr (fun _ => rfl)
  · intro _ w hw i hi
    have hi0 : i = 0 := by simpa using lt_length_of_get? hi
    subst hi0
    rw [← hw.1]
    simp only [Gam, redu, List.map_cons, List.map_nil, List.getElem?_cons_zero, Option.some.injEq]
    exact constOf_some.mpr (fun _ => rfl)

/-! the framework of the examples below: `ac(a) = b`, `ac(b) = a` (mutual support) -/

theorem mutual_le : [Fm.atom 1, Fm.atom 0].length ≤ VBOT := by simp [VBOT]

theorem mutual_atoms : ∀ f ∈ [Fm.atom 1, Fm.atom 0], NConc.atomsLt [Fm.atom 1, Fm.atom 0].length f := by
  intro f hf; simp at hf; rcases hf with rfl | rfl <;> simp [NConc.atomsLt]

theorem mutual_facts :
    WF (buildNative 2 [.atom 1, .atom 0]).1 ∧ (buildNative 2 [.atom 1, .atom 0]).2.length = 2 ∧
    (∀ t ∈ (buildNative 2 [.atom 1, .atom 0]).2, t < (buildNative 2 [.atom 1, .atom 0]).1.nodes.size) ∧
    (buildNative 2 [.atom 1, .atom 0]).2.map (eval (buildNative 2 [.atom 1, .atom 0]).1) = [Fm.atom 1, Fm.atom 0].map Fm.sem ∧
    (∀ t ∈ (buildNative 2 [.atom 1, .atom 0]).2, ∀ σ τ : Asg,
      (∀ i, i < 2 → σ i = τ i) → eval (buildNative 2 [.atom 1, .atom 0]).1 t σ = eval (buildNative 2 [.atom 1, .atom 0]).1 t τ) :=
  NConc.compiled_facts [.atom 1, .atom 0] mutual_le mutual_atoms

theorem mutual_support_models : ∀ v : I3, v = [some false, some false] ∨ v = [some true, some true] →
    (v.length = [Fm.atom 1, Fm.atom 0].length ∧ TotalI v ∧ Gam ([Fm.atom 1, Fm.atom 0].map Fm.sem) v = v ∧
      (false = true → ∀ w : I3, IsLfp (redu ([Fm.atom 1, Fm.atom 0].map Fm.sem) v) w →
        ∀ i : Nat, v[i]? = some (some true) → w[i]? = some (some true))) := by
  -- both models are constant vectors `[c, c]`
  have key : ∀ c : Bool, ([some c, some c] : I3).length = [Fm.atom 1, Fm.atom 0].length ∧ TotalI [some c, some c] ∧
      Gam ([Fm.atom 1, Fm.atom 0].map Fm.sem) [some c, some c] = [some c, some c] := by
    intro c
    refine ⟨rfl, fun i hi => ?_, ?_⟩
    · have : i = 0 ∨ i = 1 := by simp at hi; omega
      rcases this with rfl | rfl <;> exact ⟨c, rfl⟩
    · simp only [Gam, List.map_cons, List.map_nil, Fm.sem]
      congr 1
      · congr 1; exact constOf_some.mpr (fun σ => by simp [over, upd])
      · congr 1; congr 1; exact constOf_some.mpr (fun σ => by simp [over, upd])
  intro v hv
  rcases hv with rfl | rfl
  · exact ⟨(key false).1, (key false).2.1, (key false).2.2, fun hc => by cases hc⟩
  · exact ⟨(key true).1, (key true).2.1, (key true).2.2, fun hc => by cases hc⟩

/-- two-valued mode from written formulas: the side condition holds of the text -/
example (h : SM.Heu) : ∃ fuel,
    [some false, some false] ∈
      (SM.ngSearch h fuel (buildNative 2 [.atom 1, .atom 0]).1 2 (buildNative 2 [.atom 1, .atom 0]).2 false).2.1.map
        (fun v => v.map storeIsConst) := by
  obtain ⟨fuel, _, _, h3⟩ := ng_search_exact_from_formulas h [.atom 1, .atom 0] false mutual_le mutual_atoms
  exact ⟨fuel, (h3 _).mpr (mutual_support_models _ (Or.inl rfl))⟩

/-- the explicit bound: at fuel `32 = ngBound 2` the run has halted and both models are emitted -/
example (h : SM.Heu) :
    (SM.ngSearch h 32 (buildNative 2 [.atom 1, .atom 0]).1 2 (buildNative 2 [.atom 1, .atom 0]).2 false).2.2.2 = true ∧
    [some false, some false] ∈
      (SM.ngSearch h 32 (buildNative 2 [.atom 1, .atom 0]).1 2 (buildNative 2 [.atom 1, .atom 0]).2 false).2.1.map
        (fun v => v.map storeIsConst) ∧
    [some true, some true] ∈
      (SM.ngSearch h 32 (buildNative 2 [.atom 1, .atom 0]).1 2 (buildNative 2 [.atom 1, .atom 0]).2 false).2.1.map
        (fun v => v.map storeIsConst) := by
  obtain ⟨hd, _, h3⟩ := ng_search_exact_within_from_formulas h [.atom 1, .atom 0] false mutual_le mutual_atoms 32
    (by decide)
  exact ⟨hd, (h3 _).mpr (mutual_support_models _ (Or.inl rfl)), (h3 _).mpr (mutual_support_models _ (Or.inr rfl))⟩

/-- the channel clause: a `bounded(1)` channel and the alternating schedule -/
example (h : SM.Heu) : ∃ m,
    let c := NConc.chanRun (SM.heuCall h) (some 1) (List.flatten (List.replicate m [Chan.Ev.prod, Chan.Ev.cons]))
      (buildNative 2 [.atom 1, .atom 0]).1 2 (buildNative 2 [.atom 1, .atom 0]).2 false
    c.consDone = true ∧ [some false, some false] ∈ c.got.map (fun v => v.map storeIsConst) ∧
    [some true, some true] ∈ c.got.map (fun v => v.map storeIsConst) ∧ c.log.getLast? = some Chan.ChEv.close := by
  obtain ⟨fuel, hd, h3⟩ := ng_search_exact_from_formulas h [.atom 1, .atom 0] false mutual_le mutual_atoms
  rw [NConc.ngSearch_eq] at hd h3
  let res := (NConc.cSearch (SM.heuCall h) fuel (buildNative 2 [.atom 1, .atom 0]).1 2 (buildNative 2 [.atom 1, .atom 0]).2 false).2.1
  refine ⟨fuel + res.length + 1 + res.length + 1, ?_⟩
  have ⟨_, b, _, d, e⟩ := NConc.channel_delivers (SM.heuCall h) (some 1) (buildNative 2 [.atom 1, .atom 0]).1 2
    (buildNative 2 [.atom 1, .atom 0]).2 false hd
    (List.flatten (List.replicate (fuel + res.length + 1 + res.length + 1) [Chan.Ev.prod, Chan.Ev.cons]))
  have hcd := e (by intro k hk; cases hk; exact Nat.le_refl 1) _ (Chan.fair_alternating _) (Nat.le_refl _)
  have ⟨hgot, hcl, _⟩ := d hcd
  refine ⟨hcd, ?_, ?_, ?_⟩
  · rw [hgot]; exact (h3.2 _).mpr (mutual_support_models _ (Or.inl rfl))
  · rw [hgot]; exact (h3.2 _).mpr (mutual_support_models _ (Or.inr rfl))
  · rw [(b hcl).2]; simp

/-- `heuristic_totality_necessary`: the heuristic that never answers makes the search return nothing, although
two two-valued models exist -/
example : ∃ fuel,
    (NConc.cSearch (fun _ _ _ => none) fuel (buildNative 2 [.atom 1, .atom 0]).1 2 (buildNative 2 [.atom 1, .atom 0]).2 false).2.2.2 = true ∧
    (NConc.cSearch (fun _ _ _ => none) fuel (buildNative 2 [.atom 1, .atom 0]).1 2 (buildNative 2 [.atom 1, .atom 0]).2 false).2.1 = [] :=
  NConc.first_call_none_compiled (fun _ _ _ => none) (fun _ _ => rfl) [.atom 1, .atom 0] false mutual_le mutual_atoms
    [some false, some false] [some true, some true] (by decide) mutual_support_models

/-- the library's test pattern (adf.rs:1205): two stable searches (two different heuristics) and a two-valued one
(Simple) on clones of one sender, a `bounded(1)` channel, the alternating schedule -/
example : ∃ (c0 : NConc.CHeu × Bool × Nat) (cs : List (NConc.CHeu × Bool × Nat)) (m : Nat),
    let c := NConc.chanRunM (some 1) (List.flatten (List.replicate m [Chan.Ev.prod, Chan.Ev.cons])) 2
      (buildNative 2 [.atom 1, .atom 0]).2 (buildNative 2 [.atom 1, .atom 0]).1 c0 cs
    cs.length = 2 ∧ c.consDone = true ∧ c.drops = 3 ∧ c.senders = 0 ∧
    c.got = (NConc.ngResults 2 (buildNative 2 [.atom 1, .atom 0]).2 (buildNative 2 [.atom 1, .atom 0]).1 (c0 :: cs)).flatten ∧
    [some true, some true] ∈ c.got.map (fun v => v.map storeIsConst) := by
  obtain ⟨w, hl, hv, hD, hs⟩ := mutual_facts
  obtain ⟨c0, cs, h1, h2, h3, h4⟩ := shared_sender_clones_deliver (.minPathsMaxVarImp, true)
    [(.maxVarImpMinPaths, true), (.simple, false)] (buildNative 2 [.atom 1, .atom 0]).1 2 (buildNative 2 [.atom 1, .atom 0]).2
    w hl hv (fun _ => hs)
  obtain ⟨m, h5⟩ := h4 (some 1)
  have hlen : cs.length = 2 := by simpa using congrArg List.length h1
  have ⟨_, ⟨hz, hdr, _⟩, _, hdone, hfair⟩ := h5 (List.flatten (List.replicate m [Chan.Ev.prod, Chan.Ev.cons]))
  have hcd := hfair (by intro k hk; cases hk; exact Nat.le_refl 1) (Chan.fair_alternating m)
  have ⟨hgot, hs0, _⟩ := hdone hcd
  refine ⟨c0, cs, m, hlen, hcd, by rw [hdr hs0, hlen], hs0, hgot, ?_⟩
  rw [hgot]
  -- the third call is the two-valued one: its result contains "both true"
  rw [hD] at h3
  refine NConc.mem_ngResults_of_exact (mutual_support_models _ (Or.inr rfl)) _ _ h3 ?_
  have : (SM.heuCall .simple, false) ∈ (c0 :: cs).map (fun c => (c.1, c.2.1)) := by rw [h1]; simp
  obtain ⟨c, hc, he⟩ := List.mem_map.mp this
  exact ⟨c, hc, congrArg Prod.snd he⟩

/-- `receiver_dropped_before_last_model_panics`: the consumer drops the receiver before anything was sent
(`sched = []`) -/
example (h : SM.Heu) : ∃ k,
    let c := NConc.chanRunD (SM.heuCall h) (some 1) (Chan.DEv.dropRecv :: List.replicate k Chan.DEv.prod)
      (buildNative 2 [.atom 1, .atom 0]).1 2 (buildNative 2 [.atom 1, .atom 0]).2 false
    c.panicked = true ∧ c.base.got = [] := by
  obtain ⟨w, hl, hv, hD, hs⟩ := mutual_facts
  obtain ⟨fuel, _, hex, hp⟩ := receiver_dropped_before_last_model_panics h (buildNative 2 [.atom 1, .atom 0]).1 2
    (buildNative 2 [.atom 1, .atom 0]).2 false w hl hv (fun _ => hs)
  refine ⟨fuel + 1, ?_⟩
  have hpos : 0 < (SM.ngSearch h fuel (buildNative 2 [.atom 1, .atom 0]).1 2 (buildNative 2 [.atom 1, .atom 0]).2 false).2.1.length := by
    have hex' := hex
    simp only [ExactModels, hD] at hex'
    have := (hex'.2 [some true, some true]).mpr (mutual_support_models _ (Or.inr rfl))
    rw [List.mem_map] at this
    obtain ⟨v, hv, _⟩ := this
    exact List.length_pos_of_mem hv
  exact hp (some 1) [] (List.replicate (fuel + 1) Chan.DEv.prod) hpos (by simp)

/-- the CLI's `--twoval` schedule, and the rendezvous channel under the alternating schedule: the same list -/
example (h : SM.Heu) : ∃ a b m,
    let st := (buildNative 2 [.atom 1, .atom 0]).1
    let ac := (buildNative 2 [.atom 1, .atom 0]).2
    let c := NConc.chanRun (SM.heuCall h) none (List.replicate a Chan.Ev.prod ++ List.replicate b Chan.Ev.cons) st 2 ac false
    let z := NConc.chanRunZ (SM.heuCall h) (List.flatten (List.replicate m [Chan.Ev.prod, Chan.Ev.cons])) st 2 ac false
    (c.consDone = true ∧ [some true, some true] ∈ c.got.map (fun v => v.map storeIsConst) ∧
      [some false, some false] ∈ c.got.map (fun v => v.map storeIsConst)) ∧
    (z.consDone = true ∧ z.buf = [] ∧ z.got = c.got) := by
  obtain ⟨w, hl, hv, hD, hs⟩ := mutual_facts
  obtain ⟨fuel, hd, hex, hseq⟩ := iterator_variant_exact_two_valued h (buildNative 2 [.atom 1, .atom 0]).1 2
    (buildNative 2 [.atom 1, .atom 0]).2 w hl hv hs
  have hz := NConc.rendezvous_delivers (SM.heuCall h) (buildNative 2 [.atom 1, .atom 0]).1 2
    (buildNative 2 [.atom 1, .atom 0]).2 false (fuel := fuel) (by rw [← NConc.ngSearch_eq]; exact hd)
  rw [← NConc.ngSearch_eq] at hz
  let L := (SM.ngSearch h fuel (buildNative 2 [.atom 1, .atom 0]).1 2 (buildNative 2 [.atom 1, .atom 0]).2 false).2.1.length
  refine ⟨fuel + L + 1, L + 1, fuel + L + 1 + L + 1, ?_⟩
  have ⟨h1, h2⟩ := hseq (fuel + L + 1) (L + 1) (Nat.le_refl _) (Nat.le_refl _)
  have ⟨hz1, _, hz3, hz4⟩ := hz (List.flatten (List.replicate (fuel + L + 1 + L + 1) [Chan.Ev.prod, Chan.Ev.cons]))
  have hzd := hz4 _ (Chan.fair_alternating _) (Nat.le_refl _)
  simp only [ExactModels, hD] at hex
  refine ⟨⟨h1, ?_, ?_⟩, hzd, hz1.2, ?_⟩
  · rw [h2]; exact (hex.2 _).mpr (mutual_support_models _ (Or.inr rfl))
  · rw [h2]; exact (hex.2 _).mpr (mutual_support_models _ (Or.inl rfl))
  · rw [h2]; exact (hz3 hzd).1

/-- the invariant `NSem.OkV` of the semantic instance holds of a real start state (grounded interpretation of a
one-statement framework) -/
example : NSem.OkV ([1].map (eval Store.init)) 1 true
    ((NConc.initC Store.init 1 [1]).cur.map (eval (NConc.initC Store.init 1 [1]).s)) :=
  (NConc.init_facts Store.init 1 [1] true WF_init (by simp [Store.init]) rfl).2.2.1

section clones
open Chan

theorem shared_sender_clones_any_heuristic (x : NConc.CHeu × Bool) (tl : List (NConc.CHeu × Bool))
    (hok : ∀ y ∈ x :: tl, NConc.HeuOK y.1) (s : Store) (n : Nat) (ac : List Nat)
    (w : WF s) (hn : ac.length = n) (hv : ∀ t ∈ ac, t < s.nodes.size)
    (hsup : (∃ y ∈ x :: tl, y.2 = false) → ∀ t ∈ ac, ∀ σ τ : Asg, (∀ i, i < n → σ i = τ i) → eval s t σ = eval s t τ) :
    ∃ (c0 : NConc.CHeu × Bool × Nat) (cs : List (NConc.CHeu × Bool × Nat)),
      (c0 :: cs).map (fun c => (c.1, c.2.1)) = (x :: tl) ∧
      NConc.ngAllDone n ac s (c0 :: cs) ∧ NConc.ngAllExact n ac (ac.map (eval s)) s (c0 :: cs) ∧
      ∀ cap : Option Nat, ∃ m, ∀ sched : List Chan.Ev,
        let c := NConc.chanRunM cap sched n ac s c0 cs
        let all := (NConc.ngResults n ac s (c0 :: cs)).flatten
        (c.got ++ c.buf <+: all) ∧
        ((c.senders = 0 ↔ c.running = false) ∧ (c.senders = 0 → c.drops = cs.length + 1) ∧
          (c.drops < cs.length + 1 → 1 ≤ c.senders ∧ c.consDone = false)) ∧
        (c.senders = 0 → c.got ++ c.buf = all) ∧
        (c.consDone = true → c.got = all ∧ c.senders = 0 ∧ c.buf = []) ∧
        ((∀ k, cap = some k → 1 ≤ k) → Chan.Fair m sched → c.consDone = true) := by
  obtain ⟨calls, h1, h2, h3⟩ := NConc.ng_fuels_exist n ac (ac.map (eval s)) (x :: tl) s hok w hn hv rfl hsup
  cases calls with
  | nil => simp at h1
  | cons c0 cs => exact ⟨c0, cs, h1, h2, h3, fun cap => NConc.clones_deliver_ng cap n ac s c0 cs h2⟩

def alt (m : Nat) : List Ev := List.flatten (List.replicate m [Ev.prod, Ev.cons])

example (h : SM.Heu) : ∃ fuel m,
    let z := NConc.chanRunZ (SM.heuCall h) (alt m) (buildNative 2 [.atom 1, .atom 0]).1 2 (buildNative 2 [.atom 1, .atom 0]).2 false
    z.consDone = true ∧ z.got = (SM.ngSearch h fuel (buildNative 2 [.atom 1, .atom 0]).1 2 (buildNative 2 [.atom 1, .atom 0]).2 false).2.1 ∧
    [some true, some true] ∈ z.got.map (fun v => v.map storeIsConst) := by
  obtain ⟨w, hl, hv, hD, hs⟩ := mutual_facts
  obtain ⟨fuel, _, hex, hz⟩ := rendezvous_channel_delivers_exactly h (buildNative 2 [.atom 1, .atom 0]).1 2
    (buildNative 2 [.atom 1, .atom 0]).2 false w hl hv (fun _ => hs)
  let L := (SM.ngSearch h fuel (buildNative 2 [.atom 1, .atom 0]).1 2 (buildNative 2 [.atom 1, .atom 0]).2 false).2.1.length
  refine ⟨fuel, fuel + L + 1 + L + 1, ?_⟩
  have ⟨_, _, h3, h4⟩ := hz (alt (fuel + L + 1 + L + 1))
  have hd := h4 _ (Chan.fair_alternating _) (Nat.le_refl _)
  refine ⟨hd, (h3 hd).1, ?_⟩
  rw [(h3 hd).1]
  simp only [ExactModels, hD] at hex
  exact (hex.2 _).mpr (mutual_support_models _ (Or.inr rfl))

end clones

end C05

section cap0
open Chan
theorem cap0_prodStep {σ α : Type} (P : Producer σ α) (c : Cfg σ α) :
    (prodStep P (some 0) c).sent = c.sent ∧ (prodStep P (some 0) c).buf = c.buf ∧ (prodStep P (some 0) c).got = c.got := by
  unfold prodStep
  split
  · exact ⟨rfl, rfl, rfl⟩
  · split
    · rw [if_pos (by simp [full])]
      exact ⟨rfl, rfl, rfl⟩
    · split <;> exact ⟨rfl, rfl, rfl⟩

theorem consStep_empty_buf {σ α : Type} (c : Cfg σ α) (hb : c.buf = []) :
    (consStep c).sent = c.sent ∧ (consStep c).buf = c.buf ∧ (consStep c).got = c.got := by
  unfold consStep
  split
  · exact ⟨rfl, rfl, rfl⟩
  · simp only [hb]
    split
    · exact ⟨rfl, rfl, rfl⟩
    · exact ⟨rfl, hb, rfl⟩

/-- `Chan.run` counts capacity `some 0` as always full (`full`); crossbeam's `bounded(0)` is `Chan.Zero` -/
theorem Chan.cap0_never_sends {σ α : Type} (P : Producer σ α) (sched : List Ev) :
    ∀ c : Cfg σ α, c.sent = 0 → c.buf = [] → c.got = [] →
      (run P (some 0) sched c).sent = 0 ∧ (run P (some 0) sched c).got = [] ∧ (run P (some 0) sched c).buf = [] := by
  induction sched with
  | nil => intro c a b d; exact ⟨a, d, b⟩
  | cons e es ih =>
    intro c a b d
    have ⟨h1, h2, h3⟩ : (step P (some 0) c e).sent = c.sent ∧ (step P (some 0) c e).buf = c.buf ∧
        (step P (some 0) c e).got = c.got := by
      cases e with
      | prod => exact cap0_prodStep P c
      | cons => exact consStep_empty_buf c b
    exact ih _ (h1.trans a) (h2.trans b) (h3.trans d)

example (h : SM.Heu) (sched : List Ev) (s : Store) (n : Nat) (ac : List Nat) (st : Bool) :
    (NConc.chanRun (SM.heuCall h) (some 0) sched s n ac st).sent = 0 ∧
    (NConc.chanRun (SM.heuCall h) (some 0) sched s n ac st).got = [] :=
  let r := Chan.cap0_never_sends (NConc.ngProducer (SM.heuCall h) n ac st) sched (Chan.init (NConc.initC s n ac)) rfl rfl rfl
  ⟨r.1, r.2.1⟩

#print axioms C05.ng_search_exact
#print axioms C05.ng_search_halts_within_explicit_bound
#print axioms C05.ng_search_exact_within_explicit_bound
#print axioms C05.ng_search_exact_within_from_formulas
#print axioms C05.ng_search_halts_within_driver_bound
#print axioms C05.channel_variants_deliver_exactly
#print axioms C05.channel_variants_any_heuristic
#print axioms C05.iterator_variant_exact
#print axioms C05.iterator_variant_exact_two_valued
#print axioms C05.rendezvous_channel_delivers_exactly
#print axioms C05.receiver_dropped_before_last_model_panics
#print axioms C05.shared_sender_clones_deliver
#print axioms C05.heuristic_totality_necessary

/-! the witness in the docstring of `ng_search_statement`: the side condition of the two-valued mode is necessary
(an evaluation, not a kernel-checked lemma: `Std.HashMap` does not reduce in the kernel) -/
#guard (SM.ngSearch .simple 50 (mkNode Store.init 5 0 1).1 1 [(mkNode Store.init 5 0 1).2] false).2.1 == [[1], [0]]
#guard (SM.ngSearch .simple 50 (mkNode Store.init 5 0 1).1 1 [(mkNode Store.init 5 0 1).2] true).2.1 == []

end cap0

#print axioms C05.rendezvous_any_heuristic
#print axioms C05.receiver_dropped_any_heuristic
#print axioms C05.shared_sender_clones_any_heuristic
#print axioms Chan.cap0_never_sends
