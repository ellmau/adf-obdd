import AdfObdd.Parser7
import AdfObdd.CliModesProofs
import AdfObdd.ServerParseLink
/-! # C08 — the parser accepts the documented syntax faithfully and rejects malformed text whole

Model (`ParserProofs`, `Parser2`, `Parser4`, `Parser6`; namespace `ParserM`): the nom combinators of
`lib/src/parser.rs` as total functions `List Char → Option (α × List Char)` (`tagL`, `alnum1`,
`takeUntilQ`, `ws0`, `orElse` = `alt` — no `cut` is used, so every error backtracks), then the
grammar functions in the order of the Rust (`atomic` = quoted | alphanumeric; `formula` = constant |
binary_op (and, or, imp, xor, iff) | unary_op | atomic_term; `statement`, `ac`, the terminator
`terminated(tag("."), multispace0)`), `all_consuming(many1(alt(parse_statement, parse_ac)))` with the
side effects on the parser object (`PState`: `namelist`, `dict`, `formulae`, `formulaname`), and
`formula_order`. `ParserM.parse : List Char → Option PState` is `AdfParser::default().parse()(text)`.

Grammar (`DerL`, `DerF`, `DerFact`, `DerFile`): the documented format as an inductive relation
between the written structure and the text — `s(l).` / `ac(l,φ).` facts in any order, prefix
connectives, labels alphanumeric or quoted (anything but `"` between the quotes, possibly nothing),
blanks (space, tab, CR, LF) after facts and on both sides of commas, nowhere else.

Totality: `parse` is a Lean function, hence total — the model cannot diverge or panic on any input
(the fuel of the two recursions is `length + 1`, and `parse_complete`/`parse_sound` show that the
accepted language is the grammar, independently of fuel). That the Rust parser does not panic is
observed by the correspondence run (`catch_unwind`), not proved. -/
namespace C08
open ParserM

/-- **Completeness.** Every text of the documented format — at least one fact, facts in any order,
any blanks where the grammar allows them, labels alphanumeric (keyword-like ones such as `and`,
`andy`, `c`, `neg1`, `s`, `ac` are just instances) or quoted — is accepted, and the parser object
afterwards is exactly the one the written facts describe (labels verbatim). -/
theorem parse_complete (fs : List Fact) (t : List Char) (h : DerFile fs t) (hne : fs ≠ []) :
    parse t = some (PState.ofFacts fs) := parse_of_der fs t h hne

/-- **Soundness.** Whatever is accepted is a text of the documented format, and the parser object
is the one its facts describe. -/
theorem parse_sound (t : List Char) (st : PState) (h : parse t = some st) :
    ∃ fs, fs ≠ [] ∧ DerFile fs t ∧ st = PState.ofFacts fs := parse_some_der t st h

/-- the accepted language is exactly the grammar -/
theorem accepts_iff (t : List Char) : (parse t).isSome = true ↔ ∃ fs, fs ≠ [] ∧ DerFile fs t := by
  constructor
  · intro h
    obtain ⟨st, hp⟩ := Option.isSome_iff_exists.mp h
    obtain ⟨fs, a, b, _⟩ := parse_sound t st hp
    exact ⟨fs, a, b⟩
  · intro ⟨fs, a, b⟩
    rw [parse_complete fs t b a]; rfl

/-- the grammar is unambiguous: a text is the spelling of at most one list of facts, so "the
written structure" is well defined -/
theorem grammar_unambiguous (fs gs : List Fact) (t : List Char) (h1 : DerFile fs t) (h2 : DerFile gs t) :
    fs = gs := h1.unique h2

/-- **What the parser object contains** after the facts `fs`: `namelist` = the declared labels in
order of first declaration without repetitions; `dict` maps exactly these to their positions;
`formulaname`/`formulae` = the conditions in file order (repetitions kept); `formula_order` = the
position of each condition's label (`none`, the model of the `expect` panic, iff some condition is
given for an undeclared label). -/
theorem result_spec (fs : List Fact) :
    (PState.ofFacts fs).namelist = namesOf fs ∧
    (∀ l, (PState.ofFacts fs).dictValue l = indexOf (namesOf fs) l) ∧
    (PState.ofFacts fs).formulaname = (acsOf fs).map (·.1) ∧
    (PState.ofFacts fs).formulae = (acsOf fs).map (·.2) ∧
    (PState.ofFacts fs).formulaOrder = ((acsOf fs).map (·.1)).mapM (indexOf (namesOf fs)) :=
  ofFacts_spec fs

/-- the declared names are exactly the labels of the `s` facts, each once -/
theorem names_spec (fs : List Fact) :
    (∀ l, l ∈ namesOf fs ↔ Fact.stmt l ∈ fs) ∧ (namesOf fs).Nodup :=
  ⟨namesOf_mem fs, namesOf_nodup fs⟩

/-- **Keyword-like labels.** Any alphanumeric word — `and`, `or`, `neg`, `c`, `s`, `ac`, `andy`,
`neg1`, … — works as a label in every position: declared, as the label of a condition, and as an
atom below a connective. -/
theorem keyword_labels (l : List Char) (hne : l ≠ []) (hl : AllAlnum l) :
    parse (['s','('] ++ l ++ [')','.'] ++ [] ++
           (['a','c','('] ++ l ++ [] ++ [','] ++ [' '] ++ (['a','n','d','('] ++ l ++ [] ++ [','] ++ [] ++
              (['n','e','g','('] ++ l ++ [')']) ++ [')']) ++ [')','.'] ++ ['\n'] ++ [])) =
      some (PState.ofFacts [Fact.stmt l, Fact.ac l (Fml.and (Fml.atom l) (Fml.not (Fml.atom l)))]) := by
  have dl : DerL l l := DerL.alnum l hne hl
  have ws0 : AllWs [] := fun _ h => by simp at h
  have ws1 : AllWs [' '] := fun c h => by simp at h; subst h; decide
  have ws2 : AllWs ['\n'] := fun c h => by simp at h; subst h; decide
  apply parse_complete _ _ _ (by simp)
  refine DerFile.cons _ _ _ _ (DerFact.stmt l l [] dl ws0) (DerFile.cons _ _ _ _ ?_ DerFile.nil)
  exact DerFact.ac l l _ _ [] [' '] ['\n'] dl
    (DerF.and _ _ _ _ [] [] (DerF.atom l l dl) (DerF.not _ _ (DerF.atom l l dl)) ws0 ws0) ws0 ws1 ws2

/-- the Boolean function a parsed condition denotes is the one written: the connectives have their
intended truth functions, in the written argument order -/
theorem connective_semantics (σ : Label → Bool) (a b : Fml) (l : Label) :
    Fml.eval σ .top = true ∧ Fml.eval σ .bot = false ∧ Fml.eval σ (.atom l) = σ l ∧
    Fml.eval σ (.not a) = !(Fml.eval σ a) ∧
    Fml.eval σ (.and a b) = (Fml.eval σ a && Fml.eval σ b) ∧
    Fml.eval σ (.or a b) = (Fml.eval σ a || Fml.eval σ b) ∧
    Fml.eval σ (.imp a b) = (!(Fml.eval σ a) || Fml.eval σ b) ∧
    Fml.eval σ (.xor a b) = (Fml.eval σ a != Fml.eval σ b) ∧
    Fml.eval σ (.iff a b) = (Fml.eval σ a == Fml.eval σ b) :=
  ⟨rfl, rfl, rfl, rfl, rfl, rfl, rfl, rfl, rfl⟩

/-! ## Rejection: whole classes of malformed texts, each by an executable test on the text -/

/-- **Missing terminator.** A text whose last non-blank character is not `.` is rejected. -/
theorem reject_missing_terminator (t : List Char) (h : endsWithDot t = false) : parse t = none :=
  reject_of t (endsWithDot t = true)
    (fun _ a b => let ⟨pre, w, e, hw⟩ := b.ends a; e ▸ endsWithDot_of pre w hw) (by simp [h])

/-- **Trailing garbage.** Whatever precedes it, a tail that contains a non-blank and does not itself
end in `.` (and blanks) makes the text rejected. -/
theorem reject_trailing_garbage (cs g : List Char) (hg : ∃ c ∈ g, isWs c = false)
    (hd : endsWithDot g = false) : parse (cs ++ g) = none :=
  reject_missing_terminator _ (by rw [endsWithDot_append cs g hg]; exact hd)

/-- **Leading blanks, empty text.** A text that does not start with `s` or `a` is rejected; in
particular the empty text, blank-only text and text with a blank or newline in front. -/
theorem reject_bad_start (t : List Char) (h : t.head? ≠ some 's' ∧ t.head? ≠ some 'a') : parse t = none :=
  reject_of t (t.head? = some 's' ∨ t.head? = some 'a')
    (fun fs a b => by
      cases fs with
      | nil => exact absurd rfl a
      | cons x xs => exact b.starts)
    (by intro h'; rcases h' with h' | h'; exact h.1 h'; exact h.2 h')

/-- **Unbalanced brackets.** A text whose brackets outside quoted labels are not balanced (one
missing, one too many, closing before opening) is rejected. -/
theorem reject_unbalanced (t : List Char) (h : balanced t = false) : parse t = none :=
  reject_of t (balanced t = true) (fun _ _ b => b.balanced) (by simp [h])

/-- **Wrong arity, unknown connective.** A text in which, outside quoted labels, some `(` does not
directly follow one of `s ac c neg and or imp xor iff`, or some bracket group has a number of
top-level commas different from its keyword's (one for `and or imp xor iff ac`, none for
`neg s c`), is rejected. -/
theorem reject_wrong_arity (t : List Char) (h : arityOK t = false) : parse t = none :=
  reject_of t (arityOK t = true) (fun _ _ b => b.arityOK) (by simp [h])

/-- **Unpaired quote.** A text with an odd number of `"` is rejected. -/
theorem reject_odd_quotes (t : List Char) (h : t.count '"' % 2 = 1) : parse t = none :=
  reject_of t (t.count '"' % 2 = 0) (fun _ _ b => b.even_quotes) (by omega)

/-! ## Rejected text: the CLI produces no answer

`CliM.runText` (CliModes.lean) is the binary on the TEXT of the file (all three arms). -/

/-- **neither … produce an answer, CLI part**: a text the parser refuses makes every arm of the
binary, with every flag, exit with the non-zero status 101 and print nothing -/
theorem cli_no_answer_for_rejected_text {T : Type} (W : CliM.World T) (fuel : Nat) (i : CliM.Inv)
    (t : List Char) (h : parse t = none) :
    CliM.runText W fuel i t = CliM.rejected ∧ CliM.rejected.exit ≠ 0 ∧ CliM.rejected.stdout = [] :=
  ⟨CliMP.runText_rejects_unparsed W fuel i t h, by decide, rfl⟩

/-- instances: each rejection test of this file implies the CLI prints nothing -/
theorem cli_no_answer_unbalanced {T : Type} (W : CliM.World T) (fuel : Nat) (i : CliM.Inv) (t : List Char)
    (h : balanced t = false) : CliM.runText W fuel i t = CliM.rejected :=
  (cli_no_answer_for_rejected_text W fuel i t (reject_unbalanced t h)).1

/-! ## Rejected text: the web service produces no answer

`ServerAdf.conditions` - what the service's parse task runs for BOTH parsing strategies - calls the same
`ParserM.parseFile` as `ParserM.parse`; `SrvC.conditions_of_parse_none` is the link. -/

/-- **neither … produce an answer, web part (1): the parse function.** A text the parser refuses makes the
parse function of the service - the driver's `libEnv o`, the service with the modelled hybrid arm `hybEnv`,
and `hybEnvF F` for every search bound - answer `Error("ADF could not be parsed, …")` for `Naive` AND
`Hybrid` parsing -/
theorem web_parse_rejects_rejected_text {T : Type} (o : SrvC.Oracle) (Lf : Nat → Bio.Lib T) (dumpf : Nat → T → List Node)
    (pg : ServerM.Parsing) (code : String) (h : parse code.toList = none) :
    (SrvC.libEnv o).parse pg code = .error .parseError ∧ (SrvC.hybEnv Lf dumpf).parse pg code = .error .parseError ∧
    ∀ F, (SrvC.hybEnvF F Lf dumpf).parse pg code = .error .parseError :=
  SrvC.parse_rejected o Lf dumpf pg code h

/-- **web part (2): the parse task stores the error, a solve is refused.** When the parse task of a refused
text writes, the addressed document gets `Error` in `adf` and in `acs_per_strategy.parse_only`; and for a
document in that state every `PUT /adf/{name}/solve` is answered `400 … could not be parsed` (no solve task
is spawned) -/
theorem web_task_stores_error_for_rejected_text (o : SrvC.Oracle) (db : ServerM.Db String SrvC.SHash ServerAdf.SAdf ServerAdf.SRes)
    (j n : Nat) (t : ServerM.TaskRec String ServerAdf.SAdf) (code : String) (pg : ServerM.Parsing)
    (h : parse code.toList = none)
    (ht : ServerM.nthOf j n db.tasks = some t) (hin : t.input = .parse code pg)
    (hlive : t.blockingDone = true ∧ t.written = false)
    (p : ServerM.Problem String ServerAdf.SAdf ServerAdf.SRes)
    (hp : db.problems.find? (ServerM.isProb t.username t.name) = some p) :
    (ServerM.dbEv (SrvC.libEnv o) db (.write j n)).problems.find? (ServerM.isProb t.username t.name) =
      some { p with adf := .error .parseError, parseOnly := .error .parseError } ∧
    ∀ (st : SrvC.SState) (jar : Nat) (s : ServerM.Strategy), st.sess jar = some t.username →
      st.db.problems.find? (ServerM.isProb t.username t.name) =
        some { p with adf := .error .parseError, parseOnly := .error .parseError } →
      (ServerM.step (SrvC.libEnv o) st ⟨jar, .solve t.name s⟩).2 = ⟨400, .keep, .msg (.couldNotParse .parseError)⟩ := by
  have hc := SrvC.conditions_of_parse_none code h
  refine ⟨?_, fun st jar s hs hf => ?_⟩
  · have herr := SrvC.libEnv_parse_error_iff o code _ hc pg
    simp only [ServerM.dbEv, ht, hlive.1, hlive.2, Bool.not_false, Bool.and_self, if_true, ServerM.exec, hin,
      ServerM.taskWrite, herr]
    rw [ServerM.find_updFirst_same _ _ (fun x hx => by rw [ServerM.isProb_apply]; exact hx), hp]
    rfl
  · simp only [ServerM.step, ServerM.stepT, ServerM.handler, ServerM.hSolve, hs, ServerM.run, ServerM.exec, hf,
      ServerM.reply]

/-- **web part (3): no answer is ever produced in the ATOMIC-request model** (every history of `ServerM.runAll`: any
interleaving of users' requests and task events, each request executed atomically; under COMMAND-level interleaving
the `add ∥ add` race of finding D14 gives a refused code a framework: `C16.add_race_answers_rejected_code`): in
every reachable state a document under an untainted key (no stale write of finding D9 since the key was last
cleared) whose code the parser refuses carries no framework and no result under any strategy -/
theorem web_no_answer_for_rejected_text (o : SrvC.Oracle) (es : List (ServerM.Event String))
    (p : ServerM.Problem String ServerAdf.SAdf ServerAdf.SRes)
    (hp : p ∈ (ServerM.runAll (SrvC.libEnv o) {} es).1.db.problems)
    (hn : ServerM.taintRun (SrvC.libEnv o) {} (fun _ _ => false) es p.username p.name = false)
    (h : parse p.code.toList = none) :
    (∀ a, p.adf ≠ .some a) ∧ ∀ s res, p.res.get s ≠ .some res :=
  SrvC.rejected_code_never_answered (SrvC.libEnv o) es p hp hn .parseError
    (SrvC.parse_rejected (T := Nat) o Bio.ttLib Bio.ttDump p.parsing p.code h).1

/-- instance: each rejection test of this file implies the service stores an error -/
theorem web_rejects_unbalanced (o : SrvC.Oracle) (pg : ServerM.Parsing) (code : String) (h : balanced code.toList = false) :
    (SrvC.libEnv o).parse pg code = .error .parseError :=
  (web_parse_rejects_rejected_text (T := Nat) o Bio.ttLib Bio.ttDump pg code (reject_unbalanced _ h)).1

-- non-vacuity, kernel-checked (`decide +kernel` evaluates the parser on a string literal)
example : ParserM.parse "s(a.".toList = none := by decide +kernel
example : (SrvC.libEnv {}).parse .hybrid "s(a." = .error .parseError :=
  (web_parse_rejects_rejected_text (T := Nat) {} Bio.ttLib Bio.ttDump .hybrid "s(a." (by decide +kernel)).1

#guard (parse "s(a.".toList).isNone
#guard (match (SrvC.libEnv {}).parse .naive "s(a.", (SrvC.hybEnv Bio.ttLib Bio.ttDump).parse .hybrid "s(a." with
  | .error .parseError, .error .parseError => true | _, _ => false)

/-- `s(a).ac(a,neg(a)).` as a character list -/
private def ex1 : List Char :=
  ['s','(','a',')','.','a','c','(','a',',','n','e','g','(','a',')',')','.']

/-- a label that needs quotes, a quoted empty label, blanks, a keyword-like label:
`s("a b"). s("").⏎s(c).ac("a b" ,⇥imp(c ,"")).⏎` -/
private def ex2 : List Char :=
  ['s','(','"','a',' ','b','"',')','.',' ','s','(','"','"',')','.','\n','s','(','c',')','.',
   'a','c','(','"','a',' ','b','"',' ',',','\t','i','m','p','(','c',' ',',','"','"',')',')','.','\n']

theorem ex1_parse :
    parse ex1 = some (PState.ofFacts [Fact.stmt ['a'], Fact.ac ['a'] (Fml.not (Fml.atom ['a']))]) := by decide
theorem ex2_parse : parse ex2 = some (PState.ofFacts [Fact.stmt ['a',' ','b'], Fact.stmt [], Fact.stmt ['c'],
    Fact.ac ['a',' ','b'] (Fml.imp (Fml.atom ['c']) (Fml.atom []))]) := by decide
example : parse ex1 = some (PState.ofFacts [Fact.stmt ['a'], Fact.ac ['a'] (Fml.not (Fml.atom ['a']))]) := ex1_parse
example : parse ex2 = some (PState.ofFacts [Fact.stmt ['a',' ','b'], Fact.stmt [], Fact.stmt ['c'],
    Fact.ac ['a',' ','b'] (Fml.imp (Fml.atom ['c']) (Fml.atom []))]) := ex2_parse
-- hence (soundness) the hypotheses of `parse_complete` are satisfiable: these texts are in the grammar
example : ∃ fs, fs ≠ [] ∧ DerFile fs ex1 :=
  let ⟨fs, a, b, _⟩ := parse_sound ex1 _ ex1_parse
  ⟨fs, a, b⟩
example : (parse ex2).isSome = true := by rw [ex2_parse]; rfl
example : ∃ fs, fs ≠ [] ∧ DerFile fs ex2 := (accepts_iff ex2).mp (by rw [ex2_parse]; rfl)
-- result_spec / names_spec: declaration order, duplicates, formula_order, a condition without declaration
example : (PState.ofFacts [Fact.stmt ['b'], Fact.ac ['a'] Fml.top, Fact.stmt ['a'], Fact.stmt ['b'],
    Fact.ac ['b'] Fml.bot]).formulaOrder = some [1, 0] := by decide
example : (PState.ofFacts [Fact.stmt ['b'], Fact.ac ['a'] Fml.top]).formulaOrder = none := by decide
example : namesOf [Fact.stmt ['b'], Fact.stmt ['a'], Fact.stmt ['b']] = [['b'], ['a']] := by decide
-- grammar_unambiguous: two derivations of the same text exist only for equal facts (instance: ex1)
example (gs : List Fact) (h : DerFile gs ex1) :
    gs = [Fact.stmt ['a'], Fact.ac ['a'] (Fml.not (Fml.atom ['a']))] := by
  have hp : parseFacts ex1 = some [Fact.stmt ['a'], Fact.ac ['a'] (Fml.not (Fml.atom ['a']))] := by decide
  exact grammar_unambiguous gs _ ex1 h (parseFacts_sound ex1 _ hp).2
-- keyword_labels: `and` is alphanumeric
example : AllAlnum ['a','n','d'] ∧ ['a','n','d'] ≠ [] := ⟨allAlnum_lit _ (by decide), by decide⟩
-- connective_semantics distinguishes imp's argument order
example : Fml.eval (fun _ => true) (.imp .bot .top) = true ∧ Fml.eval (fun _ => true) (.imp .top .bot) = false :=
  ⟨rfl, rfl⟩
-- the rejection tests fire on the intended mutations of ex1 …
example : endsWithDot ['s','(','a',')'] = false := by decide                      -- `s(a)`
example : endsWithDot ['s','(','a',')','.',' ','w','e','e'] = false := by decide   -- `s(a). wee`
example : parse (['s','(','a',')','.'] ++ [' ','w','e','e']) = none :=
  reject_trailing_garbage _ _ ⟨'w', by simp, by decide⟩ (by decide)
example : parse [' ','s','(','a',')','.'] = none := reject_bad_start _ (by decide)     -- leading blank
example : parse [] = none := reject_bad_start _ (by decide)
example : balanced ['s','(','a','.'] = false := by decide                          -- `s(a.`
example : balanced ['s','(','a',')',')','.'] = false := by decide                  -- `s(a)).`
example : arityOK ['a','c','(','a',',','a','n','d','(','a',')',')','.'] = false := by decide          -- `ac(a,and(a)).`
example : arityOK ['a','c','(','a',',','n','e','g','(','a',',','a',')',')','.'] = false := by decide  -- `ac(a,neg(a,a)).`
example : arityOK ['a','c','(','a',',','a',',','a',')','.'] = false := by decide                      -- `ac(a,a,a).`
example : arityOK ['a','c','(','a',',','n','o','t','(','a',')',')','.'] = false := by decide          -- `ac(a,not(a)).`
example : (['s','(','"','a',')','.'] : List Char).count '"' % 2 = 1 := by decide    -- `s("a).`
-- … and not on texts of the grammar (they are necessary conditions, satisfied by ex1 and ex2)
example : endsWithDot ex2 = true ∧ balanced ex2 = true ∧ arityOK ex2 = true ∧ ex2.count '"' % 2 = 0 := by decide
-- brackets inside quoted labels do not count
example : parse ['s','(','"','(','(','"',')','.'] = some (PState.ofFacts [Fact.stmt ['(','(']]) := by decide

end C08

#print axioms C08.web_parse_rejects_rejected_text
#print axioms C08.web_task_stores_error_for_rejected_text
#print axioms C08.web_no_answer_for_rejected_text
#print axioms C08.web_rejects_unbalanced
