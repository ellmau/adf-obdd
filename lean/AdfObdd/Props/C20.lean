import AdfObdd.IterFull
/-! # C20 — the interpretation iterators enumerate every completion / refinement exactly once

`twoValAll` / `threeValAll` are the functions the model driver runs for `it2` / `it3` and inside
`stable` / `complete`; `IterFull.It2` / `It3` are literal models of the two Rust structs
(`indexes`, `current`, `started`, `original`, `next`, `decrement_vec`).  Vectors are lists of
handles, an entry is decided iff it is `< 2`.  No bound on length or on the number of undecided
entries anywhere. -/
namespace C20
open IterFull Iter2M Iter3M

/-- two-valued: exactly `2^k` vectors, `k` = number of undecided entries -/
theorem two_count (v : List Nat) : (twoValAll v).length = 2 ^ nUnd v := by
  rw [twoValAll_eq_enum2, enum2_length, und_length]

/-- two-valued: no vector twice -/
theorem two_nodup (v : List Nat) : (twoValAll v).Nodup := by
  rw [twoValAll_eq_picks]; exact List.picks_nodup fun t _ => opt2_nodup t

/-- two-valued: a vector is yielded iff it is a total completion of the input
(every completion present, nothing else) -/
theorem two_exact (v w : List Nat) : w ∈ twoValAll v ↔ isCompletion w v := mem_twoValAll v w

/-- two-valued: decided positions are never altered and every yielded vector is total -/
theorem two_decided_kept (v w : List Nat) (h : w ∈ twoValAll v) :
    w.length = v.length ∧ (∀ i, i < v.length → v.getD i 0 < 2 → w.getD i 0 = v.getD i 0) ∧
    ∀ i, i < v.length → w.getD i 0 < 2 := by
  have ⟨hl, hc⟩ := (two_exact v w).mp h
  refine ⟨hl, ?_, ?_⟩
  · intro i hi hd; have := hc i hi; rwa [if_pos hd] at this
  · intro i hi
    have := hc i hi
    by_cases hd : v.getD i 0 < 2
    · rw [if_pos hd] at this; omega
    · rwa [if_neg hd] at this

/-- two-valued, the Rust iterator itself: calling `next` of the literal model until it answers
`None` yields exactly `twoValAll v`, and `None` is reached within any fuel `> 2^k`
(termination; the fuel of the driver's function is only a bound) -/
theorem two_literal_terminates (v : List Nat) (fuel : Nat) (hf : 2 ^ nUnd v < fuel) :
    It2.collect fuel (It2.new v) = (twoValAll v, true) := by
  have hpos : 0 < fuel := Nat.lt_of_le_of_lt (Nat.zero_le _) hf
  obtain ⟨f, rfl⟩ : ∃ f, fuel = f + 1 := ⟨fuel - 1, by omega⟩
  have h1 : (It2.collect (f+1) (It2.new v)).1 = twoValAll v := by
    rw [It2.collect_new, twoValAll_eq_enum2]
    exact collect2_enum v (f+1) (by omega)
  have h2 : (It2.collect (f+1) (It2.new v)).2 = true := by
    rw [It2.collect_flag, h1, two_count]; exact hf
  exact Prod.ext h1 h2

/-- the driver's function with any fuel `≥ 2^k` (fuel irrelevance) -/
theorem two_fuel (v : List Nat) (fuel : Nat) (hf : 2 ^ nUnd v ≤ fuel) :
    collectFrom (idxs v) fuel (start2 v) = twoValAll v := by
  rw [twoValAll_eq_enum2]; exact collect2_enum v fuel hf

/-- three-valued: exactly `3^k` vectors -/
theorem three_count (v : List Nat) : (threeValAll v).length = 3 ^ nUnd v := by
  rw [threeValAll_eq_enum3, enum3_length, und_length]

/-- three-valued: no vector twice -/
theorem three_nodup (v : List Nat) : (threeValAll v).Nodup := by
  rw [threeValAll_eq_picks]; exact List.picks_nodup fun t _ => opt3_nodup t

/-- three-valued: a vector is yielded iff it refines the input -/
theorem three_exact (v w : List Nat) : w ∈ threeValAll v ↔ isRefinement w v := mem_threeValAll v w

/-- three-valued: the first yielded vector is the interpretation itself -/
theorem three_first (v : List Nat) : (threeValAll v).head? = some v := by
  obtain ⟨tl, h⟩ := threeValAll_head v
  rw [h]; rfl

/-- three-valued: decided positions are never altered -/
theorem three_decided_kept (v w : List Nat) (h : w ∈ threeValAll v) :
    w.length = v.length ∧ ∀ i, i < v.length → v.getD i 0 < 2 → w.getD i 0 = v.getD i 0 := by
  have ⟨hl, hc⟩ := (three_exact v w).mp h
  refine ⟨hl, ?_⟩
  intro i hi hd; have := hc i hi; rwa [if_pos hd] at this

/-- three-valued, the Rust iterator itself (literal `next` / `decrement_vec`): collects exactly
`threeValAll v` and answers `None` within any fuel `> 3^k` -/
theorem three_literal_terminates (v : List Nat) (fuel : Nat) (hf : 3 ^ nUnd v < fuel) :
    It3.collect fuel (It3.new v) = (threeValAll v, true) := by
  have hpos : 0 < fuel := Nat.lt_of_le_of_lt (Nat.zero_le _) hf
  obtain ⟨f, rfl⟩ : ∃ f, fuel = f + 1 := ⟨fuel - 1, by omega⟩
  have h1 : (It3.collect (f+1) (It3.new v)).1 = threeValAll v := by
    rw [It3.collect_new, threeValAll_eq_enum3]
    exact collect3_enum v (f+1) (by omega)
  have h2 : (It3.collect (f+1) (It3.new v)).2 = true := by
    rw [It3.collect_flag, h1, three_count]; exact hf
  exact Prod.ext h1 h2

/-- the driver's function with any fuel `≥ 3^k` -/
theorem three_fuel (v : List Nat) (fuel : Nat) (hf : 3 ^ nUnd v ≤ fuel) :
    (collect3 fuel (List.replicate (idxs v).length 2)).map (toVec v (idxs v) v) = threeValAll v := by
  rw [threeValAll_eq_enum3]; exact collect3_enum v fuel hf

/-! non-vacuity: the predicates are inhabited and refutable, the literal machines run -/
example : isCompletion [1, 0, 0, 1] [1, 7, 0, 9] ∧ ¬ isCompletion [0, 0, 0, 1] [1, 7, 0, 9] := by decide
example : isRefinement [1, 7, 0, 1] [1, 7, 0, 9] ∧ ¬ isRefinement [1, 8, 0, 1] [1, 7, 0, 9] := by decide
example : twoValAll [1, 7, 0, 9] = [[1, 0, 0, 0], [1, 0, 0, 1], [1, 1, 0, 0], [1, 1, 0, 1]] := by decide
example : threeValAll [5, 1] = [[5, 1], [1, 1], [0, 1]] := by decide
example : It2.collect 5 (It2.new [1, 7, 0, 9]) = (twoValAll [1, 7, 0, 9], true) := by decide
example : It3.collect 4 (It3.new [5, 1]) = (threeValAll [5, 1], true) := by decide
example : nUnd [1, 7, 0, 9] = 2 := by decide

end C20
