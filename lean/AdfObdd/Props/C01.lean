import AdfObdd.AdfPipeline
import AdfObdd.PreGround
import AdfObdd.PreGround2
import AdfObdd.Bridge
import AdfObdd.FnRA
import AdfObdd.FromParserProofs
import AdfObdd.HybridExample
import AdfObdd.CliWorldProofs
/-! # C01 — the grounded interpretation is the least fixpoint, on every back-end

`Gam D` is the three-valued consequence operator of the acceptance conditions `D` (a statement is
true / false in `Gam D w` iff its condition is valid / unsatisfiable once the decided statements
of `w` are substituted, undecided otherwise; `Lfp.lean`). `IsLfp D g` = fixpoint below every fixpoint.
The algorithm (`groundedLoop`: snapshot of the decided statements at the start of a round, every
undecided condition restricted by all of them, stop when the number of constants does not grow) is
written once over a lawful restriction algebra `RA`; the native store is an instance (laws =
C06/C07), a faithful Boolean-function library such as biodivine is modelled by any lawful instance. -/
namespace C01

/-- generic algorithm, any lawful back-end, any conditions: the result is a fixpoint of Γ that lies
below every fixpoint; `n + 1` rounds suffice (termination) -/
theorem grounded_is_lfp_any_backend {S T : Type} (A : RA S T) (fuel : Nat) (s : S) (ac : List T)
    (hi : A.Inv s) (hv : AllValid A s ac) (hf : ac.length < fuel) :
    IsLfp (ac.map (A.den s)) (asg3 A (groundedLoop A fuel s ac).2) :=
  grounded_correct A fuel s ac hi hv hf

/-- the biodivine back-end, modelled as the ideal Boolean-function library (terms are functions,
restriction is the cofactor, constant detection exact — a lawful instance `FnRA`): its grounding
loop (same round function: snapshot of the decided statements, every undecided condition
restricted by all of them, stop when nothing new became constant) returns the least fixpoint -/
theorem grounded_biodivine_model_is_lfp (D : List BoolFn) :
    IsLfp D (asg3 FnRA (groundedLoop FnRA (D.length + 1) () D).2) :=
  grounded_ideal_library D

/-- native back-end on the efficient store (unique table, memo tables) -/
theorem grounded_native_is_lfp (fuel : Nat) (s : Store) (ac : List Nat) (w : WF s)
    (hv : ∀ t ∈ ac, t < s.nodes.size) (hf : ac.length < fuel) :
    IsLfp (ac.map (eval s)) ((groundedLoop StoreRA fuel s ac).2.map storeIsConst) :=
  grounded_native fuel s ac w hv hf

/-- native back-end end to end from the written formulas (`from_parser` then `grounded`): the framework
has exactly the statements `0 … fms.length-1`, one condition each, and every atom is one of them -/
theorem grounded_native_from_formulas (fms : List Fm) (hn : fms.length ≤ VBOT)
    (hv : ∀ f ∈ fms, NConc.atomsLt fms.length f) :
    let b := buildNative fms.length fms
    IsLfp (fms.map Fm.sem) ((groundedLoop StoreRA (fms.length + 1) b.1 b.2).2.map storeIsConst) :=
  grounded_native_end_to_end fms.length fms hn (fun f hf => NConc.atomsOK_of_lt hn f (hv f hf))
    (fms.length + 1) (Nat.lt_succ_self _)

/-- the more general form: `n` variable nodes created in advance for ANY `n ≤ Var::BOT`,
conditions over any atoms below `Var::BOT` - also frameworks whose conditions mention variables that
are not statements (`n` and `fms.length` unrelated) -/
theorem grounded_native_from_formulas_any_n (n : Nat) (fms : List Fm) (hn : n ≤ VBOT) (hv : ∀ f ∈ fms, f.atomsOK) :
    let b := buildNative n fms
    IsLfp (fms.map Fm.sem) ((groundedLoop StoreRA (fms.length + 1) b.1 b.2).2.map storeIsConst) :=
  grounded_native_end_to_end n fms hn hv (fms.length + 1) (Nat.lt_succ_self _)

/-- kernel-checked instance where a round really propagates: `s(a). s(b). s(c). ac(a,c(v)). ac(b,a).
ac(c,neg(b)).` - round 1 decides `a`, round 2 `b`, round 3 `c`; the model's `grounded` on the compiled
store reports `T T F` (through the theorem: least fixpoints are unique, and the least fixpoint of these
three functions is computed by evaluation on the truth-table library, `Bio.tt_lfp`) -/
example : (groundedLoop StoreRA 4 (buildNative 3 Bio.exChain).1 (buildNative 3 Bio.exChain).2).2.map storeIsConst =
    [some true, some true, some false] := by
  have h := grounded_native_from_formulas Bio.exChain (by simp [Bio.exChain, VBOT]) Bio.exChain_ok
  have e := h.unique (Bio.tt_lfp Bio.exChain Bio.exChain_ok)
  exact e.trans (by decide)

/-- exactly one grounded interpretation: least fixpoints of the same length are equal, so all
back-ends report the same one -/
theorem grounded_unique (D : List BoolFn) (g g' : I3) (h : IsLfp D g) (h' : IsLfp D g') : g = g' :=
  h.unique h'

/-- hybrid back-end with biodivine pre-grounding: substituting the grounded interpretation into
the conditions (what `hybrid_step` hands to the native store) leaves the least fixpoint unchanged -/
theorem pregrounded_same_lfp (D : List BoolFn) (g : I3) (h : IsLfp D g) : IsLfp (pre D g) g := pre_lfp D g h

/-- hybrid back-end without pre-grounding: the bridged handles denote the dump's functions in a
well-formed store (C09), so `grounded_native_is_lfp` applies to them -/
theorem hybrid_bridge_then_native (d : List Node) (hd : DumpOK d) (hlen : 2 ≤ d.length) (s : Store) (w : WF s) :
    WF (replayL (d.drop 2) s [0, 1]).1 ∧
    ∀ (j t : Nat) (f : BoolFn), (replayL (d.drop 2) s [0, 1]).2[j]? = some t → Den d j f →
      t < (replayL (d.drop 2) s [0, 1]).1.nodes.size ∧ ∀ σ, eval (replayL (d.drop 2) s [0, 1]).1 t σ = f σ :=
  let x := bridge_correct d hd hlen s w
  ⟨x.1, x.2.2.2⟩

/-- **hybrid back-end, end to end** (`adfbiodivine::Adf::hybrid_step_opt(opt)` then the native
`Adf::grounded`; model `Bio.hybridStep`, HybridModel.lean): optional biodivine grounding → residual
diagrams → dump of each diagram → replay through `Bdd::node` into ONE fresh native store, in statement
order → native grounding loop. For BOTH values of the flag the reported vector is the least fixpoint of Γ
for the ORIGINAL conditions `ac.map W.den`, and it is the vector biodivine's own `grounded` reports.

ASSUMPTIONS ABOUT THE EXTERNAL CRATE (hypotheses, not axioms): `W : Bio.Lawful L n` (its operations
compute what their names say, BioModel.lean) and `hd : Bio.DumpSpec W dump` (the textual dump of a
non-constant diagram is an ordered table - two terminal entries first, children before parents, larger
variables below - whose last entry denotes the diagram; DESIGN §4). `hd` is an ASSUMPTION, it is not
checked on real dumps: the harness never sees biodivine's dump text, it validates the BRIDGED native
table (`wfCheck`, and `isoCheck` against the natively compiled conditions). The assumption about the
library includes the law of its inherent `restrict` (`Lawful.restrict_spec`: cofactor), which is what
`ac.restrict(..)` in `adfbiodivine.rs` calls - NOT the file's own `select`-then-`exists`, which is dead
code. Instances of both hypotheses: truth tables with their decision-tree dump (`Bio.ttDump2_spec`)
and the project's own reduced, shared diagrams (`Bio.storeLawful`, `Bio.storeDump_spec`, StoreLib.lean). -/
theorem hybrid_grounded_is_lfp {T : Type} (L : Bio.Lib T) (n : Nat) (W : Bio.Lawful L n)
    (dump : T → List Node) (hd : Bio.DumpSpec W dump) (opt : Bool)
    (ac : List T) (hv : ∀ a ∈ ac, W.Valid a) (hn : ac.length = n) :
    let r := Bio.hybridStep L dump opt ac
    let out := (groundedLoop StoreRA (n + 1) r.1 r.2).2.map storeIsConst
    IsLfp (ac.map W.den) out ∧ out = (Bio.bioGrounded L ac).map storeIsConst :=
  Bio.hybrid_grounded W hd opt ac hv hn

/-- `hybrid_grounded_is_lfp` from the WRITTEN framework: biodivine `from_parser` (`Bio.fromFormulas`: `eval_expression` of
`to_boolean_expr` of each condition), `hybrid_step_opt`, native `grounded` = least fixpoint of Γ for the
written conditions -/
theorem hybrid_grounded_from_formulas {T : Type} (L : Bio.Lib T) (fms : List Fm) (W : Bio.Lawful L fms.length)
    (dump : T → List Node) (hd : Bio.DumpSpec W dump) (opt : Bool)
    (hv : ∀ f ∈ fms, NConc.atomsLt fms.length f) :
    let r := Bio.hybridStep L dump opt (Bio.fromFormulas L fms)
    IsLfp (fms.map Fm.sem) ((groundedLoop StoreRA (fms.length + 1) r.1 r.2).2.map storeIsConst) := by
  have ⟨a, b, c, _⟩ := Bio.fromFormulas_spec fms W hv
  have := (Bio.hybrid_grounded W hd opt _ b a).1
  rw [c] at this; exact this

/-- non-vacuity of the hybrid theorems: the truth-table library over two variables is lawful
(`Bio.ttLawful 2`), its decision-tree dump satisfies `Bio.DumpSpec` (`Bio.ttDump2_spec`); on
`s(a). s(b). ac(a,c(v)). ac(b,a).` the hybrid-built object's `grounded` reports `T T` for both flags - with
`opt = true` biodivine propagates and the bridge only sees constants, with `opt = false` the diagram of
`b`'s condition is dumped, replayed and the native loop propagates -/
example (opt : Bool) :
    let r := Bio.hybridStep (Bio.ttLib 2) Bio.ttDump2 opt (Bio.fromFormulas (Bio.ttLib 2) Bio.exChain2)
    (groundedLoop StoreRA 3 r.1 r.2).2.map storeIsConst = [some true, some true] := by
  have h := hybrid_grounded_from_formulas (Bio.ttLib 2) Bio.exChain2 (Bio.ttLawful 2) Bio.ttDump2
    Bio.ttDump2_spec opt Bio.exChain2_ok
  have e := h.unique (Bio.tt_lfp Bio.exChain2 Bio.exChain2_ok)
  exact e.trans (by decide)

/-- non-vacuity: `s(a). s(b). ac(a, c(v)). ac(b, a).` satisfies the hypotheses -/
example : (∀ f ∈ [Fm.top, Fm.atom 0], f.atomsOK) ∧ 2 ≤ VBOT := by
  refine ⟨?_, by simp [VBOT]⟩
  intro f hf
  simp at hf
  rcases hf with h | h <;> subst h <;> simp [Fm.atomsOK, VBOT]

/-- non-vacuity of `grounded_native_is_lfp` / `grounded_is_lfp_any_backend`: the fresh store with the
two constant conditions ⊤, ⊥ meets the hypotheses, and the ideal library any list of functions -/
example : WF Store.init ∧ (∀ t ∈ [1, 0], t < Store.init.nodes.size) ∧ [1, 0].length < 3 := by
  refine ⟨WF_init, ?_, by simp⟩
  intro t ht
  simp at ht
  rcases ht with h | h <;> subst h <;> simp [Store.init]

end C01

/-! ## end to end from the TEXT, facts in any order (`FromParser`, `FromParserProofs`) -/
namespace C01
open ParserM FromParser

/-- **from the text to the grounded interpretation.** If the parser (C08 model `parse`) accepts the
text `t`, then `t` spells a non-empty list of facts `fs` (unique: C08.grammar_unambiguous);
`from_parser` on the parser object panics iff `fs` is not a well-formed ADF; otherwise — whatever the
order of the facts in the text — the store is well formed, `ac` denotes position-wise the
index-level functions `condFns fs` of the written conditions (last condition per statement, ⊥ if
none), and the vector `grounded` computes on it is the least fixpoint of Γ for them. -/
theorem grounded_from_text (t : List Char) (st : PState) (h : parse t = some st) :
    ∃ fs, fs ≠ [] ∧ DerFile fs t ∧ st = PState.ofFacts fs ∧ dictSizeOf st = (namesOf fs).length ∧
      ((fromParser st).isSome = true ↔ WellFormedAdf fs) ∧
      ∀ s ac, fromParser st = some (s, ac) → dictSizeOf st ≤ VBOT →
        WF s ∧ (∀ t ∈ ac, t < s.nodes.size) ∧ ac.map (eval s) = condFns fs ∧
        IsLfp (condFns fs) ((groundedLoop StoreRA (dictSizeOf st + 1) s ac).2.map storeIsConst) := by
  obtain ⟨fs, hne, hder, rfl⟩ := parse_some_der t st h
  refine ⟨fs, hne, hder, rfl, dictSizeOf_ofFacts fs, fromParser_isSome_iff fs, ?_⟩
  intro s ac hb hn
  rw [dictSizeOf_ofFacts] at hn ⊢
  obtain ⟨w, hl, hv, hD⟩ := fromParser_correct fs s ac hb hn
  have := grounded_native ((namesOf fs).length + 1) s ac w hv (by omega)
  rw [hD] at this
  exact ⟨w, hv, hD, this⟩

/-- `grounded_from_text` for the complete interpretations (C02: exactly the fixpoints of Γ, once each,
the grounded one first) and the stable models (C03: exactly those of the definition, once each) -/
theorem complete_stable_from_text (t : List Char) (st : PState) (h : parse t = some st)
    (s : Store) (ac : List Nat) (hb : fromParser st = some (s, ac)) (hn : dictSizeOf st ≤ VBOT) :
    ∃ fs, fs ≠ [] ∧ DerFile fs t ∧ st = PState.ofFacts fs ∧
      (let n := dictSizeOf st
       ((completeAll s n ac).2.2.map (fun v => v.map storeIsConst)).Nodup ∧
       (∀ w : I3, w ∈ (completeAll s n ac).2.2.map (fun v => v.map storeIsConst) ↔
         (w.length = n ∧ Gam (condFns fs) w = w)) ∧
       (completeAll s n ac).2.2.head? = some (completeAll s n ac).2.1) ∧
      (let n := dictSizeOf st
       let out := (stableAll s n ac).2.map (fun v => v.map storeIsConst)
       out.Nodup ∧ ∀ v : I3, v ∈ out ↔ (v.length = n ∧ StableExact.StableI (condFns fs) v)) :=
  FromParser.complete_stable_from_text t st h s ac hb hn

/-- `ac(c,and(a,b)).s(a).s(b).s(c).ac(b,a).ac(a,c(v)).` — the condition of `c` before every
declaration, the conditions in the order c, b, a -/
private def exT : List Char :=
  ['a','c','(','c',',','a','n','d','(','a',',','b',')',')','.','s','(','a',')','.','s','(','b',')','.',
   's','(','c',')','.','a','c','(','b',',','a',')','.','a','c','(','a',',','c','(','v',')',')','.']
private def exF : List Fact :=
  [.ac ['c'] (.and (.atom ['a']) (.atom ['b'])), .stmt ['a'], .stmt ['b'], .stmt ['c'],
   .ac ['b'] (.atom ['a']), .ac ['a'] .top]

/-- non-vacuity of `grounded_from_text`: the text is accepted with these facts, they are a
well-formed ADF, so `from_parser` returns some `(s, ac)`, and three statements are below the bound -/
example : parse exT = some (PState.ofFacts exF) ∧ WellFormedAdf exF ∧
    (∃ s ac, fromParser (PState.ofFacts exF) = some (s, ac)) ∧ dictSizeOf (PState.ofFacts exF) ≤ VBOT := by
  refine ⟨by decide, by decide, ?_, by rw [dictSizeOf_ofFacts]; simp [VBOT, exF, namesOf]⟩
  cases hb : fromParser (PState.ofFacts exF) with
  | none => have := fromParser_isSome exF (by decide); rw [hb] at this; cases this
  | some r => exact ⟨r.1, r.2, rfl⟩
/-- **hybrid back-end from a file with the facts in ANY order** (conditions before declarations, several
or no condition for a statement, any `formula_order`): the library-side `from_parser` (`CliM.bioBuild`:
variables from the name list, every condition of the file written at `formula_order[k]`) does not panic
on a well-formed file whose labels the library accepts, and `hybrid_step_opt(opt)` + native `grounded` on
its result is the least fixpoint of Γ for `condFns fs` (the last condition written per statement, ⊥ if
none) - the same framework `grounded_from_text` gives the native arm -/
theorem hybrid_grounded_from_facts {T : Type} (L : Bio.Lib T) (fs : List Fact)
    (W : Bio.Lawful L (namesOf fs).length) (dump : T → List Node) (hd : Bio.DumpSpec W dump) (opt : Bool)
    (hwf : WellFormedAdf fs) (hn : (namesOf fs).length ≤ VBOT)
    (hnames : (namesOf fs).all CliM.bioNameOK = true) :
    ∃ (acB : List T) (rw : Option T), CliM.bioBuild L (PState.ofFacts fs) false = some (acB, rw) ∧
      let r := Bio.hybridStep L dump opt acB
      IsLfp (condFns fs) ((groundedLoop StoreRA ((namesOf fs).length + 1) r.1 r.2).2.map storeIsConst) := by
  obtain ⟨acB, rw, hb, hl, hv, hden, _⟩ := CliMP.bioBuild_facts W (CliMP.pres_ofFacts fs) hwf hn hnames false
  refine ⟨acB, rw, hb, ?_⟩
  have := (Bio.hybrid_grounded W hd opt acB hv hl).1
  rw [hden] at this
  exact this

/-- non-vacuity: `ac(c,and(a,b)).s(a).s(b).s(c).ac(b,a).ac(a,c(v)).` (the condition of `c` before every
declaration, conditions in the order c, b, a) on the truth-table library with its decision-tree dump:
grounded through the hybrid pipeline = `T T T`, for both flags -/
example (opt : Bool) : ∃ acB rw, CliM.bioBuild (Bio.ttLib 3) (PState.ofFacts exF) false = some (acB, rw) ∧
    IsLfp (condFns exF) ((groundedLoop StoreRA 4 (Bio.hybridStep (Bio.ttLib 3) (Bio.ttDump 3) opt acB).1
      (Bio.hybridStep (Bio.ttLib 3) (Bio.ttDump 3) opt acB).2).2.map storeIsConst) :=
  hybrid_grounded_from_facts (Bio.ttLib 3) exF (Bio.ttLawful 3) (Bio.ttDump 3) (Bio.ttDump_spec 3 (by simp [VBOT]))
    opt (by decide) (by simp [VBOT, exF, namesOf]) (by decide)

-- the evaluation on this text: a ↦ ⊤, b ↦ a, c ↦ a ∧ b at positions 0, 1, 2; grounded = T T T
#guard ((parse exT).bind fromParser).map (fun r => (groundedLoop StoreRA 4 r.1 r.2).2) == some [1, 1, 1]
#guard ((parse exT).bind fromParser).map (·.2) == some [1, 2, 5]

end C01

#print axioms C01.grounded_is_lfp_any_backend
#print axioms C01.grounded_biodivine_model_is_lfp
#print axioms C01.grounded_native_is_lfp
#print axioms C01.grounded_native_from_formulas
#print axioms C01.grounded_native_from_formulas_any_n
#print axioms C01.grounded_unique
#print axioms C01.pregrounded_same_lfp
#print axioms C01.hybrid_bridge_then_native
#print axioms C01.hybrid_grounded_is_lfp
#print axioms C01.hybrid_grounded_from_formulas
#print axioms C01.grounded_from_text
#print axioms C01.complete_stable_from_text
#print axioms C01.hybrid_grounded_from_facts
