import AdfObdd.Lfp
/-! the code's stability test (ground the reduct, compare every position)
    is equivalent to the definition of a stable model -/

def falsePart (v : I3) : I3 := v.map (fun x => if x = some false then some false else none)

/-- every condition with the false statements of `v` replaced by ⊥ -/
def redu (D : List BoolFn) (v : I3) : List BoolFn := D.map (fun f σ => f (over σ 0 (falsePart v)))

def TotalI (v : I3) : Prop := ∀ i, i < v.length → ∃ b, v[i]? = some (some b)

theorem value_of_total_fix {D : List BoolFn} {v : I3} {σ : Asg} (hfix : Gam D v = v) (ht : TotalI v)
    (hl : v.length = D.length) (ha : Agree σ v) : ∀ (i : Nat) (f : BoolFn), D[i]? = some f → f σ = σ i := by
  intro i f hf
  obtain ⟨b, hb⟩ := ht i (hl ▸ lt_length_of_get? hf)
  rw [Gam_value (by rw [hfix]; exact hb) ha hf, ha i b hb]

theorem all_isSome_iff_total (w : I3) : w.all Option.isSome = true ↔ TotalI w := by
  rw [List.all_eq_true]
  constructor
  · intro h i hi
    obtain ⟨b, hb⟩ := Option.isSome_iff_exists.mp (h w[i] (List.getElem_mem hi))
    exact ⟨b, by rw [List.getElem?_eq_getElem hi, hb]⟩
  · intro h x hx
    obtain ⟨i, hi, rfl⟩ := List.getElem_of_mem hx
    obtain ⟨b, hb⟩ := h i hi
    rw [List.getElem?_eq_getElem hi] at hb
    rw [Option.some.inj hb]; rfl

def IsLfp (D : List BoolFn) (w : I3) : Prop := Gam D w = w ∧ ∀ w', Gam D w' = w' → Le3 w w'

theorem IsLfp.unique {D : List BoolFn} {g g' : I3} (h : IsLfp D g) (h' : IsLfp D g') : g = g' :=
  Le3_antisymm (by rw [fix_length h.1, fix_length h'.1]) (h.2 g' h'.1) (h'.2 g h.1)

theorem IsLfp.eq_iff {D : List BoolFn} {g v : I3} (h : IsLfp D g) : g = v ↔ IsLfp D v :=
  ⟨fun e => e ▸ h, h.unique⟩

theorem IsLfp.congr {D D' : List BoolFn} (h : ∀ w, Gam D w = w ↔ Gam D' w = w) {L : I3} :
    IsLfp D L ↔ IsLfp D' L :=
  and_congr (h L) (forall_congr' fun w => imp_congr_left (h w))

theorem falsePart_get (v : I3) (i : Nat) :
    (falsePart v)[i]? = (v[i]?).map (fun x => if x = some false then some false else none) := by
  simp [falsePart]

theorem Le3_falsePart (v : I3) : Le3 (falsePart v) v := by
  intro i b h
  rw [falsePart_get] at h
  obtain ⟨x, hv, hx⟩ := Option.map_eq_some_iff.mp h
  split at hx
  · rename_i e; rw [hv, e, ← Option.some.inj hx]
  · cases hx

theorem redu_get (D : List BoolFn) (v : I3) (i : Nat) :
    (redu D v)[i]? = (D[i]?).map (fun f σ => f (over σ 0 (falsePart v))) := by
  simp [redu]

theorem Gam_redu_total (D : List BoolFn) (v : I3) : Gam (redu D v) v = Gam D v :=
  Gam_subst_above D (Le3_falsePart v)

/-- what Γ forces under `u` the operator of the reduct by `v ≥ u` forces under any `w` that has `u`'s true statements:
the false statements of `u` are substituted by the reduct, the true ones by `w` -/
theorem Gam_le_redu (D : List BoolFn) {u v w : I3} (huv : Le3 u v)
    (hw : ∀ j : Nat, u[j]? = some (some true) → w[j]? = some (some true)) :
    Le3 (Gam D u) (Gam (redu D v) w) := by
  intro i b h
  obtain ⟨f, hf, hc⟩ := Gam_decided.mp h
  refine Gam_decided.mpr ⟨_, by rw [redu_get, hf]; rfl, fun σ => ?_⟩
  have ag : Agree (over (over σ 0 w) 0 (falsePart v)) u := by
    intro j c hj
    rw [over_zero_apply, falsePart_get, huv j c hj]
    cases c with
    | false => rfl
    | true => exact agree_over σ w j true (hw j hj)
  have := hc (over (over σ 0 w) 0 (falsePart v))
  rwa [over_of_agree ag] at this

theorem Le3_antisymm_total {w v : I3} (hl : w.length = v.length) (ht : TotalI v) (h : Le3 v w) : w = v := by
  apply List.ext_getElem?
  intro i
  rcases Nat.lt_or_ge i v.length with hi | hi
  · obtain ⟨b, hb⟩ := ht i hi
    rw [hb]; exact h i b hb
  · rw [List.getElem?_eq_none hi, List.getElem?_eq_none (by omega)]

/-- C03 core: for a total `v`, "the least fixpoint of the reduct equals `v` at every position"
(what the code tests) is equivalent to "`v` is a two-valued model and its true statements are
true in the least fixpoint of the reduct" (the definition). -/
theorem stable_check_iff (D : List BoolFn) (v w : I3) (hlen : v.length = D.length) (ht : TotalI v)
    (hw : IsLfp (redu D v) w) :
    w = v ↔ (Gam D v = v ∧ ∀ (i : Nat), v[i]? = some (some true) → w[i]? = some (some true)) := by
  constructor
  · intro h
    subst h
    refine ⟨?_, fun i hi => hi⟩
    rw [← Gam_redu_total]; exact hw.1
  · intro ⟨hm, htrue⟩
    have hwl : w.length = (redu D v).length := fix_length hw.1
    rw [redu, List.length_map] at hwl
    apply Le3_antisymm_total (by omega) ht
    intro i b hb
    cases b with
    | true => exact htrue i hb
    | false =>
      rw [← hm] at hb
      rw [← hw.1]
      exact Gam_le_redu D (Le3.refl v) htrue i false hb
#print axioms stable_check_iff

/-- the definition: a two-valued model whose true statements are re-derived from the reduct -/
def StableExact.StableI (D : List BoolFn) (v : I3) : Prop :=
  TotalI v ∧ Gam D v = v ∧
    ∀ w : I3, IsLfp (redu D v) w → ∀ i : Nat, v[i]? = some (some true) → w[i]? = some (some true)

/-- `v` is the least fixpoint of its own reduct: what every stability test of the code decides -/
def SelfLfp (D : List BoolFn) (v : I3) : Prop := IsLfp (redu D v) v

theorem exists_lfp (D : List BoolFn) : ∃ w, IsLfp D w :=
  ⟨_, grounded_sem D (D.length + 1) (Nat.lt_succ_self _)⟩

theorem StableExact.StableI_iff {D : List BoolFn} {v : I3} (hlen : v.length = D.length) :
    StableI D v ↔ TotalI v ∧ SelfLfp D v := by
  constructor
  · intro ⟨ht, hm, htr⟩
    obtain ⟨w, hw⟩ := exists_lfp (redu D v)
    exact ⟨ht, (stable_check_iff D v w hlen ht hw).mpr ⟨hm, htr w hw⟩ ▸ hw⟩
  · intro ⟨ht, hs⟩
    exact ⟨ht, ((stable_check_iff D v v hlen ht hs).mp rfl).1, fun w hw i hi => hw.unique hs ▸ hi⟩
