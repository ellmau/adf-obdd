import AdfObdd.FeatureSemantics
import AdfObdd.StreamFull
/-! C12: predicates on the configured store that every primitive keeps (`Stable`), used as the
    `P` of `RelP c z P A`:

    * `LogInv` — the `frontend` channel: with a sender attached the log is the list of the nodes
      created since, in creation order; without the feature or without a sender it does not grow
      (`LogInv.idle`); the sender flag never changes (`stable_sender`);
    * `CntSplit` — the exception configuration after `fix_import`: entries of imported nodes keep
      their exact value, nodes created afterwards get model components 0;
    * `ExtFrom` — the node table only grows.

    Also: the operation sequences of `FeatureOps` keep `RelP`. -/

theorem Stable.and {c : Cfg} {P Q : FStore → Prop} (p : Stable c P) (q : Stable c Q) :
    Stable c (fun fs => P fs ∧ Q fs) :=
  ⟨fun fs v lo hi h => ⟨p.node fs v lo hi h.1, q.node fs v lo hi h.2⟩,
   fun fs k r h => ⟨p.insRes fs k r h.1, q.insRes fs k r h.2⟩,
   fun fs k r h => ⟨p.insIte fs k r h.1, q.insIte fs k r h.2⟩,
   fun ha fs x h => ⟨p.cnt ha fs x h.1, q.cnt ha fs x h.2⟩⟩

/-- `Bdd::set_sender` -/
def FStore.setSender (fs : FStore) : FStore := { fs with sender := true }

/-- a sender was attached when the node table had `k` entries and the log was `L` -/
def LogInv (c : Cfg) (k : Nat) (L : List Node) (fs : FStore) : Prop :=
  k ≤ fs.base.nodes.size ∧
  fs.log = L ++ (if (c.frontend && fs.sender) = true then fs.base.nodes.toList.drop k else [])

theorem LogInv.stable (c : Cfg) (k : Nat) (L : List Node) : Stable c (LogInv c k L) where
  node := fun fs v lo hi h => by
    rcases nodeC_store c fs v lo hi with h0 | h0 <;> rw [h0]
    · exact h
    · obtain ⟨h1, h2⟩ := h
      refine ⟨by simp only [Array.size_push]; omega, ?_⟩
      simp only [Array.toList_push]
      by_cases ha : (c.frontend && fs.sender) = true
      · rw [if_pos ha] at h2
        rw [if_pos ha, if_pos ha, h2, List.drop_append_of_le_length (by simpa using h1), List.append_assoc]
      · rw [if_neg ha] at h2
        rw [if_neg ha, if_neg ha, h2]
  insRes := fun _ _ _ h => h
  insIte := fun _ _ _ h => h
  cnt := fun _ _ _ h => h

theorem LogInv.attach (c : Cfg) (fs : FStore) : LogInv c fs.base.nodes.size fs.log fs.setSender := by
  refine ⟨Nat.le_refl _, ?_⟩
  show fs.log = fs.log ++ (if (c.frontend && true) = true then fs.base.nodes.toList.drop fs.base.nodes.size else [])
  have : fs.base.nodes.toList.drop fs.base.nodes.size = [] := by
    apply List.drop_eq_nil_of_le; simp
  rw [this]; simp

/-- no sender (the state after `Bdd::new`), or the feature is off: the log stays what it was -/
theorem LogInv.idle (c : Cfg) (fs : FStore) (h : (c.frontend && fs.sender) = false) :
    LogInv c 0 fs.log fs := by
  refine ⟨Nat.zero_le _, ?_⟩
  rw [h]; simp

theorem stable_sender (c : Cfg) (b : Bool) : Stable c (fun fs => fs.sender = b) where
  node := fun fs v lo hi hs => by
    rcases nodeC_store c fs v lo hi with h0 | h0 <;> rw [h0] <;> exact hs
  insRes := fun _ _ _ h => h
  insIte := fun _ _ _ h => h
  cnt := fun _ _ _ h => h

def CntSplit (k : Nat) (old : Nat → CN) (fs : FStore) : Prop :=
  k ≤ fs.base.nodes.size ∧ ∀ t r, fs.cnt[t]? = some r → (t < k → r = old t) ∧ (k ≤ t → r.cm = 0 ∧ r.m = 0)

theorem CntSplit.stable (c : Cfg) (he : c.exc = true) (k : Nat) (old : Nat → CN) : Stable c (CntSplit k old) := by
  have ⟨ha, hm⟩ := Cfg.exc_iff.mp he
  refine ⟨?_, fun _ _ _ h => h, fun _ _ _ h => h, fun h' => by rw [ha] at h'; cases h'⟩
  intro fs v lo hi h
  rcases nodeC_store c fs v lo hi with h0 | h0 <;> rw [h0]
  · exact h
  · obtain ⟨h1, h2⟩ := h
    refine ⟨by simp only [Array.size_push]; omega, ?_⟩
    simp only [ha, if_true, hm]
    cases hl : fs.cnt[lo]? with
    | none => exact h2
    | some l =>
      cases hh : fs.cnt[hi]? with
      | none => exact h2
      | some hcn =>
        intro t r hr
        rcases insert_cases fs.cnt fs.base.nodes.size (CN.adhoc false l hcn) t with ⟨rfl, e⟩ | ⟨_, e⟩ <;>
          rw [e] at hr
        · cases hr
          exact ⟨fun hlt => by omega, fun _ => CN.adhoc_false_models l hcn⟩
        · exact h2 t r hr

theorem modelsC_split (c : Cfg) (he : c.exc = true) (z : Bool) (fs : FStore) (inv : FInv c z fs) (k : Nat)
    (old : Nat → CN) (sp : CntSplit k old fs) (t : Nat) (ht2 : 2 ≤ t) (ht : t < fs.base.nodes.size) :
    (k ≤ t → (modelsC c fs t true).1 = (0, 0)) ∧ (t < k → (modelsC c fs t true).1 = ((old t).cm, (old t).m)) := by
  obtain ⟨r, hr⟩ := inv.tab.full (Cfg.exc_iff.mp he).1 t ht
  have ⟨s1, s2⟩ := sp.2 t r hr
  rw [(modelsC_entry he fs ht2 hr).1]
  exact ⟨fun h => by rw [(s2 h).1, (s2 h).2], fun h => by rw [s1 h]⟩

theorem CntSplit.import (c : Cfg) (nodes : Array Node) (uniq : Std.HashMap Node Nat) (w : WF ⟨nodes, uniq, ∅, ∅⟩) :
    CntSplit nodes.size (naive ⟨nodes, uniq, ∅, ∅⟩) (fixImportC c (importC nodes uniq)) := by
  have ⟨_, b⟩ := fixImportC_inv c (importC nodes uniq) w rfl (CntOK_empty _ _)
  refine ⟨Nat.le_refl _, ?_⟩
  intro t r hr
  have ⟨lt, ag⟩ := b t r hr
  exact ⟨fun _ => CN.agree_true ag, fun hk => by
    have : t < nodes.size := lt
    omega⟩

def ExtFrom (ns : Array Node) (fs : FStore) : Prop := ns.size ≤ fs.base.nodes.size ∧ ExtN ns fs.base.nodes

theorem ExtFrom.stable (c : Cfg) (ns : Array Node) : Stable c (ExtFrom ns) where
  node := fun fs v lo hi h => by
    rcases nodeC_store c fs v lo hi with h0 | h0 <;> rw [h0]
    · exact h
    · exact ⟨by simp only [Array.size_push]; have := h.1; omega,
        fun i n hn => ExtN_push _ _ i n (h.2 i n hn)⟩
  insRes := fun _ _ _ h => h
  insIte := fun _ _ _ h => h
  cnt := fun _ _ _ h => h

theorem stepOpC_pres {c : Cfg} {P : FStore → Prop} (st : Stable c P) (fs : FStore) (hist : List Nat) (op : Op)
    (h : P fs) : P (stepOpC c fs hist op).1 := by
  cases op with
  | var v => exact st.node _ _ _ _ h
  | const b => exact h
  | not a => exact iteCfg_pres st _ _ _ _ _ h
  | and a b => exact iteCfg_pres st _ _ _ _ _ h
  | or a b => exact iteCfg_pres st _ _ _ _ _ h
  | imp a b => exact iteCfg_pres st _ _ _ _ _ h
  | iff a b => exact iteCfg_pres st _ _ _ _ _ (iteCfg_pres st _ _ _ _ _ h)
  | xor a b => exact iteCfg_pres st _ _ _ _ _ (iteCfg_pres st _ _ _ _ _ h)
  | restrict a v b => exact restrictC_pres st _ _ _ _ _ h

theorem runOpsC_pres {c : Cfg} {P : FStore → Prop} (st : Stable c P) : ∀ (ops : List Op) (fs : FStore) (hist : List Nat),
    P fs → P (runOpsC c ops fs hist).1 := by
  intro ops
  induction ops with
  | nil => intro fs hist h; exact h
  | cons op ops ih => intro fs hist h; exact ih _ _ (stepOpC_pres st fs hist op h)

theorem run_relP (c : Cfg) (z : Bool) {P : FStore → Prop} {A : Prop} (st : Stable c P) (ops : List Op) (fs : FStore) (s : Store)
    (hist : List Nat) (fns : List BoolFn) (h : RelP c z P A fs s) (hh : HistOK s hist fns) (hv : opsValid ops hist.length) :
    (runOpsC c ops fs hist).2 = (runOps ops s hist).2 ∧ RelP c z P A (runOpsC c ops fs hist).1 (runOps ops s hist).1 :=
  have ⟨a, b⟩ := run_same c z ops fs s hist fns h.1 hh hv
  ⟨a, b, runOpsC_pres st ops fs hist h.2⟩

#print axioms LogInv.stable
#print axioms CntSplit.stable
#print axioms modelsC_split
