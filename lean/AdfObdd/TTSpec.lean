import AdfObdd.Spec.TT
import AdfObdd.CountsMore
/-! The executable truth-table specification `Spec/TT.lean` means what it says: a table `t`
    over `nv` variables *represents* a Boolean function `f` (`TT.Rep nv t f`: bit `a` of `t` is
    `f` at the assignment whose variable `x` is bit `x` of `a`, and no bit ≥ `2^nv` is set);
    the table operations represent the corresponding operations on functions, `TT.restrict` is
    the cofactor, `TT.essential` decides `Essential`, `TT.sat` / `TT.unsat` are the Shannon
    counts `sat` of `Counts.lean` over the variables `0 … nv-1` in any order.
    (`TT.depth` / `TT.paths`, which describe the reduced ordered diagram of the function, are
    in `TTDepthPaths.lean`.) -/
namespace TT

def bitsAsg (a : Nat) : Asg := fun x => a.testBit x

/-- `f` looks at the variables `0 … nv-1` only -/
def DetBy (nv : Nat) (f : BoolFn) : Prop := ∀ σ σ' : Asg, (∀ x, x < nv → σ x = σ' x) → f σ = f σ'

def Rep (nv t : Nat) (f : BoolFn) : Prop := ∀ a, t.testBit a = (decide (a < 2 ^ nv) && f (bitsAsg a))

theorem foldl_setbits (f : Nat → Bool) : ∀ (l : List Nat) (acc a : Nat),
    (l.foldl (fun acc a => if f a then acc ||| (1 <<< a) else acc) acc).testBit a =
      (acc.testBit a || (decide (a ∈ l) && f a)) := by
  intro l
  induction l with
  | nil => intro acc a; simp
  | cons x l ih =>
    intro acc a
    rw [List.foldl_cons, ih]
    by_cases hax : a = x
    · subst hax
      by_cases hf : f a = true
      · simp [hf, Nat.testBit_or, Nat.one_shiftLeft]
      · simp [hf]
    · have hxa : ¬ x = a := fun h => hax h.symm
      by_cases hf : f x = true
      · simp [hf, Nat.testBit_or, Nat.one_shiftLeft, hax, hxa]
      · simp [hf, hax]

theorem ofFn_testBit (nv : Nat) (f : Nat → Bool) (a : Nat) :
    (ofFn nv f).testBit a = (decide (a < 2 ^ nv) && f a) := by
  unfold ofFn size
  rw [foldl_setbits]
  simp [List.mem_range]

theorem rep_ofFn (nv : Nat) (f : BoolFn) : Rep nv (ofFn nv (fun a => f (bitsAsg a))) f :=
  fun a => ofFn_testBit nv _ a

theorem rep_unique {nv t t' : Nat} {f f' : BoolFn} (h : Rep nv t f) (h' : Rep nv t' f')
    (hff : ∀ a, a < 2 ^ nv → f (bitsAsg a) = f' (bitsAsg a)) : t = t' := by
  apply Nat.eq_of_testBit_eq
  intro a
  rw [h a, h' a]
  by_cases ha : a < 2 ^ nv
  · simp [ha, hff a ha]
  · simp [ha]

theorem mask_testBit (nv a : Nat) : (mask nv).testBit a = decide (a < 2 ^ nv) :=
  Nat.testBit_two_pow_sub_one _ _

theorem rep_var (nv v : Nat) : Rep nv (var nv v) (fun σ => σ v) := fun a => ofFn_testBit nv _ a

theorem rep_const (nv : Nat) (b : Bool) : Rep nv (const nv b) (fun _ => b) := by
  intro a
  cases b
  · simp [const]
  · simp [const, mask_testBit]

theorem rep_not {nv t : Nat} {f : BoolFn} (h : Rep nv t f) : Rep nv (not nv t) (fun σ => !f σ) := by
  intro a
  simp only [not, Nat.testBit_xor, mask_testBit, h a]
  cases decide (a < 2 ^ nv) <;> cases f (bitsAsg a) <;> rfl

theorem rep_and {nv t u : Nat} {f g : BoolFn} (h : Rep nv t f) (k : Rep nv u g) :
    Rep nv (and t u) (fun σ => f σ && g σ) := by
  intro a
  simp only [and, Nat.testBit_and, h a, k a]
  cases decide (a < 2 ^ nv) <;> cases f (bitsAsg a) <;> cases g (bitsAsg a) <;> rfl

theorem rep_or {nv t u : Nat} {f g : BoolFn} (h : Rep nv t f) (k : Rep nv u g) :
    Rep nv (or t u) (fun σ => f σ || g σ) := by
  intro a
  simp only [or, Nat.testBit_or, h a, k a]
  cases decide (a < 2 ^ nv) <;> cases f (bitsAsg a) <;> cases g (bitsAsg a) <;> rfl

theorem rep_xor {nv t u : Nat} {f g : BoolFn} (h : Rep nv t f) (k : Rep nv u g) :
    Rep nv (xor t u) (fun σ => f σ != g σ) := by
  intro a
  simp only [xor, Nat.testBit_xor, h a, k a]
  cases decide (a < 2 ^ nv) <;> cases f (bitsAsg a) <;> cases g (bitsAsg a) <;> rfl

theorem rep_imp {nv t u : Nat} {f g : BoolFn} (h : Rep nv t f) (k : Rep nv u g) :
    Rep nv (imp nv t u) (fun σ => !f σ || g σ) := rep_or (rep_not h) k

theorem rep_iff {nv t u : Nat} {f g : BoolFn} (h : Rep nv t f) (k : Rep nv u g) :
    Rep nv (iff nv t u) (fun σ => f σ == g σ) := by
  have e : (fun σ => f σ == g σ) = fun σ => !(f σ != g σ) := by
    funext σ; cases f σ <;> cases g σ <;> rfl
  rw [e]
  exact rep_not (rep_xor h k)

theorem rep_ite {nv i t e : Nat} {fi ft fe : BoolFn} (hi : Rep nv i fi) (ht : Rep nv t ft) (he : Rep nv e fe) :
    Rep nv (ite nv i t e) (fun σ => if fi σ then ft σ else fe σ) := by
  have e : (fun σ => if fi σ then ft σ else fe σ) = fun σ => (fi σ && ft σ) || (!fi σ && fe σ) := by
    funext σ; cases fi σ <;> simp
  rw [e]
  exact rep_or (rep_and hi ht) (rep_and (rep_not hi) he)

theorem testBit_sub_two_pow (a v : Nat) (hv : a.testBit v = true) (j : Nat) :
    (a - 2 ^ v).testBit j = (if j = v then false else a.testBit j) := by
  -- `a = 2^v * (2q + 1) + r` with `r < 2^v`, so `a - 2^v = 2^v * (2q) + r`
  have hr : a % 2 ^ v < 2 ^ v := Nat.mod_lt a (Nat.two_pow_pos v)
  obtain ⟨q, hq⟩ : ∃ q, a / 2 ^ v = 2 * q + 1 := by
    rw [Nat.testBit_eq_decide_div_mod_eq, decide_eq_true_eq] at hv
    exact ⟨a / 2 ^ v / 2, by omega⟩
  have ea : a = 2 ^ v * (2 * q + 1) + a % 2 ^ v := by rw [← hq]; exact (Nat.div_add_mod a (2 ^ v)).symm
  have es : a - 2 ^ v = 2 ^ v * (2 * q) + a % 2 ^ v := by
    rw [Nat.mul_succ] at ea; omega
  rw [es]
  conv => rhs; rw [ea]
  rw [Nat.testBit_two_pow_mul_add _ hr, Nat.testBit_two_pow_mul_add _ hr]
  by_cases hjv : j < v
  · rw [if_pos hjv, if_pos hjv, if_neg (Nat.ne_of_lt hjv)]
  · rw [if_neg hjv, if_neg hjv]
    by_cases e : j = v
    · subst e; rw [if_pos rfl, Nat.sub_self, Nat.testBit_zero, Nat.mul_mod_right]; rfl
    · have hlt : 0 < j - v := Nat.sub_pos_of_lt (Nat.lt_of_le_of_ne (Nat.le_of_not_lt hjv) (Ne.symm e))
      rw [if_neg e, ← Nat.succ_pred_eq_of_pos hlt, Nat.testBit_succ, Nat.testBit_succ,
          Nat.mul_add_div (by decide), Nat.mul_div_cancel_left _ (by decide)]
      rfl

/-- the index `restrict` reads: `a` with bit `v` forced to `b` -/
def forceBit (a v : Nat) (b : Bool) : Nat :=
  if b then a ||| (1 <<< v) else (if a.testBit v then a - (1 <<< v) else a)

theorem forceBit_testBit (a v : Nat) (b : Bool) (j : Nat) :
    (forceBit a v b).testBit j = (if j = v then b else a.testBit j) := by
  fun_cases forceBit a v b with
  | case1 hb =>
    simp only [hb, Nat.testBit_or, Nat.one_shiftLeft, Nat.testBit_two_pow]
    by_cases hjv : j = v
    · subst hjv; simp
    · have : ¬ v = j := fun h => hjv h.symm
      simp [hjv, this]
  | case2 hb ht => rw [Nat.one_shiftLeft, testBit_sub_two_pow a v ht j, Bool.eq_false_iff.mpr hb]
  | case3 hb ht =>
    by_cases hjv : j = v
    · subst hjv; simp only [if_true]; simpa [hb] using ht
    · rw [if_neg hjv]

theorem bitsAsg_forceBit (a v : Nat) (b : Bool) : bitsAsg (forceBit a v b) = upd (bitsAsg a) v b := by
  funext x
  simp only [bitsAsg, upd, forceBit_testBit]

theorem forceBit_lt {nv a v : Nat} (b : Bool) (ha : a < 2 ^ nv) (hv : v < nv) : forceBit a v b < 2 ^ nv := by
  apply Nat.lt_pow_two_of_testBit
  intro i hi
  rw [forceBit_testBit, if_neg (by omega)]
  exact Nat.testBit_lt_two_pow (Nat.lt_of_lt_of_le ha (Nat.pow_le_pow_right (by decide) hi))

theorem rep_restrict {nv t : Nat} {f : BoolFn} (h : Rep nv t f) (v : Nat) (b : Bool) (hv : v < nv) :
    Rep nv (restrict nv t v b) (fun σ => f (upd σ v b)) := by
  intro a
  have : restrict nv t v b = ofFn nv (fun a => t.testBit (forceBit a v b)) := rfl
  rw [this, ofFn_testBit]
  by_cases ha : a < 2 ^ nv
  · simp only [ha, decide_true, Bool.true_and]
    rw [h (forceBit a v b), bitsAsg_forceBit]
    simp [forceBit_lt b ha hv]
  · simp [ha]

/-- the number whose bits `0 … nv-1` are the values of `σ` -/
def numOf (nv : Nat) (σ : Asg) : Nat :=
  (List.range nv).foldl (fun acc x => if σ x then acc ||| (1 <<< x) else acc) 0

theorem numOf_testBit (nv : Nat) (σ : Asg) (x : Nat) : (numOf nv σ).testBit x = (decide (x < nv) && σ x) := by
  unfold numOf
  rw [foldl_setbits]
  simp [List.mem_range]

theorem numOf_lt (nv : Nat) (σ : Asg) : numOf nv σ < 2 ^ nv := by
  apply Nat.lt_pow_two_of_testBit
  intro i hi
  rw [numOf_testBit]
  have : ¬ i < nv := by omega
  simp [this]

theorem bitsAsg_numOf (nv : Nat) (σ : Asg) (x : Nat) (hx : x < nv) : bitsAsg (numOf nv σ) x = σ x := by
  simp [bitsAsg, numOf_testBit, hx]

theorem detBy_numOf {nv : Nat} {f : BoolFn} (hd : DetBy nv f) (σ : Asg) : f σ = f (bitsAsg (numOf nv σ)) :=
  hd σ _ (fun x hx => (bitsAsg_numOf nv σ x hx).symm)

theorem detBy_upd {nv : Nat} {f : BoolFn} (hd : DetBy nv f) (v : Nat) (b : Bool) :
    DetBy nv (fun σ => f (upd σ v b)) :=
  fun σ σ' hag => hd _ _ fun x hx => by
    simp only [upd]
    split
    · rfl
    · exact hag x hx

theorem detBy_ite {nv : Nat} {fi ft fe : BoolFn} (hi : DetBy nv fi) (ht : DetBy nv ft) (he : DetBy nv fe) :
    DetBy nv (fun σ => if fi σ then ft σ else fe σ) :=
  fun σ σ' hag => by simp only [hi σ σ' hag, ht σ σ' hag, he σ σ' hag]

theorem essential_lt {nv v : Nat} {f : BoolFn} (hd : DetBy nv f) (he : Essential f v) : v < nv := by
  obtain ⟨σ, hσ⟩ := he
  refine Decidable.byContradiction fun hge => hσ (hd _ _ fun x hx => ?_)
  have hxv : x ≠ v := fun e => hge (e ▸ hx)
  rw [upd_other σ true hxv, upd_other σ false hxv]

theorem essential_iff {nv t : Nat} {f : BoolFn} (h : Rep nv t f) (hd : DetBy nv f) (v : Nat) :
    essential nv t v = true ↔ Essential f v := by
  unfold essential
  rw [Bool.and_eq_true, decide_eq_true_eq, bne_iff_ne]
  constructor
  · -- if the cofactors agreed at every coded assignment, their tables would be equal
    rintro ⟨hv, hne⟩
    refine Classical.byContradiction fun hcon => hne ?_
    exact rep_unique (rep_restrict h v true hv) (rep_restrict h v false hv) fun a _ =>
      Classical.byContradiction fun hd' => hcon ⟨bitsAsg a, hd'⟩
  · intro he
    have hv := essential_lt hd he
    obtain ⟨σ, hσ⟩ := he
    refine ⟨hv, fun heq => hσ ?_⟩
    -- equal cofactor tables have equal entries at the code of `σ`
    have h1 := rep_restrict h v true hv (numOf nv σ)
    rw [heq, rep_restrict h v false hv (numOf nv σ)] at h1
    simp only [numOf_lt, decide_true, Bool.true_and] at h1
    rw [detBy_numOf (detBy_upd hd v true) σ, detBy_numOf (detBy_upd hd v false) σ]
    exact h1.symm

theorem mem_deps_iff {nv t : Nat} {f : BoolFn} (h : Rep nv t f) (hd : DetBy nv f) (v : Nat) :
    v ∈ deps nv t ↔ Essential f v := by
  unfold deps
  rw [List.mem_filter, List.mem_range, essential_iff h hd]
  refine ⟨fun h => h.2, fun he => ⟨?_, he⟩⟩
  have := (essential_iff h hd v).mpr he
  rw [essential, Bool.and_eq_true, decide_eq_true_eq] at this
  exact this.1

/-- assignment with the bits of `a` on the variables `< n` and `base` elsewhere -/
def merge (base : Asg) (a n : Nat) : Asg := fun x => if x < n then a.testBit x else base x

theorem count_split (n : Nat) (g : Nat → Bool) :
    ((List.range (2 ^ (n+1))).filter g).length =
      ((List.range (2 ^ n)).filter g).length + ((List.range (2 ^ n)).filter (fun a => g (2 ^ n + a))).length := by
  have : 2 ^ (n+1) = 2 ^ n + 2 ^ n := by rw [Nat.pow_succ]; omega
  rw [this, List.range_add, List.filter_append, List.length_append, List.filter_map, List.length_map]
  rfl

/-- the top bit of a coded assignment is the value of variable `n`, the rest codes the others -/
theorem merge_succ (base : Asg) {n a : Nat} (ha : a < 2 ^ n) (c : Bool) :
    merge base ((if c then 2 ^ n else 0) + a) (n+1) = merge (upd base n c) a n := by
  funext x
  simp only [merge, upd]
  by_cases hx : x < n
  · rw [if_pos hx, if_pos (Nat.lt_succ_of_lt hx)]
    cases c
    · rw [if_neg Bool.false_ne_true, Nat.zero_add]
    · rw [if_pos rfl, Nat.testBit_two_pow_add_gt hx a]
  · rw [if_neg hx]
    by_cases hxn : x = n
    · subst hxn
      rw [if_pos (Nat.lt_succ_self _), if_pos rfl]
      cases c
      · rw [if_neg Bool.false_ne_true, Nat.zero_add, Nat.testBit_lt_two_pow ha]
      · rw [if_pos rfl, Nat.testBit_two_pow_add_eq, Nat.testBit_lt_two_pow ha]; rfl
    · rw [if_neg hxn, if_neg fun h => (Nat.lt_succ_iff_lt_or_eq.mp h).elim hx hxn]

theorem count_eq_sat : ∀ (n : Nat) (g : Nat → Bool) (f : BoolFn) (base : Asg),
    (∀ a, a < 2 ^ n → g a = f (merge base a n)) →
    ((List.range (2 ^ n)).filter g).length = _root_.sat f base (List.range n).reverse := by
  intro n
  induction n with
  | zero =>
    intro g f base hg
    have h0 : g 0 = f base := hg 0 (Nat.two_pow_pos 0)
    show ((List.range 1).filter g).length = if f base then 1 else 0
    rw [List.range_one, List.filter_cons, h0]
    cases f base <;> rfl
  | succ n ih =>
    intro g f base hg
    have hlt : ∀ {a}, a < 2 ^ n → a < 2 ^ (n+1) ∧ 2 ^ n + a < 2 ^ (n+1) := fun ha => by
      rw [Nat.pow_succ, Nat.mul_two]
      exact ⟨Nat.lt_of_lt_of_le ha (Nat.le_add_left _ _), Nat.add_lt_add_left ha _⟩
    rw [count_split, List.range_succ, List.reverse_append, List.reverse_singleton, List.singleton_append]
    show _ = _root_.sat f (upd base n true) _ + _root_.sat f (upd base n false) _
    rw [ih g f (upd base n false) fun a ha => by rw [hg a (hlt ha).1, ← merge_succ base ha false]; simp,
        ih (fun a => g (2 ^ n + a)) f (upd base n true) fun a ha => by
          rw [hg _ (hlt ha).2, ← merge_succ base ha true]; simp]
    exact Nat.add_comm _ _

theorem sat_perm (f : BoolFn) : ∀ {l l' : List Nat}, l.Perm l' → ∀ base, _root_.sat f base l = _root_.sat f base l' := by
  intro l l' hp
  induction hp with
  | nil => intro _; rfl
  | cons x _ ih => intro base; simp only [_root_.sat, ih]
  | swap x y l =>
    intro base
    simp only [_root_.sat]
    by_cases hxy : x = y
    · subst hxy; omega
    · rw [upd_comm' base hxy true true, upd_comm' base hxy true false, upd_comm' base hxy false true,
          upd_comm' base hxy false false]
      omega
  | trans _ _ ih1 ih2 => intro base; rw [ih1, ih2]

theorem sat_eq {nv t : Nat} {f : BoolFn} (h : Rep nv t f) (hd : DetBy nv f) (vs : List Nat)
    (hvs : vs.Perm (List.range nv)) (base : Asg) : TT.sat nv t = _root_.sat f base vs := by
  rw [sat_perm f (hvs.trans (List.reverse_perm _).symm) base]
  unfold TT.sat size
  apply count_eq_sat
  intro a ha
  rw [h a]
  simp only [ha, decide_true, Bool.true_and]
  apply hd
  intro x hx
  simp [bitsAsg, merge, hx]

theorem sat_le {nv t : Nat} {f : BoolFn} (h : Rep nv t f) (hd : DetBy nv f) : TT.sat nv t ≤ 2 ^ nv := by
  have := sat_eq h hd (List.range nv) (List.Perm.refl _) (fun _ => false)
  have hc := sat_compl f (List.range nv) (fun _ => false)
  rw [List.length_range] at hc
  omega

theorem unsat_eq {nv t : Nat} {f : BoolFn} (h : Rep nv t f) (hd : DetBy nv f) (vs : List Nat)
    (hvs : vs.Perm (List.range nv)) (base : Asg) : TT.unsat nv t = _root_.sat (fun σ => !f σ) base vs := by
  have hs := sat_eq h hd vs hvs base
  have hc := sat_compl f vs base
  have hl : vs.length = nv := by rw [hvs.length_eq, List.length_range]
  unfold TT.unsat size
  rw [hl] at hc
  omega

/-- non-vacuity: the table of x0 ∧ ¬x1 over two variables represents that function, which looks at
the first two variables only; its table is 0b0010 -/
example : Rep 2 (and (var 2 0) (not 2 (var 2 1))) (fun σ => σ 0 && !σ 1) ∧
    DetBy 2 (fun σ => σ 0 && !σ 1) ∧ and (var 2 0) (not 2 (var 2 1)) = 2 := by
  refine ⟨rep_and (rep_var 2 0) (rep_not (rep_var 2 1)), ?_, by decide⟩
  intro σ σ' hag
  simp only [hag 0 (by decide), hag 1 (by decide)]

end TT

#print axioms TT.ofFn_testBit
#print axioms TT.rep_restrict
#print axioms TT.essential_iff
#print axioms TT.mem_deps_iff
#print axioms TT.sat_eq
#print axioms TT.unsat_eq
