import AdfObdd.FeatureOps
import AdfObdd.AdfModel
/-! C12, the semantics over the configured store: the restriction algebra of the
    configured store (`CfgRA c`), the generic simulation between two restriction algebras
    (`RASim`: same `isConst`, `restrict` returns the same handle and keeps the relation), and
    `grounded` / `complete` / `stable` generic over a restriction algebra.

    The relation used throughout is `RelP c z P A fs s := RelA c z A fs s ∧ P fs`, where `P` is any
    predicate on configured stores that every primitive keeps (`Stable c P`); `P` carries the
    `frontend` log invariant (`LogInv`) through every routine without a second induction. -/

theorem restrictC_oob (c : Cfg) (fs : FStore) (w : WF fs.base) (t v : Nat) (b : Bool)
    (h : fs.base.nodes.size ≤ t) : ∀ fuel, restrictC c fuel fs t v b = (fs, t) := by
  intro fuel
  cases fuel with
  | zero => rfl
  | succ f =>
    rw [restrictC]
    cases hm : fs.base.resC[(t, v, b)]? with
    | some r => have := (w.resOK t v b r hm).1; omega
    | none => simp only [Array.getElem?_eq_none h]

/-- `restrict_rel` for every handle (outside the node table both bodies return their argument;
the Rust would panic there) -/
theorem restrict_rel_total {c : Cfg} {z : Bool} {A : Prop} {fs : FStore} {s : Store} (r : RelA c z A fs s)
    (t v : Nat) (b : Bool) :
    (restrictC c (t+1) fs t v b).2 = (restrictF (t+1) s t v b).2 ∧
    RelA c z A (restrictC c (t+1) fs t v b).1 (restrictF (t+1) s t v b).1 := by
  by_cases ht : t < s.nodes.size
  · exact restrict_rel r t v b ht
  · have h1 : s.nodes.size ≤ t := by omega
    rw [restrictC_oob c fs r.inv.wf t v b (by rw [r.nodes]; exact h1), ← restrictS_none, restrictS_oob scNone r.wf v b h1]
    exact ⟨rfl, r⟩

/-- `P` is kept by the bookkeeping of `node`, by the memo insertions and (without `adhoccounting`,
where queries fill the count cache) by replacing the count cache -/
structure Stable (c : Cfg) (P : FStore → Prop) : Prop where
  node : ∀ fs v lo hi, P fs → P (nodeC c fs v lo hi).1
  insRes : ∀ fs k r, P fs → P (fs.insRes k r)
  insIte : ∀ fs k r, P fs → P (fs.insIte k r)
  cnt : c.adhoccounting = false → ∀ (fs : FStore) cnt', P fs → P { fs with cnt := cnt' }

theorem Stable.true (c : Cfg) : Stable c (fun _ => True) :=
  ⟨fun _ _ _ _ _ => trivial, fun _ _ _ _ => trivial, fun _ _ _ _ => trivial, fun _ _ _ _ => trivial⟩

theorem restrictC_pres {c : Cfg} {P : FStore → Prop} (st : Stable c P) :
    ∀ (fuel : Nat) (fs : FStore) (t v : Nat) (b : Bool), P fs → P (restrictC c fuel fs t v b).1 := by
  intro fuel fs t v b
  fun_induction restrictC c fuel fs t v b with
  | case6 _ _ _ _ _ _ _ _ _ _ _ _ _ _ ih1 ih2 => exact fun h => st.insRes _ _ _ (st.node _ _ _ _ (ih2 (ih1 h)))
  | case7 _ _ _ _ b _ _ _ _ _ _ _ ihhi ihlo =>
    intro h
    apply st.insRes
    cases b
    · exact ihlo h
    · exact ihhi h
  | _ => exact id

theorem iteCfg_pres {c : Cfg} {P : FStore → Prop} (st : Stable c P) :
    ∀ (fuel : Nat) (fs : FStore) (i t e : Nat), P fs → P (iteCfg c fuel fs i t e).1 := by
  intro fuel fs i t e
  fun_induction iteCfg c fuel fs i t e with
  | case7 _ _ _ _ _ _ _ _ _ _ _ _ _ _ _ _ r6 _ bot m ih1 ih2 =>
    intro h
    have h6 : P r6.1 := restrictC_pres st _ _ _ _ _ (restrictC_pres st _ _ _ _ _ (restrictC_pres st _ _ _ _ _
      (restrictC_pres st _ _ _ _ _ (restrictC_pres st _ _ _ _ _ (restrictC_pres st _ _ _ _ _ h)))))
    exact st.insIte m.1 _ _ (st.node bot.1 _ _ _ (ih2 (ih1 h6)))
  | _ => exact id

def RelP (c : Cfg) (z : Bool) (P : FStore → Prop) (A : Prop) (fs : FStore) (s : Store) : Prop := RelA c z A fs s ∧ P fs

theorem Rel.relP {c : Cfg} {z : Bool} {fs : FStore} {s : Store} (r : Rel c z fs s) : RelP c z (fun _ => True) True fs s :=
  ⟨r.toA, trivial⟩

/-- `Bdd::restrict` etc. under the feature set `c`, as a restriction algebra: the generic grounded
loop, the `complete` filter … run on it, and their generic correctness theorems
(`grounded_correct`, `completeCheck_spec`) hold for every feature set -/
def CfgRA (c : Cfg) : RA FStore Nat where
  Inv := fun fs => ∃ z, FInv c z fs
  Valid := fun fs t => t < fs.base.nodes.size
  den := fun fs => eval fs.base
  Le := fun a b => Ext a.base b.base
  le_refl := fun a => Ext.refl a.base
  le_trans := Ext.trans
  valid_mono := fun l h => Nat.lt_of_lt_of_le h l.1
  den_mono := fun hi l hv => by
    obtain ⟨z, hi⟩ := hi
    funext σ; exact eval_ext hi.wf l _ σ hv
  restrict := fun fs t v b => restrictC c (t+1) fs t v b
  restrict_spec := fun {fs t} v b hi hv => by
    obtain ⟨z, hi⟩ := hi
    have ⟨e1, q1, i1⟩ := restrictC_sim c z (t+1) fs t v b hi hv (Nat.lt_succ_self _)
    have ⟨_, x, l, _, e⟩ := (restrictS_spec (scOf_sound c) (t+1) fs.base t v b hi.wf hv (Nat.lt_succ_self _)).1
    refine ⟨⟨z, i1⟩, by rw [e1]; exact x, by rw [e1, q1]; exact l, ?_⟩
    funext σ; rw [e1, q1]; exact e σ
  isConst := storeIsConst
  isConst_spec := fun {fs t} b hi hv => by
    obtain ⟨z, hi⟩ := hi
    exact StoreRA.isConst_spec (s := fs.base) (t := t) b hi.wf hv

section
variable {S S' T : Type}

/-- `A` on `S` and `B` on `S'` cannot be told apart through handles: same constants, `restrict`
returns the same handle from related states and keeps them related -/
structure RASim (A : RA S T) (B : RA S' T) (R : S → S' → Prop) : Prop where
  isConst : ∀ t, A.isConst t = B.isConst t
  restrict : ∀ s s' t v b, R s s' →
    (A.restrict s t v b).2 = (B.restrict s' t v b).2 ∧ R (A.restrict s t v b).1 (B.restrict s' t v b).1

/-- every restriction algebra simulates itself along equality: the `_sim` lemmas with `R := Eq` say that a
generic routine run on `StoreRA` is the concrete routine of the reference model -/
theorem RASim.eq (A : RA S T) : RASim A A Eq :=
  ⟨fun _ => rfl, fun _ _ _ _ _ h => h ▸ ⟨rfl, rfl⟩⟩

variable {A : RA S T} {B : RA S' T} {R : S → S' → Prop} (sim : RASim A B R)
include sim

theorem restrictBy_sim : ∀ (cs : List T) (k : Nat) (s : S) (s' : S') (t : T), R s s' →
    (restrictBy A s t k cs).2 = (restrictBy B s' t k cs).2 ∧
    R (restrictBy A s t k cs).1 (restrictBy B s' t k cs).1 := by
  intro cs
  induction cs with
  | nil => intro k s s' t h; exact ⟨rfl, h⟩
  | cons x cs ih =>
    intro k s s' t h
    unfold restrictBy
    rw [← sim.isConst x]
    cases A.isConst x with
    | none => exact ih (k+1) s s' t h
    | some b =>
      simp only
      have ⟨q, r⟩ := sim.restrict s s' t k b h
      rw [q]
      exact ih (k+1) _ _ _ r

theorem roundAux_sim (curr xs : List T) (s : S) (s' : S') (h : R s s') :
    (roundAux A s curr xs).2 = (roundAux B s' curr xs).2 ∧
    R (roundAux A s curr xs).1 (roundAux B s' curr xs).1 := by
  rw [roundAux_eq, roundAux_eq]
  refine mapS_sim (fun s s' x r => ?_) xs s s' h
  unfold roundStep
  rw [← sim.isConst x]
  cases A.isConst x with
  | some _ => exact ⟨rfl, r⟩
  | none => exact restrictBy_sim sim curr 0 s s' x r

theorem countConst_sim (v : List T) : countConst A v = countConst B v := by
  unfold countConst asg3
  congr 1
  apply List.map_congr_left
  intro x _; exact sim.isConst x

theorem groundedLoop_sim : ∀ (fuel : Nat) (s : S) (s' : S') (v : List T), R s s' →
    (groundedLoop A fuel s v).2 = (groundedLoop B fuel s' v).2 ∧
    R (groundedLoop A fuel s v).1 (groundedLoop B fuel s' v).1 := by
  intro fuel
  induction fuel with
  | zero => intro s s' v h; exact ⟨rfl, h⟩
  | succ f ih =>
    intro s s' v h
    have ⟨q, r⟩ := roundAux_sim sim v v s s' h
    unfold groundedLoop
    simp only
    rw [countConst_sim sim, countConst_sim sim v, q]
    split
    · exact ⟨q, r⟩
    · rw [← q]; exact ih _ _ _ r

theorem completeCheck_sim (v : List T) : ∀ (acs xs : List T) (s : S) (s' : S'), R s s' →
    (completeCheck A s v acs xs).2 = (completeCheck B s' v acs xs).2 ∧
    R (completeCheck A s v acs xs).1 (completeCheck B s' v acs xs).1 := by
  intro acs
  induction acs with
  | nil => intro xs s s' h; unfold completeCheck; exact ⟨rfl, h⟩
  | cons a acs ih =>
    intro xs s s' h
    cases xs with
    | nil => unfold completeCheck; exact ⟨rfl, h⟩
    | cons x xs =>
      have ⟨q0, r0⟩ := restrictBy_sim sim v 0 s s' a h
      unfold completeCheck
      simp only
      rw [← sim.isConst, ← sim.isConst, q0]
      split
      · exact ih xs _ _ r0
      · exact ⟨rfl, r0⟩

omit sim in
theorem foldl_sim {α β : Type} (f : S × β → α → S × β) (f' : S' × β → α → S' × β)
    (h : ∀ a a' x, R a.1 a'.1 → a.2 = a'.2 → (f a x).2 = (f' a' x).2 ∧ R (f a x).1 (f' a' x).1) :
    ∀ (l : List α) (a : S × β) (a' : S' × β), R a.1 a'.1 → a.2 = a'.2 →
    (l.foldl f a).2 = (l.foldl f' a').2 ∧ R (l.foldl f a).1 (l.foldl f' a').1 :=
  fun _ _ _ r q => List.foldl_rel (r := fun a a' => a.2 = a'.2 ∧ R a.1 a'.1) ⟨q, r⟩
    fun x _ c c' hc => h c c' x hc.2 hc.1
end

section
variable {S : Type} (A : RA S Nat)

/-- `Adf::complete` on any restriction algebra -/
def completeAllG (s : S) (n : Nat) (ac : List Nat) : S × List Nat × List (List Nat) :=
  let g := groundedLoop A (n + 1) s ac
  let r := (threeValAll g.2).foldl (fun (acc : S × List (List Nat)) v =>
      let c := completeCheck A acc.1 v ac v
      (c.1, if c.2 then acc.2 ++ [v] else acc.2)) (g.1, [])
  (r.1, g.2, r.2)

def restrictFalseG (s : S) (t : Nat) : Nat → List Nat → S × Nat
  | _, [] => (s, t)
  | k, c :: cs =>
    if c == 0 then let r := A.restrict s t k false; restrictFalseG r.1 r.2 (k+1) cs
    else restrictFalseG s t (k+1) cs

def mapFalseG (s : S) (cand : List Nat) : List Nat → S × List Nat
  | [] => (s, [])
  | a :: acs => let r := restrictFalseG A s a 0 cand; let m := mapFalseG r.1 cand acs; (m.1, r.2 :: m.2)

/-- `Adf::stable` on any restriction algebra -/
def stableAllG (s : S) (n : Nat) (ac : List Nat) : S × List (List Nat) :=
  let g := groundedLoop A (n + 1) s ac
  (twoValAll g.2).foldl (fun (acc : S × List (List Nat)) cand =>
      let red := mapFalseG A acc.1 cand ac
      let grd := groundedLoop A (n + 1) red.1 red.2
      let ok := (cand.zip grd.2).all (fun (a, b) => sameInfo a b)
      (grd.1, if ok then acc.2 ++ [cand] else acc.2)) (g.1, [])

theorem mapFalseG_eq (cand : List Nat) : ∀ (acs : List Nat) (s : S),
    mapFalseG A s cand acs = mapS (fun s a => restrictFalseG A s a 0 cand) s acs := by
  intro acs; induction acs with
  | nil => intro s; rfl
  | cons a acs ih => intro s; simp only [mapFalseG, mapS, ih]
end

theorem restrictFalseG_store : ∀ (cs : List Nat) (s : Store) (t k : Nat),
    restrictFalseG StoreRA s t k cs = restrictFalse s t k cs := by
  intro cs
  induction cs with
  | nil => intros; rfl
  | cons c cs ih =>
    intro s t k
    unfold restrictFalseG restrictFalse
    split
    · exact ih _ _ _
    · exact ih _ _ _

theorem mapFalseG_store (cand : List Nat) : ∀ (acs : List Nat) (s : Store),
    mapFalseG StoreRA s cand acs = mapFalse s cand acs := by
  intro acs
  induction acs with
  | nil => intros; rfl
  | cons a acs ih =>
    intro s
    unfold mapFalseG mapFalse
    simp only [restrictFalseG_store, ih]

theorem completeAllG_store (s : Store) (n : Nat) (ac : List Nat) : completeAllG StoreRA s n ac = completeAll s n ac := rfl

theorem stableAllG_store (s : Store) (n : Nat) (ac : List Nat) : stableAllG StoreRA s n ac = stableAll s n ac := by
  unfold stableAllG stableAll
  simp only [mapFalseG_store]

section
variable {S S' : Type} {A : RA S Nat} {B : RA S' Nat} {R : S → S' → Prop} (sim : RASim A B R)
include sim

theorem completeAllG_sim (s : S) (s' : S') (n : Nat) (ac : List Nat) (h : R s s') :
    (completeAllG A s n ac).2 = (completeAllG B s' n ac).2 ∧ R (completeAllG A s n ac).1 (completeAllG B s' n ac).1 := by
  have ⟨q, r⟩ := groundedLoop_sim sim (n+1) s s' ac h
  unfold completeAllG
  simp only
  rw [q]
  have := foldl_sim (R := R)
    (fun (acc : S × List (List Nat)) v =>
      let c := completeCheck A acc.1 v ac v
      (c.1, if c.2 then acc.2 ++ [v] else acc.2))
    (fun (acc : S' × List (List Nat)) v =>
      let c := completeCheck B acc.1 v ac v
      (c.1, if c.2 then acc.2 ++ [v] else acc.2))
    (by
      intro a a' x ra qa
      have ⟨q1, r1⟩ := completeCheck_sim sim x ac x a.1 a'.1 ra
      simp only
      rw [q1, qa]
      exact ⟨rfl, r1⟩)
    (threeValAll (groundedLoop B (n+1) s' ac).2) ((groundedLoop A (n+1) s ac).1, []) ((groundedLoop B (n+1) s' ac).1, []) r rfl
  exact ⟨by rw [this.1], this.2⟩

theorem restrictFalseG_sim : ∀ (cs : List Nat) (s : S) (s' : S') (t k : Nat), R s s' →
    (restrictFalseG A s t k cs).2 = (restrictFalseG B s' t k cs).2 ∧
    R (restrictFalseG A s t k cs).1 (restrictFalseG B s' t k cs).1 := by
  intro cs
  induction cs with
  | nil => intro s s' t k h; exact ⟨rfl, h⟩
  | cons c cs ih =>
    intro s s' t k h
    unfold restrictFalseG
    split
    · have ⟨q, r⟩ := sim.restrict s s' t k false h
      simp only
      rw [q]; exact ih _ _ _ _ r
    · exact ih _ _ _ _ h

theorem mapFalseG_sim (cand acs : List Nat) (s : S) (s' : S') (h : R s s') :
    (mapFalseG A s cand acs).2 = (mapFalseG B s' cand acs).2 ∧
    R (mapFalseG A s cand acs).1 (mapFalseG B s' cand acs).1 := by
  rw [mapFalseG_eq, mapFalseG_eq]
  exact mapS_sim (fun s s' a r => restrictFalseG_sim sim cand s s' a 0 r) acs s s' h

theorem stableAllG_sim (s : S) (s' : S') (n : Nat) (ac : List Nat) (h : R s s') :
    (stableAllG A s n ac).2 = (stableAllG B s' n ac).2 ∧ R (stableAllG A s n ac).1 (stableAllG B s' n ac).1 := by
  have ⟨q, r⟩ := groundedLoop_sim sim (n+1) s s' ac h
  unfold stableAllG
  simp only
  rw [q]
  exact foldl_sim (R := R) _ _
    (by
      intro a a' x ra qa
      have ⟨q1, r1⟩ := mapFalseG_sim sim x ac a.1 a'.1 ra
      have ⟨q2, r2⟩ := groundedLoop_sim sim (n+1) _ _ (mapFalseG A a.1 x ac).2 r1
      simp only
      rw [← q1, q2, qa]
      exact ⟨rfl, r2⟩)
    _ _ _ r rfl
end

theorem cfg_sim (c : Cfg) (z : Bool) (P : FStore → Prop) (A : Prop) (st : Stable c P) :
    RASim (CfgRA c) StoreRA (RelP c z P A) where
  isConst := fun _ => rfl
  restrict := fun fs s t v b h => by
    have ⟨q, r⟩ := restrict_rel_total h.1 t v b
    exact ⟨q, r, restrictC_pres st _ _ _ _ _ h.2⟩

#print axioms cfg_sim
#print axioms stableAllG_sim
#print axioms completeAllG_sim
