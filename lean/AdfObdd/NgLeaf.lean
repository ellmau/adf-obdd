import AdfObdd.NgConcrete
/-! # The leaf test (`stability_check`) and the heuristics of the concrete nogood loop

* `stabilityCheck_spec` — the concrete test (restrict every condition by the false statements of
  the candidate, ground the result, compare information values at all positions) decides
  "the least fixpoint of the reduct is the candidate";
* `heuCall_valid` / `heuCall_none` — every answer of a concrete heuristic (`SM.Heu`: Simple, the two
  counting heuristics, scripted/Rand-shaped) is an undecided statement with a truth value, and an
  answer is given whenever an undecided statement exists. -/
namespace NConc
open NSem

theorem stabilityCheck_spec (s : Store) (n : Nat) (ac cand : List Nat) (w : WF s)
    (hac : ∀ t ∈ ac, t < s.nodes.size) (hl : ac.length = n) (hc : cand.length = n) :
    WF (stabilityCheck s n ac cand).1 ∧ Ext s (stabilityCheck s n ac cand).1 ∧
    ((stabilityCheck s n ac cand).2 = true ↔
      ∀ w', IsLfp (redu (ac.map (eval s)) (toPA cand)) w' → w' = toPA cand) := by
  have ⟨a, b, c, _⟩ := reductTest_spec s n ac cand w hl hac hc rfl rfl
  unfold stabilityCheck
  dsimp only
  refine ⟨a, b, c.trans ⟨fun h w' hw' => hw'.unique h, fun h => ?_⟩⟩
  obtain ⟨w', hw'⟩ := exists_lfp (redu (ac.map (eval s)) (toPA cand))
  rw [h w' hw'] at hw'
  exact hw'

/-- the leaf test of the loop (`stability_check` in stable mode, nothing in two-valued mode) is the
semantic leaf test -/
theorem leafTest_spec (s : Store) (n : Nat) (ac cand : List Nat) (stable : Bool) (w : WF s)
    (hac : ∀ t ∈ ac, t < s.nodes.size) (hl : ac.length = n) (hc : cand.length = n) :
    WF (if stable then stabilityCheck s n ac cand else (s, true)).1 ∧
    Ext s (if stable then stabilityCheck s n ac cand else (s, true)).1 ∧
    (if stable then stabilityCheck s n ac cand else (s, true)).2 = isTgt (ac.map (eval s)) stable (toPA cand) := by
  cases stable with
  | false => exact ⟨w, Ext.refl _, (isTgt_true_iff.mpr (fun h => by cases h)).symm⟩
  | true =>
    have ⟨a1, a2, a3⟩ := stabilityCheck_spec s n ac cand w hac hl hc
    refine ⟨a1, a2, Bool.eq_iff_iff.mpr (a3.trans ?_)⟩
    rw [isTgt_true_iff]
    exact ⟨fun h _ => h, fun h => h rfl⟩

theorem mem_undecided {v : List Nat} {p : Nat × Nat} (hp : p ∈ SM.undecided v) :
    p.1 < v.length ∧ v[p.1]? = some p.2 ∧ isTV p.2 = false := by
  simp only [SM.undecided, List.mem_map, List.mem_filter] at hp
  obtain ⟨⟨x, j⟩, ⟨hm, hx⟩, rfl⟩ := hp
  have := List.mem_zipIdx hm
  simp only [Nat.zero_add, Nat.zero_le, true_and] at this
  obtain ⟨h1, h2⟩ := this
  refine ⟨h1, ?_, by simpa using hx⟩
  simp only [Nat.sub_zero] at h2
  rw [List.getElem?_eq_getElem h1, h2]

theorem undecided_nil {v : List Nat} (h : SM.undecided v = []) : v.all isTV = true := by
  rw [List.all_eq_true]
  intro x hx
  false_or_by_contra
  rename_i hne
  obtain ⟨i, hi, rfl⟩ := List.getElem_of_mem hx
  have : (i, v[i]) ∈ SM.undecided v := by
    simp only [SM.undecided, List.mem_map, List.mem_filter]
    refine ⟨(v[i], i), ⟨?_, by simpa using hne⟩, rfl⟩
    rw [List.mem_zipIdx_iff_getElem?]
    simp [List.getElem?_eq_getElem hi]
  rw [h] at this; cases this

theorem heuCall_valid (h : SM.Heu) (s : Store) (v : List Nat) (time i t : Nat)
    (hc : SM.heuCall h s v time = some (i, t)) :
    t < 2 ∧ i < v.length ∧ ∃ x, v[i]? = some x ∧ isTV x = false := by
  revert hc
  fun_cases SM.heuCall h s v time with
  | case1 =>
    intro hc
    obtain ⟨⟨j, x⟩, hh, he⟩ := Option.map_eq_some_iff.mp hc
    cases he
    have := mem_undecided (List.mem_of_mem_head? hh)
    exact ⟨by omega, this.1, x, this.2⟩
  | case2 | case3 =>
    intro hc
    obtain ⟨⟨j, x⟩, hh, he⟩ := Option.map_eq_some_iff.mp hc
    cases he
    have := mem_undecided (minBy_mem _ _ _ hh)
    exact ⟨by split <;> omega, this.1, x, this.2⟩
  | case4 seed u r j x hget =>
    intro hc
    cases hc
    have := mem_undecided (List.mem_of_getElem? hget)
    exact ⟨by omega, this.1, x, this.2⟩
  | case5 => nofun

theorem heuCall_none (h : SM.Heu) (s : Store) (v : List Nat) (time : Nat)
    (hc : SM.heuCall h s v time = none) : v.all isTV = true := by
  apply undecided_nil
  revert hc
  fun_cases SM.heuCall h s v time with
  | case1 => exact fun hc => List.head?_eq_none_iff.mp (Option.map_eq_none_iff.mp hc)
  | case2 | case3 => exact fun hc => minBy_none _ _ (Option.map_eq_none_iff.mp hc)
  | case4 => nofun
  | case5 seed u r hget =>
    intro _
    false_or_by_contra
    rename_i hne
    have hpos : 0 < (SM.undecided v).length := List.length_pos_iff.mpr hne
    have hlt := Nat.mod_lt r hpos
    rw [List.getElem?_eq_getElem hlt] at hget; cases hget
end NConc
#print axioms NConc.stabilityCheck_spec
#print axioms NConc.heuCall_valid
