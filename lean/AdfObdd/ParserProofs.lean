
/-! `tag` and `alphanumeric1` on `List Char`, and why keyword-like labels (`and`, `c`, `neg1`) are parsed as atoms -/
namespace ParserM

abbrev Inp := List Char
abbrev Prs (α : Type) := Inp → Option (α × Inp)

def tagL : List Char → Prs Unit
  | [], cs => some ((), cs)
  | _ :: _, [] => none
  | c :: k, d :: cs => if c = d then tagL k cs else none

def isAlnum (c : Char) : Bool := c.isAlphanum

def alnum1 : Prs (List Char) := fun cs =>
  let w := cs.takeWhile isAlnum
  if w.isEmpty then none else some (w, cs.dropWhile isAlnum)

def AllAlnum (l : List Char) : Prop := ∀ c ∈ l, isAlnum c = true

/-- what may follow a formula: nothing, or a character that is neither alphanumeric nor `(` -/
def GoodRest (r : Inp) : Prop := ∀ c, r.head? = some c → isAlnum c = false ∧ c ≠ '('

/-- every delimiter of the grammar (blanks, `"`, `(`, `)`, `,`, `.`) lies below the digits -/
theorem alnum_ge {c : Char} (h : isAlnum c = true) : 48 ≤ c.toNat := by
  simp [isAlnum, Char.isAlphanum, Char.isAlpha, Char.isUpper, Char.isLower, Char.isDigit,
    UInt32.le_iff_toNat_le] at h
  omega

theorem alnum_ne {c d : Char} (h : isAlnum c = true) (hd : d.toNat < 48) : c ≠ d := by
  intro e; subst e; have := alnum_ge h; omega

theorem alnum_not_paren {c : Char} (h : isAlnum c = true) : c ≠ '(' := alnum_ne h (by decide)

theorem tagL_eq_some : ∀ (k cs : List Char) (x : Unit × Inp), tagL k cs = some x ↔ cs = k ++ x.2 := by
  intro k cs x
  fun_induction tagL k cs with
  | case1 cs => obtain ⟨⟨⟩, r⟩ := x; simp
  | case2 => simp
  | case3 c k cs ih => simp [ih]
  | case4 c k d cs e => simp [show ¬ d = c from fun h => e h.symm]

theorem tagL_append (k r : List Char) : tagL k (k ++ r) = some ((), r) := (tagL_eq_some k _ _).mpr rfl

/-- an all-alphanumeric keyword followed by `(` is never a prefix of `label ++ rest` — so
`and(`/`neg(`/`c(` never fire on a label -/
theorem label_ne_kwParen : ∀ (kw l : List Char) (r r' : Inp), AllAlnum kw → AllAlnum l → GoodRest r →
    l ++ r ≠ kw ++ '(' :: r' := by
  intro kw
  induction kw with
  | nil =>
    intro l r r' _ hl hr e
    cases l with
    | nil => exact (hr '(' (by rw [List.nil_append] at e; rw [e]; rfl)).2 rfl
    | cons d l' =>
      rw [List.cons_append, List.nil_append, List.cons.injEq] at e
      exact alnum_not_paren (hl d (List.mem_cons_self ..)) e.1
  | cons c kw ih =>
    intro l r r' hk hl hr e
    cases l with
    | nil =>
      -- the keyword would have to continue into `rest`, whose head is not alphanumeric
      rw [List.nil_append, List.cons_append] at e
      have := (hr c (by rw [e]; rfl)).1
      rw [hk c (List.mem_cons_self ..)] at this; cases this
    | cons d l' =>
      rw [List.cons_append, List.cons_append, List.cons.injEq] at e
      exact ih l' r r' (fun x hx => hk x (List.mem_cons_of_mem _ hx))
        (fun x hx => hl x (List.mem_cons_of_mem _ hx)) hr e.2

theorem alnum1_label (l : List Char) (r : Inp) (hne : l ≠ []) (hl : AllAlnum l) (hr : GoodRest r) :
    alnum1 (l ++ r) = some (l, r) := by
  have h0 : r.takeWhile isAlnum = [] ∧ r.dropWhile isAlnum = r := by
    cases r with
    | nil => exact ⟨rfl, rfl⟩
    | cons d r' => simp [(hr d rfl).1]
  unfold alnum1
  simp only [List.takeWhile_append_of_pos hl, List.dropWhile_append_of_pos hl, h0.1, h0.2, List.append_nil]
  cases l with
  | nil => exact absurd rfl hne
  | cons _ _ => rfl

example : AllAlnum "andy".toList := by
  intro c hc; simp at hc; rcases hc with rfl | rfl | rfl | rfl <;> decide
#print axioms label_ne_kwParen
#print axioms alnum1_label

end ParserM
