import AdfObdd.CountModel
import AdfObdd.Stable
/-! Facts about the concrete steps of the counting-guided search (`CountModel.lean`): handle-level
    lemmas, the store-threading maps (`applyVec`, `mapRestrict` as `mapS`), the cube loops in closed form
    (`applyCube_some_iff`: tests on the vector and on `will_be`, then `setAll`), the selection. -/
namespace CI

/-- decided part of a vector of handles -/
def d3 (v : List Nat) : I3 := v.map storeIsConst

theorem d3_get (v : List Nat) (i : Nat) : (d3 v)[i]? = (v[i]?).map storeIsConst := by simp [d3]
theorem d3_length (v : List Nat) : (d3 v).length = v.length := by simp [d3]

theorem sic_zero : storeIsConst 0 = some false := rfl
theorem sic_one : storeIsConst 1 = some true := rfl

theorem isTV_iff {t : Nat} : isTV t = true ↔ ∃ b, storeIsConst t = some b := by
  rw [isTV_eq_isSome, Option.isSome_iff_exists]

theorem d3_get_none {v : List Nat} {j t : Nat} (h : v[j]? = some t) (ht : isTV t = false) :
    (d3 v)[j]? = some none := by
  rw [d3_get, h, Option.map_some, isTV_false_iff.mp ht]

theorem d3_get_some {v : List Nat} {j : Nat} {b : Bool} :
    (d3 v)[j]? = some (some b) ↔ ∃ t, v[j]? = some t ∧ storeIsConst t = some b := by
  rw [d3_get]
  cases v[j]? <;> simp

theorem sic_inj {a b : Nat} {x : Bool} (ha : storeIsConst a = some x) (hb : storeIsConst b = some x) : a = b := by
  rw [sic_some.mp ha, sic_some.mp hb]

theorem sic_lt {t : Nat} {b : Bool} (h : storeIsConst t = some b) : t < 2 := by
  rw [sic_some.mp h]; cases b <;> simp

theorem noInfIncons_iff {a b : Nat} :
    noInfIncons a b = true ↔ (isTV a = true → storeIsConst a = storeIsConst b) := by
  unfold noInfIncons
  cases isTV a <;> simp [sameInfo_iff]

theorem eval_const {s : Store} {t : Nat} {b : Bool} (h : storeIsConst t = some b) (σ : Asg) : eval s t σ = b := by
  rw [sic_some.mp h]; cases b
  · exact eval_zero s σ
  · exact eval_one s σ

/-- canonicity: a valid handle denoting a constant function is the constant handle -/
theorem const_of_eval {s : Store} (w : WF s) {t : Nat} (ht : t < s.nodes.size) {b : Bool}
    (h : ∀ σ, eval s t σ = b) : storeIsConst t = some b :=
  (StoreRA.isConst_spec (s := s) (t := t) b w ht).mpr h

/-- total assignments extending the decided part `w` that are `false` outside the statements -/
def RegI (n : Nat) (w : I3) (σ : Asg) : Prop := Agree σ w ∧ ∀ x, n ≤ x → σ x = false

theorem Le3.refl (w : I3) : Le3 w w := _root_.Le3.refl w

theorem RegI.mono {n : Nat} {w w' : I3} {σ : Asg} (h : RegI n w' σ) (l : Le3 w w') : RegI n w σ :=
  ⟨h.1.mono l, h.2⟩

theorem countSome_lt {w w' : I3} (hl : w.length = w'.length) (l : Le3 w w') {i : Nat} {b : Bool}
    (h1 : w[i]? = some none) (h2 : w'[i]? = some (some b)) : countSome w < countSome w' :=
  countSome_lt_of_ne hl l fun e => by rw [e, h1] at h2; cases h2

theorem countSome_lt_length {w : I3} {i : Nat} (h : w[i]? = some none) : countSome w < w.length :=
  List.length_filter_lt_length_iff_exists.mpr ⟨none, List.mem_of_getElem? h, Bool.false_ne_true⟩

theorem get_of_map_eq {α β γ : Type} {F : α → γ} {G : β → γ} {a : List α} {b : List β} (h : a.map F = b.map G)
    {j : Nat} {x : α} (hx : a[j]? = some x) : ∃ y, b[j]? = some y ∧ F x = G y := by
  have hl : a.length = b.length := by simpa only [List.length_map] using congrArg List.length h
  have hj : j < b.length := hl ▸ lt_length_of_get? hx
  exact ⟨b[j], List.getElem?_eq_getElem hj, map_eq_map_get h hx (List.getElem?_eq_getElem hj)⟩

theorem mapS_get {f : Store → Nat → Store × Nat} {φ : Asg → Asg} (hf : StoreRA.Computes f fun g σ => g (φ σ))
    {xs : List Nat} {s : Store}
    (w : WF s) (hv : ∀ t ∈ xs, t < s.nodes.size) {j t : Nat} (h : xs[j]? = some t) :
    ∃ t', (mapS f s xs).2[j]? = some t' ∧ ∀ σ, eval (mapS f s xs).1 t' σ = eval s t (φ σ) :=
  have ⟨_, _, _, d⟩ := mapS_store hf xs s w hv
  let ⟨t', ht', e⟩ := get_of_map_eq (List.map_map ▸ d).symm h
  ⟨t', ht', fun σ => (congrFun e σ).symm⟩

theorem computes_restrictBy (interp : List Nat) :
    StoreRA.Computes (fun s t => restrictBy StoreRA s t 0 interp) (fun g σ => g (over σ 0 (d3 interp))) :=
  StoreRA.computes_restrictBy interp 0

theorem getD_ne_iff {l : List Nat} {i d x : Nat} (hd : d ≠ x) : l.getD i d = x ↔ l[i]? = some x := by
  rw [List.getD_eq_getElem?_getD]
  cases h : l[i]? with
  | none => simp [hd]
  | some y => simp

theorem getD_zero_iff {l : List Nat} {i : Nat} : l.getD i 0 = 0 ↔ l.length ≤ i ∨ l[i]? = some 0 := by
  rw [List.getD_eq_getElem?_getD]
  rcases Nat.lt_or_ge i l.length with h | h
  · simp [List.getElem?_eq_getElem h, Nat.not_le.mpr h]
  · simp [h]

theorem getD_set_ne {l : List Nat} {i j : Nat} (h : i ≠ j) (a d : Nat) : (l.set i a).getD j d = l.getD j d := by
  rw [List.getD_eq_getElem?_getD, List.getD_eq_getElem?_getD, List.getElem?_set_ne h]

def litLoop (bad val : Nat) (willBe : List Nat) : List Nat → List Nat → Option (List Nat)
  | [], ni => some ni
  | v :: vs, ni =>
    if ni.getD v 0 == bad || willBe.getD v 2 == bad then none else litLoop bad val willBe vs (ni.set v val)

theorem negLoop_eq (wb : List Nat) : ∀ (vs ni : List Nat), negLoop wb vs ni = litLoop 1 0 wb vs ni
  | [], _ => rfl
  | v :: vs, ni => by simp only [negLoop, litLoop, negLoop_eq wb vs]

theorem posLoop_eq (wb : List Nat) : ∀ (vs ni : List Nat), posLoop wb vs ni = litLoop 0 1 wb vs ni
  | [], _ => rfl
  | v :: vs, ni => by
    have h : ∀ x : Nat, (isTV x && x != 1) = (x == 0) := by
      intro x
      rcases x with _ | _ | x <;> simp [isTV]
    simp only [posLoop, litLoop, posLoop_eq wb vs, h]

theorem applyCube_eq (interp wb : List Nat) (cu : PCube) :
    applyCube interp wb cu = (litLoop 1 0 wb cu.1 interp).bind (litLoop 0 1 wb cu.2) := by
  unfold applyCube
  rw [negLoop_eq]
  cases litLoop 1 0 wb cu.1 interp with
  | none => rfl
  | some ni => exact posLoop_eq wb cu.2 ni

/-- the vector with every position of `vs` (inside the vector) overwritten by `val` -/
def setAll (val : Nat) (vs ni : List Nat) : List Nat := vs.foldl (fun l v => l.set v val) ni

theorem get_set {l : List Nat} {i j a x : Nat} (h : (l.set i a)[j]? = some x) :
    (j = i ∧ x = a) ∨ (j ≠ i ∧ l[j]? = some x) := by
  rw [List.getElem?_set] at h
  by_cases e : i = j
  · rw [if_pos e] at h
    split at h
    · exact Or.inl ⟨e.symm, (Option.some.inj h).symm⟩
    · cases h
  · rw [if_neg e] at h; exact Or.inr ⟨fun e' => e e'.symm, h⟩

theorem setAll_new {a : Nat} : ∀ {vs v : List Nat} {j t : Nat}, (setAll a vs v)[j]? = some t →
    v[j]? = some t ∨ (j ∈ vs ∧ t = a)
  | [], _, _, _, h => Or.inl h
  | _ :: vs, _, _, _, h => by
    rcases setAll_new (vs := vs) h with h | ⟨hm, e⟩
    · rcases get_set h with ⟨rfl, rfl⟩ | ⟨_, h⟩
      · exact Or.inr ⟨List.mem_cons_self .., rfl⟩
      · exact Or.inl h
    · exact Or.inr ⟨List.mem_cons_of_mem _ hm, e⟩

theorem setAll_length (val : Nat) : ∀ (vs ni : List Nat), (setAll val vs ni).length = ni.length
  | [], _ => rfl
  | v :: vs, ni => (setAll_length val vs (ni.set v val)).trans List.length_set

/-- the tests may be read on the original vector, because a position overwritten on the way holds `val ≠ bad` -/
theorem litLoop_some_iff {bad val : Nat} (hbv : val ≠ bad) (wb : List Nat) (vs ni ni' : List Nat) :
    litLoop bad val wb vs ni = some ni' ↔
      (∀ v ∈ vs, ni.getD v 0 ≠ bad ∧ wb.getD v 2 ≠ bad) ∧ setAll val vs ni = ni' := by
  fun_induction litLoop bad val wb vs ni with
  | case1 ni => exact ⟨fun h => ⟨fun _ hv => (nomatch hv), Option.some.inj h⟩, fun h => congrArg some h.2⟩
  | case2 v vs ni hc =>
    rw [Bool.or_eq_true, beq_iff_eq, beq_iff_eq] at hc
    rw [List.forall_mem_cons]
    exact ⟨fun h => (nomatch h), fun h => (hc.elim h.1.1.1 h.1.1.2).elim⟩
  | case3 v vs ni hc ih =>
    rw [Bool.or_eq_true, beq_iff_eq, beq_iff_eq, not_or] at hc
    rw [List.forall_mem_cons, ih]
    -- the position just overwritten holds `val`, or lies outside the vector
    have hset : ∀ u, (ni.set v val).getD u 0 ≠ bad ↔ ni.getD u 0 ≠ bad := by
      intro u
      by_cases huv : v = u
      · subst huv
        refine ⟨fun _ => hc.1, fun _ => ?_⟩
        rw [List.getD_eq_getElem?_getD, List.getElem?_set_self']
        cases h : ni[v]? with
        | none => have := hc.1; rwa [List.getD_eq_getElem?_getD, h] at this
        | some _ => exact hbv
      · rw [getD_set_ne huv]
    exact ⟨fun ⟨a, e⟩ => ⟨⟨hc, fun u hu => ⟨(hset u).mp (a u hu).1, (a u hu).2⟩⟩, e⟩,
      fun ⟨⟨_, a⟩, e⟩ => ⟨fun u hu => ⟨(hset u).mpr (a u hu).1, (a u hu).2⟩, e⟩⟩

theorem applyCube_some_iff {interp wb : List Nat} {cu : PCube} {ni : List Nat} :
    applyCube interp wb cu = some ni ↔
      (∀ j ∈ cu.1, interp.getD j 0 ≠ 1 ∧ wb.getD j 2 ≠ 1) ∧
      (∀ j ∈ cu.2, (setAll 0 cu.1 interp).getD j 0 ≠ 0 ∧ wb.getD j 2 ≠ 0) ∧
      setAll 1 cu.2 (setAll 0 cu.1 interp) = ni := by
  rw [applyCube_eq, Option.bind_eq_some_iff]
  simp only [litLoop_some_iff (by decide : (0 : Nat) ≠ 1), litLoop_some_iff (by decide : (1 : Nat) ≠ 0)]
  constructor
  · rintro ⟨_, ⟨h1, rfl⟩, h2, h3⟩; exact ⟨h1, h2, h3⟩
  · rintro ⟨h1, h2, h3⟩; exact ⟨_, ⟨h1, rfl⟩, h2, h3⟩

theorem isTV_cases {t : Nat} (h : isTV t = true) : t = 0 ∨ t = 1 := by
  unfold isTV at h; simp only [decide_eq_true_eq] at h; omega

/-- a constant entry of `v` is the entry of `v'` at the same position: what every step of the search does to the vector -/
def Keeps (v v' : List Nat) : Prop := ∀ (j t : Nat), v[j]? = some t → isTV t = true → v'[j]? = some t

/-- `will_be[i]` constant ⇒ the vector holds the same constant: `Keeps wb interp` -/
def WB (interp wb : List Nat) : Prop := ∀ (j t : Nat), wb[j]? = some t → isTV t = true → interp[j]? = some t

theorem Keeps.trans {a b c : List Nat} (h1 : Keeps a b) (h2 : Keeps b c) : Keeps a c :=
  fun j t hj ht => h2 j t (h1 j t hj ht) ht

theorem Keeps.le3 {v v' : List Nat} (h : Keeps v v') : Le3 (d3 v) (d3 v') := by
  intro j b hj
  obtain ⟨t, ht, hb⟩ := d3_get_some.mp hj
  exact d3_get_some.mpr ⟨t, h j t ht (isTV_iff.mpr ⟨b, hb⟩), hb⟩

theorem Keeps.set {v v' : List Nat} (h : Keeps v v') {idx a : Nat} (ha : v[idx]? = some a) (hna : isTV a = false)
    (x : Nat) : Keeps v (v'.set idx x) := by
  intro j t hj ht
  have hji : idx ≠ j := by
    intro e; subst e; rw [ha] at hj; cases hj; rw [hna] at ht; cases ht
  rw [List.getElem?_set_ne hji]
  exact h j t hj ht

theorem applyCube_none {n : Nat} {interp wb : List Nat} {cu : PCube} (hl : interp.length = n)
    (hwb : WB interp wb) (h : applyCube interp wb cu = none) (σ : Asg)
    (hr : RegI n (d3 interp) σ) (hc : InPC cu σ) : False := by
  -- an assignment of the region that satisfies the cube passes every test of the two loops
  have val : ∀ {x t : Nat} (b : Bool), interp[x]? = some t ∨ wb[x]? = some t → storeIsConst t = some b → σ x = b := by
    intro x t b hx hb
    exact hr.1 x b (d3_get_some.mpr ⟨t, hx.elim id fun hx => hwb x t hx (isTV_iff.mpr ⟨b, hb⟩), hb⟩)
  refine Option.eq_none_iff_forall_ne_some.mp h _ (applyCube_some_iff.mpr ⟨fun j hj => ?_, fun j hj => ?_, rfl⟩)
  · have hσ := hc.1 j hj
    refine ⟨fun e => ?_, fun e => ?_⟩ <;> rw [getD_ne_iff (by decide)] at e
    · exact Bool.noConfusion (hσ.symm.trans (val true (Or.inl e) rfl))
    · exact Bool.noConfusion (hσ.symm.trans (val true (Or.inr e) rfl))
  · have hσ := hc.2 j hj
    refine ⟨fun e => ?_, fun e => ?_⟩
    · rcases getD_zero_iff.mp e with e | e
      · rw [setAll_length, hl] at e
        exact Bool.noConfusion ((hr.2 j e).symm.trans hσ)
      · rcases setAll_new e with e | ⟨hn, _⟩
        · exact Bool.noConfusion ((val false (Or.inl e) rfl).symm.trans hσ)
        · exact Bool.noConfusion ((hc.1 j hn).symm.trans hσ)
    · rw [getD_ne_iff (by decide)] at e
      exact Bool.noConfusion ((val false (Or.inr e) rfl).symm.trans hσ)

theorem candidates_mem {c : CState} {i t : Nat} :
    (i, t) ∈ candidates c ↔ c.1[i]? = some t ∧ isTV t = false ∧ isTV (c.2.getD i 2) = false := by
  unfold candidates
  simp only [List.mem_map, List.mem_filter, Prod.exists, Prod.mk.injEq, Bool.not_eq_true', Bool.or_eq_false_iff,
    List.mem_zipIdx_iff_getElem?]
  constructor
  · rintro ⟨a, b, ⟨h1, h2, h3⟩, rfl, rfl⟩; exact ⟨h1, h2, h3⟩
  · intro ⟨h1, h2, h3⟩; exact ⟨t, i, ⟨h1, h2, h3⟩, rfl, rfl⟩

section
-- `u` is the flag `unrepaired` of `countParams`
variable (ac : List Nat) (useA u : Bool) (s : Store) (c : CState) (idx : Nat) (g : Bool)

theorem countParams_pick :
    (countParams ac useA u).pick s c =
      (minBy (if useA then heuA s c.1 else heuB s c.1) (candidates c)).map (·.1) := rfl

theorem countParams_goal : (countParams ac useA u).goal s c idx = !moreModels (paths s (c.1.getD idx 0)) := rfl

theorem countParams_cubes :
    (countParams ac useA u).cubes s c idx g =
      if u then (cubesOf s (c.1.getD idx 0) g idx).takeWhile (fun cu => (applyCube c.1 c.2 cu).isSome)
      else cubesOf s (c.1.getD idx 0) g idx := rfl

/-- an accepted cube: `new_int[idx] = goal`, one propagation step, `check_consistency` against `will_be` -/
theorem countParams_cubeStep (cu : PCube) :
    (countParams ac useA u).cubeStep s c idx g cu =
      match applyCube c.1 c.2 cu with
      | none => (s, none)
      | some ni =>
        let v := ni.set idx (if g then 1 else 0)
        let upd := applyVec s v v
        (upd.1, if consistentWith upd.2 c.2 then some (upd.2, c.2) else none) := rfl

def flipAns (wb : List Nat) (idx : Nat) (g : Bool) (ni upd : List Nat) : Option CState :=
  if noInfIncons (ni.getD idx 0) (upd.getD idx 0) then
    if noInfIncons (ni.getD idx 0) (if g then 0 else 1) then
      some (upd.set idx (if g then 0 else 1), wb.set idx (ni.getD idx 0))
    else none
  else none

theorem countParams_flipStep :
    (countParams ac useA u).flipStep s c idx g =
      let ni := mapRestrict s idx (!g) c.1
      let upd := applyVec ni.1 ni.2 ni.2
      (upd.1, flipAns c.2 idx g ni.2 upd.2) := by
  show (if _ then if _ then (_, _) else (_, _) else (_, _)) = _
  rw [← apply_ite (Prod.mk _), ← apply_ite (Prod.mk _)]
  rfl

/-- the vector `apply_interpretation` is called with at a leaf -/
def leafVec (c : CState) : List Nat := c.1.zipIdx.map (fun (t, i) => if !isTV t then c.2.getD i 2 else t)

theorem countParams_leaf :
    (countParams ac useA u).leaf s c =
      let r := applyVec s (leafVec c) ac
      if consistentWith r.2 (leafVec c) then (r.1, [r.2]) else (r.1, [c.1]) := rfl
end

theorem pick_some {ac : List Nat} {useA u : Bool} {s : Store} {c : CState} {idx : Nat}
    (h : (countParams ac useA u).pick s c = some idx) :
    ∃ a, c.1[idx]? = some a ∧ isTV a = false ∧ isTV (c.2.getD idx 2) = false := by
  rw [countParams_pick, Option.map_eq_some_iff] at h
  obtain ⟨⟨i, t⟩, hm, rfl⟩ := h
  have := minBy_mem _ _ _ hm
  exact ⟨t, candidates_mem.mp this⟩

theorem pick_none {ac : List Nat} {useA u : Bool} {s : Store} {c : CState}
    (h : (countParams ac useA u).pick s c = none) (i t : Nat) (hi : c.1[i]? = some t) :
    isTV t = true ∨ isTV (c.2.getD i 2) = true := by
  rw [countParams_pick, Option.map_eq_none_iff] at h
  have hnil := minBy_none _ _ h
  cases h1 : isTV t with
  | true => exact Or.inl rfl
  | false =>
    cases h2 : isTV (c.2.getD i 2) with
    | true => exact Or.inr rfl
    | false =>
      have : (i, t) ∈ candidates c := candidates_mem.mpr ⟨hi, h1, h2⟩
      rw [hnil] at this; cases this

end CI
