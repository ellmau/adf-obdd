import AdfObdd.ServerProofs
import AdfObdd.ServerCred
/-! C17: requests that merely MENTION an account name are harmless to that account.

`actor` = the identity a request acts for (session cookie; temporary account of an unauthenticated
`add`); `reqNames` = the account names in the payload. A request of somebody else can carry `v`'s
name: `register v …` (taken: 409), `login v …` (a credential check; a wrong password changes
nothing), `update v …` (taken: 409), or an authenticated `add` whose unused random-name proposal
happens to be `v`. None of them changes anything that belongs to an EXISTING account `v`. -/
namespace ServerM
section
variable {T H A R : Type} [DecidableEq T]

/-- `v` is a registered (or temporary) account -/
def hasAccount (v : T) (db : Db T H A R) : Prop := db.users.any (isUser v) = true

/-- `d` and `a` hold the same under the account name `v`: its user record (credential), its problems, its
entries of the running set -/
abbrev ViewOf (v : T) (d a : Db T H A R) : Prop := DbSim (fun x => decide (x = v)) (fun _ => false) d a

theorem ViewOf.hasAccount {v : T} {d a : Db T H A R} (h : ViewOf v d a) (ha : hasAccount v a) : hasAccount v d :=
  (any_view (fun u : User T H => decide (u.username = v)) (isUser v) (fun _ hx => hx) h.users).trans ha

theorem ViewOf.find {v : T} {d a : Db T H A R} (h : ViewOf v d a) :
    d.users.find? (isUser v) = a.users.find? (isUser v) :=
  find_view (fun u : User T H => decide (u.username = v)) (isUser v) (fun _ hx => hx) h.users

theorem ViewOf.problems {v : T} {d a : Db T H A R} (h : ViewOf v d a) :
    d.problems.filter (ownedP v) = a.problems.filter (ownedP v) := h.probs

/-- `register v …` while `v` exists: nothing happens; with non-empty fields the answer is 409 "name taken" -/
theorem register_taken (E : Env T H A R) (st : State T H A R) (jar : Nat) (v p : T) (salt : Nat)
    (hv : hasAccount v st.db) :
    (step E st ⟨jar, .register v p salt⟩).1 = st ∧
    (v ≠ E.emp → p ≠ E.emp → (step E st ⟨jar, .register v p salt⟩).2 = ⟨409, .keep, .msg .nameTaken⟩) := by
  obtain ⟨x, hx⟩ := find_of_any hv
  by_cases he : v = E.emp ∨ p = E.emp
  · rw [step_register_emp E st jar v p salt he]
    exact ⟨rfl, fun h1 h2 => (he.elim h1 h2).elim⟩
  · rw [step_register_taken E st jar v p salt he hx]
    exact ⟨rfl, fun _ _ => rfl⟩

/-- `update v …` by a session of another account while `v` exists: nothing happens; with non-empty
fields and a session the answer is 409 "name taken" -/
theorem update_taken (E : Env T H A R) (st : State T H A R) (jar : Nat) (v p : T) (salt : Nat)
    (hv : hasAccount v st.db) (hU : st.sess jar ≠ some v) :
    (step E st ⟨jar, .update v p salt⟩).1 = st ∧
    (v ≠ E.emp → p ≠ E.emp → st.sess jar ≠ none →
      (step E st ⟨jar, .update v p salt⟩).2 = ⟨409, .keep, .msg .nameTaken⟩) := by
  obtain ⟨x, hx⟩ := find_of_any hv
  by_cases he : v = E.emp ∨ p = E.emp
  · rw [step_update_emp E st jar v p salt he]
    exact ⟨rfl, fun h1 h2 => (he.elim h1 h2).elim⟩
  · cases hs : st.sess jar with
    | none =>
      rw [step_update_nosess E st jar v p salt he hs]
      exact ⟨rfl, fun _ _ h => (h rfl).elim⟩
    | some u =>
      rw [step_update_taken E st jar v p salt he hs (fun e => hU (by rw [hs, e])) hx]
      exact ⟨rfl, fun _ _ _ => rfl⟩

/-- an unauthenticated `add` whose generated account name is taken: `500`, nothing happens -/
theorem add_taken (E : Env T H A R) (st : State T H A R) (jar : Nat) (name : T) (code file : Option T)
    (parsing : Parsing) (fu fp : T) (hs : st.sess jar = none) (hv : hasAccount fu st.db) :
    (step E st ⟨jar, .add name code file parsing fu fp⟩).1 = st := by
  obtain ⟨x, hx⟩ := find_of_any hv
  have key : ∃ r cs, run (handler E jar (st.sess jar) (.add name code file parsing fu fp)) st.db = (st.db, r, cs) ∧
      r.cookie = .keep := by
    rw [hs]
    simp only [handler, hAdd]
    split
    · exact ⟨_, _, run_reply .., rfl⟩
    · split
      · exact ⟨_, _, run_reply .., rfl⟩
      · simp only [run, exec, hx, reply]
        exact ⟨_, _, rfl, rfl⟩
  obtain ⟨r, cs, hr, hc⟩ := key
  exact congrArg Prod.fst (step_of_run_keep E st ⟨jar, .add name code file parsing fu fp⟩ hr hc)

/-- `login v …` (from any jar): a credential check only. The database is never changed; unless the
check succeeds (status 200) nothing changes at all, and it succeeds only with a password that
verifies against `v`'s stored credential -/
theorem login_harmless (E : Env T H A R) (st : State T H A R) (jar : Nat) (v p : T) :
    (step E st ⟨jar, .login v p⟩).1.db = st.db ∧
    ((step E st ⟨jar, .login v p⟩).2.status ≠ 200 → (step E st ⟨jar, .login v p⟩).1 = st) ∧
    ((step E st ⟨jar, .login v p⟩).2.status = 200 →
      ∃ x h, st.db.users.find? (isUser v) = some x ∧ x.password = some h ∧ E.verify h p = true) := by
  -- every refusal leaves the state as it is and has a status other than 200
  have fails : ∀ (s : Nat) (m : Msg T) (Q : Prop), s ≠ 200 →
      step E st ⟨jar, .login v p⟩ = (st, ⟨s, .keep, .msg m⟩) →
      (step E st ⟨jar, .login v p⟩).1.db = st.db ∧
      ((step E st ⟨jar, .login v p⟩).2.status ≠ 200 → (step E st ⟨jar, .login v p⟩).1 = st) ∧
      ((step E st ⟨jar, .login v p⟩).2.status = 200 → Q) := by
    intro s m Q hs h
    rw [h]
    exact ⟨rfl, fun _ => rfl, fun h' => (hs h').elim⟩
  by_cases he : v = E.emp ∨ p = E.emp
  · exact fails 400 _ _ (by decide) (step_login_emp E st jar v p he)
  · cases hf : st.db.users.find? (isUser v) with
    | none => exact fails 404 _ _ (by decide) (step_login_nouser E st jar v p he hf)
    | some x =>
      cases hp : x.password with
      | none => exact fails 400 _ _ (by decide) (step_login_temp E st jar v p he hf hp)
      | some h =>
        cases hv : E.verify h p with
        | false => exact fails 400 _ _ (by decide) (step_login_wrong E st jar v p he hf hp hv)
        | true =>
          rw [step_login_ok E st jar v p he hf hp hv]
          exact ⟨rfl, fun hne => (hne rfl).elim, fun _ => ⟨x, h, rfl, hp, hv⟩⟩

/-- `_view` in the sense of `run_out`: the handler does not show in the view of `v` -/
theorem handler_view (E : Env T H A R) (jar : Nat) (id : Option T) (rq : Req T) (v : T)
    (hU : actor id rq ≠ some v) (hn : v ∉ reqNames rq) (db : Db T H A R) :
    ViewOf v (run (handler E jar id rq) db).1 db :=
  run_out ((handler_owned E jar id rq).mono (fun _ h => h.outside hU hn) (fun _ _ => trivial)) db

/-- **a request that does not ACT for `v` — whether or not it mentions `v`'s name — leaves
everything filed under the existing account `v` as it is**: `v`'s user record (so its credential),
`v`'s problems, `v`'s running entries; and `v` still exists afterwards -/
theorem request_not_acting_view (E : Env T H A R) (st : State T H A R) (rq : Request T) (v : T)
    (hv : hasAccount v st.db) (hU : actor (st.sess rq.jar) rq.req ≠ some v) :
    ViewOf v (step E st rq).1.db st.db := by
  by_cases hn : v ∈ reqNames rq.req
  · obtain ⟨jar, req⟩ := rq
    cases req with
    | register u p salt =>
      rw [List.mem_singleton.mp hn] at hv
      rw [(register_taken E st jar u p salt hv).1]; exact DbSim.refl ..
    | login u p =>
      rw [(login_harmless E st jar u p).1]; exact DbSim.refl ..
    | update u p salt =>
      rw [List.mem_singleton.mp hn] at hv hU
      rw [(update_taken E st jar u p salt hv hU).1]; exact DbSim.refl ..
    | add name code file parsing fu fp =>
      -- the session is somebody else's: the proposal `fu = v` is never looked at
      have hvf : v = fu := List.mem_singleton.mp hn
      subst hvf
      rw [step_db]
      cases hs : st.sess jar with
      | none => exact absurd (by rw [hs]; rfl) hU
      | some u =>
        have huv : u ≠ v := fun e => hU (by rw [hs, e]; rfl)
        exact handler_view E jar (some u) (.add name code file parsing u fp) v
          (fun h => huv (Option.some.inj h)) (fun h => huv (List.mem_singleton.mp h).symm) st.db
    | _ => cases hn
  · exact handler_view E rq.jar _ rq.req v hU hn st.db

/-- the event acts for `v`: a request whose identity is `v`, or a background-task event of a task
that `v` started -/
def actsFor (v : T) (st : State T H A R) : Event T → Prop
  | .req rq => actor (st.sess rq.jar) rq.req = some v
  | .finish j n => ∃ t, nthOf j n st.db.tasks = some t ∧ t.username = v
  | .write j n => ∃ t, nthOf j n st.db.tasks = some t ∧ t.username = v
  | .timeout j n => ∃ t, nthOf j n st.db.tasks = some t ∧ t.username = v

def mentions (v : T) : Event T → Prop
  | .req rq => v ∈ reqNames rq.req
  | _ => False

theorem event_not_acting_view (E : Env T H A R) (st : State T H A R) (e : Event T) (v : T)
    (hv : hasAccount v st.db) (h : ¬ actsFor v st e) : ViewOf v (stepEv E st e).1.db st.db := by
  cases e with
  | req rq => exact request_not_acting_view E st rq v hv h
  | finish j n => exact dbEv_view E st.db (.finish j n) v (fun t ht hv' => h ⟨t, ht, hv'⟩)
  | write j n => exact dbEv_view E st.db (.write j n) v (fun t ht hv' => h ⟨t, ht, hv'⟩)
  | timeout j n => exact dbEv_view E st.db (.timeout j n) v (fun t ht hv' => h ⟨t, ht, hv'⟩)

/-- no event of the history ACTS for `v` (events that only mention `v`'s name are allowed) -/
def QuietA (E : Env T H A R) (v : T) : State T H A R → List (Event T) → Prop
  | _, [] => True
  | st, e :: es => ¬ actsFor v st e ∧ QuietA E v (stepEv E st e).1 es

theorem isolation_view (E : Env T H A R) (v : T) : ∀ (es : List (Event T)) (st : State T H A R),
    hasAccount v st.db → QuietA E v st es → ViewOf v (runAll E st es).1.db st.db := by
  intro es
  induction es with
  | nil => intro st _ _; exact DbSim.refl ..
  | cons e es ih =>
    intro st hv h
    simp only [runAll]
    have h1 := event_not_acting_view E st e v hv h.1
    exact (ih _ (h1.hasAccount hv) h.2).trans h1

/-- a successful `register` stores exactly `hash salt p` for the salt drawn for THAT request -/
theorem register_stores (E : Env T H A R) (st : State T H A R) (jar : Nat) (u p : T) (salt : Nat)
    (h : (step E st ⟨jar, .register u p salt⟩).2.status = 200) :
    (step E st ⟨jar, .register u p salt⟩).1.db.users = st.db.users ++ [⟨u, some (E.hash salt p)⟩] := by
  by_cases he : u = E.emp ∨ p = E.emp
  · rw [step_register_emp E st jar u p salt he] at h; cases h
  · cases hf : st.db.users.find? (isUser u) with
    | some x => rw [step_register_taken E st jar u p salt he hf] at h; cases h
    | none => rw [step_register_ok E st jar u p salt he hf]

/-- a successful `update` replaces the session's record by `(u', hash salt p')` for the salt drawn
for THAT request -/
theorem update_stores (E : Env T H A R) (st : State T H A R) (jar : Nat) (u' p' : T) (salt : Nat)
    (h : (step E st ⟨jar, .update u' p' salt⟩).2.status = 200) :
    ∃ u, st.sess jar = some u ∧
      (step E st ⟨jar, .update u' p' salt⟩).1.db.users =
        updFirst (isUser u) (fun _ => ⟨u', some (E.hash salt p')⟩) st.db.users := by
  -- of the two answers after the replacement only the success has status 200
  have hok : ∀ u, step E st ⟨jar, .update u' p' salt⟩ =
      (if st.db.users.any (isUser u) = true then
        (updated E st jar u' p' salt u, ⟨200, .login u', .userInfo u' false⟩)
       else (st, ⟨500, .keep, .msg .accountNotUpdated⟩)) →
      (step E st ⟨jar, .update u' p' salt⟩).1.db.users =
        updFirst (isUser u) (fun _ => ⟨u', some (E.hash salt p')⟩) st.db.users := by
    intro u hu
    rw [hu] at h ⊢
    split at h
    · rw [if_pos ‹_›]; rfl
    · cases h
  by_cases he : u' = E.emp ∨ p' = E.emp
  · rw [step_update_emp E st jar u' p' salt he] at h; cases h
  · cases hs : st.sess jar with
    | none => rw [step_update_nosess E st jar u' p' salt he hs] at h; cases h
    | some u =>
      refine ⟨u, rfl, ?_⟩
      by_cases hne : u' = u
      · subst hne; exact hok u' (step_update_same E st jar u' p' salt he hs)
      · cases hf : st.db.users.find? (isUser u') with
        | some x => rw [step_update_taken E st jar u' p' salt he hs hne hf] at h; cases h
        | none => exact hok u (step_update_free E st jar u' p' salt he hs hne hf)

end
end ServerM
