import AdfObdd.ParserProofs

/-! the formula grammar on char lists, structured like `parser.rs` (`atomic` with both label
spellings, `constant`, the five binary connectives, `neg`, alt order as in the Rust), the
documented concrete syntax as an inductive relation, and completeness: every text of the
documented formula syntax (any layout around commas, alphanumeric labels incl. keyword-like
ones, quoted labels) is parsed back to the formula that was written -/
namespace ParserM

inductive Fml where
  | top | bot
  | atom (l : List Char)
  | not (f : Fml)
  | and (a b : Fml) | or (a b : Fml) | imp (a b : Fml) | xor (a b : Fml) | iff (a b : Fml)
deriving DecidableEq

def isWs (c : Char) : Bool := c == ' ' || c == '\t' || c == '\r' || c == '\n'
def ws0 : Prs Unit := fun cs => some ((), cs.dropWhile isWs)

def orElse {α : Type} (p q : Prs α) : Prs α := fun cs =>
  match p cs with
  | some r => some r
  | none => q cs

/-- `preceded(tag("c"), delimited(tag("("), tag(x), tag(")")))` -/
def constP (x : Char) (v : Fml) : Prs Fml := fun cs =>
  (tagL ['c'] cs).bind fun a => (tagL ['('] a.2).bind fun b => (tagL [x] b.2).bind fun c =>
  (tagL [')'] c.2).bind fun d => some (v, d.2)

def constantP : Prs Fml := orElse (constP 'v' Fml.top) (constP 'f' Fml.bot)

def commaP : Prs Unit := fun cs =>
  (ws0 cs).bind fun x => (tagL [','] x.2).bind fun y => ws0 y.2

def pairP (rec : Prs Fml) (kw : List Char) (mk : Fml → Fml → Fml) : Prs Fml := fun cs =>
  (tagL kw cs).bind fun x0 => (tagL ['('] x0.2).bind fun x1 => (rec x1.2).bind fun a =>
  (commaP a.2).bind fun x3 => (rec x3.2).bind fun b => (tagL [')'] b.2).bind fun x5 =>
  some (mk a.1 b.1, x5.2)

def negP (rec : Prs Fml) : Prs Fml := fun cs =>
  (tagL ['n','e','g'] cs).bind fun x0 => (tagL ['('] x0.2).bind fun x1 => (rec x1.2).bind fun a =>
  (tagL [')'] a.2).bind fun x3 => some (Fml.not a.1, x3.2)

/-- `take_until("\"")`: everything before the first `"`; an error if there is none. The empty
prefix is a success (`take_until`, not `take_until1`), so `""` is the empty label. -/
def takeUntilQ : Prs (List Char)
  | [] => none
  | c :: cs => if c = '"' then some ([], c :: cs) else (takeUntilQ cs).map fun x => (c :: x.1, x.2)

/-- `delimited(tag("\""), take_until("\""), tag("\""))` -/
def quotedP : Prs (List Char) := fun cs =>
  (tagL ['"'] cs).bind fun a => (takeUntilQ a.2).bind fun l => (tagL ['"'] l.2).bind fun b =>
  some (l.1, b.2)

/-- `atomic`: `alt((delimited(tag("\""), take_until("\""), tag("\"")), alphanumeric1))` -/
def atomic : Prs (List Char) := orElse quotedP alnum1

/-- `atomic_term` -/
def atomP : Prs Fml := fun cs => (atomic cs).map fun x => (Fml.atom x.1, x.2)

def binaryP (rec : Prs Fml) : Prs Fml :=
  orElse (pairP rec ['a','n','d'] Fml.and)
  (orElse (pairP rec ['o','r'] Fml.or)
  (orElse (pairP rec ['i','m','p'] Fml.imp)
  (orElse (pairP rec ['x','o','r'] Fml.xor)
          (pairP rec ['i','f','f'] Fml.iff))))

def formulaF : Nat → Prs Fml
  | 0 => fun _ => none
  | fuel+1 => orElse constantP (orElse (binaryP (formulaF fuel)) (orElse (negP (formulaF fuel)) atomP))

def AllWs (w : List Char) : Prop := ∀ c ∈ w, isWs c = true

/-- the two spellings of a label: a non-empty alphanumeric word, written as it is, or any text
without `"` (possibly empty, possibly with blanks, brackets, commas, dots, non-ASCII characters)
between two `"`. The label is the word resp. the text between the quotes, verbatim. -/
inductive DerL : List Char → List Char → Prop
  | alnum (l : List Char) : l ≠ [] → AllAlnum l → DerL l l
  | quoted (l : List Char) : '"' ∉ l → DerL l (['"'] ++ l ++ ['"'])

/-- the documented concrete syntax of formulas -/
inductive DerF : Fml → List Char → Prop
  | top : DerF Fml.top ['c','(','v',')']
  | bot : DerF Fml.bot ['c','(','f',')']
  | atom (l s : List Char) : DerL l s → DerF (Fml.atom l) s
  | not (f : Fml) (s : List Char) : DerF f s → DerF (Fml.not f) (['n','e','g','('] ++ s ++ [')'])
  | and (a b : Fml) (s1 s2 w1 w2 : List Char) : DerF a s1 → DerF b s2 → AllWs w1 → AllWs w2 →
      DerF (Fml.and a b) (['a','n','d','('] ++ s1 ++ w1 ++ [','] ++ w2 ++ s2 ++ [')'])
  | or (a b : Fml) (s1 s2 w1 w2 : List Char) : DerF a s1 → DerF b s2 → AllWs w1 → AllWs w2 →
      DerF (Fml.or a b) (['o','r','('] ++ s1 ++ w1 ++ [','] ++ w2 ++ s2 ++ [')'])
  | imp (a b : Fml) (s1 s2 w1 w2 : List Char) : DerF a s1 → DerF b s2 → AllWs w1 → AllWs w2 →
      DerF (Fml.imp a b) (['i','m','p','('] ++ s1 ++ w1 ++ [','] ++ w2 ++ s2 ++ [')'])
  | xor (a b : Fml) (s1 s2 w1 w2 : List Char) : DerF a s1 → DerF b s2 → AllWs w1 → AllWs w2 →
      DerF (Fml.xor a b) (['x','o','r','('] ++ s1 ++ w1 ++ [','] ++ w2 ++ s2 ++ [')'])
  | iff (a b : Fml) (s1 s2 w1 w2 : List Char) : DerF a s1 → DerF b s2 → AllWs w1 → AllWs w2 →
      DerF (Fml.iff a b) (['i','f','f','('] ++ s1 ++ w1 ++ [','] ++ w2 ++ s2 ++ [')'])

def Fml.size : Fml → Nat
  | .top => 1 | .bot => 1 | .atom _ => 1
  | .not f => f.size + 1
  | .and a b => a.size + b.size + 1 | .or a b => a.size + b.size + 1 | .imp a b => a.size + b.size + 1
  | .xor a b => a.size + b.size + 1 | .iff a b => a.size + b.size + 1

theorem ws_le {c : Char} (h : isWs c = true) : c.toNat ≤ 32 := by
  simp [isWs] at h
  rcases h with ((rfl | rfl) | rfl) | rfl <;> decide

theorem ws_ne {c d : Char} (h : isWs c = true) (hd : 32 < d.toNat) : c ≠ d := by
  intro e; subst e; have := ws_le h; omega

theorem alnum_not_ws {c : Char} (h : isAlnum c = true) : isWs c = false :=
  Bool.eq_false_iff.mpr fun hw => by have := alnum_ge h; have := ws_le hw; omega

theorem ws_not_alnum {c : Char} (h : isWs c = true) : isAlnum c = false :=
  Bool.eq_false_iff.mpr fun ha => by have := alnum_ge ha; have := ws_le h; omega

theorem alnum_not_quote {c : Char} (h : isAlnum c = true) : c ≠ '"' := alnum_ne h (by decide)

theorem allAlnum_lit (l : List Char) (h : l.all isAlnum = true) : AllAlnum l := by
  intro c hc; exact List.all_eq_true.mp h c hc

theorem goodRest_cons {c : Char} (h : c.toNat < 48) (hp : c ≠ '(') (rest : List Char) : GoodRest (c :: rest) := by
  intro d hd
  obtain rfl : c = d := Option.some.inj hd
  exact ⟨Bool.eq_false_iff.mpr fun ha => by have := alnum_ge ha; omega, hp⟩

theorem goodRest_ws_comma (w rest : List Char) (hw : AllWs w) : GoodRest (w ++ ',' :: rest) := by
  cases w with
  | nil => exact goodRest_cons (by decide) (by decide) rest
  | cons d w' =>
    have hd := hw d (List.mem_cons_self ..)
    exact goodRest_cons (by have := ws_le hd; omega) (ws_ne hd (by decide)) _

theorem goodRest_close (rest : List Char) : GoodRest (')' :: rest) := goodRest_cons (by decide) (by decide) rest

theorem orElse_eq_some {α : Type} (p q : Prs α) (cs : Inp) (x : α × Inp) :
    orElse p q cs = some x ↔ p cs = some x ∨ (p cs = none ∧ q cs = some x) := by
  unfold orElse
  cases p cs <;> simp

theorem dropWhile_ws (w r : List Char) (hw : AllWs w) (hr : ∀ c, r.head? = some c → isWs c = false) :
    (w ++ r).dropWhile isWs = r := by
  rw [List.dropWhile_append_of_pos hw]
  cases r with
  | nil => rfl
  | cons d r' => rw [List.dropWhile_cons_of_neg]; rw [hr d rfl]; exact Bool.false_ne_true

theorem commaP_spec (w1 w2 r : List Char) (h1 : AllWs w1) (h2 : AllWs w2)
    (hr : ∀ c, r.head? = some c → isWs c = false) :
    commaP (w1 ++ ',' :: (w2 ++ r)) = some ((), r) := by
  have e1 : (w1 ++ ',' :: (w2 ++ r)).dropWhile isWs = [','] ++ (w2 ++ r) :=
    dropWhile_ws w1 _ h1 (by intro c hc; obtain rfl := Option.some.inj hc; decide)
  simp only [commaP, ws0, Option.bind_some, e1, tagL_append, dropWhile_ws w2 r h2 hr]

theorem constP_eq_some (x : Char) (v : Fml) (cs : Inp) (f : Fml) (r : Inp) :
    constP x v cs = some (f, r) ↔ cs = ['c', '(', x, ')'] ++ r ∧ f = v := by
  simp only [constP, Option.bind_eq_some_iff, tagL_eq_some, Option.some.injEq, Prod.mk.injEq]
  constructor
  · rintro ⟨a, e1, b, e2, c, e3, d, e4, rfl, rfl⟩
    exact ⟨by rw [e1, e2, e3, e4]; rfl, rfl⟩
  · rintro ⟨rfl, rfl⟩
    exact ⟨((), _), rfl, ((), _), rfl, ((), _), rfl, ((), r), rfl, rfl, rfl⟩

theorem pairP_eq_some (rec : Prs Fml) (kw : List Char) (mk : Fml → Fml → Fml) (cs : Inp) (f : Fml) (r : Inp) :
    pairP rec kw mk cs = some (f, r) ↔
      ∃ a b r1 r2 r3, cs = kw ++ '(' :: r1 ∧ rec r1 = some (a, r2) ∧ commaP r2 = some ((), r3) ∧
        rec r3 = some (b, ')' :: r) ∧ f = mk a b := by
  simp only [pairP, Option.bind_eq_some_iff, tagL_eq_some, Option.some.injEq, Prod.mk.injEq]
  constructor
  · rintro ⟨x0, e0, x1, e1, a, ha, x3, h3, b, hb, x5, e5, rfl, rfl⟩
    exact ⟨a.1, b.1, x1.2, a.2, x3.2, by rw [e0, e1]; rfl, ha, h3, hb.trans (congrArg some (Prod.ext rfl e5)), rfl⟩
  · rintro ⟨a, b, r1, r2, r3, rfl, ha, h3, hb, rfl⟩
    exact ⟨((), _), rfl, ((), r1), rfl, _, ha, _, h3, _, hb, ((), r), rfl, rfl, rfl⟩

theorem negP_eq_some (rec : Prs Fml) (cs : Inp) (f : Fml) (r : Inp) :
    negP rec cs = some (f, r) ↔
      ∃ a r1, cs = ['n','e','g'] ++ '(' :: r1 ∧ rec r1 = some (a, ')' :: r) ∧ f = Fml.not a := by
  simp only [negP, Option.bind_eq_some_iff, tagL_eq_some, Option.some.injEq, Prod.mk.injEq]
  constructor
  · rintro ⟨x0, e0, x1, e1, a, ha, x3, e3, rfl, rfl⟩
    exact ⟨a.1, x1.2, by rw [e0, e1]; rfl, ha.trans (congrArg some (Prod.ext rfl e3)), rfl⟩
  · rintro ⟨a, r1, rfl, ha, rfl⟩
    exact ⟨((), _), rfl, ((), r1), rfl, _, ha, ((), r), rfl, rfl, rfl⟩

/-- keyword and constructor of the binary connectives, in the order `binary_op` tries them -/
inductive BinOp : List Char → (Fml → Fml → Fml) → Prop
  | and : BinOp ['a','n','d'] Fml.and
  | or : BinOp ['o','r'] Fml.or
  | imp : BinOp ['i','m','p'] Fml.imp
  | xor : BinOp ['x','o','r'] Fml.xor
  | iff : BinOp ['i','f','f'] Fml.iff

theorem BinOp.alnum {kw : List Char} {mk : Fml → Fml → Fml} (h : BinOp kw mk) : AllAlnum kw := by
  cases h <;> exact allAlnum_lit _ (by decide)

theorem BinOp.size {kw : List Char} {mk : Fml → Fml → Fml} (h : BinOp kw mk) (a b : Fml) :
    (mk a b).size = a.size + b.size + 1 := by
  cases h <;> rfl

theorem DerF.bin {kw : List Char} {mk : Fml → Fml → Fml} (h : BinOp kw mk) {a b : Fml} {s1 s2 w1 w2 : List Char}
    (ha : DerF a s1) (hb : DerF b s2) (h1 : AllWs w1) (h2 : AllWs w2) :
    DerF (mk a b) (kw ++ ['('] ++ s1 ++ w1 ++ [','] ++ w2 ++ s2 ++ [')']) := by
  cases h
  · exact DerF.and a b s1 s2 w1 w2 ha hb h1 h2
  · exact DerF.or a b s1 s2 w1 w2 ha hb h1 h2
  · exact DerF.imp a b s1 s2 w1 w2 ha hb h1 h2
  · exact DerF.xor a b s1 s2 w1 w2 ha hb h1 h2
  · exact DerF.iff a b s1 s2 w1 w2 ha hb h1 h2

theorem DerF.binInduction {P : ∀ f s, DerF f s → Prop}
    (top : P _ _ .top) (bot : P _ _ .bot)
    (atom : ∀ l s hl, P _ _ (.atom l s hl))
    (not : ∀ f s h, P f s h → P _ _ (.not f s h))
    (bin : ∀ kw mk (hk : BinOp kw mk) a b s1 s2 w1 w2 (ha : DerF a s1) (hb : DerF b s2) (h1 : AllWs w1)
      (h2 : AllWs w2), P a s1 ha → P b s2 hb → P _ _ (DerF.bin hk ha hb h1 h2))
    {f : Fml} {s : List Char} (h : DerF f s) : P f s h := by
  induction h with
  | top => exact top
  | bot => exact bot
  | atom l s hl => exact atom l s hl
  | not f s h ih => exact not f s h ih
  | and a b s1 s2 w1 w2 ha hb h1 h2 iha ihb => exact bin _ _ .and a b s1 s2 w1 w2 ha hb h1 h2 iha ihb
  | or a b s1 s2 w1 w2 ha hb h1 h2 iha ihb => exact bin _ _ .or a b s1 s2 w1 w2 ha hb h1 h2 iha ihb
  | imp a b s1 s2 w1 w2 ha hb h1 h2 iha ihb => exact bin _ _ .imp a b s1 s2 w1 w2 ha hb h1 h2 iha ihb
  | xor a b s1 s2 w1 w2 ha hb h1 h2 iha ihb => exact bin _ _ .xor a b s1 s2 w1 w2 ha hb h1 h2 iha ihb
  | iff a b s1 s2 w1 w2 ha hb h1 h2 iha ihb => exact bin _ _ .iff a b s1 s2 w1 w2 ha hb h1 h2 iha ihb

theorem bin_text (kw s1 w1 w2 s2 r : List Char) :
    kw ++ ['('] ++ s1 ++ w1 ++ [','] ++ w2 ++ s2 ++ [')'] ++ r =
      kw ++ '(' :: (s1 ++ (w1 ++ ',' :: (w2 ++ (s2 ++ ')' :: r)))) := by
  simp

theorem neg_text (s r : List Char) :
    ['n','e','g','('] ++ s ++ [')'] ++ r = ['n','e','g'] ++ '(' :: (s ++ ')' :: r) := by
  simp

theorem pairP_tag_none (rec : Prs Fml) (kw : List Char) (mk : Fml → Fml → Fml) (cs : Inp)
    (h : tagL kw cs = none) : pairP rec kw mk cs = none := by
  unfold pairP; rw [h]; rfl

/-- `binary_op`: the alternative whose keyword the text starts with decides -/
theorem binaryP_eq_some (rec : Prs Fml) (cs : Inp) (x : Fml × Inp) :
    binaryP rec cs = some x ↔ ∃ kw mk, BinOp kw mk ∧ pairP rec kw mk cs = some x := by
  constructor
  · intro h
    simp only [binaryP, orElse_eq_some] at h
    rcases h with h | ⟨_, h | ⟨_, h | ⟨_, h | ⟨_, h⟩⟩⟩⟩
    · exact ⟨_, _, .and, h⟩
    · exact ⟨_, _, .or, h⟩
    · exact ⟨_, _, .imp, h⟩
    · exact ⟨_, _, .xor, h⟩
    · exact ⟨_, _, .iff, h⟩
  · rintro ⟨kw, mk, hk, h⟩
    obtain ⟨_, _, r1, _, _, rfl, _⟩ := (pairP_eq_some rec kw mk cs x.1 x.2).mp h
    -- the text starts with `kw(`, so the alternatives tried before `kw` fail on their tag
    cases hk <;> simp only [List.cons_append, List.nil_append] at h <;>
      simp [binaryP, orElse_eq_some, h, pairP_tag_none, tagL]

theorem DerF.head {f : Fml} {s : List Char} (h : DerF f s) : ∃ c t, s = c :: t ∧ isWs c = false := by
  induction h using DerF.binInduction with
  | atom l s hl =>
    cases hl with
    | alnum hne hl =>
      cases l with
      | nil => exact absurd rfl hne
      | cons d l' => exact ⟨d, l', rfl, alnum_not_ws (hl _ (List.mem_cons_self ..))⟩
    | quoted _ => exact ⟨_, _, rfl, by decide⟩
  | bin kw mk hk => cases hk <;> exact ⟨_, _, rfl, by decide⟩
  | _ => exact ⟨_, _, rfl, by decide⟩

theorem DerF.head_not_ws {f : Fml} {s : List Char} (h : DerF f s) (r : List Char) :
    ∀ c, (s ++ r).head? = some c → isWs c = false := by
  obtain ⟨d, t, rfl, hd⟩ := h.head
  intro c hc
  injection hc with hc
  exact hc ▸ hd

theorem takeUntilQ_spec : ∀ (l r : List Char), '"' ∉ l → takeUntilQ (l ++ '"' :: r) = some (l, '"' :: r) := by
  intro l
  induction l with
  | nil => intro r _; simp [takeUntilQ]
  | cons c l ih =>
    intro r h
    have hc : c ≠ '"' := fun e => h (e ▸ List.mem_cons_self ..)
    have hl : '"' ∉ l := fun e => h (List.mem_cons_of_mem _ e)
    simp [takeUntilQ, hc, ih r hl]

theorem quoted_text (l r : List Char) : ['"'] ++ l ++ ['"'] ++ r = '"' :: (l ++ '"' :: r) := by simp

theorem quotedP_ok (l r : List Char) (h : '"' ∉ l) : quotedP (['"'] ++ l ++ ['"'] ++ r) = some (l, r) := by
  rw [quoted_text]
  simp [quotedP, tagL, takeUntilQ_spec l r h]

theorem quotedP_alnum_none (l r : List Char) (hne : l ≠ []) (hl : AllAlnum l) : quotedP (l ++ r) = none := by
  cases l with
  | nil => exact absurd rfl hne
  | cons d l' =>
    have hd : ¬ ('"' = d) := fun e => alnum_not_quote (hl d (List.mem_cons_self ..)) e.symm
    simp [quotedP, tagL, hd]

theorem atomic_ok (l s r : List Char) (h : DerL l s) (hr : GoodRest r) : atomic (s ++ r) = some (l, r) := by
  unfold atomic
  rw [orElse_eq_some]
  cases h with
  | alnum hne hl => exact .inr ⟨quotedP_alnum_none l r hne hl, alnum1_label l r hne hl hr⟩
  | quoted hq => exact .inl (quotedP_ok l r hq)

theorem DerL.ne_kwParen {l s : List Char} (h : DerL l s) {kw : List Char} (hk : AllAlnum kw) {r : Inp}
    (hr : GoodRest r) (r' : Inp) : s ++ r ≠ kw ++ '(' :: r' := by
  cases h with
  | alnum _ hl => exact label_ne_kwParen kw l r r' hk hl hr
  | quoted _ =>
    rw [quoted_text]
    intro e
    cases kw with
    | nil => cases e
    | cons c kw' => exact alnum_not_quote (hk c (List.mem_cons_self ..)) (List.cons.inj e).1.symm

theorem formulaF_succ_eq_some (k : Nat) (cs : Inp) (x : Fml × Inp) :
    formulaF (k + 1) cs = some x ↔
      constantP cs = some x ∨ constantP cs = none ∧
        (binaryP (formulaF k) cs = some x ∨ binaryP (formulaF k) cs = none ∧
          (negP (formulaF k) cs = some x ∨ negP (formulaF k) cs = none ∧ atomP cs = some x)) := by
  simp only [formulaF, orElse_eq_some]

theorem formulaF_succ_atom (k : Nat) (cs : Inp) (x : Fml × Inp)
    (h : ∀ kw, AllAlnum kw → ∀ r', cs ≠ kw ++ '(' :: r') (ha : atomP cs = some x) :
    formulaF (k + 1) cs = some x := by
  have hc : constantP cs = none := by
    refine Option.eq_none_iff_forall_ne_some.mpr fun ⟨f, r⟩ e => ?_
    simp only [constantP, orElse_eq_some, constP_eq_some] at e
    rcases e with ⟨e, _⟩ | ⟨_, e, _⟩ <;> exact h ['c'] (allAlnum_lit _ (by decide)) _ e
  have hb : binaryP (formulaF k) cs = none := by
    refine Option.eq_none_iff_forall_ne_some.mpr fun x e => ?_
    obtain ⟨kw, mk, hk, e⟩ := (binaryP_eq_some _ _ _).mp e
    obtain ⟨_, _, r1, _, _, e, _⟩ := (pairP_eq_some _ _ _ _ x.1 x.2).mp e
    exact h kw hk.alnum r1 e
  have hn : negP (formulaF k) cs = none := by
    refine Option.eq_none_iff_forall_ne_some.mpr fun x e => ?_
    obtain ⟨_, r1, e, _⟩ := (negP_eq_some _ _ x.1 x.2).mp e
    exact h _ (allAlnum_lit _ (by decide)) r1 e
  exact (formulaF_succ_eq_some k cs x).mpr (.inr ⟨hc, .inr ⟨hb, .inr ⟨hn, ha⟩⟩⟩)

/-- C08, formula level: every text of the documented formula syntax — any blanks around
commas, alphanumeric labels including keyword-like ones — followed by a good rest is parsed
back to exactly the formula that was written, and the rest is left over. -/
theorem formula_complete : ∀ (f : Fml) (s : List Char), DerF f s → ∀ (fuel : Nat) (r : List Char),
    f.size < fuel → GoodRest r → formulaF fuel (s ++ r) = some (f, r) := by
  intro f s h
  induction h using DerF.binInduction with
  | top | bot =>
    intro fuel r hf _
    cases fuel with
    | zero => omega
    | succ k => simp [formulaF, orElse, constantP, constP, tagL]
  | atom l s hl =>
    intro fuel r hf hr
    cases fuel with
    | zero => omega
    | succ k =>
      refine formulaF_succ_atom k _ _ (fun kw hk r' => hl.ne_kwParen hk hr r') ?_
      unfold atomP
      rw [atomic_ok l s r hl hr]; rfl
  | not f s _ ih =>
    intro fuel r hf hr
    cases fuel with
    | zero => omega
    | succ k =>
      have hrec := ih k (')' :: r) (by simp [Fml.size] at hf; omega) (goodRest_close r)
      rw [neg_text, formulaF_succ_eq_some]
      refine .inr ⟨by simp [constantP, constP, orElse, tagL], .inr ⟨by simp [binaryP, pairP, orElse, tagL], .inl ?_⟩⟩
      exact (negP_eq_some _ _ _ _).mpr ⟨f, _, rfl, hrec, rfl⟩
  | bin kw mk hk a b s1 s2 w1 w2 _ hb h1 h2 iha ihb =>
    intro fuel r hf hr
    cases fuel with
    | zero => omega
    | succ k =>
      rw [hk.size] at hf
      have ra := iha k (w1 ++ ',' :: (w2 ++ (s2 ++ ')' :: r))) (by omega) (goodRest_ws_comma w1 _ h1)
      have rb := ihb k (')' :: r) (by omega) (goodRest_close r)
      rw [bin_text, formulaF_succ_eq_some]
      refine .inr ⟨by cases hk <;> simp [constantP, constP, orElse, tagL], .inl ?_⟩
      exact (binaryP_eq_some _ _ _).mpr ⟨kw, mk, hk, (pairP_eq_some _ _ _ _ _ _).mpr
        ⟨a, b, _, _, _, rfl, ra, commaP_spec w1 w2 _ h1 h2 (hb.head_not_ws _), rb, rfl⟩⟩
#print axioms formula_complete

end ParserM
