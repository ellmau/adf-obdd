/-! # Schedules of a producer and a consumer; fair schedules end a two-party system

A SCHEDULE is an arbitrary list of `Ev.prod` / `Ev.cons`.  `Sys` is any pair of step functions on a type of
configurations, with an invariant, an end flag and a measure.  The termination argument (`Sys.fair_finishes`)
uses five facts about the two step functions, collected in `Sys.Laws`: the invariant is preserved, a step is a
no-op or decreases the measure, the system is not deadlocked before the end, the end is stable, and the
measure is positive before the end.  The buffered channel (`Channel.lean`) and the rendezvous channel
(`ChannelZero.lean`) are instances. -/
namespace Chan

inductive Ev where
  | prod
  | cons
deriving DecidableEq, Repr

/-- a schedule made of `m` rounds, each of which lets the producer and the consumer move at least once
(in any order, with anything in between) -/
inductive Fair : Nat → List Ev → Prop
  | zero (l : List Ev) : Fair 0 l
  | round {m : Nat} (b rest : List Ev) : Ev.prod ∈ b → Ev.cons ∈ b → Fair m rest → Fair (m + 1) (b ++ rest)

theorem fair_alternating (m : Nat) : Fair m (List.flatten (List.replicate m [Ev.prod, Ev.cons])) := by
  induction m with
  | zero => exact Fair.zero _
  | succ m ih =>
    rw [List.replicate_succ, List.flatten_cons]
    exact Fair.round _ _ (by simp) (by simp) ih

/-- a producer and a consumer acting on configurations `C` -/
structure Sys (C : Type) where
  prod : C → C
  cons : C → C
  inv : C → Prop
  fin : C → Bool
  meas : C → Nat

namespace Sys
variable {C : Type} (S : Sys C)

def step (c : C) : Ev → C
  | .prod => S.prod c
  | .cons => S.cons c

def run (sched : List Ev) (c : C) : C := sched.foldl S.step c

theorem run_append (a b : List Ev) (c : C) : S.run (a ++ b) c = S.run b (S.run a c) :=
  List.foldl_append

structure Laws : Prop where
  inv_step : ∀ c e, S.inv c → S.inv (S.step c e)
  progress : ∀ c e, S.inv c → S.step c e = c ∨ S.meas (S.step c e) < S.meas c
  nodead : ∀ c, S.inv c → S.fin c = false → S.prod c ≠ c ∨ S.cons c ≠ c
  fin_stays : ∀ c e, S.fin c = true → S.fin (S.step c e) = true
  pos : ∀ c, S.fin c = false → 0 < S.meas c

variable {S}

theorem run_inv (L : S.Laws) (sched : List Ev) : ∀ c, S.inv c → S.inv (S.run sched c) :=
  fun _ h => List.foldlRecOn sched S.step h fun c h e _ => L.inv_step c e h

theorem run_meas_le (L : S.Laws) (sched : List Ev) : ∀ c, S.inv c → S.meas (S.run sched c) ≤ S.meas c := by
  induction sched with
  | nil => intro c _; exact Nat.le_refl _
  | cons e es ih =>
    intro c h
    show S.meas (S.run es (S.step c e)) ≤ S.meas c
    have h1 := ih _ (L.inv_step c e h)
    rcases L.progress c e h with h2 | h2
    · rw [h2] at h1 ⊢; exact h1
    · omega

theorem fin_run (L : S.Laws) (sched : List Ev) : ∀ c, S.fin c = true → S.fin (S.run sched c) = true :=
  fun _ h => List.foldlRecOn (motive := (S.fin · = true)) sched S.step h fun c h e _ => L.fin_stays c e h

/-- a block containing an event that can move decreases the measure: the events before it either move
themselves or leave the configuration as it is -/
theorem block_moves (L : S.Laws) {x : Ev} : ∀ (b : List Ev) (c : C), x ∈ b → S.inv c → S.step c x ≠ c →
    S.meas (S.run b c) < S.meas c := by
  intro b
  induction b with
  | nil => intro c hx; cases hx
  | cons e es ih =>
    intro c hx hi hm
    show S.meas (S.run es (S.step c e)) < _
    rcases L.progress c e hi with h | h
    · rw [h]
      rcases List.mem_cons.mp hx with rfl | hx
      · exact absurd h hm
      · exact ih c hx hi hm
    · exact Nat.lt_of_le_of_lt (run_meas_le L es _ (L.inv_step c e hi)) h

/-- every schedule with at least `meas` fair rounds reaches the end -/
theorem fair_finishes (L : S.Laws) : ∀ (m : Nat) (sched : List Ev), Fair m sched →
    ∀ c, S.inv c → S.meas c ≤ m → S.fin (S.run sched c) = true := by
  intro m sched hf
  induction hf with
  | zero l =>
    intro c _ hle
    cases hcd : S.fin c with
    | true => exact fin_run L l c hcd
    | false => have := L.pos c hcd; omega
  | round b rest hp hc _ ih =>
    intro c h hle
    rw [run_append]
    cases hcd : S.fin c with
    | true => exact fin_run L rest _ (fin_run L b c hcd)
    | false =>
      have := (L.nodead c h hcd).elim (block_moves L b c hp h) (block_moves L b c hc h)
      exact ih _ (run_inv L b c h) (by omega)

end Sys
end Chan
