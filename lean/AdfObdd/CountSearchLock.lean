import AdfObdd.CountSearchRel
/-! # Lock-step runs of the generic counting-guided machine `GK.search`

Two runs of `GK.search` from stores related by `R` (intended: same node table, memo tables
arbitrary) proceed in lock step when every step of the parameters does: same outputs in the same
ORDER, final stores related again. The validity needed by the steps is threaded through the
invariant `V.Inv` of the laws `GK.CSound` (which give its preservation). An instance of
`GK.search_rel` (`CountSearchRel.lean`). -/
namespace GK

variable {S C K O : Type}

/-- the steps of `P` cannot tell `R`-related stores apart -/
structure LockLaws (P : CParams S C K O) (V : View S C K O) (R : S → S → Prop) : Prop where
  pick : ∀ s s' c, R s s' → V.Inv s c → P.pick s' c = P.pick s c
  goal : ∀ s s' c idx, R s s' → V.Inv s c → P.goal s' c idx = P.goal s c idx
  cubes : ∀ s s' c idx g, R s s' → V.Inv s c → P.cubes s' c idx g = P.cubes s c idx g
  cubeStep : ∀ s s' c idx g cu, R s s' → V.Inv s c →
    R (P.cubeStep s c idx g cu).1 (P.cubeStep s' c idx g cu).1 ∧
    (P.cubeStep s' c idx g cu).2 = (P.cubeStep s c idx g cu).2
  flipStep : ∀ s s' c idx g, R s s' → V.Inv s c →
    R (P.flipStep s c idx g).1 (P.flipStep s' c idx g).1 ∧ (P.flipStep s' c idx g).2 = (P.flipStep s c idx g).2
  leaf : ∀ s s' c, R s s' → V.Inv s c → R (P.leaf s c).1 (P.leaf s' c).1 ∧ (P.leaf s' c).2 = (P.leaf s c).2

variable {T : Asg → Prop} {P : CParams S C K O} {V : View S C K O} {R : S → S → Prop}

/-- the second run follows the first: same state, `R`-related stores, the invariant on the first; the stores move
together when the first only grows and `R` is kept -/
theorem LockLaws.rel (hP : CSound T P V) (hL : LockLaws P V R) :
    RelLaws P P (fun s c s' c' => c = c' ∧ R s s' ∧ V.Inv s c)
      (fun s s' s1 s1' => V.Le s s1 ∧ (R s s' → R s1 s1')) id id where
  refl s _ := ⟨hP.le_refl s, id⟩
  trans _ _ _ _ _ _ h k := ⟨hP.le_trans _ _ _ h.1 k.1, k.2 ∘ h.2⟩
  pick := by rintro s c s' _ ⟨rfl, hr, hi⟩; exact (hL.pick s s' c hr hi).symm
  goal := by rintro s c s' _ idx ⟨rfl, hr, hi⟩ _; exact (hL.goal s s' c idx hr hi).symm
  cubes := by rintro s c s' _ idx ⟨rfl, hr, hi⟩ _; exact (hL.cubes s s' c idx _ hr hi).symm
  cubeStep := by
    rintro s0 c s0' _ idx s s' cu ⟨rfl, hr0, hi0⟩ hp hG hmem
    have ⟨le, st, _⟩ := hP.cube_step s0 s c idx cu hi0 hp hG.1 hmem
    have ⟨k1, k2⟩ := hL.cubeStep s s' c idx (P.goal s0 c idx) cu (hG.2 hr0) (hP.inv_mono _ _ _ hi0 hG.1)
    refine ⟨⟨le, fun _ => k1⟩, ?_⟩
    rw [k2]
    cases e : (P.cubeStep s c idx (P.goal s0 c idx) cu).2 with
    | none => exact Or.inl ⟨rfl, rfl⟩
    | some d => exact Or.inr ⟨d, d, rfl, rfl, rfl, k1, (st d e).1⟩
  flipStep := by
    rintro s0 c s0' _ idx s s' ⟨rfl, hr0, hi0⟩ hp hG
    have ⟨le, st, _⟩ := hP.flip_step s0 s c idx hi0 hp hG.1
    have ⟨k1, k2⟩ := hL.flipStep s s' c idx (P.goal s0 c idx) (hG.2 hr0) (hP.inv_mono _ _ _ hi0 hG.1)
    refine ⟨⟨le, fun _ => k1⟩, ?_⟩
    rw [k2]
    cases e : (P.flipStep s c idx (P.goal s0 c idx)).2 with
    | none => exact Or.inl ⟨rfl, rfl⟩
    | some d => exact Or.inr ⟨d, d, rfl, rfl, rfl, k1, (st d e).1⟩
  leaf := by
    rintro s c s' _ ⟨rfl, hr, hi⟩ hp
    have ⟨k1, k2⟩ := hL.leaf s s' c hr hi
    exact ⟨⟨(hP.leaf_law s c hi hp).le, fun _ => k1⟩, by rw [k2]⟩

/-- **lock step**: two runs from `R`-related stores emit the same outputs in the same order and end
in `R`-related stores -/
theorem search_lock (hP : CSound T P V) (hL : LockLaws P V R) : ∀ (fuel : Nat) (s s' : S) (c : C),
    V.Inv s c → R s s' → V.n - V.mu c < fuel →
    R (search P fuel s c).1 (search P fuel s' c).1 ∧ (search P fuel s' c).2 = (search P fuel s c).2 := by
  intro fuel s s' c hinv hr _
  have ⟨g, e⟩ := search_rel (hL.rel hP) fuel s c s' c ⟨rfl, hr, hinv⟩
  rw [List.map_id, List.map_id] at e
  exact ⟨g.2 hr, e.symm⟩

end GK
