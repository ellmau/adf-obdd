import AdfObdd.Rebuild
import AdfObdd.PathsDepth
import AdfObdd.OpsProofs
import AdfObdd.NodeTable
/-! C14: persistence round trips.

    * `PBdd` is `Bdd` with the serde-skipped bookkeeping made explicit: `deps` = `var_deps`
      (feature `variablelist`), `cnt` = `count_cache`; `st.uniq` = `cache`, `st.resC` / `st.iteC` =
      `restrict_cache` / `ite_cache`.  Sets of variables are lists (only membership is used).
    * `exportB` / `importB`: what the serde derives of `obdd.rs` write and read — `nodes` and the
      unique table as a vector of pairs (`obdd/vectorize.rs`); every `#[serde(skip)]` field comes
      back as its `Default` (empty), the channel ends as `None`.
    * `fixImport` = `Bdd::fix_import`: `generate_var_dependencies` (PUSHES one set per node onto
      whatever `var_deps` already holds) and, with `adhoccounting`, the refill of `count_cache` through
      `modelcount_memoization(Term(i))` for every `i`.
    * `rebuildP` = `impl From<Vec<BddNode>> for Bdd` with the bookkeeping `Bdd::node` maintains.
    * `PAdf` = `Adf` (`ordering`, `bdd`, `ac`); the web service's DTO strings (`SimplifiedAdf`) are
      decimal renderings, parsed back with `str::parse` — an abstract `Codec` of which only
      `dec (enc n) = some n` is used (`decimalCodec` of PersistAnswers.lean: `Nat.repr` / `String.toNat?`). -/
namespace Persist
open Std

/-- (counter-models, models, counter-model paths, model paths, depth) -/
abbrev CountNode := Nat × Nat × Nat × Nat × Nat

structure PBdd where
  st : Store
  deps : Array (List Nat)
  cnt : HashMap Nat CountNode

/-- what `serde` writes for a `Bdd` -/
structure Exported where
  nodes : Array Node
  cache : List (Node × Nat)

def exportB (b : PBdd) : Exported := { nodes := b.st.nodes, cache := b.st.uniq.toList }

def importB (e : Exported) : PBdd :=
  { st := { nodes := e.nodes, uniq := HashMap.ofList e.cache, resC := {}, iteC := {} },
    deps := #[], cnt := {} }

/-- one closure call of `generate_var_dependencies`: push the set of the node being visited -/
def depStep (d : Array (List Nat)) (n : Node) : Array (List Nat) :=
  if n.var ≥ VBOT then d.push []
  else d.push (n.var :: (d.getD n.lo [] ++ d.getD n.hi []))

def genDeps (nodes : Array Node) (d : Array (List Nat)) : Array (List Nat) := nodes.toList.foldl depStep d

def cntTop : CountNode := (0, 1, 0, 1, 0)
def cntBot : CountNode := (1, 0, 1, 0, 0)

/-- the arithmetic shared by `modelcount_naive`, `modelcount_memoization` -/
def cntCombine (l h : CountNode) : CountNode :=
  let dl := l.2.2.2.2
  let dh := h.2.2.2.2
  let D := max dl dh
  (l.1 * 2 ^ (D - dl) + h.1 * 2 ^ (D - dh), l.2.1 * 2 ^ (D - dl) + h.2.1 * 2 ^ (D - dh),
   l.2.2.1 + h.2.2.1, l.2.2.2.1 + h.2.2.2.1, D + 1)

/-- `modelcount_memoization` -/
def countMemo : Nat → Array Node → HashMap Nat CountNode → Nat → HashMap Nat CountNode × CountNode
  | 0, _, c, _ => (c, (0, 0, 0, 0, 0))
  | fuel+1, ns, c, t =>
    if t = 1 then (c, cntTop) else if t = 0 then (c, cntBot) else
    match c[t]? with
    | some r => (c, r)
    | none =>
      match ns[t]? with
      | none => (c, (0, 0, 0, 0, 0))
      | some n =>
        let l := countMemo fuel ns c n.lo
        let h := countMemo fuel ns l.1 n.hi
        let r := cntCombine l.2 h.2
        (h.1.insert t r, r)

/-- the `adhoccounting` part of `fix_import` -/
def cntFix (ns : Array Node) (c : HashMap Nat CountNode) : HashMap Nat CountNode :=
  (List.range ns.size).foldl (fun c i => (countMemo (i + 1) ns c i).1) ((c.insert 1 cntTop).insert 0 cntBot)

/-- `Bdd::fix_import` -/
def fixImport (b : PBdd) : PBdd :=
  { b with deps := genDeps b.st.nodes b.deps, cnt := cntFix b.st.nodes b.cnt }

/-- the on-demand value the count cache stands for -/
def cntOf (s : Store) (t : Nat) : CountNode :=
  let c := countF s (t + 1) t
  let p := pathsF s (t + 1) t
  (c.1, c.2.1, p.1, p.2, c.2.2)

/-- `var_deps` is aligned with the node table and holds, per node, the variables of its diagram -/
structure DepsOK (s : Store) (d : Array (List Nat)) : Prop where
  size : d.size = s.nodes.size
  val : ∀ t, t < s.nodes.size → d[t]? = some (depsOf s t)

/-- every cached count is the true one -/
def CntSound (s : Store) (c : HashMap Nat CountNode) : Prop :=
  ∀ t r, c[t]? = some r → t < s.nodes.size ∧ r = cntOf s t

/-- `CntSound` and, as `adhoccounting` needs it, an entry for every handle -/
def CntFull (s : Store) (c : HashMap Nat CountNode) : Prop :=
  CntSound s c ∧ ∀ t, t < s.nodes.size → c[t]? = some (cntOf s t)

theorem ofList_perm_get {α β : Type} [BEq α] [Hashable α] [LawfulBEq α] [LawfulHashable α]
    (m : HashMap α β) (l : List (α × β)) (h : l.Perm m.toList) (k : α) : (HashMap.ofList l)[k]? = m[k]? := by
  have hd : List.Pairwise (fun a b : α × β => (a.1 == b.1) = false) l :=
    (List.Perm.pairwise_iff (fun {x y} (hxy : (x.1 == y.1) = false) => by
      rw [BEq.comm]; exact hxy) h).mpr HashMap.distinct_keys_toList
  cases hk : m[k]? with
  | some v =>
    exact HashMap.getElem?_ofList_of_mem BEq.rfl hd (h.mem_iff.mpr (HashMap.mem_toList_iff_getElem?_eq_some.mpr hk))
  | none =>
    apply HashMap.getElem?_ofList_of_contains_eq_false
    have : (l.map Prod.fst).Perm m.keys := by
      rw [← HashMap.map_fst_toList_eq_keys]; exact h.map _
    rw [List.contains_eq_mem, decide_eq_false_iff_not, this.mem_iff, HashMap.mem_keys,
      HashMap.mem_iff_contains, HashMap.contains_eq_isSome_getElem?, hk]
    simp

theorem cntOf_one (s : Store) : cntOf s 1 = cntTop := by
  simp [cntOf, countF, pathsF, cntTop]
theorem cntOf_zero (s : Store) : cntOf s 0 = cntBot := by
  simp [cntOf, countF, pathsF, cntBot]

theorem cntOf_node (s : Store) (w : TableWF s.nodes) (t : Nat) (n : Node) (ht2 : 2 ≤ t) (hn : s.nodes[t]? = some n) :
    cntOf s t = cntCombine (cntOf s n.lo) (cntOf s n.hi) := by
  unfold cntOf
  rw [count_node s w ht2 hn, paths_node s w ht2 hn]
  rfl

theorem DepsOK.of_upTo {s : Store} {d : Array (List Nat)} (h : DepsUpTo Eq s s.nodes.size d) : DepsOK s d :=
  ⟨h.1, fun t ht => by
    rw [← h.2 t ht, Array.getD_eq_getD_getElem?, Array.getElem?_eq_getElem (h.1 ▸ ht)]; rfl⟩

theorem depStep_eq (s : Store) (w : TableWF s.nodes) {k : Nat} {d : Array (List Nat)} (h : DepsUpTo Eq s k d)
    (hk : k < s.nodes.size) : depStep d s.nodes[k] = d.push (depsOf s k) := by
  have hget : s.nodes[k]? = some s.nodes[k] := Array.getElem?_eq_getElem hk
  unfold depStep
  by_cases hk2 : k < 2
  · rw [if_pos (terminal_var w hk2 hget), depsOf_const s k hk2]
  · have ⟨hv, hlo, hhi, _, _, _⟩ := w.inner k _ (by omega) hget
    rw [if_neg (by omega), depsOf_node s w k _ (by omega) hget, h.2 _ hlo, h.2 _ hhi]

theorem genDeps_ok (s : Store) (w : TableWF s.nodes) : DepsOK s (genDeps s.nodes #[]) := by
  rw [genDeps, Array.foldl_toList]
  exact .of_upTo (Array.foldl_induction (DepsUpTo Eq s) (.empty Eq s) fun k d h => by
    rw [Fin.getElem_fin, depStep_eq s w h k.2]; exact h.push rfl)

/-! A sound cache is a partial function with the values of `cntOf`; what the refill and `Bdd::node` add to
it is described by how its domain grows. -/

theorem CntSound.get_of_mem {s : Store} {c : HashMap Nat CountNode} (h : CntSound s c) {t : Nat} (ht : t ∈ c) :
    c[t]? = some (cntOf s t) := by
  have e := HashMap.getElem?_eq_some_getElem ht
  rw [e, (h t _ e).2]

theorem CntSound.get_none {s : Store} {c : HashMap Nat CountNode} (h : CntSound s c) {t : Nat}
    (ht : ¬ t < s.nodes.size) : c[t]? = none := by
  cases e : c[t]? with
  | none => rfl
  | some r => exact absurd (h t r e).1 ht

theorem CntSound.insert {s : Store} {c : HashMap Nat CountNode} (h : CntSound s c) {t : Nat} (ht : t < s.nodes.size) :
    CntSound s (c.insert t (cntOf s t)) := by
  intro k r hk
  rw [HashMap.getElem?_insert] at hk
  split at hk
  · next e => cases eq_of_beq e; exact ⟨ht, (Option.some.inj hk).symm⟩
  · exact h k r hk

theorem CntSound.of_empty {s : Store} {c : HashMap Nat CountNode} (h : ∀ k : Nat, c[k]? = none) : CntSound s c :=
  fun t r ht => by rw [h] at ht; cases ht

/-- the two constants as `Bdd::new` and `fix_import` enter them -/
theorem CntSound.consts {s : Store} {c : HashMap Nat CountNode} (w : TableWF s.nodes) (h : CntSound s c) :
    CntSound s ((c.insert 1 cntTop).insert 0 cntBot) ∧ ∀ t, t < 2 → t ∈ (c.insert 1 cntTop).insert 0 cntBot := by
  have hl := w.len
  refine ⟨?_, fun t ht => ?_⟩
  · rw [← cntOf_one s, ← cntOf_zero s]
    exact (h.insert (by omega)).insert (by omega)
  · rw [HashMap.mem_insert, HashMap.mem_insert]
    match t, ht with
    | 0, _ => exact Or.inl rfl
    | 1, _ => exact Or.inr (Or.inl rfl)

theorem CntFull.of_mem {s : Store} {c : HashMap Nat CountNode} (h : CntSound s c)
    (m : ∀ t, t < s.nodes.size → t ∈ c) : CntFull s c :=
  ⟨h, fun t ht => h.get_of_mem (m t ht)⟩

theorem countMemo_spec (s : Store) (w : TableWF s.nodes) : ∀ (fuel : Nat) (c : HashMap Nat CountNode) (t : Nat),
    CntSound s c → t < s.nodes.size → t < fuel →
    CntSound s (countMemo fuel s.nodes c t).1 ∧ (countMemo fuel s.nodes c t).2 = cntOf s t ∧
    (∀ k, k ∈ c → k ∈ (countMemo fuel s.nodes c t).1) ∧ (2 ≤ t → t ∈ (countMemo fuel s.nodes c t).1) := by
  intro fuel c t
  generalize e : s.nodes = ns  -- the induction principle of `countMemo` wants its table argument to be a variable
  fun_induction countMemo fuel ns c t with
  | case1 => intro _ _ h; omega
  | case2 => exact fun hs _ _ => ⟨hs, (cntOf_one s).symm, fun _ h => h, fun h => by omega⟩
  | case3 => exact fun hs _ _ => ⟨hs, (cntOf_zero s).symm, fun _ h => h, fun h => by omega⟩
  | case4 _ _ c t _ _ r hc =>
    exact fun hs _ _ =>
      ⟨hs, (hs t r hc).2, fun _ h => h, fun _ => HashMap.mem_iff_isSome_getElem?.mpr (by rw [hc]; rfl)⟩
  | case5 _ _ _ t _ _ _ hn => intro _ ht _; obtain ⟨n, hn'⟩ := get_of_lt ht; rw [hn] at hn'; cases hn'
  | case6 f _ c t h1 h0 _ n hn l h r ihl ihh =>
    intro hs ht hf
    subst e
    have ht2 : 2 ≤ t := by omega
    have ⟨_, hlo, hhi, _, _, _⟩ := w.inner t n ht2 hn
    have hft : t ≤ f := Nat.le_of_lt_succ hf
    have ihl := ihl rfl hs (Nat.lt_trans hlo ht) (Nat.lt_of_lt_of_le hlo hft)
    have ihh := ihh rfl ihl.1 (Nat.lt_trans hhi ht) (Nat.lt_of_lt_of_le hhi hft)
    have hv : r = cntOf s t := by rw [cntOf_node s w t n ht2 hn, ← ihl.2.1, ← ihh.2.1]
    rw [hv]
    exact ⟨CntSound.insert ihh.1 ht, rfl,
      fun k hk => HashMap.mem_insert.mpr (Or.inr (ihh.2.2.1 k (ihl.2.2.1 k hk))), fun _ => HashMap.mem_insert_self⟩

theorem cntFix_full (s : Store) (w : TableWF s.nodes) (c : HashMap Nat CountNode) (h : CntSound s c) :
    CntFull s (cntFix s.nodes c) := by
  have ⟨h0, m0⟩ := h.consts w
  rw [cntFix, ← Array.toList_range, Array.foldl_toList]
  have ⟨a, d⟩ := Array.foldl_induction (as := Array.range s.nodes.size)
    (fun k c => CntSound s c ∧ ∀ t, t < 2 ∨ t < k → t ∈ c) ⟨h0, fun t ht => m0 t (by omega)⟩
    (f := fun c i => (countMemo (i + 1) s.nodes c i).1)
    (fun k c ⟨a, d⟩ => by
      rw [Fin.getElem_fin, Array.getElem_range]
      have ⟨x, _, y, z⟩ := countMemo_spec s w (k + 1) c k a (by simpa using k.2) (Nat.lt_succ_self _)
      refine ⟨x, fun t ht => ?_⟩
      by_cases hd : t < 2 ∨ t < k
      · exact y t (d t hd)
      · obtain rfl : t = k := by omega
        exact z (Nat.le_of_not_lt fun h => hd (Or.inl h)))
  exact .of_mem a fun t ht => d t (Or.inr (by rw [Array.size_range]; exact ht))

theorem cntOf_congr {s s' : Store} (h : s'.nodes = s.nodes) (t : Nat) : cntOf s' t = cntOf s t := by
  unfold cntOf; rw [countF_congr h, pathsF_congr h]

theorem DepsOK.congr {s s' : Store} (h : s'.nodes = s.nodes) {d : Array (List Nat)} (o : DepsOK s d) : DepsOK s' d :=
  ⟨by rw [h]; exact o.size, fun t ht => by rw [depsOf_congr h]; exact o.val t (h ▸ ht)⟩

theorem CntFull.congr {s s' : Store} (h : s'.nodes = s.nodes) {c : HashMap Nat CountNode} (o : CntFull s c) : CntFull s' c :=
  ⟨fun t r hr => by rw [h, cntOf_congr h]; exact o.1 t r hr, fun t ht => by rw [cntOf_congr h]; exact o.2 t (h ▸ ht)⟩

theorem DepsOK.unique {s : Store} {d d' : Array (List Nat)} (o : DepsOK s d) (o' : DepsOK s d') : d = d' := by
  apply Array.ext_getElem?
  intro i
  by_cases hi : i < s.nodes.size
  · rw [o.val i hi, o'.val i hi]
  · rw [Array.getElem?_eq_none (by rw [o.size]; omega), Array.getElem?_eq_none (by rw [o'.size]; omega)]

theorem CntFull.unique {s : Store} {c c' : HashMap Nat CountNode} (o : CntFull s c) (o' : CntFull s c') (t : Nat) :
    c[t]? = c'[t]? := by
  by_cases ht : t < s.nodes.size
  · rw [o.2 t ht, o'.2 t ht]
  · rw [o.1.get_none ht, o'.1.get_none ht]

/-- a healthy object: canonical store, aligned sound variable lists, total sound count cache -/
structure Healthy (b : PBdd) : Prop where
  wf : WF b.st
  deps : DepsOK b.st b.deps
  cnt : CntFull b.st b.cnt

theorem import_nodes (b : PBdd) : (importB (exportB b)).st.nodes = b.st.nodes := rfl
theorem import_uniq (b : PBdd) (n : Node) : (importB (exportB b)).st.uniq[n]? = b.st.uniq[n]? :=
  ofList_perm_get b.st.uniq _ (List.Perm.refl _) n
theorem import_skipped (b : PBdd) :
    (importB (exportB b)).deps = #[] ∧ (∀ k : Nat, (importB (exportB b)).cnt[k]? = none) ∧
    (∀ k : Nat × Nat × Bool, (importB (exportB b)).st.resC[k]? = none) ∧
    (∀ k : Nat × Nat × Nat, (importB (exportB b)).st.iteC[k]? = none) :=
  ⟨rfl, fun _ => HashMap.getElem?_empty, fun _ => HashMap.getElem?_empty, fun _ => HashMap.getElem?_empty⟩

theorem WF_of_same (s s' : Store) (w : WF s) (hn : s'.nodes = s.nodes) (hu : ∀ n : Node, s'.uniq[n]? = s.uniq[n]?)
    (hr : ∀ k : Nat × Nat × Bool, s'.resC[k]? = none) (hi : ∀ k : Nat × Nat × Nat, s'.iteC[k]? = none) : WF s' := by
  refine ⟨by rw [hn]; exact w.len, by rw [hn]; exact w.bot, by rw [hn]; exact w.top, ?_, ?_, ?_, ?_⟩
  · intro i n h2 hg; rw [hn] at hg ⊢; exact w.inner i n h2 hg
  · intro n t; rw [hu, hn]; exact w.uniqOK n t
  · intro t v b r h; rw [hr] at h; cases h
  · intro i t e r h; rw [hi] at h; cases h

theorem fixImport_st (b : PBdd) : (fixImport b).st = b.st := rfl

theorem fixImport_healthy (b : PBdd) (w : WF b.st) (hd : b.deps = #[]) (hc : ∀ k : Nat, b.cnt[k]? = none) :
    Healthy (fixImport b) :=
  ⟨w, by rw [fixImport, hd]; exact genDeps_ok b.st w.table, cntFix_full b.st w.table _ (.of_empty hc)⟩

theorem import_fix (b : PBdd) (w : WF b.st) :
    let r := fixImport (importB (exportB b))
    r.st.nodes = b.st.nodes ∧ (∀ n : Node, r.st.uniq[n]? = b.st.uniq[n]?) ∧ Healthy r := by
  have s := import_skipped b
  exact ⟨rfl, import_uniq b, fixImport_healthy _ (WF_of_same b.st _ w rfl (import_uniq b) s.2.2.1 s.2.2.2) s.1 s.2.1⟩

theorem genDeps_size (nodes : Array Node) (d : Array (List Nat)) : (genDeps nodes d).size = d.size + nodes.size := by
  rw [genDeps, Array.foldl_toList]
  exact Array.foldl_induction (fun k (d' : Array (List Nat)) => d'.size = d.size + k) rfl
    fun k c h => by rw [depStep]; split <;> rw [Array.size_push, h] <;> rfl

/-- precondition lemma: on anything but an empty `var_deps` the result is misaligned (too long);
so `fix_import` is right exactly after an import and wrong on a live object or when run twice -/
theorem fixImport_needs_empty_deps (b : PBdd) (h : b.deps.size ≠ 0) : ¬ DepsOK (fixImport b).st (fixImport b).deps := by
  intro o
  have := o.size
  rw [fixImport_st, show (fixImport b).deps = genDeps b.st.nodes b.deps from rfl, genDeps_size] at this
  omega

theorem fixImport_twice_misaligned (b : PBdd) (h : b.st.nodes.size ≠ 0) :
    ¬ DepsOK (fixImport (fixImport b)).st (fixImport (fixImport b)).deps := by
  apply fixImport_needs_empty_deps
  rw [show (fixImport b).deps = genDeps b.st.nodes b.deps from rfl, genDeps_size]; omega

/-- `Bdd::new()` (feature `adhoccounting`: the two constants are counted at once) -/
def PBdd.new : PBdd :=
  { st := Store.init, deps := #[[], []],
    cnt := ((∅ : HashMap Nat CountNode).insert 1 cntTop).insert 0 cntBot }

/-- `Bdd::node` with `variablelist` and `adhoccounting` + `adhoccountmodels` (with plain
`adhoccounting` the two model-count components are not meaningful — documented exception) -/
def mkNodeP (b : PBdd) (v lo hi : Nat) : PBdd × Nat :=
  if lo = hi then (b, lo) else
  match b.st.uniq[(⟨v, lo, hi⟩ : Node)]? with
  | some t => (b, t)
  | none =>
    ({ st := { b.st with nodes := b.st.nodes.push ⟨v, lo, hi⟩, uniq := b.st.uniq.insert ⟨v, lo, hi⟩ b.st.nodes.size },
       deps := b.deps.push (v :: (b.deps.getD lo [] ++ b.deps.getD hi [])),
       cnt := b.cnt.insert b.st.nodes.size
                (cntCombine (b.cnt.getD lo (0, 0, 0, 0, 0)) (b.cnt.getD hi (0, 0, 0, 0, 0))) },
     b.st.nodes.size)

def rebuildPL (nodes : List Node) (b : PBdd) : PBdd := nodes.foldl (fun b n => (mkNodeP b n.var n.lo n.hi).1) b

/-- `impl From<Vec<BddNode>> for Bdd` -/
def rebuildP (nodes : Array Node) : PBdd := rebuildPL nodes.toList PBdd.new

theorem mkNodeP_st (b : PBdd) (v lo hi : Nat) : (mkNodeP b v lo hi).1.st = (mkNode b.st v lo hi).1 := by
  unfold mkNodeP mkNode
  split
  · rfl
  · cases b.st.uniq[(⟨v, lo, hi⟩ : Node)]? <;> rfl

/-- what `Bdd::node` pushes onto `var_deps` for a fresh node -/
def nodeDeps (d : Array (List Nat)) (n : Node) : Array (List Nat) := d.push (n.var :: (d.getD n.lo [] ++ d.getD n.hi []))

theorem mkNodeP_fresh (b : PBdd) (v lo hi : Nat) (hne : lo ≠ hi) (hf : b.st.uniq[(⟨v, lo, hi⟩ : Node)]? = none) :
    (mkNodeP b v lo hi).1 =
      { st := { b.st with nodes := b.st.nodes.push ⟨v, lo, hi⟩, uniq := b.st.uniq.insert ⟨v, lo, hi⟩ b.st.nodes.size },
        deps := nodeDeps b.deps ⟨v, lo, hi⟩,
        cnt := b.cnt.insert b.st.nodes.size
                 (cntCombine (b.cnt.getD lo (0, 0, 0, 0, 0)) (b.cnt.getD hi (0, 0, 0, 0, 0))) } := by
  unfold mkNodeP; rw [if_neg hne, hf]; rfl

theorem mkNodeP_deps_fresh (b : PBdd) (v lo hi : Nat) (hne : lo ≠ hi) (hf : b.st.uniq[(⟨v, lo, hi⟩ : Node)]? = none) :
    (mkNodeP b v lo hi).1.deps = nodeDeps b.deps ⟨v, lo, hi⟩ := by
  rw [mkNodeP_fresh b v lo hi hne hf]

theorem rebuildPL_st (l : List Node) (b : PBdd) : (rebuildPL l b).st = rebuildL l b.st :=
  (List.foldl_hom PBdd.st fun b n => (mkNodeP_st b n.var n.lo n.hi).symm).symm

/-- the bookkeeping of `rebuildP` after the first `k` nodes of `orig`: variable lists right below `k`, count cache sound
and defined below `k` -/
structure BK (orig : Store) (k : Nat) (b : PBdd) : Prop where
  deps : DepsUpTo Eq orig k b.deps
  sound : CntSound orig b.cnt
  full : ∀ t, t < k → t ∈ b.cnt

theorem bk_init (orig : Store) (w : WF orig) : BK orig 2 PBdd.new := by
  have ⟨a, m⟩ := (CntSound.of_empty (s := orig) fun _ => HashMap.getElem?_empty).consts w.table
  refine ⟨⟨rfl, fun t ht => ?_⟩, a, m⟩
  rw [depsOf_const orig t ht]
  match t, ht with
  | 0, _ => rfl
  | 1, _ => rfl

theorem bk_step (orig : Store) (w : WF orig) (k : Nat) (hk2 : 2 ≤ k) (hk : k < orig.nodes.size)
    (b : PBdd) (p : Prefix orig k b.st) (q : BK orig k b) :
    BK orig (k + 1) (mkNodeP b orig.nodes[k].var orig.nodes[k].lo orig.nodes[k].hi).1 := by
  have hget : orig.nodes[k]? = some orig.nodes[k] := Array.getElem?_eq_getElem hk
  have ⟨hv, hlo, hhi, _, _, _⟩ := w.inner k _ hk2 hget
  have ⟨hne, hfresh⟩ := Tab.fresh w.table hk2 hk p
  have hval : cntCombine (b.cnt.getD orig.nodes[k].lo (0, 0, 0, 0, 0)) (b.cnt.getD orig.nodes[k].hi (0, 0, 0, 0, 0)) =
      cntOf orig k := by
    rw [HashMap.getD_eq_getD_getElem?, HashMap.getD_eq_getD_getElem?, q.sound.get_of_mem (q.full _ hlo),
      q.sound.get_of_mem (q.full _ hhi), cntOf_node orig w.table k _ hk2 hget]
    rfl
  rw [mkNodeP_fresh b _ _ _ hne hfresh, hval, p.size]
  refine ⟨?_, q.sound.insert hk, fun t ht => HashMap.mem_insert.mpr ?_⟩
  · have e := depStep_eq orig w.table q.deps hk
    rw [depStep, if_neg (by omega)] at e
    show DepsUpTo Eq orig (k + 1) (b.deps.push _)
    rw [e]
    exact q.deps.push rfl
  · by_cases htk : t = k
    · exact Or.inl (by rw [htk]; exact BEq.rfl)
    · exact Or.inr (q.full t (by omega))

theorem rebuildPL_take (orig : Store) (w : WF orig) : ∀ k, 2 ≤ k → k ≤ orig.nodes.size →
    BK orig k (rebuildPL (orig.nodes.toList.take k) PBdd.new)
  | 2, _, _ => by rw [Tab.take_two w.table]; exact bk_init orig w
  | k+3, _, hk => by
    rw [rebuildPL, foldl_take_succ _ _ (by rw [Array.length_toList]; exact hk), Array.getElem_toList]
    refine bk_step orig w (k + 2) (by omega) hk _ ?_ (rebuildPL_take orig w (k + 2) (by omega) (by omega))
    rw [← rebuildPL, rebuildPL_st]
    exact Tab.rebuild_take orig w.table (k + 2) (by omega) (by omega)

/-- **rebuild with bookkeeping**: same node table (same numbering), exact unique table, empty memo
tables, well formed, aligned sound variable lists and a total sound count cache -/
theorem rebuildP_ok (orig : Store) (w : WF orig) :
    (rebuildP orig.nodes).st = rebuild orig.nodes ∧ (rebuildP orig.nodes).st.nodes = orig.nodes ∧
    (∀ n : Node, (rebuildP orig.nodes).st.uniq[n]? = orig.uniq[n]?) ∧ Healthy (rebuildP orig.nodes) := by
  have hst : (rebuildP orig.nodes).st = rebuild orig.nodes := rebuildPL_st _ _
  have ⟨wr, hn⟩ := rebuild_WF orig.nodes w.table
  have hu : ∀ n : Node, (rebuild orig.nodes).uniq[n]? = orig.uniq[n]? :=
    fun n => Option.ext fun t => ((rebuild_id orig w).2 n t).trans (w.uniqOK n t).symm
  have q := rebuildPL_take orig w orig.nodes.size w.len (Nat.le_refl _)
  rw [← Array.length_toList, List.take_length, ← rebuildP, Array.length_toList] at q
  have hnP : (rebuildP orig.nodes).st.nodes = orig.nodes := by rw [hst]; exact hn
  exact ⟨hst, hnP, by rw [hst]; exact hu, by rw [hst]; exact wr,
    DepsOK.congr hnP (.of_upTo q.deps), CntFull.congr hnP (.of_mem q.sound q.full)⟩

/-- **both round trips** - `export → import → fix_import` and `Bdd::from(nodes)` - give a well-formed store with
the node table of the original: what every statement about handles and answers afterwards rests on -/
theorem roundtrips_nodes (b : PBdd) (w : WF b.st) :
    (WF (fixImport (importB (exportB b))).st ∧ (fixImport (importB (exportB b))).st.nodes = b.st.nodes) ∧
    (WF (rebuildP b.st.nodes).st ∧ (rebuildP b.st.nodes).st.nodes = b.st.nodes) :=
  ⟨⟨(import_fix b w).2.2.wf, rfl⟩, (rebuildP_ok b.st w).2.2.2.wf, (rebuildP_ok b.st w).2.1⟩

/-- the table after `variable(Var(0))` -/
def nodes3 : Array Node := #[⟨VBOT, 0, 0⟩, ⟨VTOP, 1, 1⟩, ⟨0, 0, 1⟩]

structure PAdf where
  names : List String       -- `ordering` (`VarContainer.names`; `mapping` is its inverse)
  bdd : PBdd
  ac : List Nat

structure ExportedAdf where
  names : List String
  bdd : Exported
  ac : List Nat

def exportA (a : PAdf) : ExportedAdf := { names := a.names, bdd := exportB a.bdd, ac := a.ac }
def importA (e : ExportedAdf) : PAdf := { names := e.names, bdd := importB e.bdd, ac := e.ac }
/-- `Adf::fix_import` -/
def fixImportA (a : PAdf) : PAdf := { a with bdd := fixImport a.bdd }

/-- the object after `export → import → fix_import`, field by field (stated once: slow to unfold in place) -/
theorem roundtripA_ac (a : PAdf) : (fixImportA (importA (exportA a))).ac = a.ac := by
  unfold fixImportA importA exportA; rfl
theorem roundtripA_bdd (a : PAdf) : (fixImportA (importA (exportA a))).bdd = fixImport (importB (exportB a.bdd)) := rfl

/-- decimal rendering and parsing of `usize` (`to_string` / `str::parse`), as an assumption -/
structure Codec where
  enc : Nat → String
  dec : String → Option Nat
  ok : ∀ n, dec (enc n) = some n

/-- `SimplifiedAdf`: everything is a string in the database -/
structure Simplified where
  names : List String
  bdd : List (String × String × String)
  ac : List String

/-- `impl From<Adf> for SimplifiedAdf` -/
def toSimplified (c : Codec) (a : PAdf) : Simplified :=
  { names := a.names,
    bdd := a.bdd.st.nodes.toList.map (fun n => (c.enc n.var, c.enc n.lo, c.enc n.hi)),
    ac := a.ac.map c.enc }

def decNode (c : Codec) (x : String × String × String) : Option Node := do
  let v ← c.dec x.1
  let l ← c.dec x.2.1
  let h ← c.dec x.2.2
  pure ⟨v, l, h⟩

/-- `impl From<SimplifiedAdf> for Adf`: parse, `Bdd::from(nodes)`, `Adf::from((ordering, bdd, ac))`;
`none` is the panic of `unwrap` on a string that does not parse -/
def fromSimplified (c : Codec) (d : Simplified) : Option PAdf := do
  let nodes ← d.bdd.mapM (decNode c)
  let ac ← d.ac.mapM c.dec
  pure { names := d.names, bdd := rebuildP nodes.toArray, ac := ac }

theorem simplified_roundtrip (c : Codec) (a : PAdf) :
    fromSimplified c (toSimplified c a) = some { names := a.names, bdd := rebuildP a.bdd.st.nodes, ac := a.ac } := by
  unfold fromSimplified toSimplified
  have h1 : (a.bdd.st.nodes.toList.map (fun n => (c.enc n.var, c.enc n.lo, c.enc n.hi))).mapM (decNode c) =
      some a.bdd.st.nodes.toList :=
    mapM_map_some _ _ (fun n => by simp [decNode, c.ok]) _
  have h2 : (a.ac.map c.enc).mapM c.dec = some a.ac := mapM_map_some _ _ c.ok _
  simp only [h1, h2]
  rfl

/-! ## the Boolean functions of the acceptance conditions: what every semantics is a function of -/

def acFns (s : Store) (ac : List Nat) : List BoolFn := ac.map (eval s)

theorem acFns_same {s s' : Store} (h : s'.nodes = s.nodes) (ac : List Nat) : acFns s' ac = acFns s ac := by
  unfold acFns
  apply List.map_congr_left
  intro t _
  funext σ
  exact eval_congr h t σ

inductive ExportAct where
  | skip    -- the path exists: log an error, write nothing
  | write   -- create the file and write the JSON
deriving DecidableEq, Repr

def exportAction (pathExists : Bool) : ExportAct := if pathExists then .skip else .write

/-- the file system as far as `--export PATH` is concerned -/
def cliExport (fs : String → Option String) (path content : String) : String → Option String :=
  match exportAction (fs path).isSome with
  | .skip => fs
  | .write => fun p => if p = path then some content else fs p

end Persist
