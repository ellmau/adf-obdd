import AdfObdd.CountsWord
import AdfObdd.PathsDepth
/-! # path counts in 64-bit arithmetic (C13)

`Bdd::paths` / the path components of `modelcount_naive` add `usize` numbers. `pathsW` is `pathsF` with every `+`
wrapped to 64 bits: what a release build computes on a 64-bit target (`usize` = u64 is ASSUMED; a debug build
panics instead of wrapping - also on the MODEL-count overflow of the shared `modelcount_naive` at depth ≥ 65,
even when the path total is small). Whenever the TOTAL number of root-to-leaf paths of the unfolding fits a
word, no intermediate sum wraps (sub-diagrams have fewer paths) and the two agree; a diagram of depth ≤ 63 has
at most `2^63` paths. -/

def pathsW (s : Store) : Nat → Nat → Nat × Nat
  | 0, _ => (0, 0)
  | fuel+1, t =>
    if t = 1 then (0, 1) else if t = 0 then (1, 0) else
    match s.nodes[t]? with
    | none => (0, 0)
    | some n =>
      let l := pathsW s fuel n.lo; let h := pathsW s fuel n.hi
      (wadd l.1 h.1, wadd l.2 h.2)

def Memo.pathWG : Memo.Meas (Nat × Nat) where
  z := (0, 0)
  l0 := (1, 0)
  l1 := (0, 1)
  nn := (0, 0)
  node := fun _ l h => (wadd l.1 h.1, wadd l.2 h.2)

theorem pathsW_eq_F (s : Store) : ∀ (fuel t : Nat), pathsW s fuel t = Memo.pathWG.F s fuel t :=
  Memo.F_unique Memo.pathWG s (pathsW s) (fun _ => rfl) (fun _ _ => rfl)

/-- addition commutes with reduction modulo `2^64`, so the wrapped recursion returns the unbounded path counts
modulo `2^64` - on every table, for every fuel -/
theorem pathsW_mod (s : Store) (fuel t : Nat) :
    pathsW s fuel t = ((pathsF s fuel t).1 % 2 ^ 64, (pathsF s fuel t).2 % 2 ^ 64) := by
  rw [pathsW_eq_F, Memo.pathsF_eq_F]
  refine Memo.F_rel Memo.pathWG Memo.pathG s (fun _ w p => w = (p.1 % 2 ^ 64, p.2 % 2 ^ 64))
    (fun _ => rfl) rfl rfl (fun _ => rfl) ?_ fuel t
  rintro _ _ _ _ l h _ _ rfl rfl
  exact Prod.ext (Nat.add_mod l.1 h.1 _).symm (Nat.add_mod l.2 h.2 _).symm

theorem pathsW_eq_pathsF (s : Store) (fuel t : Nat) (hb : (pathsF s fuel t).1 + (pathsF s fuel t).2 < 2 ^ 64) :
    pathsW s fuel t = pathsF s fuel t := by
  rw [pathsW_mod, Nat.mod_eq_of_lt (Nat.lt_of_le_of_lt (Nat.le_add_right _ _) hb),
    Nat.mod_eq_of_lt (Nat.lt_of_le_of_lt (Nat.le_add_left _ _) hb)]

theorem paths_le_pow_depth (s : Store) : ∀ (fuel t : Nat),
    (pathsF s fuel t).1 + (pathsF s fuel t).2 ≤ 2 ^ (countF s fuel t).2.2 := by
  intro fuel t
  rw [Memo.pathsF_eq_F, Memo.countF_eq_F]
  refine Memo.F_rel Memo.pathG Memo.cntG s (fun _ p c => p.1 + p.2 ≤ 2 ^ c.2.2)
    (fun _ => Nat.zero_le _) (Nat.le_refl _) (Nat.le_refl _) (fun _ => Nat.zero_le _) ?_ fuel t
  intro _ _ l h cl ch _ _ a b
  show l.1 + h.1 + (l.2 + h.2) ≤ 2 ^ (max cl.2.2 ch.2.2 + 1)
  have pl : 2 ^ cl.2.2 ≤ 2 ^ max cl.2.2 ch.2.2 := Nat.pow_le_pow_right (by decide) (Nat.le_max_left _ _)
  have ph : 2 ^ ch.2.2 ≤ 2 ^ max cl.2.2 ch.2.2 := Nat.pow_le_pow_right (by decide) (Nat.le_max_right _ _)
  rw [Nat.pow_succ, Nat.mul_two, Nat.add_add_add_comm]
  exact Nat.add_le_add (Nat.le_trans a pl) (Nat.le_trans b ph)

theorem pathsW_eq_of_depth (s : Store) (fuel t : Nat) (hd : (countF s fuel t).2.2 ≤ 63) :
    pathsW s fuel t = pathsF s fuel t := by
  apply pathsW_eq_pathsF
  exact Nat.lt_of_le_of_lt
    (Nat.le_trans (paths_le_pow_depth s fuel t) (Nat.pow_le_pow_right (by decide) hd)) (by decide)

#print axioms pathsW_eq_pathsF
#print axioms pathsW_eq_of_depth
