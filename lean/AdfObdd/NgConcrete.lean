import AdfObdd.NgSem
import AdfObdd.SearchModel
/-! # Concrete operations of `SM.ngIter` against their semantic counterparts

Every operation of the concrete nogood loop (on the `Store`, with residual handles) is shown to
compute, under the denotation `v ↦ v.map (eval s)`, the corresponding operation of the semantic
instance `NSem.semP`:

* `closureF_eq` — the handle-level closure is the `PA`-level `conclusionClosure` followed by
  `update_term_vec` with the answer;
* `applyInterp_spec` — `apply_interpretation`; `bad_iff` — the consistency test;
* `vec_canonical` — equal denotation vectors are equal handle vectors (canonicity): the code's
  `update_fp` is the semantic test `semRound V ≠ V`. -/
namespace NConc
open NSem

def bit (b : Bool) : Nat := if b then 1 else 0

theorem storeIsConst_bit (b : Bool) : storeIsConst (bit b) = some b := by cases b <;> rfl

theorem bit_inj {b b' : Bool} : bit b = bit b' ↔ b = b' := by cases b <;> cases b' <;> decide

theorem eq_bit_of_const {t : Nat} {b : Bool} (h : storeIsConst t = some b) : t = bit b := sic_some.mp h

theorem toPA_length (v : List Nat) : (toPA v).length = v.length := by simp [toPA]

theorem toPA_get (v : List Nat) (i : Nat) : (toPA v)[i]? = (v[i]?).map storeIsConst := by simp [toPA]

theorem pget_toPA {v : List Nat} {i : Nat} (hi : i < v.length) : pget (toPA v) i = storeIsConst v[i] := by
  unfold pget; rw [toPA_get, List.getElem?_eq_getElem hi]; rfl

theorem bit_lt {s : Store} (w : WF s) (b : Bool) : bit b < s.nodes.size := by
  have := w.len; cases b <;> simp [bit] <;> omega

theorem eval_bit (s : Store) (b : Bool) : eval s (bit b) = fun _ => b := by
  funext σ; cases b
  · exact eval_zero s σ
  · exact eval_one s σ

theorem bit_beq_one (b : Bool) : (bit b == 1) = b := by cases b <;> rfl

theorem eq_bit_of_lt_two {t : Nat} (h : t < 2) : t = bit (t == 1) := by
  have : t = 0 ∨ t = 1 := by omega
  rcases this with rfl | rfl <;> rfl

theorem set_bit_valid {s : Store} (w : WF s) {v : List Nat} (hv : ∀ t ∈ v, t < s.nodes.size) (i : Nat) (b : Bool) :
    ∀ t ∈ v.set i (bit b), t < s.nodes.size := by
  intro y hy
  rcases List.mem_or_eq_of_mem_set hy with h1 | rfl
  · exact hv y h1
  · exact bit_lt w b

theorem set_bit_map_eval (s : Store) (v : List Nat) (i : Nat) (b : Bool) :
    (v.set i (bit b)).map (eval s) = setF (v.map (eval s)) i b := by
  rw [setF, List.map_set, eval_bit]

theorem cv_map_eval {s : Store} (w : WF s) {v : List Nat} (hv : ∀ t ∈ v, t < s.nodes.size) :
    cv (v.map (eval s)) = toPA v :=
  (asg3_eq StoreRA (s := s) (v := v) w hv).symm

theorem updateTerms_length (val : PA) (v : List Nat) : (updateTerms val v).1.length = v.length := by
  simp [updateTerms]

theorem updateTerms_get (val : PA) {v : List Nat} {i : Nat} (hi : i < v.length) :
    (updateTerms val v).1[i]? = some (match pget val i with | some b => bit b | none => v[i]) := by
  unfold updateTerms
  simp only
  rw [List.getElem?_map, List.getElem?_range hi]
  simp only [Option.map_some]
  congr 1
  cases pget val i with
  | some b => rfl
  | none => simp [List.getD_eq_getElem?_getD, List.getElem?_eq_getElem hi]

theorem updateTerms_getElem (val : PA) {v : List Nat} {i : Nat} (hi : i < v.length) :
    (updateTerms val v).1[i]'(by rw [updateTerms_length]; exact hi) =
      (match pget val i with | some b => bit b | none => v[i]) := by
  have := updateTerms_get val hi
  rw [List.getElem?_eq_getElem (by rw [updateTerms_length]; exact hi)] at this
  exact Option.some.inj this

theorem toPA_updateTerms (val : PA) (v : List Nat) : toPA (updateTerms val v).1 = (updateVec val (toPA v)).1 := by
  apply list_ext_pget (by rw [toPA_length, updateTerms_length, updateVec_length, toPA_length])
  intro i hi
  rw [toPA_length, updateTerms_length] at hi
  rw [pget_toPA (by rw [updateTerms_length]; exact hi), updateTerms_getElem val hi,
    pget_updateVec val (toPA v) i (by rw [toPA_length]; exact hi), pget_toPA hi]
  cases pget val i with
  | some b => exact storeIsConst_bit b
  | none => rfl

theorem updateTerms_flag (val : PA) (v : List Nat) : (updateTerms val v).2 = (updateVec val (toPA v)).2 := by
  unfold updateTerms updateVec
  simp only [toPA_length]
  apply Bool.eq_iff_iff.mpr
  simp only [List.any_eq_true, List.mem_range, Bool.and_eq_true]
  constructor
  · rintro ⟨i, hi, h1, h2⟩
    refine ⟨i, hi, h1, ?_⟩
    rw [pget_toPA hi]
    have : isTV v[i] = false := by
      simpa [List.getD_eq_getElem?_getD, List.getElem?_eq_getElem hi] using h2
    rw [isTV_false_iff.mp this]; rfl
  · rintro ⟨i, hi, h1, h2⟩
    refine ⟨i, hi, h1, ?_⟩
    rw [pget_toPA hi] at h2
    have : storeIsConst v[i] = none := by simpa using h2
    simp [List.getD_eq_getElem?_getD, List.getElem?_eq_getElem hi, isTV_false_iff.mpr this]

/-- `update_term_vec` with the answer `R` of the closure -/
def updH (v : List Nat) (R : PA) : List Nat := (updateTerms R v).1

def liftC (v : List Nat) : Closure → ClosT
  | Closure.inconsistent => ClosT.inconsistent
  | Closure.noUpdate => ClosT.noUpdate
  | Closure.update R => ClosT.update (updH v R)

theorem updH_length (v : List Nat) (R : PA) : (updH v R).length = v.length := updateTerms_length R v

theorem updH_getElem {v : List Nat} (R : PA) {i : Nat} (hi : i < v.length) :
    (updH v R)[i]'(by rw [updH_length]; exact hi) = (match pget R i with | some b => bit b | none => v[i]) :=
  updateTerms_getElem R hi

/-- `r` is `v` with some positions replaced by constants -/
def QV (v r : List Nat) : Prop :=
  r.length = v.length ∧ ∀ i (hr : i < r.length) (hv : i < v.length), storeIsConst r[i] = none → r[i] = v[i]

theorem QV.updH_eq {v r : List Nat} (h : QV v r) : updH v (toPA r) = r := by
  refine List.ext_getElem (by rw [updH_length, h.1]) fun i _ hr => ?_
  have hv : i < v.length := h.1 ▸ hr
  rw [updH_getElem _ hv, pget_toPA hr]
  cases hc : storeIsConst r[i] with
  | some b => exact (eq_bit_of_const hc).symm
  | none => exact (h.2 i hr hv hc).symm

theorem QV_self (v : List Nat) : QV v v := ⟨rfl, fun _ _ _ _ => rfl⟩

theorem QV_step {v r : List Nat} (val : PA) (h : QV v r) : QV v (updateTerms val r).1 := by
  refine ⟨by rw [updateTerms_length, h.1], fun i hu hv hn => ?_⟩
  have hr : i < r.length := by rwa [updateTerms_length] at hu
  revert hn
  rw [updateTerms_getElem val hr]
  cases pget val i with
  | some b => intro hn; simp [storeIsConst_bit] at hn
  | none => exact h.2 i hr hv

theorem closureRounds_eq (bs : List (List PA)) (v : List Nat) : ∀ (fuel : Nat) (r : List Nat), QV v r →
    SM.closureRounds bs fuel r = liftC v (closureLoop bs fuel (toPA r)) := by
  intro fuel
  induction fuel with
  | zero =>
    intro r h
    simp only [SM.closureRounds, closureLoop, liftC, h.updH_eq]
  | succ f ih =>
    intro r h
    unfold SM.closureRounds closureLoop
    cases hc : conclusions bs (toPA r) with
    | none => rfl
    | some val =>
      simp only
      rw [← updateTerms_flag val r, ← toPA_updateTerms val r]
      by_cases hf : (updateTerms val r).2 = true
      · rw [if_pos hf, if_pos hf]; exact ih _ (QV_step val h)
      · rw [if_neg hf, if_neg hf]
        simp only [liftC, (QV_step val h).updH_eq]

theorem closureF_eq (bs : List (List PA)) (v : List Nat) :
    SM.closureF bs v = liftC v (conclusionClosure bs (toPA v)) := by
  unfold SM.closureF conclusionClosure
  cases hc : conclusions bs (toPA v) with
  | none => rfl
  | some val =>
    simp only
    rw [← updateTerms_flag val v, ← toPA_updateTerms val v, toPA_length]
    by_cases hf : (!(updateTerms val v).2) = true
    · rw [if_pos hf, if_pos hf]; rfl
    · rw [if_neg hf, if_neg hf]
      exact closureRounds_eq bs v _ _ (QV_step val (QV_self v))

theorem updH_valid {s : Store} (w : WF s) {v : List Nat} (hv : ∀ t ∈ v, t < s.nodes.size) (R : PA) :
    ∀ t ∈ updH v R, t < s.nodes.size := by
  intro t ht
  obtain ⟨i, hi, rfl⟩ := List.getElem_of_mem ht
  have hiv : i < v.length := by rw [updH_length] at hi; exact hi
  rw [updH_getElem R hiv]
  cases pget R i with
  | some b => exact bit_lt w b
  | none => exact hv _ (List.getElem_mem hiv)

theorem updH_map_eval (s : Store) (v : List Nat) (R : PA) :
    (updH v R).map (eval s) = updF (v.map (eval s)) R := by
  apply List.ext_getElem?
  intro i
  rcases Nat.lt_or_ge i v.length with hi | hi
  · rw [List.getElem?_map]
    unfold updH
    rw [updateTerms_get R hi, updF_get (by simpa using hi)]
    simp only [Option.map_some, List.getElem_map]
    congr 1
    cases pget R i with
    | some b => exact eval_bit s b
    | none => rfl
  · rw [List.getElem?_eq_none (by simp [updH_length]; exact hi),
      List.getElem?_eq_none (by rw [updF_length]; simpa using hi)]

theorem toPA_updH {v : List Nat} {R : PA} (hl : R.length = v.length) (hs : PSub (toPA v) R) : toPA (updH v R) = R := by
  unfold updH
  rw [toPA_updateTerms]
  exact updateVec_self_of_sub (by rw [hl, toPA_length]) hs

theorem applyInterp_eq (interp : List Nat) : ∀ (xs : List Nat) (s : Store),
    applyInterp s interp xs = mapS (fun s t => restrictBy StoreRA s t 0 interp) s xs
  | [], _ => rfl
  | x :: xs, s => by simp only [applyInterp, mapS, applyInterp_eq interp xs]

theorem applyInterp_eq_applyVec (interp xs : List Nat) (s : Store) : applyInterp s interp xs = applyVec s interp xs := by
  rw [applyInterp_eq, applyVec_eq]

theorem applyInterp_spec (interp xs : List Nat) (s : Store) (w : WF s) (hv : ∀ t ∈ xs, t < s.nodes.size) :
    WF (applyInterp s interp xs).1 ∧ Ext s (applyInterp s interp xs).1 ∧
    (∀ t ∈ (applyInterp s interp xs).2, t < (applyInterp s interp xs).1.nodes.size) ∧
    (applyInterp s interp xs).2.map (eval (applyInterp s interp xs).1) =
      xs.map (fun x σ => eval s x (over σ 0 (toPA interp))) := by
  have h := mapS_store (StoreRA.computes_restrictBy interp 0) xs s w hv
  rw [List.map_map, ← applyInterp_eq] at h
  exact h

theorem applyInterp_length (interp : List Nat) : ∀ (xs : List Nat) (s : Store),
    (applyInterp s interp xs).2.length = xs.length := by
  intro xs
  induction xs with
  | nil => intro s; rfl
  | cons x xs ih => intro s; simp only [applyInterp, List.length_cons, ih]

theorem pget_toPA_some {v : List Nat} {i : Nat} {b : Bool} :
    pget (toPA v) i = some b ↔ ∃ t, v[i]? = some t ∧ storeIsConst t = some b := by
  rw [pget_eq_some, toPA_get]
  cases v[i]? <;> simp

theorem tv_ne_iff (c a : Nat) : (isTV c && isTV a && (c != a)) = true ↔
    ∃ b b', storeIsConst c = some b ∧ storeIsConst a = some b' ∧ b ≠ b' := by
  rw [isTV_eq_isSome, isTV_eq_isSome]
  cases hc : storeIsConst c with
  | none => simp
  | some b =>
    cases ha : storeIsConst a with
    | none => simp
    | some b' =>
      rw [eq_bit_of_const hc, eq_bit_of_const ha]
      simp [bit_inj]

theorem bad_iff (cur acr : List Nat) :
    ((cur.zip acr).any (fun (c, a) => isTV c && isTV a && (c != a))) = true ↔
      ∃ i b c, pget (toPA cur) i = some b ∧ pget (toPA acr) i = some c ∧ b ≠ c := by
  rw [List.any_eq_true]
  constructor
  · rintro ⟨⟨c, a⟩, hm, hp⟩
    obtain ⟨i, hi⟩ := List.mem_iff_getElem?.mp hm
    obtain ⟨hc, ha⟩ := List.getElem?_zip_eq_some.mp hi
    obtain ⟨b, b', hb, hb', hne⟩ := (tv_ne_iff c a).mp hp
    exact ⟨i, b, b', pget_toPA_some.mpr ⟨c, hc, hb⟩, pget_toPA_some.mpr ⟨a, ha, hb'⟩, hne⟩
  · rintro ⟨i, b, b', hb, hb', hne⟩
    obtain ⟨c, hc, hb⟩ := pget_toPA_some.mp hb
    obtain ⟨a, ha, hb'⟩ := pget_toPA_some.mp hb'
    exact ⟨(c, a), List.mem_iff_getElem?.mpr ⟨i, List.getElem?_zip_eq_some.mpr ⟨hc, ha⟩⟩,
      (tv_ne_iff c a).mpr ⟨b, b', hb, hb', hne⟩⟩

theorem vec_canonical {s : Store} (w : WF s) {u v : List Nat} (hu : ∀ t ∈ u, t < s.nodes.size)
    (hv : ∀ t ∈ v, t < s.nodes.size) (h : u.map (eval s) = v.map (eval s)) : u = v := by
  have hl : u.length = v.length := by simpa using congrArg List.length h
  apply List.ext_getElem hl
  intro i h1 h2
  apply (canonical s w u[i] v[i] (hu _ (List.getElem_mem h1)) (hv _ (List.getElem_mem h2))).mp
  intro σ
  exact congrFun (map_eq_map_get h (List.getElem?_eq_getElem h1) (List.getElem?_eq_getElem h2)) σ

theorem all_isTV_iff (v : List Nat) : v.all isTV = twoV (toPA v) := by
  unfold twoV toPA
  rw [List.all_map]
  congr 1
  funext t
  simp [isTV_eq_isSome]

end NConc
