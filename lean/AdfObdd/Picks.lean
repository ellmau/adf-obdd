/-! `picks f v`: all lists that take, for each entry `t` of `v`, one of the options `f t`.

Both interpretation iterators of `datatypes/adf.rs` enumerate such a list (IterFull.lean: a decided entry
has itself as its only option, an undecided one ⊥, ⊤ or, for the three-valued iterator, itself first), so
what a vector must look like to be yielded, that none is yielded twice, and that the yield read through a
map of the entries is again a `picks` are said here once, entry by entry. -/
namespace List
variable {α β γ : Type}

def picks (f : α → List β) : List α → List (List β)
  | [] => [[]]
  | t :: v => (f t).flatMap fun a => (picks f v).map (a :: ·)

theorem mem_picks_cons {f : α → List β} {a : β} {w : List β} {t : α} {v : List α} :
    a :: w ∈ picks f (t :: v) ↔ a ∈ f t ∧ w ∈ picks f v := by
  simp only [picks, mem_flatMap, mem_map, cons.injEq]
  exact ⟨fun ⟨_, h, _, hw, e, e'⟩ => ⟨e ▸ h, e' ▸ hw⟩, fun ⟨h, hw⟩ => ⟨a, h, w, hw, rfl, rfl⟩⟩

theorem mem_picks {f : α → List β} (db : β) (da : α) : ∀ {v : List α} {w : List β},
    w ∈ picks f v ↔ w.length = v.length ∧ ∀ i, i < v.length → w.getD i db ∈ f (v.getD i da)
  | [], w => by simp [picks]
  | t :: v, [] => by simp [picks]
  | t :: v, a :: w => by
    rw [mem_picks_cons, mem_picks db da (v := v)]
    simp only [length_cons, Nat.add_right_cancel_iff]
    constructor
    · rintro ⟨h0, hl, h⟩
      refine ⟨hl, fun i hi => ?_⟩
      cases i with
      | zero => exact h0
      | succ i => exact h i (Nat.lt_of_succ_lt_succ hi)
    · rintro ⟨hl, h⟩
      exact ⟨h 0 (Nat.succ_pos _), hl, fun i hi => h (i + 1) (Nat.succ_lt_succ hi)⟩

theorem picks_nodup {f : α → List β} : ∀ {v : List α}, (∀ t ∈ v, (f t).Nodup) → (picks f v).Nodup
  | [], _ => by simp [picks]
  | t :: v, h => by
    have ih := picks_nodup (f := f) (v := v) fun t ht => h t (mem_cons_of_mem _ ht)
    unfold picks Nodup
    rw [pairwise_flatMap]
    refine ⟨fun a _ => ?_, (h t (mem_cons_self ..)).imp fun hne x hx y hy e => ?_⟩
    · rw [pairwise_map]; exact ih.imp fun hne e => hne (cons.inj e).2
    · obtain ⟨_, _, rfl⟩ := mem_map.mp hx
      obtain ⟨_, _, rfl⟩ := mem_map.mp hy
      exact hne (cons.inj e).1

theorem picks_map (f : β → List γ) (g : α → β) (v : List α) :
    picks f (v.map g) = picks (fun t => f (g t)) v := by
  induction v with
  | nil => rfl
  | cons t v ih => simp only [map_cons, picks, ih]

theorem map_picks (g : β → γ) (f : α → List β) (v : List α) :
    (picks f v).map (List.map g) = picks (fun t => (f t).map g) v := by
  induction v with
  | nil => rfl
  | cons t v ih =>
    simp only [picks, ← ih, map_flatMap, flatMap_map, map_map]
    rfl

end List
