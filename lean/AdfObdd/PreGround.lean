import AdfObdd.Stable
/-! pre-grounding (`hybrid_step`: replace every condition by its residual under the
    grounded interpretation `g`) does not change the fixpoints of Γ — hence not the grounded
    interpretation, the complete models or the two-valued models (C01/C02 hybrid pipelines) -/

def pre (D : List BoolFn) (g : I3) : List BoolFn := D.map (fun f σ => f (over σ 0 g))

theorem pre_get (D : List BoolFn) (g : I3) (i : Nat) (f : BoolFn) (h : D[i]? = some f) :
    (pre D g)[i]? = some (fun σ => f (over σ 0 g)) := by simp [pre, h]

theorem Gam_pre_above (D : List BoolFn) (g w : I3) (l : Le3 g w) : Gam (pre D g) w = Gam D w :=
  Gam_subst_above D l

def SelfForced (D : List BoolFn) (g : I3) : Prop :=
  ∀ (i : Nat) (b : Bool) (f : BoolFn), g[i]? = some (some b) → D[i]? = some f → ∀ σ, f (over σ 0 g) = b

theorem selfForced_of_fix {D : List BoolFn} {g : I3} (h : Gam D g = g) : SelfForced D g := by
  intro i b f hg hf σ
  rw [← h] at hg
  obtain ⟨f', hf', hc⟩ := Gam_decided.mp hg
  rw [hf] at hf'
  cases hf'
  exact hc σ

theorem Gam_pre_ge (D : List BoolFn) (g w : I3) (hl : g.length ≤ D.length) (sf : SelfForced D g) :
    Le3 g (Gam (pre D g) w) := by
  intro i b hg
  have hi : i < D.length := Nat.lt_of_lt_of_le (lt_length_of_get? hg) hl
  have hf : D[i]? = some D[i] := List.getElem?_eq_getElem hi
  exact Gam_decided.mpr ⟨_, pre_get D g i _ hf, fun σ => sf i b _ hg hf (over σ 0 w)⟩

theorem pre_fix_iff (D : List BoolFn) (g w : I3) (hl : g.length ≤ D.length) (sf : SelfForced D g) :
    Gam (pre D g) w = w ↔ (Gam D w = w ∧ Le3 g w) := by
  constructor
  · intro h
    have l : Le3 g w := by have := Gam_pre_ge D g w hl sf; rwa [h] at this
    exact ⟨by rw [← Gam_pre_above D g w l]; exact h, l⟩
  · intro ⟨h, l⟩
    rw [Gam_pre_above D g w l]; exact h

/-- C02 (pre-grounded hybrid pipeline): exactly the same complete interpretations, hence the
same two-valued models -/
theorem pre_complete_iff (D : List BoolFn) (g w : I3) (h : IsLfp D g) :
    Gam (pre D g) w = w ↔ Gam D w = w := by
  rw [pre_fix_iff D g w (Nat.le_of_eq (fix_length h.1)) (selfForced_of_fix h.1)]
  exact ⟨fun x => x.1, fun x => ⟨x, h.2 w x⟩⟩

/-- C01 (pre-grounded hybrid pipeline): the grounded interpretation is unchanged -/
theorem pre_lfp (D : List BoolFn) (g : I3) (h : IsLfp D g) : IsLfp (pre D g) g :=
  (IsLfp.congr fun w => pre_complete_iff D g w h).mpr h
#print axioms pre_lfp
#print axioms pre_complete_iff
