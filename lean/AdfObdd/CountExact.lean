import AdfObdd.CountInstanceProofs
import AdfObdd.PreGround2
import AdfObdd.CompleteExact
/-! End to end: `countAll` (grounded start vector, the counting-guided search, the stability filter)
    returns exactly the stable models, each once. -/
namespace CI

/-- pointwise two-valued models of the conditions -/
def TM (D : List BoolFn) (σ : Asg) : Prop := ∀ (i : Nat) (f : BoolFn), D[i]? = some f → f σ = σ i

theorem d3_den {s : Store} (w : WF s) {v : List Nat} (hv : AllLt s v) : d3 v = (v.map (eval s)).map constOf :=
  asg3_eq StoreRA w hv

/-- the grounded vector satisfies the invariant of the search, for the target set `TM D` -/
theorem start_inv (s : Store) (n : Nat) (ac : List Nat) (w : WF s) (hn : ac.length = n)
    (hv : ∀ t ∈ ac, t < s.nodes.size) :
    CInv n ac (TM (ac.map (eval s))) (groundedLoop StoreRA (n + 1) s ac).1
      ((groundedLoop StoreRA (n + 1) s ac).2, List.replicate n 2) ∧
    Ext s (groundedLoop StoreRA (n + 1) s ac).1 := by
  have ⟨w1, e1, v1, d1⟩ := groundedLoop_store (n + 1) s ac w hv
  generalize groundedLoop StoreRA (n + 1) s ac = g at *
  have hr := reach_semLoop (ac.map (eval s)) (n + 1) (by simp [hn])
  have hcv : d3 g.2 = cv (semLoop (n + 1) (ac.map (eval s))) := by
    rw [d3_den w1 v1, d1, cv]
  have hlen : g.2.length = n := by
    have := congrArg List.length d1
    rw [List.length_map, hr.len, List.length_map, hn] at this
    exact this
  refine ⟨⟨w1, hlen, by simp, hn, v1, fun t ht => Nat.lt_of_lt_of_le (hv t ht) e1.1, ?_, ?_⟩, e1⟩
  · intro σ ht ha j t hj
    have hV : (semLoop (n + 1) (ac.map (eval s)))[j]? = some (eval g.1 t) := by
      rw [← d1, List.getElem?_map, hj]; rfl
    have hjn : j < (ac.map (eval s)).length := by
      rw [List.length_map, hn, ← hlen]; exact lt_length_of_get? hj
    have hD : (ac.map (eval s))[j]? = some (ac.map (eval s))[j] := List.getElem?_eq_getElem hjn
    rw [hr.res j _ _ hV hD σ (by rw [← hcv]; exact ha)]
    exact ht j _ hD
  · intro j t hj ht
    rw [List.getElem?_replicate] at hj
    split at hj
    · cases hj; cases ht
    · cases hj

theorem stabilityCheckC_spec (s : Store) (n : Nat) (ac cand : List Nat) (w : WF s) (hn : ac.length = n)
    (hv : ∀ t ∈ ac, t < s.nodes.size) (hc : cand.length = n) :
    WF (stabilityCheckC s n ac cand).1 ∧ Ext s (stabilityCheckC s n ac cand).1 ∧
    ((stabilityCheckC s n ac cand).2 = true ↔ SelfLfp (ac.map (eval s)) (d3 cand)) := by
  have ⟨a, b, c, _⟩ := reductTest_spec s n ac cand w hn hv hc rfl rfl
  unfold stabilityCheckC
  dsimp only
  exact ⟨a, b, c⟩

def filterStep (n : Nat) (ac : List Nat) (acc : Store × List (List Nat)) (v : List Nat) : Store × List (List Nat) :=
  ((stabilityCheckC acc.1 n ac v).1, if (stabilityCheckC acc.1 n ac v).2 then acc.2 ++ [v] else acc.2)

open Classical in
/-- the filter is `List.filter` with the store-independent test `SelfLfp`, and it only extends the store -/
theorem stableFilter_fold (s0 : Store) (n : Nat) (ac : List Nat) (w0 : WF s0) (hn : ac.length = n)
    (hv : ∀ t ∈ ac, t < s0.nodes.size) :
    ∀ (cands : List (List Nat)) (acc : Store × List (List Nat)), WF acc.1 → Ext s0 acc.1 →
      (∀ v ∈ cands, v.length = n) →
      WF (cands.foldl (filterStep n ac) acc).1 ∧ Ext s0 (cands.foldl (filterStep n ac) acc).1 ∧
      (cands.foldl (filterStep n ac) acc).2 = acc.2 ++ cands.filter (fun v => decide (SelfLfp (ac.map (eval s0)) (d3 v))) := by
  intro cands acc wa ea hl
  have key := StableExact.fold_filter (fun t => WF t ∧ Ext s0 t) (fun v => decide (SelfLfp (ac.map (eval s0)) (d3 v)))
    (filterStep n ac) cands
    (fun a c hc ⟨wa, ea⟩ => by
      have spec := stabilityCheckC_spec a.1 n ac c wa hn (fun t ht => Nat.lt_of_lt_of_le (hv t ht) ea.1) (hl c hc)
      rw [map_eval_ext w0 ea hv] at spec
      rw [filterStep]
      -- as a variable the result of the check is not unfolded by the unifier
      generalize stabilityCheckC a.1 n ac c = k at spec ⊢
      exact ⟨⟨spec.1, ea.trans spec.2.1⟩, by rw [Bool.eq_iff_iff.mpr (spec.2.2.trans decide_eq_true_iff.symm)]⟩)
    acc ⟨wa, ea⟩
  exact ⟨key.1.1, key.1.2, key.2⟩

/-- the assignment of a (total) interpretation, `false` elsewhere -/
def asgOf (v : I3) : Asg := fun x => match v[x]? with | some (some b) => b | _ => false

theorem agree_asgOf (v : I3) : Agree (asgOf v) v := by
  intro i b h; simp [asgOf, h]

theorem regI_asgOf {n : Nat} {v : I3} (hl : v.length = n) : RegI n v (asgOf v) :=
  ⟨agree_asgOf v, fun x hx => by simp [asgOf, List.getElem?_eq_none (by omega : v.length ≤ x)]⟩

theorem total_of_good {n : Nat} {o : List Nat} (h : GoodO n o) : (d3 o).length = n ∧ TotalI (d3 o) := by
  refine ⟨by rw [d3_length]; exact h.1, ?_⟩
  intro i hi
  rw [d3_length] at hi
  obtain ⟨b, hb⟩ := isTV_iff.mp (h.2 o[i] (List.getElem_mem hi))
  exact ⟨b, by rw [d3_get, List.getElem?_eq_getElem hi]; simp [hb]⟩

theorem total_eq_of_agree {n : Nat} {v v' : I3} (hl : v.length = n) (hl' : v'.length = n) (ht : TotalI v)
    (ht' : TotalI v') {σ : Asg} (ha : Agree σ v) (ha' : Agree σ v') : v = v' :=
  Le3_antisymm_total (hl.trans hl'.symm) ht' fun i b hb => by
    obtain ⟨b', hb'⟩ := ht i (hl.trans hl'.symm ▸ lt_length_of_get? hb)
    rw [hb', ← ha i b' hb', ha' i b hb]

theorem disj_ne {n : Nat} {ac : List Nat} {T : Asg → Prop} {o o' : List Nat} (hg : GoodO n o)
    (hd : GK.DisjO (view n ac T) o o') : d3 o ≠ d3 o' := by
  intro e
  apply hd (asgOf (d3 o))
  have := regI_asgOf (total_of_good hg).1
  refine ⟨this, ?_⟩
  show RegI n (d3 o') (asgOf (d3 o))
  rw [← e]; exact this

theorem tm_of_fix {D : List BoolFn} {v : I3} {σ : Asg} (hfix : Gam D v = v) (ht : TotalI v) (hl : v.length = D.length)
    (ha : Agree σ v) : TM D σ :=
  value_of_total_fix hfix ht hl ha

/-- `v` is a stable model of `D` (interpretations of length `n`): a two-valued model whose true
statements are true in the least fixpoint of its reduct -/
def IsStable (n : Nat) (D : List BoolFn) (v : I3) : Prop :=
  v.length = n ∧ TotalI v ∧ Gam D v = v ∧
    ∀ w : I3, IsLfp (redu D v) w → ∀ i : Nat, v[i]? = some (some true) → w[i]? = some (some true)

/-- the store-independent content of the filter is the definition of a stable model -/
theorem selfLfp_iff_stable {n : Nat} {D : List BoolFn} {o : List Nat} (hD : D.length = n) (hg : GoodO n o) :
    SelfLfp D (d3 o) ↔ IsStable n D (d3 o) :=
  have ⟨h1, h2⟩ := total_of_good hg
  have hl : (d3 o).length = D.length := h1.trans hD.symm
  ⟨fun h => ⟨h1, (StableExact.StableI_iff hl).mpr ⟨h2, h⟩⟩, fun h => ((StableExact.StableI_iff hl).mp h.2).2⟩

open Classical in
theorem countAll_filter (s : Store) (n : Nat) (ac : List Nat) (useA : Bool) (w : WF s) (hn : ac.length = n)
    (hv : ∀ t ∈ ac, t < s.nodes.size) :
    WF (countAll s n ac useA).1 ∧ Ext s (countAll s n ac useA).1 ∧ (countAll s n ac useA).2 =
      (countLogic ac useA (n + 1) (groundedLoop StoreRA (n + 1) s ac).1 (groundedLoop StoreRA (n + 1) s ac).2
        (List.replicate n 2)).2.filter (fun v => decide (SelfLfp (ac.map (eval s)) (d3 v))) := by
  have ⟨hinv, e0⟩ := start_inv s n ac w hn hv
  have sp := countLogic_spec useA hinv
  unfold countAll
  simp only
  generalize countLogic ac useA (n + 1) _ _ (List.replicate n 2) = c at sp ⊢
  have hle : SLe _ c.1 := sp.le
  exact stableFilter_fold s n ac w hn hv c.2 (c.1, []) (hle.2 hinv.wf) (Ext.trans e0 hle.1)
    (fun v hv' => (sp.good v hv').1)

/-- C04 for the concrete model: `countAll` returns each stable model exactly once -/
theorem countAll_exact (s : Store) (n : Nat) (ac : List Nat) (useA : Bool) (w : WF s) (hn : ac.length = n)
    (hv : ∀ t ∈ ac, t < s.nodes.size) :
    ((countAll s n ac useA).2.map d3).Nodup ∧
    ∀ v : I3, v ∈ (countAll s n ac useA).2.map d3 ↔ IsStable n (ac.map (eval s)) v := by
  have ⟨hinv, e0⟩ := start_inv s n ac w hn hv
  have sp := countLogic_spec useA hinv
  have hgr := grounded_native (n + 1) s ac w hv (by omega)
  simp only at hgr
  rw [(countAll_filter s n ac useA w hn hv).2.2]
  generalize groundedLoop StoreRA (n + 1) s ac = g at *
  generalize countLogic ac useA (n + 1) g.1 g.2 (List.replicate n 2) = c at *
  have hgood : ∀ o ∈ c.2, GoodO n o := sp.good
  have hD : (ac.map (eval s)).length = n := by rw [List.length_map, hn]
  constructor
  · -- each model once
    have hpw : c.2.Pairwise (fun a b => d3 a ≠ d3 b) :=
      List.Pairwise.imp_of_mem (fun {a b} ha _ hd => disj_ne (hgood a ha) hd) sp.disj
    exact List.pairwise_map.mpr (hpw.sublist List.filter_sublist)
  · intro v
    simp only [List.mem_map, List.mem_filter, decide_eq_true_eq]
    constructor
    · rintro ⟨o, ⟨hoc, hck⟩, rfl⟩
      exact (selfLfp_iff_stable hD (hgood o hoc)).mp hck
    · intro hst
      have ⟨h1, h2, h3, _⟩ := hst
      -- the model as an assignment inside the start region
      have hT : TM (ac.map (eval s)) (asgOf v) := tm_of_fix h3 h2 (by rw [h1, hD]) (agree_asgOf v)
      have hreg : RegI n (d3 g.2) (asgOf v) := (regI_asgOf h1).mono (hgr.2 v h3)
      obtain ⟨o, ho, hro⟩ := sp.cover (asgOf v) hT hreg
      have ⟨g1, g2⟩ := total_of_good (hgood o ho)
      have hov : d3 o = v := total_eq_of_agree g1 h1 g2 h2 hro.1 (agree_asgOf v)
      exact ⟨o, ⟨ho, (selfLfp_iff_stable hD (hgood o ho)).mpr (hov ▸ hst)⟩, hov⟩

end CI
#print axioms CI.countAll_exact
