import AdfObdd.StoreCanon
/-! the variables occurring in a diagram are exactly the variables its function
    depends on (C13, support clause) -/

/-- `var_dependencies` without the cache (the recursive body of the non-`variablelist` build) -/
def depsF (s : Store) : Nat → Nat → List Nat
  | 0, _ => []
  | fuel+1, t =>
    if t < 2 then [] else
    match s.nodes[t]? with
    | none => []
    | some n => n.var :: (depsF s fuel n.lo ++ depsF s fuel n.hi)

def Essential (f : Asg → Bool) (x : Nat) : Prop := ∃ σ, f (upd σ x true) ≠ f (upd σ x false)

theorem depsF_lt2 (s : Store) (f : Nat) {t : Nat} (ht : t < 2) : depsF s f t = [] := by
  cases f with
  | zero => rfl
  | succ f => unfold depsF; rw [if_pos ht]

def Memo.depsG : Memo.Meas (List Nat) where
  z := []
  l0 := []
  l1 := []
  nn := []
  node := fun n l h => n.var :: (l ++ h)

theorem Memo.depsF_eq_F (s : Store) : ∀ (fuel t : Nat), depsF s fuel t = Memo.depsG.F s fuel t :=
  Memo.F_unique Memo.depsG s (depsF s) (fun _ => rfl) fun f t => by
    rw [depsF]
    by_cases h1 : t = 1
    · subst h1; rfl
    by_cases h0 : t = 0
    · subst h0; rfl
    rw [if_neg (by omega), if_neg h1, if_neg h0]
    cases s.nodes[t]? <;> rfl

theorem depsF_fuel (s : Store) (h : TableWF s.nodes) (t fuel : Nat) (hlt : t < fuel) :
    depsF s fuel t = depsF s (t+1) t := by
  rw [Memo.depsF_eq_F, Memo.depsF_eq_F]; exact Memo.F_fuel _ s h t fuel hlt

theorem depsF_node' (s : Store) (h : TableWF s.nodes) (t : Nat) (n : Node) (ht : 2 ≤ t)
    (hn : s.nodes[t]? = some n) :
    depsF s (t+1) t = n.var :: (depsF s (n.lo+1) n.lo ++ depsF s (n.hi+1) n.hi) := by
  rw [Memo.depsF_eq_F, Memo.depsF_eq_F, Memo.depsF_eq_F]; exact Memo.val_node _ s h ht hn

theorem mem_deps_node (s : Store) (h : TableWF s.nodes) {t x : Nat} {n : Node} (ht : 2 ≤ t)
    (hn : s.nodes[t]? = some n) :
    x ∈ depsF s (t+1) t ↔ x = n.var ∨ ∃ b, x ∈ depsF s (n.child b + 1) (n.child b) := by
  rw [depsF_node' s h t n ht hn, List.mem_cons, List.mem_append]
  exact ⟨fun h => h.elim Or.inl fun h => Or.inr (h.elim (fun h => ⟨false, h⟩) fun h => ⟨true, h⟩),
    fun h => h.elim Or.inl fun ⟨b, h⟩ => Or.inr (by cases b; exact Or.inl h; exact Or.inr h)⟩

theorem deps_ge (s : Store) (h : TableWF s.nodes) : ∀ t, t < s.nodes.size → ∀ x ∈ depsF s (t+1) t, topVar s t ≤ x :=
  h.ind (fun _ hx => by cases hx) (fun _ hx => by cases hx) fun t n ht hn _ ih x hx => by
    rw [topVar_of_get hn]
    rcases (mem_deps_node s h ht hn).mp hx with rfl | ⟨b, hb⟩
    · exact Nat.le_refl _
    · exact Nat.le_of_lt (Nat.lt_of_lt_of_le (Tab.lt_topVar_child s h ht hn b) (ih b x hb))

theorem lt_of_mem_deps_child (s : Store) (h : TableWF s.nodes) {t x : Nat} {n : Node} (ht : 2 ≤ t)
    (hn : s.nodes[t]? = some n) {b : Bool} (hx : x ∈ depsF s (n.child b + 1) (n.child b)) : n.var < x :=
  Nat.lt_of_lt_of_le (Tab.lt_topVar_child s h ht hn b)
    (deps_ge s h _ (Nat.lt_trans (Tab.child_lt s h ht hn b) (lt_of_get hn)) x hx)

theorem deps_indep (s : Store) (h : TableWF s.nodes) : ∀ t, t < s.nodes.size → ∀ x, x ∉ depsF s (t+1) t →
    ∀ σ b, eval s t (upd σ x b) = eval s t σ :=
  h.ind (fun _ _ σ b => by rw [eval_zero, eval_zero]) (fun _ _ σ b => by rw [eval_one, eval_one])
    fun t n ht hn _ ih x hx σ b => by
      have hx' := fun c => mt (fun m => (mem_deps_node s h ht hn).mpr (Or.inr ⟨c, m⟩)) hx
      have hxv : n.var ≠ x := fun e => hx ((mem_deps_node s h ht hn).mpr (Or.inl e.symm))
      rw [Tab.eval_eq_child s h t n ht hn rfl, Tab.eval_eq_child s h t n ht hn rfl, upd_other σ b hxv,
        ih _ x (hx' _) σ b]

theorem node_essential (s : Store) (h : TableWF s.nodes) (t : Nat) (n : Node) (ht2 : 2 ≤ t) (hn : s.nodes[t]? = some n) :
    Essential (eval s t) n.var :=
  Classical.byContradiction fun hcon => Tab.inner_depends s h ht2 hn fun σ =>
    Decidable.byContradiction fun hd => hcon ⟨σ, fun e => hd e.symm⟩

theorem deps_essential (s : Store) (h : TableWF s.nodes) : ∀ t, t < s.nodes.size → ∀ x ∈ depsF s (t+1) t,
    Essential (eval s t) x :=
  h.ind (fun _ hx => by cases hx) (fun _ hx => by cases hx) fun t n ht hn _ ih x hx => by
    rcases (mem_deps_node s h ht hn).mp hx with rfl | ⟨b, hb⟩
    · exact node_essential s h t n ht hn
    · -- a variable of a child lies above the node's variable; move the witness to the child's branch
      obtain ⟨σ, hσ⟩ := ih b x hb
      have hxv : n.var ≠ x := Nat.ne_of_lt (lt_of_mem_deps_child s h ht hn hb)
      refine ⟨upd σ n.var b, ?_⟩
      rw [upd_comm' σ hxv, upd_comm' σ hxv, ← Tab.eval_child s h t n ht hn, ← Tab.eval_child s h t n ht hn]
      exact hσ

theorem Tab.deps_exact (s : Store) (h : TableWF s.nodes) (t x : Nat) (ht : t < s.nodes.size) :
    x ∈ depsF s (t+1) t ↔ Essential (eval s t) x :=
  ⟨deps_essential s h t ht x, fun ⟨σ, hσ⟩ => Classical.byContradiction fun hx => hσ (by
    rw [deps_indep s h t ht x hx σ true, deps_indep s h t ht x hx σ false])⟩

/-- C13, support clause: listed ⇔ essential -/
theorem deps_exact (s : Store) (w : WF s) (t x : Nat) (ht : t < s.nodes.size) :
    x ∈ depsF s (t+1) t ↔ Essential (eval s t) x := Tab.deps_exact s w.table t x ht
#print axioms deps_exact
