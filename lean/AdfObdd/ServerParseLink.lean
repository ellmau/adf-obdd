import AdfObdd.ServerHybrid
import AdfObdd.Parser6
/-! # C08 / C16 — a text the parser rejects gets no answer from the web service

The link between the parser model of C08 (`ParserM.parse : List Char → Option PState`, about which the
rejection theorems `C08.reject_*` speak) and the service model: `ServerAdf.conditions` runs the SAME
`ParserM.parseFile`, so `ParserM.parse code.toList = none` makes the parse function of the service
answer `Error("ADF could not be parsed, double check your input!")` for BOTH parsing strategies
(`parse_rejected`); the parse task stores that error (`C16.parse_error_reported`), a solve request is
refused with it (`C16.error_blocks_solve`), and in every reachable state of every history no document
under an untainted key whose code is rejected carries a framework or a result
(`rejected_code_never_answered`). -/
namespace SrvC
open ServerM ServerAdf
section
variable {T : Type}

/-- the service reads the text with the parser of C08 -/
theorem conditions_of_parse_none (code : String) (h : ParserM.parse code.toList = none) :
    conditions code = .error .parseError := by
  unfold conditions parseText
  rw [ParserM.parse_eq] at h
  unfold ParserM.parseFacts at h
  have hl : code.toList.length = code.length := String.length_toList
  rw [hl] at h
  cases hp : ParserM.parseFile (code.length + 1) code.toList with
  | none => rfl
  | some fs => rw [hp] at h; cases h

/-- **rejected text, the parse function of the service, both parsing strategies, all three service
environments** (the driver's `libEnv o`, the modelled hybrid arm `hybEnv`, and `hybEnvF F`) -/
theorem parse_rejected (o : Oracle) (Lf : Nat → Bio.Lib T) (dumpf : Nat → T → List Node) (pg : Parsing) (code : String)
    (h : ParserM.parse code.toList = none) :
    (libEnv o).parse pg code = .error .parseError ∧ (hybEnv Lf dumpf).parse pg code = .error .parseError ∧
    ∀ F, (hybEnvF F Lf dumpf).parse pg code = .error .parseError := by
  have hc := conditions_of_parse_none code h
  have h2 : (hybEnv Lf dumpf).parse pg code = .error .parseError := by
    cases pg with
    | naive => rw [hybEnv_parse_naive]; exact parseNaive_of_conditions_error _ code _ hc
    | hybrid => rw [hybEnv_parse_hybrid]; exact parseHybrid_of_conditions_error Lf dumpf _ code _ hc
  exact ⟨libEnv_parse_error_iff o code _ hc pg, h2, fun _ => h2⟩

end

section
variable {T H A R : Type} [DecidableEq T]

/-- **no answer is ever produced for code the library refuses** (any environment, EVERY history): in
every state reached from the empty server, a document under an untainted key (no stale write of D9's
shape since the key was last cleared) whose code the environment's parse function refuses stores no
framework and, under every strategy, no result -/
theorem rejected_code_never_answered (E : Env T H A R) (es : List (Event T)) (p : Problem T A R)
    (hp : p ∈ (runAll E {} es).1.db.problems)
    (hn : taintRun E {} (fun _ _ => false) es p.username p.name = false)
    (e : Err) (hrej : E.parse p.parsing p.code = .error e) :
    (∀ a, p.adf ≠ .some a) ∧ ∀ s res, p.res.get s ≠ .some res := by
  have hdoc := reachable_untainted_belong_to_the_code E es p hp hn
  constructor
  · intro a ha
    obtain ⟨r, hr⟩ := hdoc.1 a ha
    rw [hrej] at hr; cases hr
  · intro s res hs
    obtain ⟨a, r, hr, _⟩ := hdoc.2 s res hs
    rw [hrej] at hr; cases hr

end
end SrvC
