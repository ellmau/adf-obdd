import AdfObdd.Cubes
/-! # Canonicity ACROSS node tables, and the canonical cube list

Two well-formed node tables (e.g. the table of an object after an arbitrary call history and the table of the
freshly built object).  Handles that denote the same Boolean function are roots of ISOMORPHIC reduced ordered
diagrams: both are constants (and then equal), or both are inner nodes with the same variable whose low / high
children denote the same functions again (`iso_step`).  Consequently everything computed by structural recursion
over the diagram reading only variables and the constants is a function of the DENOTATION: every fold `Memo.Meas`
whose node step reads the variable only (`Memo.val_den`), and the list of path cubes `cubesF`
(`Bdd::interpretations`), same literals in the same order (`cubesF_den`). -/
namespace CubesCanon

theorem const_ne_inner (s s' : Store) (w' : WF s') (a b : Nat) (ha : a < 2) (hb : 2 ≤ b) (hbs : b < s'.nodes.size)
    (e : eval s a = eval s' b) : False := by
  obtain ⟨n, hn⟩ := get_of_lt hbs
  refine Tab.inner_depends s' w'.table hb hn fun σ => ?_
  rw [← e, eval_lt2 s a ha, eval_lt2 s a ha]

theorem iso_step (s s' : Store) (w : WF s) (w' : WF s') (a b : Nat) (ha : a < s.nodes.size) (hb : b < s'.nodes.size)
    (e : eval s a = eval s' b) :
    (a < 2 ∧ b < 2 ∧ a = b) ∨
    (2 ≤ a ∧ 2 ≤ b ∧ ∃ na nb, s.nodes[a]? = some na ∧ s'.nodes[b]? = some nb ∧ na.var = nb.var ∧
      eval s na.lo = eval s' nb.lo ∧ eval s na.hi = eval s' nb.hi) := by
  rcases Nat.lt_or_ge a 2 with ha2 | ha2 <;> rcases Nat.lt_or_ge b 2 with hb2 | hb2
  · have h0 := congrFun e (fun _ => false)
    rw [eval_lt2 s a ha2, eval_lt2 s' b hb2, decide_eq_decide] at h0
    exact Or.inl ⟨ha2, hb2, by omega⟩
  · exact (const_ne_inner s s' w' a b ha2 hb2 hb e).elim
  · exact (const_ne_inner s' s w b a hb2 ha2 ha e.symm).elim
  · obtain ⟨na, hna⟩ := get_of_lt ha
    obtain ⟨nb, hnb⟩ := get_of_lt hb
    -- the node with the smaller variable would not depend on it
    have hv : na.var = nb.var := by
      rcases Nat.lt_trichotomy na.var nb.var with hv | hv | hv
      · refine (Tab.inner_depends s w.table ha2 hna fun σ => ?_).elim
        rw [e, eval_upd_of_lt s' w' b hb na.var false (by rw [topVar_of_get hnb]; exact hv),
            eval_upd_of_lt s' w' b hb na.var true (by rw [topVar_of_get hnb]; exact hv)]
      · exact hv
      · refine (Tab.inner_depends s' w'.table hb2 hnb fun σ => ?_).elim
        rw [← e, eval_upd_of_lt s w a ha nb.var false (by rw [topVar_of_get hna]; exact hv),
            eval_upd_of_lt s w a ha nb.var true (by rw [topVar_of_get hna]; exact hv)]
    refine Or.inr ⟨ha2, hb2, na, nb, hna, hnb, hv, ?_, ?_⟩
    · funext σ
      rw [eval_lo s w a na ha2 hna, eval_lo s' w' b nb hb2 hnb, hv, e]
    · funext σ
      rw [eval_hi s w a na ha2 hna, eval_hi s' w' b nb hb2 hnb, hv, e]

theorem _root_.Memo.val_den {α : Type} (G : Memo.Meas α) (hG : ∀ n n' a b, n.var = n'.var → G.node n a b = G.node n' a b)
    {s s' : Store} (w : WF s) (w' : WF s') :
    ∀ t, t < s.nodes.size → ∀ t', t' < s'.nodes.size → eval s t = eval s' t' → G.val s t = G.val s' t' := by
  intro t ht
  induction t using Nat.strongRecOn with
  | _ t ih =>
    intro t' ht' e
    rcases iso_step s s' w w' t t' ht ht' e with ⟨h, _, rfl⟩ | ⟨h, h', n, n', hn, hn', hv, elo, ehi⟩
    · match t, h with
      | 0, _ => rw [Memo.val_zero, Memo.val_zero]
      | 1, _ => rw [Memo.val_one, Memo.val_one]
    · have c := Tab.child_lt s w.table h hn
      have c' := Tab.child_lt s' w'.table h' hn'
      rw [Memo.val_node G s w.table h hn, Memo.val_node G s' w'.table h' hn', hG n n' _ _ hv,
        ih n.lo (c false) (Nat.lt_trans (c false) ht) n'.lo (Nat.lt_trans (c' false) ht') elo,
        ih n.hi (c true) (Nat.lt_trans (c true) ht) n'.hi (Nat.lt_trans (c' true) ht') ehi]

theorem cubesF_den_aux (s s' : Store) (w : WF s) (w' : WF s') (goal : Bool) (gv : Nat) :
    ∀ (fuel fuel' t t' : Nat) (neg pos : List Nat), t < s.nodes.size → t' < s'.nodes.size → t < fuel → t' < fuel' →
      eval s t = eval s' t' →
      cubesF s fuel t goal gv neg pos = cubesF s' fuel' t' goal gv neg pos := by
  intro fuel
  induction fuel with
  | zero => intro _ t _ _ _ _ _ h; exact absurd h (Nat.not_lt_zero _)
  | succ f ih =>
    intro fuel' t t' neg pos ht ht' hf hf' e
    cases fuel' with
    | zero => exact absurd hf' (Nat.not_lt_zero _)
    | succ f' =>
      rcases iso_step s s' w w' t t' ht ht' e with ⟨h1, h2, _⟩ | ⟨h1, h2, na, nb, hna, hnb, hv, elo, ehi⟩
      · rw [cubesF_lt2 s _ h1, cubesF_lt2 s' _ h2]
      · -- side by side: the children are both terminals (and equal) or both inner nodes with equal lists
        have side : ∀ b, cubeSide s f goal gv (neg, pos) na.var (na.child b) b =
            cubeSide s' f' goal gv (neg, pos) nb.var (nb.child b) b := by
          intro b
          have ec : eval s (na.child b) = eval s' (nb.child b) := by cases b; exact elo; exact ehi
          have hc := Tab.child_lt s w.table h1 hna b
          have hc' := Tab.child_lt s' w'.table h2 hnb b
          have hcs := Nat.lt_trans hc ht
          have hcs' := Nat.lt_trans hc' ht'
          unfold cubeSide
          rw [← hv]
          rcases iso_step s s' w w' _ _ hcs hcs' ec with ⟨a, b', c⟩ | ⟨a, b', _⟩
          · rw [if_pos a, if_pos b', c]
          · rw [if_neg (Nat.not_lt_of_le a), if_neg (Nat.not_lt_of_le b'),
                ih f' _ _ _ _ hcs hcs' (Nat.lt_of_lt_of_le hc (Nat.le_of_lt_succ hf))
                  (Nat.lt_of_lt_of_le hc' (Nat.le_of_lt_succ hf')) ec]
        rw [cubesF_node s f h1 hna, cubesF_node s' f' h2 hnb]
        exact congr (congrArg _ (side true)) (side false)

/-- `Bdd::interpretations` of a handle, as the search calls it (fuel `t + 1`, any accumulators), is a function of the
handle's DENOTATION -/
theorem cubesF_den (s s' : Store) (w : WF s) (w' : WF s') (t t' : Nat) (ht : t < s.nodes.size) (ht' : t' < s'.nodes.size)
    (e : eval s t = eval s' t') (goal : Bool) (gv : Nat) (neg pos : List Nat) :
    cubesF s (t + 1) t goal gv neg pos = cubesF s' (t' + 1) t' goal gv neg pos :=
  cubesF_den_aux s s' w w' goal gv (t + 1) (t' + 1) t t' neg pos ht ht' (Nat.lt_succ_self _) (Nat.lt_succ_self _) e

end CubesCanon

#print axioms CubesCanon.iso_step
#print axioms CubesCanon.cubesF_den
