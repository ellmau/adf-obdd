import AdfObdd.Parser5

/-! the parser object: `AdfParser`'s four fields and the side effects of `parse_statement` /
`parse_ac` on them, threaded through `all_consuming(many1(alt(..)))` exactly as in `parser.rs`;
`formula_order`; and the proof that the final state is the one the written facts describe -/
namespace ParserM

abbrev Label := List Char

/-- `AdfParser { namelist, dict, formulae, formulaname }`. The `HashMap` is an association list
whose most recent entry for a key wins. -/
structure PState where
  namelist : List Label := []
  dict : List (Label × Nat) := []
  formulae : List Fml := []
  formulaname : List Label := []
deriving DecidableEq

/-- `dict.get(l)` -/
def dictGet : List (Label × Nat) → Label → Option Nat
  | [], _ => none
  | (k, v) :: d, l => if k = l then some v else dictGet d l

/-- the effect of one accepted fact on the parser object:
`if !dict.contains_key(l) { let pos = namelist.len(); namelist.push(l); dict.insert(l, pos) }`
resp. `formulae.push(f); formulaname.push(l)` -/
def PState.apply (st : PState) : Fact → PState
  | .stmt l =>
    if (dictGet st.dict l).isSome then st
    else { st with namelist := st.namelist ++ [l], dict := (l, st.namelist.length) :: st.dict }
  | .ac l f => { st with formulae := st.formulae ++ [f], formulaname := st.formulaname ++ [l] }

theorem apply_stmt (st : PState) (l : Label) : st.apply (.stmt l) =
    if (dictGet st.dict l).isSome then st
    else { st with namelist := st.namelist ++ [l], dict := (l, st.namelist.length) :: st.dict } := rfl

/-- `parse_statement`: the effect happens only after the text of the fact has been accepted -/
def parseStatement (st : PState) : Inp → Option (PState × Inp) := fun cs =>
  (stmtP cs).map fun x => (st.apply x.1, x.2)

/-- `parse_ac` -/
def parseAc (fuel : Nat) (st : PState) : Inp → Option (PState × Inp) := fun cs =>
  (acP fuel cs).map fun x => (st.apply x.1, x.2)

/-- `many1(alt((parse_statement, parse_ac)))` on the parser object; the Boolean says whether at
least one fact was read -/
def manySt (fuel : Nat) : Nat → PState → Inp → PState × Bool × Inp
  | 0, st, cs => (st, false, cs)
  | k+1, st, cs =>
    match orElse (parseStatement st) (parseAc fuel st) cs with
    | none => (st, false, cs)
    | some (st', r) => let m := manySt fuel k st' r; (m.1, true, m.2.2)

/-- `AdfParser::default().parse()(text)`: `some` final parser object iff the result is `Ok` -/
def parseFuel (fuel : Nat) (cs : Inp) : Option PState :=
  match manySt fuel fuel {} cs with
  | (st, true, []) => some st
  | _ => none

def parse (cs : Inp) : Option PState := parseFuel (cs.length + 1) cs

/-- `formula_order`: `none` models the panic of `expect("Dictionary should contain all the used
formulanames")` when a condition is given for a label that was never declared -/
def PState.formulaOrder (st : PState) : Option (List Nat) := st.formulaname.mapM (dictGet st.dict)

/-- `dict_value` -/
def PState.dictValue (st : PState) (l : Label) : Option Nat := dictGet st.dict l

def PState.ofFacts (fs : List Fact) : PState := fs.foldl PState.apply {}

/-! ### the threaded parser is the pure parser followed by the effects -/

theorem alt_eq (fuel : Nat) (st : PState) (cs : Inp) :
    orElse (parseStatement st) (parseAc fuel st) cs = (factP fuel cs).map fun x => (st.apply x.1, x.2) := by
  unfold orElse parseStatement parseAc factP orElse
  cases stmtP cs with
  | none => simp
  | some x => simp

theorem manySt_eq (fuel : Nat) : ∀ (k : Nat) (st : PState) (cs : Inp),
    manySt fuel k st cs =
      ((many (factP fuel) k cs).1.foldl PState.apply st, !(many (factP fuel) k cs).1.isEmpty,
       (many (factP fuel) k cs).2) := by
  intro k
  induction k with
  | zero => intro st cs; simp [manySt, many]
  | succ k ih =>
    intro st cs
    unfold manySt many
    rw [alt_eq]
    cases factP fuel cs with
    | none => simp
    | some x => simp [ih]

theorem parseFuel_eq (fuel : Nat) (cs : Inp) : parseFuel fuel cs = (parseFile fuel cs).map PState.ofFacts := by
  unfold parseFuel parseFile
  rw [manySt_eq]
  cases h : many (factP fuel) fuel cs with
  | mk fs r =>
    cases fs with
    | nil => simp
    | cons f fs' =>
      cases r with
      | nil => simp [PState.ofFacts]
      | cons _ _ => simp

theorem parse_eq (cs : Inp) : parse cs = (parseFacts cs).map PState.ofFacts := parseFuel_eq _ cs

/-- declared labels in order of first declaration, without repetitions -/
def namesOf : List Fact → List Label
  | [] => []
  | .stmt l :: fs => l :: (namesOf fs).filter (fun x => !decide (x = l))
  | .ac _ _ :: fs => namesOf fs

/-- conditions with the label they are given for, in file order (repetitions kept) -/
def acsOf : List Fact → List (Label × Fml)
  | [] => []
  | .stmt _ :: fs => acsOf fs
  | .ac l f :: fs => (l, f) :: acsOf fs

def indexOf : List Label → Label → Option Nat
  | [], _ => none
  | x :: xs, l => if x = l then some 0 else (indexOf xs l).map (· + 1)

theorem indexOf_eq_idxOf? (xs : List Label) (l : Label) : indexOf xs l = xs.idxOf? l := by
  induction xs with
  | nil => rfl
  | cons x xs ih => simp only [indexOf, List.idxOf?_cons, ih, beq_iff_eq]

theorem indexOf_isSome (xs : List Label) (l : Label) : (indexOf xs l).isSome = decide (l ∈ xs) := by
  rw [indexOf_eq_idxOf?, Bool.eq_iff_iff, List.isSome_idxOf?, decide_eq_true_eq]

theorem indexOf_eq_none_iff (xs : List Label) (l : Label) : indexOf xs l = none ↔ l ∉ xs := by
  rw [indexOf_eq_idxOf?, List.idxOf?_eq_none_iff]

theorem indexOf_none_of_perm {xs ys : List Label} (hp : xs.Perm ys) {l : Label} (h : indexOf xs l = none) :
    indexOf ys l = none :=
  (indexOf_eq_none_iff ys l).mpr fun hm => (indexOf_eq_none_iff xs l).mp h (hp.mem_iff.mpr hm)

theorem indexOf_append (xs ys : List Label) (l : Label) :
    indexOf (xs ++ ys) l = (indexOf xs l).or ((indexOf ys l).map (· + xs.length)) := by
  simp only [indexOf_eq_idxOf?, List.idxOf?, List.findIdx?_append]

/-- the invariant of `namelist`/`dict`: the dictionary is the inverse of the name list -/
def DictOK (st : PState) : Prop := ∀ l, dictGet st.dict l = indexOf st.namelist l

theorem DictOK.mem {st : PState} (h : DictOK st) (l : Label) :
    (dictGet st.dict l).isSome = true ↔ l ∈ st.namelist := by
  rw [h l, indexOf_isSome, decide_eq_true_eq]

theorem apply_dictOK (st : PState) (x : Fact) (h : DictOK st) : DictOK (st.apply x) := by
  cases x with
  | ac l f => exact h
  | stmt l =>
    rw [apply_stmt]
    by_cases hs : (dictGet st.dict l).isSome = true
    · rw [if_pos hs]; exact h
    · rw [if_neg hs]
      have hl : indexOf st.namelist l = none := (indexOf_eq_none_iff _ _).mpr (mt (h.mem l).mpr hs)
      intro l'
      simp only [dictGet, indexOf_append, indexOf]
      by_cases e : l = l'
      · subst e; simp [hl]
      · simp [e, h l']

theorem foldl_dictOK (fs : List Fact) : ∀ (st : PState), DictOK st → DictOK (fs.foldl PState.apply st) := by
  induction fs with
  | nil => intro st h; exact h
  | cons x fs ih => intro st h; exact ih _ (apply_dictOK st x h)

theorem foldl_names (fs : List Fact) : ∀ (st : PState), DictOK st →
    (fs.foldl PState.apply st).namelist = st.namelist ++ (namesOf fs).filter (fun x => !decide (x ∈ st.namelist)) := by
  induction fs with
  | nil => intro st _; simp [namesOf]
  | cons x fs ih =>
    intro st h
    rw [List.foldl_cons, ih _ (apply_dictOK st x h)]
    cases x with
    | ac l f => rfl
    | stmt l =>
      rw [apply_stmt]
      by_cases hs : (dictGet st.dict l).isSome = true
      · have hl := (h.mem l).mp hs
        rw [if_pos hs]
        simp only [namesOf, List.filter_cons, hl, List.filter_filter]
        congr 1
        apply List.filter_congr
        intro y _
        by_cases hy : y ∈ st.namelist
        · simp [hy]
        · simp [hy, show y ≠ l from fun e => hy (e ▸ hl)]
      · have hl := mt (h.mem l).mpr hs
        rw [if_neg hs]
        simp only [namesOf, List.filter_cons, hl, List.filter_filter, List.append_assoc, List.cons_append,
          List.nil_append]
        congr 2
        apply List.filter_congr
        intro y _
        by_cases hy : y ∈ st.namelist <;> by_cases e : y = l <;> simp [hy, e]

theorem foldl_acs (fs : List Fact) : ∀ (st : PState),
    (fs.foldl PState.apply st).formulaname = st.formulaname ++ (acsOf fs).map (·.1) ∧
    (fs.foldl PState.apply st).formulae = st.formulae ++ (acsOf fs).map (·.2) := by
  induction fs with
  | nil => intro st; simp [acsOf]
  | cons x fs ih =>
    intro st
    rw [List.foldl_cons]
    have := ih (st.apply x)
    cases x with
    | stmt l =>
      have e1 : (st.apply (Fact.stmt l)).formulaname = st.formulaname := by
        rw [apply_stmt]; split <;> rfl
      have e2 : (st.apply (Fact.stmt l)).formulae = st.formulae := by
        rw [apply_stmt]; split <;> rfl
      rw [e1, e2] at this
      simpa [acsOf] using this
    | ac l f => simpa [PState.apply, acsOf] using this

theorem ofFacts_spec (fs : List Fact) :
    (PState.ofFacts fs).namelist = namesOf fs ∧
    (∀ l, (PState.ofFacts fs).dictValue l = indexOf (namesOf fs) l) ∧
    (PState.ofFacts fs).formulaname = (acsOf fs).map (·.1) ∧
    (PState.ofFacts fs).formulae = (acsOf fs).map (·.2) ∧
    (PState.ofFacts fs).formulaOrder = ((acsOf fs).map (·.1)).mapM (indexOf (namesOf fs)) := by
  have h0 : DictOK {} := fun l => by simp [dictGet, indexOf]
  have hn : (PState.ofFacts fs).namelist = namesOf fs := by
    have e : ∀ xs : List Label, xs.filter (fun _ => true) = xs := fun xs => List.filter_eq_self.mpr fun _ _ => rfl
    simpa [PState.ofFacts, e] using foldl_names fs {} h0
  have hd : ∀ l, (PState.ofFacts fs).dictValue l = indexOf (namesOf fs) l :=
    fun l => hn ▸ foldl_dictOK fs {} h0 l
  have ha : (PState.ofFacts fs).formulaname = (acsOf fs).map (·.1) ∧
      (PState.ofFacts fs).formulae = (acsOf fs).map (·.2) := by
    simpa [PState.ofFacts] using foldl_acs fs {}
  refine ⟨hn, hd, ha.1, ha.2, ?_⟩
  unfold PState.formulaOrder
  rw [ha.1, show dictGet (PState.ofFacts fs).dict = indexOf (namesOf fs) from funext hd]

theorem namesOf_mem (fs : List Fact) (l : Label) : l ∈ namesOf fs ↔ Fact.stmt l ∈ fs := by
  fun_induction namesOf fs with
  | case1 => simp
  | case2 l' fs ih =>
    simp only [List.mem_cons, List.mem_filter, ih, Fact.stmt.injEq]
    by_cases e : l = l'
    · simp [e]
    · simp [e]
  | case3 l' f fs ih => simp [ih]

theorem namesOf_nodup (fs : List Fact) : (namesOf fs).Nodup := by
  fun_induction namesOf fs with
  | case1 => simp
  | case2 l' fs ih => exact List.nodup_cons.mpr ⟨by simp, ih.filter _⟩
  | case3 l' f fs ih => exact ih

def Fml.eval (σ : Label → Bool) : Fml → Bool
  | .top => true
  | .bot => false
  | .atom l => σ l
  | .not f => !(f.eval σ)
  | .and a b => a.eval σ && b.eval σ
  | .or a b => a.eval σ || b.eval σ
  | .imp a b => !(a.eval σ) || b.eval σ
  | .xor a b => a.eval σ != b.eval σ
  | .iff a b => a.eval σ == b.eval σ

end ParserM
