import AdfObdd.OpsModel
/-! Refinement: every sequence of diagram-building operations keeps the store well formed and
    every issued handle denotes the Boolean function the operations name (C06, C07). -/

structure HistOK (s : Store) (hist : List Nat) (fs : List BoolFn) : Prop where
  len : hist.length = fs.length
  ok : ∀ k, k < hist.length → hget hist k < s.nodes.size ∧ ∀ σ, eval s (hget hist k) σ = fget fs k σ

theorem HistOK.init : HistOK Store.init [0, 1] [fun _ => false, fun _ => true] := by
  refine ⟨rfl, fun k hk => ?_⟩
  match k, hk with
  | 0, _ => exact ⟨zero_lt _ WF_init, eval_zero _⟩
  | 1, _ => exact ⟨one_lt _ WF_init, eval_one _⟩

theorem hget_of_lt {l : List Nat} {k : Nat} (hk : k < l.length) : hget l k = l[k] :=
  (List.getElem_eq_getD 0).symm

theorem histOK_iff {s : Store} {hist : List Nat} {fs : List BoolFn} :
    HistOK s hist fs ↔ (∀ t ∈ hist, t < s.nodes.size) ∧ hist.map (eval s) = fs := by
  constructor
  · intro h
    refine ⟨fun t ht => ?_, List.ext_getElem (by rw [List.length_map, h.len]) fun k h1 h2 => funext fun σ => ?_⟩
    · obtain ⟨k, hk, rfl⟩ := List.getElem_of_mem ht
      rw [← hget_of_lt hk]
      exact (h.ok k hk).1
    · have hk : k < hist.length := by rwa [List.length_map] at h1
      have := (h.ok k hk).2 σ
      rwa [hget_of_lt hk, fget, List.getD_eq_getElem?_getD, List.getElem?_eq_getElem h2, Option.getD_some,
        ← List.getElem_map (eval s)] at this
  · rintro ⟨hv, rfl⟩
    refine ⟨(List.length_map _).symm, fun k hk => ?_⟩
    rw [hget_of_lt hk, fget, List.getD_eq_getElem?_getD, List.getElem?_map, List.getElem?_eq_getElem hk]
    exact ⟨hv _ (List.getElem_mem hk), fun _ => rfl⟩

theorem HistOK.ofValid (s : Store) (hist : List Nat) (h : ∀ t ∈ hist, t < s.nodes.size) :
    HistOK s hist (hist.map (eval s)) :=
  histOK_iff.mpr ⟨h, rfl⟩

theorem MemoT.histOK_of_bounds (s : Store) (hist : List Nat)
    (hh : ∀ k, k < hist.length → hget hist k < s.nodes.size) : HistOK s hist (hist.map (eval s)) :=
  .ofValid s hist fun t ht => by
    obtain ⟨k, hk, rfl⟩ := List.getElem_of_mem ht
    rw [← hget_of_lt hk]
    exact hh k hk

theorem HistOK.valid {s : Store} {hist : List Nat} {fs : List BoolFn} (h : HistOK s hist fs) :
    ∀ t ∈ hist, t < s.nodes.size :=
  (histOK_iff.mp h).1

theorem HistOK.good {s : Store} {hist : List Nat} {fs : List BoolFn} (h : HistOK s hist fs) (w : WF s) {k : Nat}
    (hk : k < hist.length) : Good s s (hget hist k) (fget fs k) :=
  ⟨w, Ext.refl s, (h.ok k hk).1, (h.ok k hk).2⟩

/-- C07 for one operation, from any well-formed store with any memo contents -/
theorem stepOp_good (s : Store) (hist : List Nat) (fs : List BoolFn) (op : Op)
    (w : WF s) (h : HistOK s hist fs) (hv : op.valid hist.length) :
    Good s (stepOp s hist op).1 (stepOp s hist op).2 (semOp fs op) := by
  cases op with
  | var v => exact opVar_good s w v hv
  | const b =>
    cases b with
    | true => exact ⟨w, Ext.refl _, one_lt s w, fun σ => eval_one s σ⟩
    | false => exact ⟨w, Ext.refl _, zero_lt s w, fun σ => eval_zero s σ⟩
  | not a =>
    have ⟨ha, ea⟩ := h.ok a hv
    exact (opNot_good s w _ ha).congr fun σ => by rw [ea σ]; rfl
  | and a b => exact Good.bin opAnd_good (h.good w hv.1) (h.good w hv.2)
  | or a b => exact Good.bin opOr_good (h.good w hv.1) (h.good w hv.2)
  | imp a b => exact Good.bin (F := fun x y => !x || y) opImp_good (h.good w hv.1) (h.good w hv.2)
  | iff a b => exact Good.bin opIff_good (h.good w hv.1) (h.good w hv.2)
  | xor a b => exact Good.bin opXor_good (h.good w hv.1) (h.good w hv.2)
  | restrict a v b =>
    have ⟨ha, ea⟩ := h.ok a hv
    have ⟨x, y, z, _, e⟩ := restrictF_spec (hget hist a + 1) s (hget hist a) v b w ha (Nat.lt_succ_self _)
    exact ⟨x, y, z, fun σ => (e σ).trans (ea _)⟩

/-- earlier handles keep their functions because the node table only grows -/
theorem HistOK.step (s : Store) (hist : List Nat) (fs : List BoolFn) (op : Op)
    (w : WF s) (h : HistOK s hist fs) (hv : op.valid hist.length) :
    HistOK (stepOp s hist op).1 (hist ++ [(stepOp s hist op).2]) (fs ++ [semOp fs op]) := by
  have g := stepOp_good s hist fs op w h hv
  obtain ⟨hval, rfl⟩ := histOK_iff.mp h
  refine histOK_iff.mpr ⟨fun t ht => ?_, ?_⟩
  · rcases List.mem_append.mp ht with h1 | h1
    · exact Nat.lt_of_lt_of_le (hval t h1) g.ext.1
    · rw [List.mem_singleton.mp h1]
      exact g.lt
  · rw [List.map_append, List.map_singleton, funext g.ev]
    exact congrArg (· ++ _) (map_eval_ext w g.ext hval)

theorem runOps_refines : ∀ (ops : List Op) (s : Store) (hist : List Nat) (fs : List BoolFn),
    WF s → HistOK s hist fs → opsValid ops hist.length →
    WF (runOps ops s hist).1 ∧ Ext s (runOps ops s hist).1 ∧
    HistOK (runOps ops s hist).1 (runOps ops s hist).2 (semOps ops fs) := by
  intro ops
  induction ops with
  | nil => intro s hist fs w h _; exact ⟨w, Ext.refl _, h⟩
  | cons op ops ih =>
    intro s hist fs w h hv
    have g := stepOp_good s hist fs op w h hv.1
    have h' := HistOK.step s hist fs op w h hv.1
    have hv' : opsValid ops (hist ++ [(stepOp s hist op).2]).length := by simpa using hv.2
    have ⟨a, b, c⟩ := ih _ _ _ g.wf h' hv'
    exact ⟨a, g.ext.trans b, c⟩
