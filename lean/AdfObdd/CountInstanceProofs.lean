import AdfObdd.CountInstance
/-! The concrete steps of `two_val_model_counts_logic` (`countParams`) satisfy the laws `GK.CSound`
    of the generic machine, for ANY target set `T` of total assignments for which the start vector is
    a residual vector (`ResT`). Invariant carried along: `WF s`, lengths, handle validity, `ResT`,
    and "`will_be[i]` constant ⇒ the vector holds the same constant" (`WB`). The cube closure, the goal value, the
    propagation pass, the restriction pass and the flip's assignment are `VecStep`s; `VecStep.law` gives the law of
    the cube step and of the flip step. -/
namespace CI

theorem consistentWith_iff {v wb : List Nat} : consistentWith v wb = true ↔
    ∀ (j x y : Nat), v[j]? = some x → wb[j]? = some y → isTV y = true → storeIsConst y = storeIsConst x := by
  unfold consistentWith
  rw [List.all_eq_true]
  constructor
  · intro h j x y hx hy
    exact noInfIncons_iff.mp (h (x, y) (List.mem_of_getElem? (List.getElem?_zip_eq_some.mpr ⟨hx, hy⟩)))
  · intro h p hp
    obtain ⟨j, hj⟩ := List.mem_iff_getElem?.mp hp
    have ⟨h1, h2⟩ := List.getElem?_zip_eq_some.mp hj
    exact noInfIncons_iff.mpr (h j p.1 p.2 h1 h2)

theorem consistent_of_WB {v wb : List Nat} (h : WB v wb) : consistentWith v wb = true :=
  consistentWith_iff.mpr fun j x y hx hy ht => by rw [Option.some.inj ((h j y hy ht).symm.trans hx)]

/-- for every target assignment extending the decided part, every entry evaluates to the value of
its own statement -/
def ResT (s : Store) (T : Asg → Prop) (v : List Nat) : Prop :=
  ∀ σ, T σ → Agree σ (d3 v) → ∀ (j t : Nat), v[j]? = some t → eval s t σ = σ j

def AllLt (s : Store) (v : List Nat) : Prop := ∀ t ∈ v, t < s.nodes.size

theorem AllLt.mono {s s' : Store} {v : List Nat} (h : AllLt s v) (e : Ext s s') : AllLt s' v :=
  fun t ht => Nat.lt_of_lt_of_le (h t ht) e.1

theorem AllLt.set {s : Store} {v : List Nat} (h : AllLt s v) {a : Nat} (ha : a < s.nodes.size) (i : Nat) :
    AllLt s (v.set i a) := fun t ht =>
  (List.mem_or_eq_of_mem_set ht).elim (h t) fun e => e ▸ ha

theorem ResT.mono {s s' : Store} {T : Asg → Prop} {v : List Nat} (h : ResT s T v) (w : WF s) (e : Ext s s')
    (hv : AllLt s v) : ResT s' T v := by
  intro σ t ha j x hj
  rw [eval_ext w e x σ (hv x (List.mem_of_getElem? hj))]
  exact h σ t ha j x hj

/-- Every step of the concrete search is a step on a residual vector `v`: it extends the store, keeps constants,
carries every target of `Tf` that agreed with `v` forward, writes what every assignment of the new region satisfies
(`Tb`), and leaves a vector residual for `Tr`. Closed under composition (`VecStep.trans`: what the first step wrote is
still there after the second, because constants stay); `VecStep.law` reads the machine's law off. -/
structure VecStep (n : Nat) (Tf Tb Tr : Asg → Prop) (s : Store) (v : List Nat) (r : Store × List Nat) : Prop where
  wf : WF r.1
  ext : Ext s r.1
  len : r.2.length = v.length
  val : AllLt r.1 r.2
  keep : Keeps v r.2
  agree : ∀ σ, Tf σ → Agree σ (d3 v) → Agree σ (d3 r.2)
  back : ∀ σ, RegI n (d3 r.2) σ → Tb σ
  res : ResT r.1 Tr r.2

theorem resT_mapS {f : Store → Nat → Store × Nat} {φ : Asg → Asg} (hf : StoreRA.Computes f fun g σ => g (φ σ))
    {T T' : Asg → Prop} {n : Nat}
    {s : Store} {v : List Nat} (w : WF s) (hv : AllLt s v) (hr : ResT s T v) (hT : ∀ σ, T' σ → T σ)
    (hφ : ∀ σ, T' σ → Agree σ (d3 v) → φ σ = σ) : VecStep n T' (fun _ => True) T' s v (mapS f s v) := by
  have ⟨w1, e1, v1, d1⟩ := mapS_store hf v s w hv
  have l1 := mapS_length f v s
  generalize mapS f s v = r at *
  rw [List.map_map] at d1
  -- every entry of the result comes from the entry of `v` at the same position
  have back : ∀ {j t' : Nat}, r.2[j]? = some t' → ∃ t, v[j]? = some t ∧ ∀ σ, eval r.1 t' σ = eval s t (φ σ) :=
    fun h => let ⟨t, ht, e⟩ := get_of_map_eq d1 h; ⟨t, ht, congrFun e⟩
  have keep : Keeps v r.2 := by
    intro j t hj ht
    obtain ⟨t', h1, h3⟩ := get_of_map_eq d1.symm hj
    obtain ⟨b, hb⟩ := isTV_iff.mp ht
    have : storeIsConst t' = some b :=
      const_of_eval w1 (v1 t' (List.mem_of_getElem? h1)) (fun σ => by rw [← congrFun h3 σ]; exact eval_const hb _)
    rw [h1, sic_inj this hb]
  refine ⟨w1, e1, l1, v1, keep, ?_, fun _ _ => trivial, ?_⟩
  · intro σ ht ha j b hj
    obtain ⟨t', hu, hb⟩ := d3_get_some.mp hj
    obtain ⟨t, h1, h3⟩ := back hu
    rw [← eval_const hb σ, h3 σ, hφ σ ht ha]
    exact (hr σ (hT σ ht) ha j t h1).symm
  · intro σ ht ha j t' hj
    obtain ⟨t, h1, h3⟩ := back hj
    have ha' : Agree σ (d3 v) := ha.mono keep.le3
    rw [h3 σ, hφ σ ht ha']
    exact hr σ (hT σ ht) ha' j t h1

/-- one propagation step (`update_interpretation_fixpoint`) on a residual vector -/
theorem prop_step {n : Nat} {T : Asg → Prop} {s : Store} {v : List Nat} (w : WF s) (hv : AllLt s v) (hr : ResT s T v) :
    VecStep n T (fun _ => True) T s v (applyVec s v v) := by
  rw [applyVec_eq]
  exact resT_mapS (computes_restrictBy v) w hv hr (fun _ h => h) (fun _ _ ha => over_of_agree ha)

section
variable {n : Nat} {s : Store} {v : List Nat} {Tf Tb Tr Tf' Tb' Tr' : Asg → Prop} {r r' : Store × List Nat}

theorem VecStep.refl (w : WF s) (hv : AllLt s v) (hr : ResT s Tr v) :
    VecStep n (fun _ => True) (fun _ => True) Tr s v (s, v) :=
  ⟨w, Ext.refl s, rfl, hv, fun _ _ h _ => h, fun _ _ h => h, fun _ _ => trivial, hr⟩

theorem VecStep.trans {s' : Store} {v' : List Nat} (h : VecStep n Tf Tb Tr s v (s', v')) (k : VecStep n Tf' Tb' Tr' s' v' r') :
    VecStep n (fun σ => Tf σ ∧ Tf' σ) (fun σ => Tb σ ∧ Tb' σ) Tr' s v r' :=
  ⟨k.wf, Ext.trans h.ext k.ext, k.len.trans h.len, k.val, h.keep.trans k.keep,
    fun σ t a => k.agree σ t.2 (h.agree σ t.1 a), fun σ hr => ⟨h.back σ (hr.mono k.keep.le3), k.back σ hr⟩, k.res⟩

theorem VecStep.weaken (h : VecStep n Tf Tb Tr s v r) (hf : ∀ σ, Tf' σ → Tf σ) (hb : ∀ σ, Tb σ → Tb' σ) :
    VecStep n Tf' Tb' Tr s v r :=
  { h with agree := fun σ t => h.agree σ (hf σ t), back := fun σ hr => hb σ (h.back σ hr) }

/-- a position that is undecided or already holds the constant of `b` is overwritten with that constant; outside the
vector nothing is written, and the assignments of a region are `false` there -/
theorem VecStep.over (w : WF s) (hv : AllLt s v) (hr : ResT s Tr v) (hl : v.length = n) (idx : Nat) {a : Nat} {b : Bool}
    (hab : storeIsConst a = some b) (hok : ∀ t, v[idx]? = some t → isTV t = true → t = a)
    (hin : n ≤ idx → b = false) :
    VecStep n (fun σ => σ idx = b) (fun σ => σ idx = b) Tr s v (s, v.set idx a) := by
  have keep : Keeps v (v.set idx a) := by
    intro j t hj ht
    by_cases e : idx = j
    · subst e; rw [List.getElem?_set_self (lt_length_of_get? hj), hok t hj ht]
    · rw [List.getElem?_set_ne e]; exact hj
  refine ⟨w, Ext.refl s, List.length_set, AllLt.set hv (by have := w.len; have := sic_lt hab; omega) idx,
    keep, ?_, ?_, ?_⟩
  · intro σ hb ha j c hj
    obtain ⟨x, hx, hc⟩ := d3_get_some.mp hj
    rcases get_set hx with ⟨rfl, rfl⟩ | ⟨_, hx⟩
    · rw [hab] at hc; cases hc; exact hb
    · exact ha j c (d3_get_some.mpr ⟨x, hx, hc⟩)
  · intro σ hreg
    rcases Nat.lt_or_ge idx n with h | h
    · exact hreg.1 idx b (d3_get_some.mpr ⟨a, List.getElem?_set_self (hl ▸ h), hab⟩)
    · rw [hin h]; exact hreg.2 idx h
  · intro σ ht ha j x hj
    rcases get_set hj with ⟨rfl, rfl⟩ | ⟨_, hx⟩
    · rw [eval_const hab]
      exact (ha j b (d3_get_some.mpr ⟨_, hj, hab⟩)).symm
    · exact hr σ ht (ha.mono keep.le3) j x hx

theorem VecStep.overAll (w : WF s) {a : Nat} {b : Bool} (hab : storeIsConst a = some b) :
    ∀ (vs : List Nat) {v : List Nat}, AllLt s v → ResT s Tr v → v.length = n →
    (∀ j ∈ vs, ∀ t, v[j]? = some t → isTV t = true → t = a) → (∀ j ∈ vs, n ≤ j → b = false) →
    VecStep n (fun σ => ∀ j ∈ vs, σ j = b) (fun σ => ∀ j ∈ vs, σ j = b) Tr s v (s, setAll a vs v)
  | [], _, hv, hr, _, _, _ => (VecStep.refl w hv hr).weaken (fun _ _ => trivial) (fun _ _ _ h => nomatch h)
  | j :: vs, v, hv, hr, hl, hok, hin => by
    have h := VecStep.over w hv hr hl j hab (hok j (List.mem_cons_self ..)) (hin j (List.mem_cons_self ..))
    have k := VecStep.overAll w hab vs h.val h.res (List.length_set.trans hl) (fun j' hj' t ht htv => by
      rcases get_set ht with ⟨_, e⟩ | ⟨_, ht⟩
      · exact e
      · exact hok j' (List.mem_cons_of_mem _ hj') t ht htv) (fun j' hj' => hin j' (List.mem_cons_of_mem _ hj'))
    exact (h.trans k).weaken (fun σ hσ => ⟨hσ j (List.mem_cons_self ..), fun j' hj' => hσ j' (List.mem_cons_of_mem _ hj')⟩)
      (fun σ hσ => List.forall_mem_cons.mpr hσ)

/-- the last act of the flip: position `idx`, undecided at the start, is overwritten with the constant of `b`. A target
that agrees with the new vector has `σ idx = b`, so the vector is residual for all of `Tr` again. -/
theorem VecStep.decide {idx a x : Nat} {b : Bool} (h : VecStep n Tf Tb (fun σ => Tr σ ∧ σ idx = b) s v r)
    (hTf : ∀ σ, Tr σ → σ idx = b → Tf σ) (ha : v[idx]? = some a) (hna : isTV a = false)
    (hab : storeIsConst x = some b) :
    VecStep n (fun σ => Tr σ ∧ σ idx = b) (fun σ => σ idx = b) Tr s v (r.1, r.2.set idx x) := by
  have keep : Keeps v (r.2.set idx x) := h.keep.set ha hna x
  have hself : (d3 (r.2.set idx x))[idx]? = some (some b) :=
    d3_get_some.mpr ⟨x, List.getElem?_set_self (h.len ▸ lt_length_of_get? ha), hab⟩
  have old : ∀ σ, Tr σ → σ idx = b → Agree σ (d3 v) → Agree σ (d3 r.2) := fun σ t q => h.agree σ (hTf σ t q)
  refine ⟨h.wf, h.ext, List.length_set.trans h.len,
    AllLt.set h.val (by have := h.wf.len; have := sic_lt hab; omega) idx, keep, ?_, fun σ hr => hr.1 idx b hself, ?_⟩
  · intro σ ⟨t, q⟩ hag j c hj
    obtain ⟨y, hy, hc⟩ := d3_get_some.mp hj
    rcases get_set hy with ⟨rfl, rfl⟩ | ⟨_, hy⟩
    · rw [hab] at hc; cases hc; exact q
    · exact old σ t q hag j c (d3_get_some.mpr ⟨y, hy, hc⟩)
  · intro σ t hag j y hj
    have q : σ idx = b := hag idx b hself
    rcases get_set hj with ⟨rfl, rfl⟩ | ⟨_, hy⟩
    · rw [eval_const hab, q]
    · exact h.res σ ⟨t, q⟩ (old σ t q (hag.mono keep.le3)) j y hy

end

structure CInv (n : Nat) (ac : List Nat) (T : Asg → Prop) (s : Store) (c : CState) : Prop where
  wf : WF s
  len1 : c.1.length = n
  len2 : c.2.length = n
  lenac : ac.length = n
  val : AllLt s c.1
  valac : AllLt s ac
  res : ResT s T c.1
  wb : WB c.1 c.2

/-- store order: node table only extended, well-formedness kept -/
def SLe (s s' : Store) : Prop := Ext s s' ∧ (WF s → WF s')

theorem sle_of {s s1 : Store} (e : Ext s s1) (w1 : WF s1) : SLe s s1 := ⟨e, fun _ => w1⟩
theorem SLe.refl (s : Store) : SLe s s := ⟨Ext.refl s, fun h => h⟩
theorem SLe.trans {a b c : Store} (h1 : SLe a b) (h2 : SLe b c) : SLe a c :=
  ⟨Ext.trans h1.1 h2.1, fun h => h2.2 (h1.2 h)⟩

def GoodO (n : Nat) (o : List Nat) : Prop := o.length = n ∧ ∀ t ∈ o, isTV t = true

def view (n : Nat) (ac : List Nat) (T : Asg → Prop) : GK.View Store CState PCube (List Nat) where
  n := n
  mu c := countSome (d3 c.1)
  Reg c σ := RegI n (d3 c.1) σ
  RegO o σ := RegI n (d3 o) σ
  InK := InPC
  Good := GoodO n
  Inv := CInv n ac T
  Le := SLe

theorem CInv.mono {n : Nat} {ac : List Nat} {T : Asg → Prop} {s s' : Store} {c : CState}
    (h : CInv n ac T s c) (l : SLe s s') : CInv n ac T s' c :=
  ⟨l.2 h.wf, h.len1, h.len2, h.lenac, h.val.mono l.1, h.valac.mono l.1, h.res.mono h.wf l.1 h.val, h.wb⟩

theorem sic_gT (g : Bool) : storeIsConst (if g then 1 else 0) = some g := sic_some.mpr rfl

/-- the laws of the machine for a step that decides `idx` as `b`: `Q` is the part of the region the step answers for -/
theorem VecStep.law {n : Nat} {ac : List Nat} {T Q : Asg → Prop} {c : CState} {wb' : List Nat} {idx a : Nat} {b : Bool}
    (hinv : CInv n ac T s c) (h : VecStep n (fun σ => T σ ∧ Q σ) Q T s c.1 r)
    (ha : c.1[idx]? = some a) (hna : isTV a = false) (hidx : (d3 r.2)[idx]? = some (some b))
    (hl : wb'.length = n) (hwb : WB r.2 wb') :
    CInv n ac T r.1 (r.2, wb') ∧ countSome (d3 c.1) < countSome (d3 r.2) ∧
    (∀ σ, RegI n (d3 r.2) σ → RegI n (d3 c.1) σ ∧ Q σ) ∧
    (∀ σ, T σ → RegI n (d3 c.1) σ → Q σ → RegI n (d3 r.2) σ) :=
  ⟨⟨h.wf, h.len.trans hinv.len1, hl, hinv.lenac, h.val, hinv.valac.mono h.ext, h.res, hwb⟩,
    countSome_lt (by rw [d3_length, d3_length, h.len]) h.keep.le3 (d3_get_none ha hna) hidx,
    fun σ hr => ⟨hr.mono h.keep.le3, h.back σ hr⟩, fun σ ht hr hq => ⟨h.agree σ ⟨ht, hq⟩ hr.1, hr.2⟩⟩

theorem cube_step_law {n : Nat} {ac : List Nat} {T : Asg → Prop} (useA : Bool) {s : Store} {c : CState}
    {idx a : Nat} {g : Bool} {cu : PCube}
    (hinv : CInv n ac T s c) (ha : c.1[idx]? = some a) (hna : isTV a = false)
    (hgv : (idx ∈ cu.1 → g = false) ∧ (idx ∈ cu.2 → g = true)) :
    SLe s ((countParams ac useA).cubeStep s c idx g cu).1 ∧
    (∀ c', ((countParams ac useA).cubeStep s c idx g cu).2 = some c' →
      CInv n ac T ((countParams ac useA).cubeStep s c idx g cu).1 c' ∧
      countSome (d3 c.1) < countSome (d3 c'.1) ∧
      (∀ σ, RegI n (d3 c'.1) σ → RegI n (d3 c.1) σ ∧ InPC cu σ ∧ σ idx = g) ∧
      (∀ σ, T σ → RegI n (d3 c.1) σ → InPC cu σ → σ idx = g → RegI n (d3 c'.1) σ)) ∧
    (((countParams ac useA).cubeStep s c idx g cu).2 = none →
      ∀ σ, T σ → RegI n (d3 c.1) σ → InPC cu σ → σ idx = g → False) := by
  obtain ⟨interp, wb⟩ := c
  simp only at ha
  cases happ : applyCube interp wb cu with
  | none =>
    simp only [countParams_cubeStep, happ]
    refine ⟨SLe.refl s, (fun c' h => by cases h), ?_⟩
    intro _ σ _ hr hc _
    exact applyCube_none hinv.len1 hinv.wb happ σ hr hc
  | some ni0 =>
    obtain ⟨h1, h2, rfl⟩ := applyCube_some_iff.mp happ
    -- the cube closure, the goal value and the propagation are steps on the residual vector
    have neg := VecStep.overAll (n := n) hinv.wf sic_zero cu.1 hinv.val hinv.res hinv.len1 (fun j hj t ht htv =>
      (isTV_cases htv).resolve_right fun e => (h1 j hj).1 (getD_of_get (e ▸ ht))) (fun _ _ _ => rfl)
    -- a positive literal lies inside the vector: outside, the loop reads `0`
    have pos := VecStep.overAll neg.wf sic_one cu.2 neg.val neg.res (neg.len.trans hinv.len1) (fun j hj t ht htv =>
      (isTV_cases htv).resolve_left fun e => (h2 j hj).1 (getD_of_get (e ▸ ht))) (fun j hj hjn =>
      absurd (getD_zero_iff.mpr (Or.inl (by rw [setAll_length, hinv.len1]; exact hjn))) (h2 j hj).1)
    have hidxn : idx < n := hinv.len1 ▸ lt_length_of_get? ha
    have gl := VecStep.over pos.wf pos.val pos.res (pos.len.trans (neg.len.trans hinv.len1)) idx (sic_gT g) (fun t ht htv => by
      -- a decided entry at the undecided position `idx` was written by a literal of the cube, whose sign is `g`
      rcases setAll_new ht with ht | ⟨hp, rfl⟩
      · rcases setAll_new ht with ht | ⟨hn, rfl⟩
        · rw [ha] at ht; cases ht; rw [hna] at htv; cases htv
        · rw [hgv.1 hn]; rfl
      · rw [hgv.2 hp]; rfl) (fun h => absurd hidxn (Nat.not_lt_of_le h))
    have pk := prop_step (n := n) gl.wf gl.val gl.res
    have st := (((neg.trans pos).trans gl).trans pk).weaken (Tf' := fun σ => T σ ∧ InPC cu σ ∧ σ idx = g)
      (Tb' := fun σ => InPC cu σ ∧ σ idx = g) (fun σ ⟨t, hc, hg⟩ => ⟨⟨hc, hg⟩, t⟩) (fun σ h => h.1)
    have hwb := Keeps.trans hinv.wb st.keep
    have atIdx : (d3 _)[idx]? = some (some g) := d3_get_some.mpr ⟨_, pk.keep _ _
      (List.getElem?_set_self (by rw [setAll_length, setAll_length, hinv.len1]; exact hidxn)) (isTV_iff.mpr ⟨_, sic_gT g⟩),
      sic_gT g⟩
    simp only [countParams_cubeStep, happ, consistent_of_WB hwb, if_true]
    refine ⟨sle_of st.ext st.wf, ?_, fun h => by cases h⟩
    intro c' hc'
    cases hc'
    have law := VecStep.law hinv st ha hna atIdx hinv.len2 hwb
    exact ⟨law.1, law.2.1, law.2.2.1, fun σ ht hr hc hg => law.2.2.2 σ ht hr ⟨hc, hg⟩⟩

/-- `interpr.map(|t| restrict(t, idx, b))` on a residual vector, for the targets with `σ idx = b` -/
theorem restrict_step {n : Nat} {T : Asg → Prop} {s : Store} {v : List Nat} (idx : Nat) (b : Bool)
    (w : WF s) (hv : AllLt s v) (hr : ResT s T v) :
    VecStep n (fun σ => T σ ∧ σ idx = b) (fun _ => True) (fun σ => T σ ∧ σ idx = b) s v (mapRestrict s idx b v) := by
  rw [mapRestrict_eq]
  exact resT_mapS (computes_restrictF idx b) w hv hr (fun _ h => h.1) (fun _ ht _ => upd_self ht.2)

theorem sic_other (g : Bool) : storeIsConst (if g then 0 else 1) = some (!g) := by cases g <;> rfl

theorem flip_step_law {n : Nat} {ac : List Nat} {T : Asg → Prop} (useA : Bool) {s : Store} {c : CState}
    {idx a : Nat} {g : Bool}
    (hinv : CInv n ac T s c) (ha : c.1[idx]? = some a) (hna : isTV a = false) :
    SLe s ((countParams ac useA).flipStep s c idx g).1 ∧
    (∀ c', ((countParams ac useA).flipStep s c idx g).2 = some c' →
      CInv n ac T ((countParams ac useA).flipStep s c idx g).1 c' ∧
      countSome (d3 c.1) < countSome (d3 c'.1) ∧
      (∀ σ, RegI n (d3 c'.1) σ → RegI n (d3 c.1) σ ∧ σ idx = !g) ∧
      (∀ σ, T σ → RegI n (d3 c.1) σ → σ idx = (!g) → RegI n (d3 c'.1) σ)) ∧
    (((countParams ac useA).flipStep s c idx g).2 = none →
      ∀ σ, T σ → RegI n (d3 c.1) σ → σ idx = (!g) → False) := by
  obtain ⟨interp, wb⟩ := c
  simp only at ha
  have rs := restrict_step (n := n) idx (!g) hinv.wf hinv.val hinv.res
  have pk := prop_step (n := n) rs.wf rs.val rs.res
  obtain ⟨nidx, hnidx, hsem⟩ := mapS_get (computes_restrictF idx (!g)) hinv.wf hinv.val ha
  rw [← mapRestrict_eq] at hnidx hsem
  simp only [countParams_flipStep, flipAns, getD_of_get hnidx]
  generalize mapRestrict s idx (!g) interp = ni at *
  generalize applyVec ni.1 ni.2 ni.2 = up at *
  have st := (rs.trans pk).decide (fun _ t q => ⟨⟨t, q⟩, t, q⟩) ha hna (sic_other g)
  have hsle : SLe s up.1 := sle_of st.ext st.wf
  -- the first test always succeeds
  have test1 : noInfIncons nidx (up.2.getD idx 0) = true :=
    noInfIncons_iff.mpr fun ht => by rw [getD_of_get (pk.keep idx nidx hnidx ht)]
  rw [if_pos test1]
  by_cases test2 : noInfIncons nidx (if g then 0 else 1) = true
  · rw [if_pos test2]
    refine ⟨hsle, ?_, fun h => by cases h⟩
    intro c' hc'
    cases hc'
    have hidxn : idx < n := by rw [← hinv.len1]; exact lt_length_of_get? ha
    have hself : (up.2.set idx (if g then 0 else 1))[idx]? = some (if g then 0 else 1) :=
      List.getElem?_set_self (by rw [pk.len, rs.len]; exact lt_length_of_get? ha)
    have hidx : (d3 (up.2.set idx (if g then 0 else 1)))[idx]? = some (some (!g)) :=
      d3_get_some.mpr ⟨_, hself, sic_other g⟩
    refine VecStep.law hinv st ha hna hidx (by rw [List.length_set, hinv.len2]) ?_
    -- `will_be[idx]` is the restricted entry: if that is a constant, the second test says which
    intro j t hj ht
    rcases get_set hj with ⟨rfl, rfl⟩ | ⟨_, hj⟩
    · obtain ⟨b, hb⟩ := isTV_iff.mp ht
      rw [hself, sic_inj hb ((noInfIncons_iff.mp test2 ht).symm.trans hb)]
    · exact st.keep j t (hinv.wb j t hj ht) ht
  · rw [if_neg test2]
    refine ⟨hsle, (fun c' h => by cases h), ?_⟩
    intro _ σ ht hr hg
    rw [noInfIncons_iff, Classical.not_imp] at test2
    obtain ⟨b, hb⟩ := isTV_iff.mp test2.1
    have hbg : b ≠ (!g) := by
      intro e
      apply test2.2
      rw [hb, sic_other, e]
    have h1 := hsem σ
    rw [eval_const hb, upd_self hg, hinv.res σ ht hr.1 idx a ha, hg] at h1
    exact hbg h1


/-- at a leaf every position is decided (`will_be` constant ⇒ vector constant) -/
theorem leaf_allTV {n : Nat} {ac : List Nat} {T : Asg → Prop} {useA : Bool} {s : Store} {c : CState}
    (hinv : CInv n ac T s c) (hp : (countParams ac useA).pick s c = none) :
    ∀ (j t : Nat), c.1[j]? = some t → isTV t = true := by
  intro j t hj
  rcases pick_none hp j t hj with h | h
  · exact h
  · have hjl : j < c.2.length := by rw [hinv.len2, ← hinv.len1]; exact lt_length_of_get? hj
    have hw : c.2[j]? = some c.2[j] := List.getElem?_eq_getElem hjl
    rw [getD_of_get hw] at h
    have := hinv.wb j _ hw h
    rw [hj] at this
    rw [Option.some.inj this]; exact h

theorem leaf_eq {n : Nat} {ac : List Nat} {T : Asg → Prop} {useA : Bool} {s : Store} {c : CState}
    (hinv : CInv n ac T s c) (hp : (countParams ac useA).pick s c = none) :
    (countParams ac useA).leaf s c = ((applyVec s c.1 ac).1, [c.1]) := by
  have htv := leaf_allTV hinv hp
  have hconc : leafVec c = c.1 := by
    apply List.ext_getElem?
    intro j
    rw [leafVec, List.getElem?_map, List.getElem?_zipIdx]
    cases hj : c.1[j]? with
    | none => rfl
    | some t => simp [htv j t hj]
  have l1 : (applyVec s c.1 ac).2.length = ac.length := by rw [applyVec_eq]; exact mapS_length _ ac s
  rw [countParams_leaf, hconc]
  simp only
  by_cases hc : consistentWith (applyVec s c.1 ac).2 c.1 = true
  · rw [if_pos hc]
    congr 2
    apply List.ext_getElem?
    intro j
    rcases Nat.lt_or_ge j n with hjn | hjn
    · obtain ⟨x, hx⟩ : ∃ x, (applyVec s c.1 ac).2[j]? = some x :=
        ⟨_, List.getElem?_eq_getElem (by rw [l1, hinv.lenac]; exact hjn)⟩
      obtain ⟨y, hy⟩ : ∃ y, c.1[j]? = some y := ⟨_, List.getElem?_eq_getElem (by rw [hinv.len1]; exact hjn)⟩
      have hty := htv j _ hy
      have e : storeIsConst y = storeIsConst x := consistentWith_iff.mp hc j x y hx hy hty
      obtain ⟨b, hb⟩ := isTV_iff.mp hty
      rw [hx, hy, sic_inj (e.symm.trans hb) hb]
    · rw [List.getElem?_eq_none (by rw [l1, hinv.lenac]; exact hjn),
        List.getElem?_eq_none (by rw [hinv.len1]; exact hjn)]
  · rw [if_neg hc]

theorem leaf_law {n : Nat} {ac : List Nat} {T : Asg → Prop} (useA : Bool) {s : Store} {c : CState}
    (hinv : CInv n ac T s c) (hp : (countParams ac useA).pick s c = none) :
    GK.Spec T (view n ac T) s c ((countParams ac useA).leaf s c) := by
  rw [leaf_eq hinv hp]
  have ⟨w1, e1, _, _⟩ := mapS_store (computes_restrictBy c.1) ac s hinv.wf hinv.valac
  rw [← applyVec_eq] at w1 e1
  refine ⟨sle_of e1 w1, ?_, ?_, List.pairwise_singleton _ _, ?_⟩
  · intro σ _ hr; exact ⟨c.1, List.mem_singleton.mpr rfl, hr⟩
  · intro o ho σ hr; rw [List.mem_singleton.mp ho] at hr; exact hr
  · intro o ho
    rw [List.mem_singleton.mp ho]
    refine ⟨hinv.len1, ?_⟩
    intro t ht
    obtain ⟨j, hj⟩ := List.mem_iff_getElem?.mp ht
    exact leaf_allTV hinv hp j t hj

theorem cubes_eq {ac : List Nat} {useA : Bool} {s : Store} {c : CState} {idx a : Nat} (g : Bool)
    (ha : c.1[idx]? = some a) : (countParams ac useA).cubes s c idx g = cubesF s (a+1) a g idx [] [] := by
  simp only [countParams_cubes, cubesOf, getD_of_get ha, Bool.false_eq_true, if_false]

/-- the concrete steps of `two_val_model_counts_logic` satisfy the laws of the generic machine, for
every target set `T` (the invariant says that the vector is residual w.r.t. `T`) and both heuristics -/
theorem csound (n : Nat) (ac : List Nat) (T : Asg → Prop) (useA : Bool) :
    GK.CSound T (countParams ac useA) (view n ac T) where
  le_refl := SLe.refl
  le_trans := fun _ _ _ => SLe.trans
  inv_mono := fun _ _ _ h l => CInv.mono h l
  bound := by
    intro s c hinv hp
    obtain ⟨idx, h⟩ := Option.ne_none_iff_exists'.mp hp
    obtain ⟨a, ha, hna, _⟩ := pick_some h
    have := countSome_lt_length (d3_get_none ha hna)
    rwa [d3_length, hinv.len1] at this
  leaf_law := fun _ _ hinv hp => leaf_law useA hinv hp
  cube_cover := by
    intro s c idx hinv hp σ ht hr hg
    obtain ⟨a, ha, hna, _⟩ := pick_some hp
    have hva : a < s.nodes.size := hinv.val a (List.mem_of_getElem? ha)
    have h2 : 2 ≤ a := by unfold isTV at hna; simpa using hna
    have hev : eval s a σ = (countParams ac useA).goal s c idx := by
      rw [hinv.res σ ht hr.1 idx a ha]; exact hg
    have := cubes_cover s hinv.wf (a+1) a _ idx [] [] σ hva (Nat.lt_succ_self _) h2
      ⟨by simp, by simp⟩ hg hev
    rw [cubes_eq _ ha]; exact this
  cube_disj := by
    intro s c idx hinv hp
    obtain ⟨a, ha, hna, _⟩ := pick_some hp
    have hva : a < s.nodes.size := hinv.val a (List.mem_of_getElem? ha)
    have := cubes_disjoint s hinv.wf (a+1) a ((countParams ac useA).goal s c idx) idx [] [] hva (Nat.lt_succ_self _)
    rw [cubes_eq _ ha]; exact this
  cube_step := by
    intro s0 s c idx cu hinv hp hle hmem
    obtain ⟨a, ha, hna, _⟩ := pick_some hp
    have hmem' : cu ∈ cubesF s0 (a+1) a ((countParams ac useA).goal s0 c idx) idx [] [] := by
      rw [cubes_eq _ ha] at hmem; exact hmem
    have hgc := cubes_goal_consistent s0 _ _ _ idx [] [] cu hmem'
    have hgv' : (idx ∈ cu.1 → (countParams ac useA).goal s0 c idx = false) ∧
        (idx ∈ cu.2 → (countParams ac useA).goal s0 c idx = true) :=
      ⟨fun h => Bool.eq_false_iff.mpr fun e => hgc.1 e List.not_mem_nil h,
        fun h => Bool.not_eq_false _ ▸ fun e => hgc.2 e List.not_mem_nil h⟩
    exact cube_step_law useA (CInv.mono hinv hle) ha hna hgv'
  flip_step := by
    intro s0 s c idx hinv hp hle
    obtain ⟨a, ha, hna, _⟩ := pick_some hp
    exact flip_step_law useA (CInv.mono hinv hle) ha hna

/-- the search of the code on a state satisfying the invariant: `n + 1` levels suffice -/
theorem countLogic_spec {n : Nat} {ac : List Nat} {T : Asg → Prop} (useA : Bool) {s : Store} {interp wb : List Nat}
    (hinv : CInv n ac T s (interp, wb)) :
    GK.Spec T (view n ac T) s (interp, wb) (countLogic ac useA (n + 1) s interp wb) :=
  GK.search_spec (csound n ac T useA) (n + 1) s (interp, wb) hinv (by show n - _ < n + 1; omega)

end CI
#print axioms CI.csound
#print axioms CI.countLogic_spec
