import AdfObdd.CliIO
import AdfObdd.CliModesProofs
import AdfObdd.JsonPersist
import AdfObdd.CallHistoryMemoFull
/-! # `CliM.runTextIO`: the file system is only ever extended by the requested path; export then
import prints the same lines; without the two options the run is `runText` -/
namespace CliM
open ParserM FromParser Cli CallH Persist Std CliMP

theorem FS.get_cons (p q : Path) (c : List Char) (fs : FS) :
    FS.get ((p, c) :: fs) q = if p = q then some c else FS.get fs q := rfl

theorem FS.mem_paths_iff {fs : FS} {p : Path} : p ∈ fs.paths ↔ ∃ c, fs.get p = some c := by
  induction fs with
  | nil => exact ⟨fun h => (by cases h), fun ⟨_, h⟩ => (by cases h)⟩
  | cons x r ih =>
    obtain ⟨q, d⟩ := x
    show p ∈ q :: FS.paths r ↔ _
    rw [FS.get_cons, List.mem_cons, ih]
    by_cases e : q = p
    · rw [if_pos e]; exact ⟨fun _ => ⟨d, rfl⟩, fun _ => Or.inl e.symm⟩
    · rw [if_neg e]; exact ⟨fun h => h.resolve_left fun h => e h.symm, Or.inr⟩

theorem FS.mem_paths_of_get {fs : FS} {p : Path} {c : List Char} (h : fs.get p = some c) : p ∈ fs.paths :=
  FS.mem_paths_iff.mpr ⟨c, h⟩

theorem FS.get_of_mem_paths {fs : FS} {p : Path} (h : p ∈ fs.paths) : ∃ c, fs.get p = some c :=
  FS.mem_paths_iff.mp h

theorem runObjIO_none (fuel : Nat) (io : InvIO) (ord : Orders) (o : NaiveObj) (fs : FS) (h : io.exportTo = none) :
    runObjIO fuel io ord o fs = ⟨outOn fuel io.inv o, fs, false⟩ := by
  unfold runObjIO; rw [h]

theorem runObjIO_has (fuel : Nat) (io : InvIO) (ord : Orders) (o : NaiveObj) (fs : FS) (p : Path)
    (h : io.exportTo = some p) (hx : fs.has p = true) :
    runObjIO fuel io ord o fs = ⟨outOn fuel io.inv o, fs, true⟩ := by
  unfold runObjIO; rw [h]; simp only [hx, if_true]

theorem runObjIO_free (fuel : Nat) (io : InvIO) (ord : Orders) (o : NaiveObj) (fs : FS) (p : Path)
    (h : io.exportTo = some p) (hx : fs.has p = false) :
    runObjIO fuel io ord o fs = ⟨outOn fuel io.inv o, (p, exportText o ord) :: fs, false⟩ := by
  unfold runObjIO; rw [h]; simp only [hx, Bool.false_eq_true, if_false]

theorem runObjIO_fs (fuel : Nat) (io : InvIO) (ord : Orders) (o : NaiveObj) (fs : FS) :
    ((runObjIO fuel io ord o fs).fs = fs ∧
      ((runObjIO fuel io ord o fs).refused = true ↔ ∃ p, io.exportTo = some p ∧ fs.has p = true)) ∨
    (∃ p, io.exportTo = some p ∧ fs.get p = none ∧ (runObjIO fuel io ord o fs).refused = false ∧
      (runObjIO fuel io ord o fs).fs = (p, exportText o ord) :: fs) := by
  cases he : io.exportTo with
  | none =>
    rw [runObjIO_none fuel io ord o fs he]
    exact Or.inl ⟨rfl, by simp⟩
  | some p =>
    cases hx : fs.has p with
    | true =>
      rw [runObjIO_has fuel io ord o fs p he hx]
      exact Or.inl ⟨rfl, by simp [hx]⟩
    | false =>
      rw [runObjIO_free fuel io ord o fs p he hx]
      refine Or.inr ⟨p, rfl, ?_, rfl, rfl⟩
      unfold FS.has at hx
      cases hg : fs.get p with
      | none => rfl
      | some c => rw [hg] at hx; simp at hx

theorem runObjIO_out (fuel : Nat) (io : InvIO) (ord : Orders) (o : NaiveObj) (fs : FS) :
    (runObjIO fuel io ord o fs).out = outOn fuel io.inv o := by
  cases he : io.exportTo with
  | none => rw [runObjIO_none fuel io ord o fs he]
  | some p =>
    cases hx : fs.has p with
    | true => rw [runObjIO_has fuel io ord o fs p he hx]
    | false => rw [runObjIO_free fuel io ord o fs p he hx]

theorem runTextIO_fs {T : Type} (W : World T) (fuel : Nat) (io : InvIO) (ord : Orders) (t : List Char) (fs : FS) :
    (runTextIO W fuel io ord t fs).fs = fs ∨
    (∃ p o, io.exportTo = some p ∧ fs.get p = none ∧ io.inv.mode = .naive ∧ objOf W io t = some o ∧
      (runTextIO W fuel io ord t fs).refused = false ∧
      (runTextIO W fuel io ord t fs).fs = (p, exportText o ord) :: fs) := by
  unfold runTextIO
  cases hm : io.inv.mode with
  | naive =>
    simp only
    cases ho : objOf W io t with
    | none => exact Or.inl rfl
    | some o =>
      simp only
      rcases runObjIO_fs fuel io ord o fs with h | ⟨p, h1, h2, h3, h4⟩
      · exact Or.inl h.1
      · exact Or.inr ⟨p, o, h1, h2, trivial, rfl, h3, h4⟩
  | biodivine => exact Or.inl rfl
  | hybrid => exact Or.inl rfl

theorem secNaive_lock (fuel : Nat) (heu : SM.Heu) (n : Nat) (ac : List Nat) (sec : Section) (s s' : Store)
    (h : Lk s s') :
    (secNaive fuel heu n ac sec s).2 = (secNaive fuel heu n ac sec s').2 ∧
    Lk (secNaive fuel heu n ac sec s).1 (secNaive fuel heu n ac sec s').1 := by
  rw [CliF.secNaive_eq_F, CliF.secNaive_eq_F]
  cases sec with
  | grd =>
    have ⟨d, a⟩ := groundedLoop_sim lk_sim (n + 1) s s' ac h
    simp only [CliF.runSectionF_grd, d]
    exact ⟨trivial, a⟩
  | com =>
    have ⟨d, a⟩ := completeAllG_sim lk_sim s s' n ac h
    rw [completeAllG_store, completeAllG_store] at d a
    simp only [CliF.runSectionF_com, d]
    exact ⟨trivial, a⟩
  | twoval =>
    have ⟨d, a⟩ := ngSearch_sim heu fuel s s' n ac false h
    simp only [CliF.runSectionF_twoval, d]
    exact ⟨trivial, a⟩
  | stmng =>
    have ⟨d, a⟩ := ngSearch_sim heu fuel s s' n ac true h
    simp only [CliF.runSectionF_stmng, d]
    exact ⟨trivial, a⟩
  | stm => rw [CliF.runSectionF_stm, CliF.runSectionF_stm]; exact stableAll_lock s s' n ac h
  | stmrew => rw [CliF.runSectionF_stmrew, CliF.runSectionF_stmrew]; exact stableAll_lock s s' n ac h
  | stmpre => rw [CliF.runSectionF_stmpre, CliF.runSectionF_stmpre]; exact stablePre_lock s s' n ac h
  | stmca => rw [CliF.runSectionF_stmca, CliF.runSectionF_stmca]; exact countAll_sim s s' n ac true h
  | stmcb => rw [CliF.runSectionF_stmcb, CliF.runSectionF_stmcb]; exact countAll_sim s s' n ac false h

/-- **the printed blocks are a function of the node table**: the same sections on two well-formed stores
with the same node table (memo tables and unique-table layout arbitrary) give the same list of blocks -
vectors, order, for every bound `fuel` (halted or not) -/
theorem runWith_lock (fuel : Nat) (heu : SM.Heu) (n : Nat) (ac : List Nat) :
    ∀ (l : List Section) (acc acc' : Store × List Block), Lk acc.1 acc'.1 → acc'.2 = acc.2 →
      (runWith (secNaive fuel heu n ac) l acc').2 = (runWith (secNaive fuel heu n ac) l acc).2 := by
  intro l
  induction l with
  | nil => intro acc acc' _ e; exact e
  | cons sec rest ih =>
    intro acc acc' h e
    simp only [runWith]
    have ⟨d, a⟩ := secNaive_lock fuel heu n ac sec acc.1 acc'.1 h
    exact ih _ _ a (by simp only [e, d])

/-- the object `importObj` builds from the export of `o` -/
def reimported (o : NaiveObj) (ord : Orders) : NaiveObj where
  names := (o.names.map String.ofList).map String.toList
  mapping := HashMap.ofList ord.ml
  store := (fixImport (importB ⟨o.store.nodes.toList.toArray, ord.cl⟩)).st
  ac := o.ac
  n := o.ac.length

/-- `--import` on the text `--export` wrote: the object read has the names, the conditions, `n` and the
NODE TABLE of the exporting object, and a well-formed store -/
theorem importObj_exportText (o : NaiveObj) (ord : Orders) (w : WF o.store) (hn : o.ac.length = o.n)
    (hcl : ord.cl.Perm o.store.uniq.toList) (f : Json.Fits (textAdfOf o ord)) :
    ∃ o', importObj (exportText o ord) = some o' ∧ o'.names = o.names ∧ o'.ac = o.ac ∧ o'.n = o.n ∧
      Lk o.store o'.store ∧ (∀ k : String, o'.mapping[k]? = (HashMap.ofList ord.ml)[k]?) := by
  refine ⟨reimported o ord,
    by simp only [importObj, exportText, Json.parse_print _ f]; rfl, by simp [reimported], rfl, hn, ?_,
    fun _ => rfl⟩
  refine ⟨w, ?_, ?_⟩
  · refine WF_of_same o.store _ w ?_ ?_ (fun _ => HashMap.getElem?_empty) (fun _ => HashMap.getElem?_empty)
    · simp [reimported, fixImport, importB]
    · intro nd
      exact Persist.ofList_perm_get _ ord.cl hcl nd
  · simp [reimported, fixImport, importB]

theorem outOn_import_export (fuel : Nat) (i i' : Inv) (hf : i'.flags = i.flags) (hh : i'.heu = i.heu)
    (o o' : NaiveObj) (hnm : o'.names = o.names) (hac : o'.ac = o.ac) (hn' : o'.n = o.n) (lk : Lk o.store o'.store) :
    blocksOn fuel i' o' = blocksOn fuel i o ∧ outOn fuel i' o' = outOn fuel i o := by
  have hb : blocksOn fuel i' o' = blocksOn fuel i o := by
    unfold blocksOn
    rw [hf, hh, hac, hn']
    exact runWith_lock fuel i.heu o.n o.ac (sections .naive i.flags) (o.store, []) (o'.store, []) lk rfl
  exact ⟨hb, by unfold outOn; rw [hb, hnm]⟩

theorem parsedObj_ok {T : Type} (W : World T) (han : ∀ ns, (W.anSort ns).Perm ns) (i : Inv) (t : List Char)
    (o : NaiveObj) (h : parsedObj W i t = some o) (hsz : o.names.length ≤ VBOT) :
    WF o.store ∧ o.ac.length = o.n ∧ o.n = o.names.length ∧ (∀ a ∈ o.ac, a < o.store.nodes.size) := by
  unfold parsedObj at h
  cases hp : parsed W i t with
  | none => rw [hp] at h; cases h
  | some st =>
    rw [hp] at h
    obtain ⟨b, hf, rfl⟩ := Option.map_eq_some_iff.mp h
    simp only at hsz ⊢
    obtain ⟨fs, _, _, pres⟩ := parsed_pres W han i t st hp
    have hwf : WfOn (sortedNames W.anSort i.sort (namesOf fs)) (acsOf fs) :=
      (SortModel.fromParser_presents_isSome_iff pres.p).mp (by rw [hf]; rfl)
    rw [pres.nl] at hsz
    obtain ⟨_, s, ac, _, hfp, hl, hd, _⟩ := items_facts pres hwf hsz
    rw [hf] at hfp
    cases hfp
    exact ⟨hd.wf, by rw [hl, pres.p.size], by rw [pres.p.size, pres.nl], hd.valid⟩

theorem runTextIO_plain {T : Type} (W : World T) (fuel : Nat) (i : Inv) (e : Option Path) (ord : Orders)
    (t : List Char) (fs : FS) : (runTextIO W fuel ⟨i, e, false⟩ ord t fs).out = runText W fuel i t := by
  unfold runTextIO runText
  cases hm : i.mode with
  | naive =>
    simp only [objOf, parsedObj, runParsed, hm, Bool.false_eq_true, if_false]
    cases parsed W i t with
    | none => rfl
    | some st =>
      simp only [runNaive]
      cases fromParser st with
      | none => rfl
      | some b => simp only [Option.map_some]; rw [runObjIO_out]; rfl
  | biodivine => simp only
  | hybrid => simp only

theorem runTextIO_naive {T : Type} (W : World T) (fuel : Nat) (io : InvIO) (ord : Orders) (t : List Char) (fs : FS)
    (hm : io.inv.mode = .naive) (o : NaiveObj) (ho : objOf W io t = some o) :
    runTextIO W fuel io ord t fs = runObjIO fuel io ord o fs := by
  unfold runTextIO; rw [hm]; simp only [ho]

theorem runTextIO_naive_none {T : Type} (W : World T) (fuel : Nat) (io : InvIO) (ord : Orders) (t : List Char) (fs : FS)
    (hm : io.inv.mode = .naive) (ho : objOf W io t = none) :
    runTextIO W fuel io ord t fs = ⟨rejected, fs, false⟩ := by
  unfold runTextIO; rw [hm]; simp only [ho]

theorem runTextIO_other {T : Type} (W : World T) (fuel : Nat) (io : InvIO) (ord : Orders) (t : List Char) (fs : FS)
    (hm : io.inv.mode ≠ .naive) : runTextIO W fuel io ord t fs = ⟨runText W fuel io.inv t, fs, false⟩ := by
  unfold runTextIO
  cases h : io.inv.mode with
  | naive => exact absurd h hm
  | biodivine => rfl
  | hybrid => rfl

theorem runTextIO_keeps {T : Type} (W : World T) (fuel : Nat) (io : InvIO) (ord : Orders) (t : List Char) (fs : FS)
    (q : Path) (c : List Char) (h : fs.get q = some c) : (runTextIO W fuel io ord t fs).fs.get q = some c := by
  rcases runTextIO_fs W fuel io ord t fs with e | ⟨p, o, _, hfree, _, _, _, e⟩
  · rw [e]; exact h
  · rw [e, FS.get_cons]
    have : p ≠ q := by intro hpq; subst hpq; rw [hfree] at h; cases h
    rw [if_neg this]; exact h

/-- every number of the export of a well-formed object with at most 2^64 nodes is a `usize` -/
theorem fits_of_ok (o : NaiveObj) (ord : Orders) (w : WF o.store) (hsz : o.store.nodes.size ≤ Json.B64)
    (hv : ∀ t ∈ o.ac, t < o.store.nodes.size) (hml : ∀ kv ∈ ord.ml, kv.2 < Json.B64)
    (hcl : ord.cl.Perm o.store.uniq.toList) : Json.Fits (textAdfOf o ord) := by
  have F := Json.fitsA_of_wf ⟨o.names.map String.ofList, ⟨o.store, #[], {}⟩, o.ac⟩ (∅ : HashMap String Nat) [] ord.cl
    w hsz hv (fun k v h => by simp at h) (by simp) hcl
  exact ⟨hml, F.nodes, F.cache, F.ac⟩

/-- **export, then import, from the built object on**: the run that exports a well-formed object to a free
path writes its JSON text there; a run with `--import` on that file (same section flags and heuristic;
any sorting flag, any further `--export`) prints the same blocks - vectors and order, whatever the
bound `fuel` - and hence the same lines with the same exit status -/
theorem export_then_import_obj {T : Type} (W : World T) (fuel : Nat) (io : InvIO) (i' : Inv)
    (hm' : i'.mode = .naive) (hf : i'.flags = io.inv.flags) (hh : i'.heu = io.inv.heu)
    (p : Path) (he : io.exportTo = some p) (ord ord' : Orders) (fs : FS) (free : fs.get p = none)
    (o : NaiveObj) (w : WF o.store) (hn : o.ac.length = o.n)
    (hcl : ord.cl.Perm o.store.uniq.toList) (fits : Json.Fits (textAdfOf o ord)) (e' : Option Path) :
    let r1 := runObjIO fuel io ord o fs
    r1.fs = (p, exportText o ord) :: fs ∧ r1.refused = false ∧ r1.out = outOn fuel io.inv o ∧
    (∃ o', importObj (exportText o ord) = some o' ∧ o'.names = o.names ∧ o'.ac = o.ac ∧
      o'.store.nodes = o.store.nodes ∧ blocksOn fuel i' o' = blocksOn fuel io.inv o) ∧
    (runFileIO W fuel ⟨i', e', true⟩ ord' p r1.fs).out = r1.out := by
  intro r1
  have hx : fs.has p = false := by unfold FS.has; rw [free]; rfl
  have e1 : r1 = ⟨outOn fuel io.inv o, (p, exportText o ord) :: fs, false⟩ := runObjIO_free fuel io ord o fs p he hx
  obtain ⟨o', hi, hnm, hac, hn', lk, _⟩ := importObj_exportText o ord w hn hcl fits
  have ⟨hb, ho⟩ := outOn_import_export fuel io.inv i' hf hh o o' hnm hac hn' lk
  refine ⟨by rw [e1], by rw [e1], by rw [e1], ⟨o', hi, hnm, hac, lk.nodes, hb⟩, ?_⟩
  rw [e1]
  simp only
  unfold runFileIO
  rw [FS.get_cons, if_pos rfl]
  simp only
  rw [runTextIO_naive W fuel ⟨i', e', true⟩ ord' _ _ hm' o' (by simp only [objOf, if_true]; exact hi), runObjIO_out]
  exact ho

end CliM
