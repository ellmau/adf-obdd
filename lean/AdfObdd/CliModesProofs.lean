import AdfObdd.CliModes
import AdfObdd.CliFaithful
import AdfObdd.BioProofs
import AdfObdd.SortProofs
/-! # `CliM.runText` answers what the specification answers

Every arm builds from a parser object that presents a permutation of the declared names and the written
conditions (`parsed_pres`); on it every block is, as a multiset of three-valued interpretations, the
specification's answer for its section (`runParsed_faithful`, from the text `runText_faithful`). A text
the parser refuses and a construction that panics give exit status 101 and an empty stdout. -/
namespace CliMP
open CliM ParserM FromParser Cli SortModel

def sortedNames (an : List Label → List Label) : Sorting → List Label → List Label
  | .none, ns => ns
  | .lx, ns => isort byteLe ns
  | .an, ns => an ns

/-- `Presents` leaves `namelist` free; `render` and the library's name map (`workListBio`) read it -/
structure Pres (st : PState) (names : List Label) (acs : List (Label × Fml)) : Prop where
  p : Presents st names acs
  nl : st.namelist = names

theorem pres_ofFacts (fs : List Fact) : Pres (PState.ofFacts fs) (namesOf fs) (acsOf fs) :=
  ⟨presents_ofFacts fs, (ofFacts_spec fs).1⟩

theorem pres_resort {st : PState} {names : List Label} {acs : List (Label × Fml)}
    (h : Pres st names acs) (ns' : List Label) (hp : ns'.Perm names) : Pres (st.resort ns') ns' acs :=
  ⟨presents_resort h.p ns' hp, rfl⟩

theorem sortedNames_perm (an : List Label → List Label) (han : ∀ ns, (an ns).Perm ns) (so : Sorting)
    (ns : List Label) : (sortedNames an so ns).Perm ns := by
  cases so with
  | none => exact List.Perm.refl _
  | lx => exact isort_perm _ _
  | an => exact han ns

theorem pres_sortState (an : List Label → List Label) (han : ∀ ns, (an ns).Perm ns) (so : Sorting)
    {st : PState} {names : List Label} {acs : List (Label × Fml)} (h : Pres st names acs) :
    Pres (sortState an so st) (sortedNames an so names) acs := by
  obtain ⟨hp, rfl⟩ := h
  cases so with
  | none => exact ⟨hp, rfl⟩
  | lx => exact pres_resort ⟨hp, rfl⟩ _ (isort_perm _ _)
  | an => exact pres_resort ⟨hp, rfl⟩ _ (han _)

/-- **the parser object an arm builds from**: the text is the spelling of a unique non-empty list
of facts `fs`; the object presents the declared names in the order the sorting flag asks for — as
dictionary, as `namelist` — and the conditions of the file in file order -/
theorem parsed_pres {T : Type} (W : World T) (han : ∀ ns, (W.anSort ns).Perm ns) (i : Inv) (t : List Char)
    (st : PState) (h : parsed W i t = some st) :
    ∃ fs, fs ≠ [] ∧ DerFile fs t ∧ Pres st (sortedNames W.anSort i.sort (namesOf fs)) (acsOf fs) := by
  obtain ⟨st0, hp, rfl⟩ := Option.map_eq_some_iff.mp h
  obtain ⟨fs, hne, hder, rfl⟩ := parse_some_der t st0 hp
  exact ⟨fs, hne, hder, pres_sortState W.anSort han i.sort (pres_ofFacts fs)⟩

theorem parsed_of_der {T : Type} (W : World T) (i : Inv) (t : List Char) (fs : List Fact) (hd : DerFile fs t)
    (hne : fs ≠ []) : parsed W i t = some (sortState W.anSort i.sort (PState.ofFacts fs)) := by
  unfold parsed
  rw [parse_of_der fs t hd hne]; rfl

theorem workListBio_eq {st : PState} {names : List Label} {acs : List (Label × Fml)}
    (h : Pres st names acs) : workListBio st = workList st := by
  have hd : dictGet st.dict = indexOf st.namelist := by
    funext l; rw [h.nl]; exact h.p.dict l
  unfold workListBio workList
  rw [← hd]
  rfl

def WfOn (names : List Label) (acs : List (Label × Fml)) : Prop :=
  ∀ lf ∈ acs, lf.1 ∈ names ∧ ∀ a ∈ atomsOf lf.2, a ∈ names

/-- **a text the parser refuses**: every arm panics before anything is printed -/
theorem runText_rejects_unparsed {T : Type} (W : World T) (fuel : Nat) (i : Inv) (t : List Char)
    (h : parse t = none) : runText W fuel i t = CliM.rejected := by
  unfold runText parsed
  rw [h]; rfl

/-- **a parsed text on which `from_parser` panics** (a condition for an undeclared label, an
undeclared atom): every arm — the library-side `from_parser` of the other two arms panics on the same
objects — exits with status 101 and prints nothing -/
theorem runText_rejects_panic {T : Type} (W : World T) (han : ∀ ns, (W.anSort ns).Perm ns) (fuel : Nat)
    (i : Inv) (t : List Char) (st : PState) (hp : parsed W i t = some st) (hb : fromParser st = none) :
    runText W fuel i t = CliM.rejected := by
  obtain ⟨fs, _, _, pres⟩ := parsed_pres W han i t st hp
  have hw : workList st = none := Option.map_eq_none_iff.mp hb
  have hwb : workListBio st = none := by rw [workListBio_eq pres]; exact hw
  unfold runText
  rw [hp]
  simp only
  have : runParsed W fuel i st = none := by
    unfold runParsed
    cases i.mode with
    | naive => simp only [runNaive, hb, Option.map_none]
    | biodivine => simp only [runBio, bioBuild, hwb, Option.map_none]; split <;> rfl
    | hybrid => simp only [runHybrid, bioBuild, hwb, Option.map_none]; split <;> rfl
  rw [this]

theorem render_go (names : List Label) : ∀ (v : List Nat) (k : Nat), k + v.length = names.length →
    (v.zipIdx k).flatMap (fun p => entry (names.getD p.2 []) p.1) =
      (List.zipWith entry (names.drop k) v).flatten := by
  intro v
  induction v with
  | nil => intro k _; simp
  | cons x v ih =>
    intro k hk
    rw [List.length_cons] at hk
    have hlt : k < names.length := by omega
    rw [List.drop_eq_getElem_cons hlt, List.zipIdx_cons, List.flatMap_cons, List.zipWith_cons_cons,
      List.flatten_cons, ih (k + 1) (by omega), List.getD_eq_getElem?_getD, List.getElem?_eq_getElem hlt,
      Option.getD_some]

/-- **the line of an interpretation**: the concatenation, in statement order, of one entry per
statement — the mark of ITS value, then ITS name in brackets, then a blank -/
theorem render_spec (names : List Label) (v : List Nat) (hl : v.length = names.length) :
    render names v = (List.zipWith entry names v).flatten := by
  have := render_go names v 0 (by omega)
  simpa [render] using this

/-- the index-level Boolean functions of the presented framework: position `p` carries the function
of the last condition written for `names[p]` (⊥ if there is none), atoms read at their positions -/
def condsOn (names : List Label) (acs : List (Label × Fml)) : List BoolFn :=
  condFnsOn names (fun l => (lastCond acs l).getD .bot)

/-- the truth tables of `D` over `n` variables, the input of the executable specification (`specSection`) -/
def tablesD (n : Nat) (D : List BoolFn) : List Nat := D.map (fun f => TT.ofFn n (fun a => f (TT.bitsAsg a)))

theorem condsOn_length (names : List Label) (acs : List (Label × Fml)) : (condsOn names acs).length = names.length := by
  simp [condsOn, condFnsOn]

theorem condsOn_det (names : List Label) (acs : List (Label × Fml)) :
    ∀ f ∈ condsOn names acs, TT.DetBy names.length f := by
  intro f hf
  obtain ⟨l, _, rfl⟩ := List.mem_map.mp hf
  intro σ σ' hag
  have : labelAsg (indexOf names) σ = labelAsg (indexOf names) σ' := by
    funext a
    unfold labelAsg
    cases hi : indexOf names a with
    | none => rfl
    | some k => exact hag k (indexOf_lt _ _ _ hi)
  simp only [this]

theorem reps_condsOn (names : List Label) (acs : List (Label × Fml)) :
    SpecSound.Reps names.length (tablesD names.length (condsOn names acs)) (condsOn names acs) :=
  SpecSound.reps_ofFn _ _ (condsOn_det names acs)

theorem resolve_atomsLt (d : Label → Option Nat) (n : Nat) (hd : ∀ l p, d l = some p → p < n) (f : Fml) :
    ∀ (φ : Fm), resolveFml d f = some φ → NConc.atomsLt n φ := by
  induction f with
  | top | bot => intro φ h; cases h; trivial
  | atom l =>
    intro φ h
    obtain ⟨i, hi, rfl⟩ := Option.map_eq_some_iff.mp h
    exact hd l i hi
  | not f ih =>
    intro φ h
    obtain ⟨x, hx, rfl⟩ := Option.map_eq_some_iff.mp h
    exact ih x hx
  | and a b iha ihb | or a b iha ihb | imp a b iha ihb | xor a b iha ihb | iff a b iha ihb =>
    intro φ h
    simp only [resolveFml] at h
    split at h
    · rename_i x y ha hb
      cases h
      exact ⟨iha x ha, ihb y hb⟩
    · cases h

theorem items_facts {st : PState} {names : List Label} {acs : List (Label × Fml)}
    (h : Pres st names acs) (hwf : WfOn names acs) (hn : names.length ≤ VBOT) :
    ∃ items s ac, workList st = some items ∧ fromParser st = some (s, ac) ∧ ac.length = names.length ∧
      Denotes s ac (condsOn names acs) ∧
      (placeFm (List.replicate names.length Fm.bot) items).map Fm.sem = condsOn names acs ∧
      (∀ pf ∈ items, NConc.atomsLt names.length pf.2) := by
  obtain ⟨⟨s, ac⟩, hfp⟩ := Option.isSome_iff_exists.mp ((fromParser_presents_isSome_iff h.p).mpr hwf)
  obtain ⟨items, hw, _⟩ := Option.map_eq_some_iff.mp hfp
  have hi : omap (itemOf names) acs = some items := by rw [← workList_presents h.p]; exact hw
  have hlt : ∀ pf ∈ items, NConc.atomsLt names.length pf.2 := by
    intro pf hpf
    obtain ⟨lf, _, hlf⟩ := omap_mem _ _ _ hi pf hpf
    exact resolve_atomsLt _ _ (fun l p hl => indexOf_lt _ _ _ hl) _ _ (itemOf_eq_some.mp hlf).2
  have ⟨a, b, c, d⟩ := fromParser_presents_correct h.p s ac hfp hn
  exact ⟨items, s, ac, hw, hfp, b, ⟨a, c, d⟩, placeFm_items h.p.nodup hi, hlt⟩

theorem fmToBExpr_eq : ∀ φ : Fm, fmToBExpr φ = φ.toBExpr := by
  intro φ
  induction φ with
  | top | bot | atom v => rfl
  | not f ih => simp only [fmToBExpr, Fm.toBExpr, ih]
  | and a b iha ihb | or a b iha ihb | imp a b iha ihb | xor a b iha ihb | iff a b iha ihb =>
    simp only [fmToBExpr, Fm.toBExpr, iha, ihb]

theorem fmToBExpr_sem (φ : Fm) : (fmToBExpr φ).sem = φ.sem := by
  rw [fmToBExpr_eq]; exact φ.toBExpr_sem

theorem fmToBExpr_closed (n : Nat) (φ : Fm) (h : NConc.atomsLt n φ) : (fmToBExpr φ).closed n = true := by
  rw [fmToBExpr_eq]; exact φ.toBExpr_closed h

section lib
variable {T : Type} {L : Bio.Lib T} {n : Nat} (W : Bio.Lawful L n)

theorem fmToBExpr_closed_all {items : List (Nat × Fm)} (hcl : ∀ pf ∈ items, NConc.atomsLt n pf.2) :
    ∀ φ ∈ items.map (fun pf => fmToBExpr pf.2), φ.closed n = true := by
  intro φ hφ
  obtain ⟨pf, hpf, rfl⟩ := List.mem_map.mp hφ
  exact fmToBExpr_closed n pf.2 (hcl pf hpf)

/-- the placement loop of the library-side `from_parser`, in lock-step with the formula-level loop -/
theorem fold_place : ∀ (items : List (Nat × Fm)) (acc : List T) (D : List Fm),
    acc.map W.den = D.map Fm.sem → (∀ pf ∈ items, NConc.atomsLt n pf.2) →
    ((items.map fun pf => (pf.1, fmToBExpr pf.2)).foldl (fun ac p => ac.set p.1 (L.evalExpr p.2)) acc).map W.den =
      (placeFm D items).map Fm.sem := by
  intro items
  induction items with
  | nil => intro acc D hD _; exact hD
  | cons pf r ih =>
    intro acc D hD hcl
    have ed := (W.evalExpr_spec _ (fmToBExpr_closed n pf.2 (hcl pf (List.mem_cons_self ..)))).2
    simp only [List.map_cons, List.foldl_cons, placeFm]
    exact ih _ (D.set pf.1 pf.2) (by rw [List.map_set, List.map_set, hD, ed, fmToBExpr_sem])
      (fun q hq => hcl q (List.mem_cons_of_mem _ hq))

theorem acOf_items (items : List (Nat × Fm)) (hcl : ∀ pf ∈ items, NConc.atomsLt n pf.2) :
    let acB := Bio.acOf L n (items.map (·.1)) (items.map fun pf => fmToBExpr pf.2)
    acB.length = n ∧ (∀ x ∈ acB, W.Valid x) ∧
      acB.map W.den = (placeFm (List.replicate n Fm.bot) items).map Fm.sem := by
  have ⟨a, b, _⟩ := Bio.acOf_spec W n (items.map (·.1)) _ (fmToBExpr_closed_all hcl)
  refine ⟨a, b, ?_⟩
  unfold Bio.acOf
  rw [List.zip_map']
  exact fold_place W items _ _ (by rw [List.map_replicate, List.map_replicate, W.mkFalse_spec.2]; rfl) hcl

end lib

section bioarm
variable {T : Type} {L : Bio.Lib T} {n : Nat} (W : Bio.Lawful L n) {tts : List Nat} {D : List BoolFn}

theorem implemented_bio (sec : Section) (h : implemented .biodivine sec = true) :
    sec = .grd ∨ sec = .com ∨ sec = .stm ∨ sec = .stmrew := by
  revert h; cases sec <;> decide

theorem secBio_exact (R : SpecSound.Reps n tts D) (hD : D.length = n) (hdet : ∀ f ∈ D, TT.DetBy n f)
    (acB : List T) (hv : ∀ x ∈ acB, W.Valid x) (hlen : acB.length = n) (hden : acB.map W.den = D)
    (rw : Option T) (hg : Bio.GoodRewrite W acB rw) (sec : Section) (hi : implemented .biodivine sec = true) :
    ((secBio L rw acB sec).map (fun v => v.map storeIsConst)).Perm (specSection n tts sec) := by
  subst hden
  have hs := CliF.Same.refl hdet
  rcases implemented_bio sec hi with rfl | rfl | rfl | rfl
  · exact CliF.grounded_perm R hD hs (Bio.bioGrounded_lfp W acB hv hlen).2
  · have ⟨nd, hm, _⟩ := Bio.bioComplete_exact W acB hv hlen
    exact CliF.complete_perm R hs nd hm
  · exact CliF.stable_perm R hs (Bio.bioStable_exact W acB hv hlen)
  · exact CliF.stable_perm R hs (Bio.bioStableRep_exact W rw acB hv hlen hg)

end bioarm

/-- THE ASSUMPTION about `Bdd::to_string()` (in addition to `Bio.Lawful`): the dump of a diagram
lists the two terminals first, children before parents with larger variables (`DumpOK`, the
hypothesis of the bridge theorem C09), and its last entry denotes the diagram's function. Only the
dumps the bridge READS are constrained: diagrams that are neither `is_true` nor `is_false` (this is
`Bio.DumpSpec.ok`, `dumpLaw_of_spec`). -/
def DumpLaw {T : Type} {L : Bio.Lib T} {n : Nat} (W : Bio.Lawful L n) (dump : T → List Node) : Prop :=
  ∀ t, W.Valid t → L.isTrue t = false → L.isFalse t = false →
    DumpOK (dump t) ∧ 2 ≤ (dump t).length ∧ Den (dump t) ((dump t).length - 1) (W.den t)

section hybridsections
variable {n : Nat} {tts : List Nat} {D D' : List BoolFn} {ac : List Nat}

/-- the candidate list of the library object: every satisfying valuation, each once, of a function
every two-valued model of the ORIGINAL conditions satisfies -/
def GoodCands (n : Nat) (D : List BoolFn) (cands : List (List Nat)) : Prop :=
  ∃ (R0 : BoolFn) (vals : List (List Bool)), (∀ σ, Bio.ModelOf D σ → R0 σ = true) ∧
    Bio.SatEnum R0 n vals ∧ cands = vals.map Bio.toTerms

theorem secHybrid_step (R : SpecSound.Reps n tts D) (hD : D.length = n) (hs : CliF.Same n D D')
    (cands : List (List Nat)) (hc : GoodCands n D cands) (fuel : Nat) (heu : SM.Heu) (hn : ac.length = n)
    (sec : Section) (s : Store) (h : Denotes s ac D') (hh : secHalts fuel heu n ac sec s = true) :
    Denotes (secHybrid fuel heu cands n ac sec s).1 ac D' ∧
    CliF.Faithful n tts (sec, (secHybrid fuel heu cands n ac sec s).2) := by
  by_cases hsec : sec = .stmrew
  · subst hsec
    obtain ⟨R0, vals, hR, hse, rfl⟩ := hc
    -- stability for the pre-grounded `D'` the handles denote is stability for `D` (`hs`)
    have ⟨⟨w1, e1⟩, nd, hm⟩ := Bio.nativeStableRep_answers s n ac h.wf hn h.valid D hD
      (fun v => h.den ▸ hs.toSameSem.stable_iff v) R0 hR vals hse
    rw [secHybrid_stmrew]
    refine ⟨h.ext w1 e1, ?_⟩
    show (_ : List I3).Perm (Spec.stableAll n tts)
    exact (List.perm_ext_iff_of_nodup nd (SpecSound.stableAll_nodup n tts)).mpr fun v =>
      (hm v).trans (SpecSound.stable_spec R v).symm
  · rw [secHybrid_of_ne fuel heu _ n ac hsec]
    exact CliF.secNaive_step R hD hs fuel heu hn sec s h hh

theorem secHybrid_halts_step (R : SpecSound.Reps n tts D) (hD : D.length = n) (hs : CliF.Same n D D')
    (cands : List (List Nat)) (hc : GoodCands n D cands) (heu : SM.Heu) (hn : ac.length = n)
    {F : Nat} (hF : NConc.ngBound n ≤ F) (sec : Section) (s : Store) (h : Denotes s ac D') :
    secHalts F heu n ac sec s = true ∧ Denotes (secHybrid F heu cands n ac sec s).1 ac D' :=
  have hh := (CliF.secNaive_halts_step heu hn hF sec s h).1
  ⟨hh, (secHybrid_step R hD hs cands hc F heu hn sec s h hh).1⟩

end hybridsections

theorem items_order_nodup (names : List Label) : ∀ (acs : List (Label × Fml)) (items : List (Nat × Fm)),
    omap (itemOf names) acs = some items → (acs.map (·.1)).Nodup → (items.map (·.1)).Nodup := by
  intro acs
  induction acs with
  | nil => intro items h _; simp [omap] at h; subst h; simp
  | cons lf acs ih =>
    intro items h hnd
    obtain ⟨p, items', h1, h2, rfl⟩ := omap_cons_some h
    simp only [List.map_cons, List.nodup_cons] at hnd ⊢
    refine ⟨?_, ih items' h2 hnd.2⟩
    intro hmem
    obtain ⟨q, hq, hqp⟩ := List.mem_map.mp hmem
    obtain ⟨lf', hlf', hi'⟩ := omap_mem _ _ _ h2 q hq
    apply hnd.1
    have g1 := indexOf_get names lf.1 _ (itemOf_eq_some.mp h1).1
    have g2 := indexOf_get names lf'.1 _ (itemOf_eq_some.mp hi').1
    rw [hqp, g1] at g2
    rw [Option.some.inj g2]
    exact List.mem_map_of_mem hlf'

theorem items_order_lt (names : List Label) (acs : List (Label × Fml)) (items : List (Nat × Fm))
    (h : omap (itemOf names) acs = some items) : ∀ o ∈ items.map (·.1), o < names.length := by
  intro o ho
  obtain ⟨q, hq, rfl⟩ := List.mem_map.mp ho
  obtain ⟨lf', _, hi'⟩ := omap_mem _ _ _ h q hq
  exact indexOf_lt _ _ _ (itemOf_eq_some.mp hi').1

/-- THE ASSUMPTIONS about the external world of the binary: the BDD library is lawful for every
variable set whose variable numbers fit the own store's variable type (`Bio.Lawful`, `nv ≤ VBOT` - the
theorems only ever use the law at the number of statements of a framework that fits; the bound lets
the project's own store serve as the library, `CliMP.storeWorldOK`) and the alphanumeric sort returns a permutation of the name list. The
hybrid arm needs in addition `DumpOK`: the node dump is an ordered dump of the diagram (`DumpLaw`). -/
structure WorldOK {T : Type} (W : World T) where
  law : (nv : Nat) → nv ≤ VBOT → Bio.Lawful (W.lib nv) nv
  an : ∀ ns, (W.anSort ns).Perm ns

/-- the additional assumption the hybrid arm needs (for variable sets whose variable numbers fit the
own store's variable type, `nv ≤ VBOT`: no ordered dump exists beyond) -/
def DumpOKW {T : Type} (W : World T) (ok : WorldOK W) : Prop :=
  ∀ nv (h : nv ≤ VBOT), DumpLaw (ok.law nv h) W.dump

theorem spec_len {n : Nat} {tts : List Nat} {D : List BoolFn} (R : SpecSound.Reps n tts D) (hD : D.length = n)
    (sec : Section) : ∀ w ∈ specSection n tts sec, w.length = n := by
  intro w hw
  cases sec with
  | grd =>
    have : w = Spec.grounded n tts := by simpa [specSection] using hw
    rw [this, SpecSound.grounded_length R hD]
  | com => exact ((SpecSound.completeAll_spec R w).mp hw).1
  | twoval => exact ((SpecSound.models2_spec R w).mp hw).1
  | stm | stmca | stmcb | stmpre | stmrew | stmng => exact ((SpecSound.stable_spec R w).mp hw).1

theorem faithful_len {n : Nat} {tts : List Nat} {D : List BoolFn} (R : SpecSound.Reps n tts D) (hD : D.length = n)
    (blk : Block) (h : CliF.Faithful n tts blk) : ∀ v ∈ blk.2, v.length = n := by
  intro v hv
  have : v.map storeIsConst ∈ specSection n tts blk.1 := h.mem_iff.mp (List.mem_map_of_mem hv)
  simpa using spec_len R hD blk.1 _ this

/-- **the library-side object**: for a parser object that presents a well-formed framework whose
labels the library accepts, `from_parser` does not panic, `ac` has one valid diagram per statement,
they denote the SAME functions as the handles of the native `from_parser`, and the prepared rewriting
of `--stmrew` is usable if no statement has two conditions -/
theorem bioBuild_facts {T : Type} {L : Bio.Lib T} {st : PState} {names : List Label} {acs : List (Label × Fml)}
    (W : Bio.Lawful L names.length) (h : Pres st names acs) (hwf : WfOn names acs) (hn : names.length ≤ VBOT)
    (hnames : names.all bioNameOK = true) (rew : Bool) :
    ∃ acB rw, bioBuild L st rew = some (acB, rw) ∧ acB.length = names.length ∧ (∀ x ∈ acB, W.Valid x) ∧
      acB.map W.den = condsOn names acs ∧ ((rew = true → (acs.map (·.1)).Nodup) → Bio.GoodRewrite W acB rw) := by
  obtain ⟨items, s, ac, hw, _, _, _, hpl, hlt⟩ := items_facts h hwf hn
  have ⟨a, b, c⟩ := acOf_items W items hlt
  refine ⟨_, if rew then some (Bio.stmRewriting L (items.map (·.1)) (items.map fun pf => fmToBExpr pf.2)) else none,
    ?_, a, b, c.trans hpl, fun hone => ?_⟩
  · unfold bioBuild
    rw [h.nl, if_pos hnames, workListBio_eq h, hw, h.p.size]
    rfl
  by_cases hr : rew = true
  · rw [if_pos hr]
    have hi : omap (itemOf names) acs = some items := by rw [← workList_presents h.p]; exact hw
    exact Bio.stmRewriting_good W _ _ (fmToBExpr_closed_all hlt) (items_order_lt names acs items hi)
      (items_order_nodup names acs items hi (hone hr)) (by simp)
  · rw [if_neg hr]; trivial

/-- **the start of the hybrid arm** (`hybrid_step`: `grounded_internal` on the library, then the bridge;
`Bio.hybridStep_denotes` for the function the CLI model calls): the bridged object denotes the PRE-GROUNDED
conditions, which have the same answers as the library object's, and the candidates of the library
object are usable for `--stmrew`/`--stmrew2` -/
theorem hybridStart {T : Type} {L : Bio.Lib T} {n : Nat} (W : Bio.Lawful L n) {dump : T → List Node}
    (hd : DumpLaw W dump) {acB : List T} {rw : Option T} {D : List BoolFn} (hl : acB.length = n)
    (hv : ∀ x ∈ acB, W.Valid x) (hden : acB.map W.den = D) (hg : Bio.GoodRewrite W acB rw)
    (hD : D.length = n) (hdet : ∀ f ∈ D, TT.DetBy n f) :
    (hybridStep L dump acB).2.length = n ∧ GoodCands n D (Bio.stableModelCandidates L rw acB) ∧
    ∃ D', CliF.Same n D D' ∧ Denotes (hybridStep L dump acB).1 (hybridStep L dump acB).2 D' := by
  subst hden
  rw [Bio.hybridStep_agree W ⟨hd⟩ acB hv (Nat.le_of_eq hl)]
  have ⟨l1, h1⟩ := Bio.hybridStep_denotes W ⟨hd⟩ true acB hv hl
  exact ⟨l1, Bio.candidates_enum W rw acB hv hl hg, _,
    CliF.Same.pre hdet (Bio.bioGrounded_lfp W acB hv hl).2, h1⟩

/-- **every arm, on the parser object**: for a parser object that presents a well-formed framework
(names in the order the sorting flag produced), the construction does not panic, one block per
requested and implemented section is produced in the documented order, and EVERY block is, as a
multiset of three-valued interpretations, the specification's answer for its section on the
presented framework — the naive arm by the own algorithms (C01–C05), the biodivine arm by the
back-end's algorithms over the lawful library (BioProofs), the hybrid arm by library grounding,
bridge (C09) and the own algorithms on the pre-grounded conditions, `--stmrew`/`--stmrew2` by the
single-formula candidates. Hypotheses beyond well-formedness: the labels are acceptable to the
library in the two arms that use it (`bioNameOK` — otherwise those arms PANIC,
`bio_arms_reject_special_label`); with `--stmrew` no statement has two conditions in the file;
no nogood-learning search hit the bound (`haltedParsed`). -/
theorem runParsed_faithful {T : Type} (W : World T) (ok : WorldOK W) (fuel : Nat) (i : Inv)
    {st : PState} {names : List Label} {acs : List (Label × Fml)}
    (h : Pres st names acs) (hwf : WfOn names acs) (hn : names.length ≤ VBOT)
    (hnames : i.mode ≠ .naive → names.all bioNameOK = true)
    (hone : i.mode ≠ .naive → i.flags.stmrew = true → (acs.map (·.1)).Nodup)
    (hdump : i.mode = .hybrid → DumpOKW W ok)
    (hh : haltedParsed W fuel i st = true) :
    ∃ blocks, runParsed W fuel i st = some blocks ∧ blocks.map (·.1) = sections i.mode i.flags ∧
      ∀ blk ∈ blocks, CliF.Faithful names.length (tablesD names.length (condsOn names acs)) blk := by
  have R := reps_condsOn names acs
  have hD := condsOn_length names acs
  have hdet := condsOn_det names acs
  obtain ⟨mode, f, so, heu⟩ := i
  have hsz : dictSizeOf st = names.length := h.p.size
  cases mode with
  | naive =>
    obtain ⟨items, s, ac, _, hfp, hl, hd, _, _⟩ := items_facts h hwf hn
    simp only [haltedParsed, hfp, hsz] at hh
    refine ⟨?_, ?eq, ?secs, ?_⟩
    case eq => simp only [runParsed, runNaive, hfp, hsz, Option.map_some]; rfl
    case secs => rw [runWith_fst]; rfl
    exact (runWith_thread (CliF.secNaive_step R hD (CliF.Same.refl hdet) fuel heu hl) (sections .naive f)
      (s, []) hd hh (fun _ hx => by cases hx)).2
  | biodivine =>
    obtain ⟨acB, rw, hb, hl, hv, hden, hg⟩ :=
      bioBuild_facts (ok.law names.length hn) h hwf hn (hnames (by simp)) f.stmrew
    replace hg := hg (hone (by simp))
    refine ⟨?_, ?eq, ?secs, ?_⟩
    case eq => simp only [runParsed, runBio, hsz, hb, Option.map_some]; rfl
    case secs => rw [List.map_map]; exact List.map_id' _
    intro blk hblk
    obtain ⟨sec, hsec, rfl⟩ := List.mem_map.mp hblk
    have himpl : implemented .biodivine sec = true := by
      have := (List.mem_filter.mp hsec).2
      simp only [Bool.and_eq_true] at this
      exact this.2
    exact secBio_exact (ok.law names.length hn) R hD hdet _ hv hl hden _ hg sec himpl
  | hybrid =>
    obtain ⟨acB, rw, hb, hl, hv, hden, hg⟩ :=
      bioBuild_facts (ok.law names.length hn) h hwf hn (hnames (by simp)) f.stmrew
    replace hg := hg (hone (by simp))
    obtain ⟨l1, hc, D', hs, h1⟩ := hybridStart (ok.law names.length hn) (hdump rfl names.length hn) hl hv hden hg hD hdet
    simp only [haltedParsed, hsz, hb] at hh
    refine ⟨?_, ?eq, ?secs, ?_⟩
    case eq => simp only [runParsed, runHybrid, hsz, hb, Option.map_some]; rfl
    case secs => rw [runWith_fst]; rfl
    exact (runWith_thread (secHybrid_step R hD hs _ hc fuel heu l1) (sections .hybrid f) (_, []) h1 hh
      (fun _ hx => by cases hx)).2

/-- **C15 from the text of the file**: a text of the documented format (`DerFile fs t`) that describes
a well-formed ADF, any mode / flags / sorting flag / heuristic: exit status 0; stdout is, block by
block in the documented order, one line per interpretation, rendered with the names in the order the
sorting flag asks for (`sortedNames`), and every block is the specification's answer for its section
on the framework `condFnsOn names (condOf fs)` (statement `p` = the `p`-th name of that order, its
condition = the last one written for it, ⊥ if none; read at the renumbered atoms) -/
theorem runText_faithful {T : Type} (W : World T) (ok : WorldOK W) (fuel : Nat) (i : Inv) (t : List Char)
    (fs : List Fact) (hd : DerFile fs t) (hne : fs ≠ []) (hwf : WellFormedAdf fs)
    (hn : (namesOf fs).length ≤ VBOT)
    (hnames : i.mode ≠ .naive → (namesOf fs).all bioNameOK = true)
    (hone : i.mode ≠ .naive → i.flags.stmrew = true → ((acsOf fs).map (·.1)).Nodup)
    (hdump : i.mode = .hybrid → DumpOKW W ok)
    (hh : haltedParsed W fuel i (sortState W.anSort i.sort (PState.ofFacts fs)) = true) :
    ∃ blocks : List Block,
      runText W fuel i t =
        ⟨0, blocks.flatMap fun b => b.2.map (render (sortedNames W.anSort i.sort (namesOf fs)))⟩ ∧
      blocks.map (·.1) = sections i.mode i.flags ∧
      (∀ blk ∈ blocks, CliF.Faithful (sortedNames W.anSort i.sort (namesOf fs)).length
        (tablesD (sortedNames W.anSort i.sort (namesOf fs)).length
          (condFnsOn (sortedNames W.anSort i.sort (namesOf fs)) (condOf fs))) blk) ∧
      (∀ blk ∈ blocks, ∀ v ∈ blk.2, v.length = (sortedNames W.anSort i.sort (namesOf fs)).length) := by
  have hp := parsed_of_der W i t fs hd hne
  have pres := pres_sortState W.anSort ok.an i.sort (pres_ofFacts fs)
  have hperm := sortedNames_perm W.anSort ok.an i.sort (namesOf fs)
  have hwf' : WfOn (sortedNames W.anSort i.sort (namesOf fs)) (acsOf fs) := wfOn_perm hperm hwf
  obtain ⟨blocks, hb, hsec, hf⟩ := runParsed_faithful W ok fuel i pres hwf' (by rw [hperm.length_eq]; exact hn)
    (fun hm => hperm.all_eq.trans (hnames hm))
    hone hdump hh
  refine ⟨blocks, ?_, hsec, hf, ?_⟩
  · unfold runText
    rw [hp]
    simp only [hb, pres.nl]
  · intro blk hblk
    exact faithful_len (reps_condsOn _ _) (condsOn_length _ _) blk (hf blk hblk)

/-! ## the fuel hypothesis `haltedParsed`

The Rust loop of the nogood-learning search (`--twoval`, `--stmng`) has no iteration bound; the model
is a total function and gives each search `fuel` iterations. `haltedParsed W fuel i st = true` says:
"in this invocation every such search reached its end (`done` flag) within `fuel` iterations", i.e.
the bounded model did the whole computation of the unbounded loop. Without the hypothesis the
bounded model prints a prefix. It holds outright for invocations without the two flags and for the
biodivine arm (`halted_of_no_search`), and for the naive arm from the bound `2^(n+3)` on
(`halted_naive_within`; all arms, and what that says about the driver's 1 000 000: `CliFuelBound.lean`). -/

theorem halted_of_no_search {T : Type} (W : World T) (fuel : Nat) (i : Inv) (st : PState)
    (h : i.mode = .biodivine ∨ (i.flags.twoval = false ∧ i.flags.stmng = false)) :
    haltedParsed W fuel i st = true := by
  obtain ⟨mode, f, so, heu⟩ := i
  cases mode with
  | biodivine => rfl
  | naive | hybrid =>
    obtain h | ⟨h1, h2⟩ := h
    · cases h
    · simp only [haltedParsed]
      split
      · rfl
      · exact CliF.haltsWith_no_search _ _ _ _ _ _ f h1 h2 _

theorem halted_naive_within {T : Type} (W : World T) (i : Inv) (hm : i.mode = .naive)
    {st : PState} {names : List Label} {acs : List (Label × Fml)}
    (h : Pres st names acs) (hwf : WfOn names acs) (hn : names.length ≤ VBOT) :
    ∀ fuel, NConc.ngBound names.length ≤ fuel → haltedParsed W fuel i st = true := by
  obtain ⟨mode, f, so, heu⟩ := i
  cases hm
  obtain ⟨items, s, ac, _, hfp, hl, hd, _, _⟩ := items_facts h hwf hn
  intro fuel hf
  simp only [haltedParsed, hfp, h.p.size]
  exact haltsWith_thread (sections .naive f) (fun sec _ => CliF.secNaive_halts_step heu hl hf sec) s hd

/-- **finding**: `BddVariableSetBuilder::make_variable` panics on a name containing one of
`! & | ^ = < > ( ) ? :`. Quoted labels may contain them. For such a (well-formed) file the
biodivine arm and the hybrid arm — the DEFAULT — exit with status 101 and print nothing, while the
naive arm answers (`runText_faithful` has no such hypothesis for `.naive`). Observed on the binary:
`s("a&b").s(c).ac("a&b",c(v)).ac(c,"a&b").` with `--grd`: naive prints `T(a&b) T(c)`, the other two
modes panic. So the clause "for every well-formed input … every library mode … exits successfully;
the three modes print the same sets" of C15 holds only for labels free of these characters. -/
theorem bio_arms_reject_special_label {T : Type} (W : World T) (fuel : Nat) (i : Inv) (t : List Char)
    (st : PState) (hp : parsed W i t = some st) (hm : i.mode ≠ .naive)
    (hbad : st.namelist.all bioNameOK = false) : runText W fuel i t = CliM.rejected := by
  obtain ⟨mode, f, so, heu⟩ := i
  unfold runText
  rw [hp]
  have : runParsed W fuel ⟨mode, f, so, heu⟩ st = none := by
    cases mode with
    | naive => exact absurd rfl hm
    | biodivine => simp [runParsed, runBio, bioBuild, hbad]
    | hybrid => simp [runParsed, runHybrid, bioBuild, hbad]
  simp only [this]

/-- a world that satisfies the assumptions: the truth-table library (`Bio.ttLawful`), the identity as
alphanumeric sort (the dump is irrelevant outside the hybrid arm) -/
def exW : World Nat := ⟨Bio.ttLib, fun _ => [], id⟩
def exOK : WorldOK exW := ⟨fun nv _ => Bio.ttLawful nv, fun _ => List.Perm.refl _⟩

/-- `s(b).s(a).ac(b,neg(a)).ac(a,neg(b)).` -/
def exText : List Char :=
  ['s','(','b',')','.','s','(','a',')','.','a','c','(','b',',','n','e','g','(','a',')',')','.',
   'a','c','(','a',',','n','e','g','(','b',')',')','.']
def exFacts : List Fact :=
  [.stmt ['b'], .stmt ['a'], .ac ['b'] (.not (.atom ['a'])), .ac ['a'] (.not (.atom ['b']))]

theorem exText_der : DerFile exFacts exText :=
  (parseFacts_sound exText exFacts (by decide)).2

theorem exFacts_ne : exFacts ≠ [] := by decide
theorem exFacts_wf : WellFormedAdf exFacts := by decide
theorem exFacts_small : (namesOf exFacts).length ≤ 16 := by decide
theorem exFacts_fits : (namesOf exFacts).length ≤ VBOT := by decide
theorem exFacts_labels : (namesOf exFacts).all bioNameOK = true := by decide
theorem exFacts_one_cond : ((acsOf exFacts).map (·.1)).Nodup := by decide

/-- the hypotheses of `runText_faithful` hold for the biodivine arm with `--lx` and all four flags it
implements (two statements attacking each other, declared in the order b, a: `--lx` reorders) -/
example : ∃ blocks : List Block,
    runText exW 0 ⟨.biodivine, { grd := true, com := true, stm := true, stmrew := true }, .lx, .simple⟩ exText =
      ⟨0, blocks.flatMap fun b => b.2.map (render [['a'], ['b']])⟩ ∧
    blocks.map (·.1) = [.grd, .com, .stm, .stmrew] := by
  obtain ⟨blocks, h1, h2, _⟩ := runText_faithful exW exOK 0
    ⟨.biodivine, { grd := true, com := true, stm := true, stmrew := true }, .lx, .simple⟩ exText exFacts
    exText_der exFacts_ne exFacts_wf exFacts_fits (fun _ => exFacts_labels) (fun _ _ => exFacts_one_cond)
    (fun h => by cases h) rfl
  refine ⟨blocks, ?_, ?_⟩
  · rw [h1]
    have : sortedNames exW.anSort .lx (namesOf exFacts) = [['a'], ['b']] := by decide
    simp only [this]
  · rw [h2]; decide

/-- the naive arm WITH both search flags: some bound satisfies the fuel hypothesis
(`halted_naive_within`), and the run with that bound exits with status 0 and prints the blocks
of `--grd --com --stm --stmng` (`--twoval` is not wired in the naive arm) -/
example : ∃ fuel, ∃ blocks : List Block,
    haltedParsed exW fuel ⟨.naive, { grd := true, com := true, twoval := true, stm := true, stmng := true }, .none, .simple⟩
      (sortState exW.anSort .none (PState.ofFacts exFacts)) = true ∧
    runText exW fuel ⟨.naive, { grd := true, com := true, twoval := true, stm := true, stmng := true }, .none, .simple⟩ exText =
      ⟨0, blocks.flatMap fun b => b.2.map (render [['b'], ['a']])⟩ ∧
    blocks.map (·.1) = [.grd, .com, .stm, .stmng] := by
  have hF := halted_naive_within exW
    ⟨.naive, { grd := true, com := true, twoval := true, stm := true, stmng := true }, .none, .simple⟩ rfl
    (pres_sortState exW.anSort exOK.an .none (pres_ofFacts exFacts)) exFacts_wf exFacts_fits _ (Nat.le_refl _)
  obtain ⟨blocks, h1, h2, _⟩ := runText_faithful exW exOK _
    ⟨.naive, { grd := true, com := true, twoval := true, stm := true, stmng := true }, .none, .simple⟩ exText exFacts
    exText_der exFacts_ne exFacts_wf exFacts_fits (fun h => absurd rfl h) (fun h => absurd rfl h)
    (fun h => by cases h) hF
  exact ⟨_, blocks, hF, h1, by rw [h2]; decide⟩

/-- the rejection theorems fire: `s(a).ac(b,a).` (condition for an undeclared label) is parsed and
is not a well-formed ADF; `s(a)` is not parsed -/
example : runText exW 7 ⟨.hybrid, { grd := true }, .an, .simple⟩ ['s','(','a',')'] = CliM.rejected :=
  runText_rejects_unparsed _ _ _ _ (by decide)
example : ¬ WellFormedAdf [.stmt ['a'], .ac ['b'] (.atom ['a'])] := by decide

/-- the finding, on the model: `s("a&b").` -/
example : runText exW 7 ⟨.hybrid, { grd := true }, .none, .simple⟩ ['s','(','"','a','&','b','"',')','.'] = CliM.rejected :=
  bio_arms_reject_special_label exW 7 _ _ (PState.ofFacts [.stmt ['a','&','b']]) (by decide) (by decide) (by decide)

/-- the line format on a concrete vector: statements `a`, `b` with handles 1 (⊤), 5 (an inner node) -/
example : render [['a'], ['b']] [1, 5] = ['T','(','a',')',' ','u','(','b',')',' '] := by decide

end CliMP
#print axioms CliMP.runText_faithful
#print axioms CliMP.bio_arms_reject_special_label
