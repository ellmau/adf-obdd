import AdfObdd.HybridModel
import AdfObdd.Compile
import AdfObdd.StoreCanon
/-! # The project's own ROBDD store as an instance of the abstract BDD-library interface

`Bio.Lib` / `Bio.Lawful` (BioModel.lean) describe what is ASSUMED of the external crate
`biodivine_lib_bdd`; `Bio.DumpSpec` (HybridModel.lean) what is assumed of its dump. The two instances
of BioModel.lean (`fnLib`, `ttLib`) have dumps that are full decision trees. Here the verified native
store (`Store`, `mkNode`, `iteF`, `restrictF`) is shown to be a lawful library too (`storeLawful`),
and its node-table dump (`storeDump`) satisfies `DumpSpec` (`storeDump_spec`): the dumps are REDUCED,
SHARED diagrams with SKIPPED LEVELS - the shape biodivine writes. Mathlib-free. -/
namespace Bio

/-- the dump of a diagram = a pair (frozen node table, handle): the table's prefix up to the handle.
Entries 0 and 1 are the store's terminal nodes, children precede parents (`WF.inner`), the root is
last. -/
def storeDump (p : Store × Nat) : List Node := p.1.nodes.toList.take (p.2 + 1)

theorem storeDump_get (s : Store) (t j : Nat) :
    (storeDump (s, t))[j]? = if j < t + 1 then s.nodes[j]? else none := by
  simp only [storeDump, List.getElem?_take, Array.getElem?_toList]

theorem storeDump_get_le (s : Store) (t j : Nat) (h : j ≤ t) : (storeDump (s, t))[j]? = s.nodes[j]? := by
  rw [storeDump_get, if_pos (Nat.lt_succ_of_le h)]

theorem storeDump_get_some (s : Store) (t j : Nat) (n : Node) (h : (storeDump (s, t))[j]? = some n) :
    j ≤ t ∧ s.nodes[j]? = some n := by
  rw [storeDump_get] at h
  by_cases hj : j < t + 1
  · rw [if_pos hj] at h; exact ⟨Nat.le_of_lt_succ hj, h⟩
  · rw [if_neg hj] at h; cases h

theorem storeDump_ok (s : Store) (w : WF s) (t : Nat) : DumpOK (storeDump (s, t)) := by
  intro j n hj hn
  have ⟨_, hn'⟩ := storeDump_get_some s t j n hn
  have ⟨hv, hlo, hhi, _, hvlo, hvhi⟩ := w.inner j n hj hn'
  refine ⟨hv, hlo, hhi, ?_, ?_⟩
  · intro m _ hm; exact hvlo m (storeDump_get_some s t _ m hm).2
  · intro m _ hm; exact hvhi m (storeDump_get_some s t _ m hm).2

theorem storeDump_len (s : Store) (t : Nat) (ht : t < s.nodes.size) :
    (storeDump (s, t)).length = t + 1 := by
  rw [storeDump, List.length_take, Array.length_toList]
  exact Nat.min_eq_left ht

theorem storeDump_den (s : Store) (w : WF s) (t : Nat) (ht : t < s.nodes.size) :
    ∀ j, j ≤ t → Den (storeDump (s, t)) j (eval s j) := by
  intro j
  induction j using Nat.strongRecOn with
  | _ j ih =>
    intro hj
    match j, hj, ih with
    | 0, _, _ => exact (funext (eval_zero s) : eval s 0 = fun _ => false) ▸ Den.bot
    | 1, _, _ => exact (funext (eval_one s) : eval s 1 = fun _ => true) ▸ Den.top
    | j + 2, hj, ih =>
      obtain ⟨n, hn⟩ := get_of_lt (ns := s.nodes) (i := j + 2) (Nat.lt_of_le_of_lt hj ht)
      have ⟨_, hlo, hhi, _⟩ := w.inner _ n (Nat.le_add_left 2 j) hn
      rw [funext (eval_node s w _ n (Nat.le_add_left 2 j) hn)]
      exact Den.inner _ n (eval s n.lo) (eval s n.hi) (Nat.le_add_left 2 j)
        ((storeDump_get_le s t _ hj).trans hn) (ih n.lo hlo (Nat.le_of_lt (Nat.lt_of_lt_of_le hlo hj)))
        (ih n.hi hhi (Nat.le_of_lt (Nat.lt_of_lt_of_le hhi hj)))

/-! ### a concrete dump with a shared node and a skipped level

`realDump` is the table of `(x0 ∧ x2) ∨ (x1 ∧ x2)` over three variables: node 2 (`x2`) is shared by
the nodes 3 and 4, and the `lo` edge of node 4 (`x0`) skips level 1. -/
def realDump : List Node := [⟨3, 0, 0⟩, ⟨3, 1, 1⟩, ⟨2, 0, 1⟩, ⟨1, 0, 2⟩, ⟨0, 3, 2⟩]

theorem realDump_ok : DumpOK realDump := by
  intro j n hj hget
  match j, hj, hget with
  | 2, _, hget =>
    obtain rfl := Option.some.inj hget
    exact ⟨(by decide : 2 < VBOT), (by decide : 0 < 2), (by decide : 1 < 2),
      fun m h => absurd h (by decide), fun m h => absurd h (by decide)⟩
  | 3, _, hget =>
    obtain rfl := Option.some.inj hget
    refine ⟨(by decide : 1 < VBOT), (by decide : 0 < 3), (by decide : 2 < 3),
      fun m h => absurd h (by decide), fun m _ hm => ?_⟩
    obtain rfl := Option.some.inj hm; exact (by decide : 1 < 2)
  | 4, _, hget =>
    obtain rfl := Option.some.inj hget
    refine ⟨(by decide : 0 < VBOT), (by decide : 3 < 4), (by decide : 2 < 4), fun m _ hm => ?_,
      fun m _ hm => ?_⟩
    · obtain rfl := Option.some.inj hm; exact (by decide : 0 < 1)
    · obtain rfl := Option.some.inj hm; exact (by decide : 0 < 2)
  | j + 5, _, hget => cases hget

/-- the last entry of `realDump` denotes `x0 ? x2 : (x1 ? x2 : ⊥)` = `(x0 ∧ x2) ∨ (x1 ∧ x2)` -/
theorem realDump_den : Den realDump (realDump.length - 1)
    (fun σ => if σ 0 then (if σ 2 then true else false) else (if σ 1 then (if σ 2 then true else false) else false)) := by
  have d2 : Den realDump 2 (fun σ => if σ 2 then true else false) :=
    Den.inner 2 ⟨2, 0, 1⟩ _ _ (by decide) rfl Den.bot Den.top
  have d3 : Den realDump 3 (fun σ => if σ 1 then (if σ 2 then true else false) else false) :=
    Den.inner 3 ⟨1, 0, 2⟩ _ _ (by decide) rfl Den.bot d2
  exact Den.inner 4 ⟨0, 3, 2⟩ _ _ (by decide) rfl d3 d2

theorem realDump_sem (σ : Asg) :
    (if σ 0 then (if σ 2 then true else false) else (if σ 1 then (if σ 2 then true else false) else false))
      = ((σ 0 && σ 2) || (σ 1 && σ 2)) := by
  cases σ 0 <;> cases σ 1 <;> cases σ 2 <;> rfl

theorem wfInit : WF Store.init := WF_init

/-- the library's expressions are the native formulas, constructor for constructor -/
def toFm : BExpr → Fm
  | .const true => .top
  | .const false => .bot
  | .var i => .atom i
  | .not a => .not (toFm a)
  | .and a b => .and (toFm a) (toFm b)
  | .or a b => .or (toFm a) (toFm b)
  | .xor a b => .xor (toFm a) (toFm b)
  | .imp a b => .imp (toFm a) (toFm b)
  | .iff a b => .iff (toFm a) (toFm b)

theorem toFm_sem (e : BExpr) : (toFm e).sem = e.sem := by
  induction e with
  | const b => cases b <;> rfl
  | var i => rfl
  | not a ih => funext σ; simp only [toFm, Fm.sem, BExpr.sem, ih]
  | _ a b iha ihb => funext σ; simp only [toFm, Fm.sem, BExpr.sem, iha, ihb]

theorem toFm_ok (e : BExpr) (nv : Nat) (h : e.closed nv = true) (hn : nv ≤ VBOT) : (toFm e).atomsOK := by
  induction e with
  | const b => cases b <;> exact trivial
  | var i => exact Nat.lt_of_lt_of_le (of_decide_eq_true h) hn
  | not a ih => exact ih h
  | _ a b iha ihb =>
    have ⟨ha, hb⟩ := Bool.and_eq_true_iff.mp h
    exact ⟨iha ha, ihb hb⟩

/-- import a diagram of another table into store `s` by replaying its dump through `mkNode`
(this IS the loop of `from_biodivine_vector`) -/
def importInto (s : Store) (p : Store × Nat) : Store × Nat :=
  if p.2 < 2 then (s, p.2)
  else
    let r := replayL ((storeDump p).drop 2) s [0, 1]
    (r.1, r.2.getD p.2 0)

theorem importInto_good (s : Store) (w : WF s) (p : Store × Nat) (wp : WF p.1)
    (hp : p.2 < p.1.nodes.size) :
    Good s (importInto s p).1 (importInto s p).2 (eval p.1 p.2) := by
  obtain ⟨ps, pt⟩ := p
  unfold importInto
  by_cases h2 : pt < 2
  · rw [if_pos h2]
    refine ⟨w, Ext.refl _, Nat.lt_of_lt_of_le h2 w.len, fun σ => ?_⟩
    obtain rfl | rfl := Nat.le_one_iff_eq_zero_or_eq_one.mp (Nat.le_of_lt_succ h2)
    · rw [eval_zero, eval_zero]
    · rw [eval_one, eval_one]
  · rw [if_neg h2]
    have hlen := storeDump_len ps pt hp
    have ⟨a, b, c, d⟩ := bridge_correct (storeDump (ps, pt)) (storeDump_ok ps wp pt) (by omega) s w
    generalize replayL ((storeDump (ps, pt)).drop 2) s [0, 1] = r at a b c d
    have hget := List.getElem?_eq_getElem (l := r.2) (i := pt) (by rw [c, hlen]; exact Nat.lt_succ_self pt)
    have ⟨e, f⟩ := d pt _ _ hget (storeDump_den ps wp pt hp pt (Nat.le_refl _))
    show Good s r.1 (r.2.getD pt 0) (eval ps pt)
    rw [getD_of_get hget]
    exact ⟨a, b, e, f⟩

/-- a diagram of the library: a well-formed store and a handle into it -/
def SValid (p : Store × Nat) : Prop := WF p.1 ∧ p.2 < p.1.nodes.size

/-- `Bdd::and`: the second operand is imported into the first one's table -/
def sAnd (a b : Store × Nat) : Store × Nat :=
  let r := importInto a.1 b; opIte r.1 a.2 r.2 0
def sIff (a b : Store × Nat) : Store × Nat :=
  let r := importInto a.1 b; let nb := opNot r.1 r.2; opIte nb.1 a.2 r.2 nb.2
/-- one literal of `restrict`: the native `restrict` with enough fuel -/
def resStep (acc : Store × Nat) (q : Nat × Bool) : Store × Nat :=
  restrictF (acc.2 + 1) acc.1 acc.2 q.1 q.2
/-- one literal of `select`: conjunction with the compiled literal -/
def selStep (acc : Store × Nat) (q : Nat × Bool) : Store × Nat :=
  let r := compile acc.1 (if q.2 then Fm.atom q.1 else Fm.not (Fm.atom q.1)); opIte r.1 acc.2 r.2 0
/-- one variable of `exists`: the disjunction of the two cofactors -/
def exStep (acc : Store × Nat) (v : Nat) : Store × Nat :=
  let r0 := restrictF (acc.2 + 1) acc.1 acc.2 v false
  let r1 := restrictF (acc.2 + 1) r0.1 acc.2 v true
  opIte r1.1 r0.2 1 r1.2

/-! compiled forms: the pair is taken apart FIRST, so that nothing else refers to the store while it is
updated (in-place updates of a uniquely referenced store instead of a copy of the node table and the
three hash maps per operation); proved equal and substituted by the compiler (`@[csimp]`), the theorems
keep speaking about the definitions above -/
def sAndL (a b : Store × Nat) : Store × Nat :=
  match a with
  | (s, t) => match importInto s b with
    | (s', tb) => opIte s' t tb 0
def sIffL (a b : Store × Nat) : Store × Nat :=
  match a with
  | (s, t) => match importInto s b with
    | (s', tb) => match opNot s' tb with
      | (s'', nb) => opIte s'' t tb nb
def resStepL (acc : Store × Nat) (q : Nat × Bool) : Store × Nat :=
  match acc with
  | (s, t) => restrictF (t + 1) s t q.1 q.2
def exStepL (acc : Store × Nat) (v : Nat) : Store × Nat :=
  match acc with
  | (s, t) => match restrictF (t + 1) s t v false with
    | (s0, t0) => match restrictF (t + 1) s0 t v true with
      | (s1, t1) => opIte s1 t0 1 t1
@[csimp] theorem sAnd_eq_sAndL : @sAnd = @sAndL := by funext a b; cases a; simp only [sAnd, sAndL]
@[csimp] theorem sIff_eq_sIffL : @sIff = @sIffL := by funext a b; cases a; simp only [sIff, sIffL]
@[csimp] theorem resStep_eq_resStepL : @resStep = @resStepL := by funext a q; cases a; simp only [resStep, resStepL]
@[csimp] theorem exStep_eq_exStepL : @exStep = @exStepL := by funext a v; cases a; simp only [exStep, exStepL]

theorem sAnd_spec (a b : Store × Nat) (va : SValid a) (vb : SValid b) :
    SValid (sAnd a b) ∧ (eval (sAnd a b).1 (sAnd a b).2 = fun σ => eval a.1 a.2 σ && eval b.1 b.2 σ) := by
  have g := importInto_good a.1 va.1 b vb.1 vb.2
  have go := opAnd_good _ g.wf a.2 _ (Nat.lt_of_lt_of_le va.2 g.ext.1) g.lt
  refine ⟨⟨go.wf, go.lt⟩, funext fun σ => ?_⟩
  show eval (opIte _ a.2 _ 0).1 (opIte _ a.2 _ 0).2 σ = _
  rw [go.ev σ, eval_ext va.1 g.ext a.2 σ va.2, g.ev σ]

theorem sIff_spec (a b : Store × Nat) (va : SValid a) (vb : SValid b) :
    SValid (sIff a b) ∧ (eval (sIff a b).1 (sIff a b).2 = fun σ => eval a.1 a.2 σ == eval b.1 b.2 σ) := by
  have g := importInto_good a.1 va.1 b vb.1 vb.2
  have go := opIff_good _ g.wf a.2 _ (Nat.lt_of_lt_of_le va.2 g.ext.1) g.lt
  refine ⟨⟨go.wf, go.lt⟩, funext fun σ => ?_⟩
  show eval (opIte (opNot _ _).1 a.2 _ (opNot _ _).2).1 (opIte (opNot _ _).1 a.2 _ (opNot _ _).2).2 σ = _
  rw [go.ev σ, eval_ext va.1 g.ext a.2 σ va.2, g.ev σ]

/-! `restrict`, `select`, `exists`: one lawful step per literal / variable, iterated (`foldl_lawful`) -/

theorem resStep_spec (t : Store × Nat) (q : Nat × Bool) (vt : SValid t) :
    SValid (resStep t q) ∧ eval (resStep t q).1 (resStep t q).2 = cof1 (eval t.1 t.2) q := by
  have ⟨a, _, c, _, e⟩ := restrictF_spec (t.2 + 1) t.1 t.2 q.1 q.2 vt.1 vt.2 (Nat.lt_succ_self _)
  exact ⟨⟨a, c⟩, funext e⟩

theorem selStep_spec (t : Store × Nat) (q : Nat × Bool) (vt : SValid t) (hq : q.1 < VBOT) :
    SValid (selStep t q) ∧ eval (selStep t q).1 (selStep t q).2 = sel1 (eval t.1 t.2) q := by
  have hok : (if q.2 then Fm.atom q.1 else Fm.not (Fm.atom q.1)).atomsOK := by
    cases q.2 <;> exact hq
  have g := compile_correct _ t.1 vt.1 hok
  have go := opAnd_good _ g.wf t.2 _ (Nat.lt_of_lt_of_le vt.2 g.ext.1) g.lt
  refine ⟨⟨go.wf, go.lt⟩, funext fun σ => ?_⟩
  show eval (opIte _ t.2 _ 0).1 (opIte _ t.2 _ 0).2 σ = (eval t.1 t.2 σ && (σ q.1 == q.2))
  rw [go.ev σ, eval_ext vt.1 g.ext t.2 σ vt.2, g.ev σ]
  cases q.2 <;> simp [Fm.sem]

theorem exStep_spec (t : Store × Nat) (v : Nat) (vt : SValid t) :
    SValid (exStep t v) ∧ eval (exStep t v).1 (exStep t v).2 = ex1 (eval t.1 t.2) v := by
  have ⟨w0, e0, l0, _, ev0⟩ := restrictF_spec (t.2 + 1) t.1 t.2 v false vt.1 vt.2 (Nat.lt_succ_self _)
  have ⟨w1, e1, l1, _, ev1⟩ := restrictF_spec (t.2 + 1) _ t.2 v true w0
    (Nat.lt_of_lt_of_le vt.2 e0.1) (Nat.lt_succ_self _)
  have go := opOr_good _ w1 _ _ (Nat.lt_of_lt_of_le l0 e1.1) l1
  refine ⟨⟨go.wf, go.lt⟩, funext fun σ => ?_⟩
  show eval (opIte _ _ 1 _).1 (opIte _ _ 1 _).2 σ = _
  rw [go.ev σ, ev1 σ, eval_ext w0 e1 _ σ l0, ev0 σ, eval_ext vt.1 e0 t.2 _ vt.2]
  rfl

theorem sRestrict_spec (l : List (Nat × Bool)) (t : Store × Nat) (vt : SValid t) :
    SValid (l.foldl resStep t) ∧
    (eval (l.foldl resStep t).1 (l.foldl resStep t).2 = fun σ => eval t.1 t.2 (updL σ l)) := by
  have h := foldl_lawful (den := fun p : Store × Nat => eval p.1 p.2) (ok := fun _ => True)
    (fun t q vt _ => resStep_spec t q vt) l t vt (fun _ _ => trivial)
  exact ⟨h.1, h.2.trans (cofactor_eq_foldl (eval t.1 t.2) l).symm⟩

theorem sSelect_spec (l : List (Nat × Bool)) (t : Store × Nat) (vt : SValid t)
    (hl : ∀ p ∈ l, p.1 < VBOT) :
    SValid (l.foldl selStep t) ∧
    (eval (l.foldl selStep t).1 (l.foldl selStep t).2 = sel (eval t.1 t.2) l) := by
  rw [sel_eq_foldl]
  exact foldl_lawful (den := fun p : Store × Nat => eval p.1 p.2) selStep_spec l t vt hl

theorem sExist_spec (vs : List Nat) (t : Store × Nat) (vt : SValid t) :
    SValid (vs.foldl exStep t) ∧
    (eval (vs.foldl exStep t).1 (vs.foldl exStep t).2 = exL (eval t.1 t.2) vs) :=
  foldl_lawful (den := fun p : Store × Nat => eval p.1 p.2) (ok := fun _ => True)
    (fun t v vt _ => exStep_spec t v vt) vs t vt (fun _ _ => trivial)

/-- `sat_valuations` by walking the diagram: variable `k = 0 … nv-1` in order, branch false first;
a level the diagram skips doubles the valuations (computed once); pruned at the ⊥ terminal. The
first argument is the number of variables still to be decided. No enumeration of all valuations:
every recursive call on a handle other than ⊥ of a well-formed store yields at least one valuation
per call chain (reduced diagrams: only ⊥ is unsatisfiable). -/
def satGo (s : Store) : Nat → Nat → Nat → List (List Bool)
  | 0, _, t => if eval s t (fun _ => false) then [[]] else []
  | f + 1, k, t =>
    if t = 0 then [] else
    match s.nodes[t]? with
    | some n =>
      if 2 ≤ t ∧ n.var = k then
        (satGo s f (k + 1) n.lo).map (false :: ·) ++ (satGo s f (k + 1) n.hi).map (true :: ·)
      else
        let r := satGo s f (k + 1) t
        r.map (false :: ·) ++ r.map (true :: ·)
    | none => []

/-- the assignment a valuation `val` of the variables `k, k+1, …` stands for (everything
else false); for `k = 0` it is `asgOf val` -/
def asgFrom (k : Nat) (val : List Bool) : Asg := fun i => if i < k then false else val.getD (i - k) false

theorem asgFrom_zero (val : List Bool) : asgFrom 0 val = asgOf val := by
  funext i; simp [asgFrom, asgOf]

theorem asgFrom_nil (k : Nat) : asgFrom k [] = fun _ => false := by
  funext i; simp [asgFrom]

theorem asgFrom_cons (k : Nat) (b : Bool) (v : List Bool) :
    asgFrom k (b :: v) = upd (asgFrom (k + 1) v) k b := by
  funext i
  simp only [asgFrom, upd]
  rcases Nat.lt_trichotomy i k with h | rfl | h
  · rw [if_pos h, if_neg (Nat.ne_of_lt h), if_pos (Nat.lt_succ_of_lt h)]
  · rw [if_neg (Nat.lt_irrefl _), if_pos rfl, Nat.sub_self]; rfl
  · rw [if_neg (by omega), if_neg (by omega), if_neg (by omega),
      show i - k = (i - (k + 1)) + 1 by omega, List.getD_cons_succ]

theorem nodup_map_cons {α : Type} (a : α) {l : List (List α)} (h : l.Nodup) : (l.map (a :: ·)).Nodup :=
  List.pairwise_map.mpr (h.imp fun hne he => hne (List.cons.inj he).2)

/-- `vals` lists, each once, the valuations of the `f` variables `k … k+f-1` that satisfy `R` -/
def SatFrom (R : BoolFn) (k f : Nat) (vals : List (List Bool)) : Prop :=
  vals.Nodup ∧ ∀ val, val ∈ vals ↔ (val.length = f ∧ R (asgFrom k val) = true)

theorem satFrom_of_false {R : BoolFn} (h : ∀ σ, R σ = false) (k f : Nat) : SatFrom R k f [] :=
  ⟨List.nodup_nil, fun val => ⟨fun hm => (nomatch hm), fun he => by rw [h] at he; cases he.2⟩⟩

theorem satFrom_zero (R : BoolFn) (k : Nat) :
    SatFrom R k 0 (if R (fun _ => false) = true then [[]] else []) := by
  refine ⟨by split <;> simp, fun val => ?_⟩
  rw [List.length_eq_zero_iff]
  constructor
  · intro hm
    split at hm
    · next h => rw [List.mem_singleton.mp hm, asgFrom_nil]; exact ⟨rfl, h⟩
    · cases hm
  · rintro ⟨rfl, he⟩
    rw [asgFrom_nil] at he
    rw [if_pos he]; exact List.mem_singleton.mpr rfl

/-- deciding variable `k`: the valuations for the two cofactors, prefixed by the value of `k` -/
theorem satFrom_split {R Rl Rh : BoolFn} {k f : Nat} {A B : List (List Bool)}
    (el : ∀ σ, R (upd σ k false) = Rl σ) (eh : ∀ σ, R (upd σ k true) = Rh σ)
    (hA : SatFrom Rl (k + 1) f A) (hB : SatFrom Rh (k + 1) f B) :
    SatFrom R k (f + 1) (A.map (false :: ·) ++ B.map (true :: ·)) := by
  constructor
  · refine List.nodup_append.mpr ⟨?_, ?_, ?_⟩
    · exact nodup_map_cons false hA.1
    · exact nodup_map_cons true hB.1
    · intro a ha b hb
      obtain ⟨u, _, rfl⟩ := List.mem_map.mp ha
      obtain ⟨v, _, rfl⟩ := List.mem_map.mp hb
      exact fun h => nomatch h
  · intro val
    rw [List.mem_append, List.mem_map, List.mem_map]
    constructor
    · rintro (⟨v, hv, rfl⟩ | ⟨v, hv, rfl⟩)
      · have h := (hA.2 v).mp hv
        exact ⟨congrArg (· + 1) h.1, by rw [asgFrom_cons, el]; exact h.2⟩
      · have h := (hB.2 v).mp hv
        exact ⟨congrArg (· + 1) h.1, by rw [asgFrom_cons, eh]; exact h.2⟩
    · intro ⟨hl, he⟩
      cases val with
      | nil => cases hl
      | cons b v =>
        rw [asgFrom_cons] at he
        have hl' : v.length = f := Nat.succ.inj hl
        cases b with
        | false => exact .inl ⟨v, (hA.2 v).mpr ⟨hl', by rw [← el]; exact he⟩, rfl⟩
        | true => exact .inr ⟨v, (hB.2 v).mpr ⟨hl', by rw [← eh]; exact he⟩, rfl⟩

/-- `satGo` lists, without repetition, exactly the valuations of the `f` variables `k … k+f-1`
that satisfy the diagram (the variables below `k` do not occur in it: `k ≤ topVar s t`) -/
theorem satGo_spec (s : Store) (w : WF s) : ∀ (f k t : Nat), t < s.nodes.size → k ≤ topVar s t →
    k + f ≤ VBOT → SatFrom (eval s t) k f (satGo s f k t) := by
  intro f
  induction f with
  | zero => intro k t _ _ _; exact satFrom_zero (eval s t) k
  | succ f ih =>
    intro k t ht hk hkf
    rw [satGo]
    by_cases t0 : t = 0
    · rw [if_pos t0, t0]; exact satFrom_of_false (eval_zero s) k (f + 1)
    obtain ⟨n, hn⟩ := get_of_lt ht
    simp only [if_neg t0, hn]
    by_cases hc : 2 ≤ t ∧ n.var = k
    · -- the diagram tests variable `k`: its two children
      rw [if_pos hc]
      obtain ⟨t2, rfl⟩ := hc
      have ⟨_, hlo, hhi, _, _, _⟩ := w.inner t n t2 hn
      have hf : n.var + 1 + f ≤ VBOT := by rw [Nat.add_right_comm]; exact hkf
      exact satFrom_split (fun σ => (eval_lo s w t n t2 hn σ).symm) (fun σ => (eval_hi s w t n t2 hn σ).symm)
        (ih _ n.lo (Nat.lt_trans hlo ht) (topVar_child_lo w t2 hn) hf)
        (ih _ n.hi (Nat.lt_trans hhi ht) (topVar_child_hi w t2 hn) hf)
    · -- the diagram skips variable `k`: both values, the same continuations
      rw [if_neg hc]
      have hlt : k < topVar s t := by
        by_cases t2 : 2 ≤ t
        · rw [topVar, hn] at hk ⊢
          exact Nat.lt_of_le_of_ne hk (fun h => hc ⟨t2, h.symm⟩)
        · have t1 : t = 1 := by omega
          rw [t1, topVar_one w]
          exact Nat.lt_of_le_of_lt (Nat.le_trans (Nat.le_add_right k (f + 1)) hkf) (by decide)
      have r := ih (k + 1) t ht hlt (by rw [Nat.add_right_comm]; exact hkf)
      exact satFrom_split (eval_upd_of_lt s w t ht k false hlt) (eval_upd_of_lt s w t ht k true hlt) r r

/-- the native store as a BDD library over `nv` declared variables: a diagram is a pair
(node table, handle); every operation returns the extended table together with the new handle.
Binary operations first import the second operand into the first operand's table (`importInto`). -/
def storeLib (nv : Nat) : Lib (Store × Nat) where
  evalExpr e := compile Store.init (toFm e)
  mkFalse := (Store.init, 0)
  isTrue p := p.2 == 1
  isFalse p := p.2 == 0
  and := sAnd
  iff := sIff
  restrict t l := l.foldl resStep t
  select t l := l.foldl selStep t
  exist t vs := vs.foldl exStep t
  satVals p := satGo p.1 nv 0 p.2

/-- the native store is a lawful library (for at most `VBOT` declared variables: the variable
numbers `VBOT`, `VTOP` are the terminals' markers) -/
def storeLawful (nv : Nat) (hn : nv ≤ VBOT) : Lawful (storeLib nv) nv where
  Valid := SValid
  den p := eval p.1 p.2
  evalExpr_spec := fun e he => by
    have g := compile_correct (toFm e) Store.init wfInit (toFm_ok e nv he hn)
    refine ⟨⟨g.wf, g.lt⟩, ?_⟩
    rw [← toFm_sem]; exact funext g.ev
  mkFalse_spec := ⟨⟨wfInit, by simp [storeLib, Store.init]⟩, funext (eval_zero _)⟩
  isTrue_spec := fun p vp => by
    show (p.2 == 1) = true ↔ _
    rw [beq_iff_eq, ← canonical p.1 vp.1 p.2 1 vp.2 (one_lt _ vp.1)]
    constructor
    · intro h σ; rw [h σ, eval_one]
    · intro h σ; rw [h σ, eval_one]
  isFalse_spec := fun p vp => by
    show (p.2 == 0) = true ↔ _
    rw [beq_iff_eq, ← canonical p.1 vp.1 p.2 0 vp.2 (zero_lt _ vp.1)]
    constructor
    · intro h σ; rw [h σ, eval_zero]
    · intro h σ; rw [h σ, eval_zero]
  select_spec := fun t l vt hl =>
    sSelect_spec l t vt (fun p hp => Nat.lt_of_lt_of_le (hl p hp) hn)
  exist_spec := fun t vs vt _ => sExist_spec vs t vt
  restrict_spec := fun t l vt _ _ => sRestrict_spec l t vt
  and_spec := fun a b va vb => sAnd_spec a b va vb
  iff_spec := fun a b va vb => sIff_spec a b va vb
  sat_spec := fun p vp => by
    have h := satGo_spec p.1 vp.1 nv 0 p.2 vp.2 (Nat.zero_le _) (by omega)
    refine ⟨h.1, ?_⟩
    intro val
    have h2 := h.2 val
    rw [asgFrom_zero] at h2
    exact h2

theorem storeDump_spec (nv : Nat) (hn : nv ≤ VBOT) : DumpSpec (storeLawful nv hn) storeDump := by
  constructor
  intro p vp h1 h0
  obtain ⟨s, t⟩ := p
  -- neither `is_true` nor `is_false`: the handle is not a terminal
  have ht : 2 ≤ t := by
    have a : t ≠ 1 := fun h => by rw [h] at h1; cases h1
    have b : t ≠ 0 := fun h => by rw [h] at h0; cases h0
    omega
  rw [storeDump_len s t vp.2]
  exact ⟨storeDump_ok s vp.1 t, Nat.succ_le_succ (Nat.le_of_succ_le ht),
    storeDump_den s vp.1 t vp.2 t (Nat.le_refl _)⟩

/-- every non-constant diagram the store library builds from an expression has a dump that the
bridge can read, and the dump's last entry denotes the expression -/
theorem storeDump_evalExpr (nv : Nat) (hn : nv ≤ VBOT) (e : BExpr) (he : e.closed nv = true)
    (h1 : (storeLib nv).isTrue ((storeLib nv).evalExpr e) = false)
    (h0 : (storeLib nv).isFalse ((storeLib nv).evalExpr e) = false) :
    DumpOK (storeDump ((storeLib nv).evalExpr e)) ∧ 2 ≤ (storeDump ((storeLib nv).evalExpr e)).length ∧
    Den (storeDump ((storeLib nv).evalExpr e)) ((storeDump ((storeLib nv).evalExpr e)).length - 1) e.sem := by
  have v := (storeLawful nv hn).evalExpr_spec e he
  have h := (storeDump_spec nv hn).ok _ v.1 h1 h0
  rw [v.2] at h
  exact h

/-! ### a concrete VALID diagram of the store library whose dump is shared and skips a level

`Std.HashMap` does not reduce in the kernel, so the table is not computed by `decide`: the three
`mkNode` calls are followed by hand (`mkNode_push`). -/

/-- a node one of whose children is the newest entry of the table is not in the table yet (children
precede their parents), so `mkNode` appends it -/
theorem mkNode_push (s : Store) (w : WF s) (v lo hi : Nat) (hlo : lo < s.nodes.size)
    (hhi : hi < s.nodes.size) (hv : v < VBOT) (hvlo : v < topVar s lo) (hvhi : v < topVar s hi)
    (hne : lo ≠ hi) (hlast : lo + 1 = s.nodes.size ∨ hi + 1 = s.nodes.size) :
    WF (mkNode s v lo hi).1 ∧ (mkNode s v lo hi).1.nodes = s.nodes.push ⟨v, lo, hi⟩ := by
  refine ⟨(mkNode_spec s w v lo hi hlo hhi hv hvlo hvhi).1, ?_⟩
  unfold mkNode
  rw [if_neg hne]
  cases hl : s.uniq[(⟨v, lo, hi⟩ : Node)]? with
  | none => rfl
  | some t =>
    have ⟨ht2, hget⟩ := (w.uniqOK _ t).mp hl
    have ⟨_, (h1 : lo < t), (h2 : hi < t), _⟩ := w.inner t _ ht2 hget
    have := lt_of_get hget
    rcases hlast with h | h
    · exact absurd (h ▸ this : t < lo + 1) (Nat.not_lt.mpr h1)
    · exact absurd (h ▸ this : t < hi + 1) (Nat.not_lt.mpr h2)

/-- `x2`, then `x1 ∧ x2`, then `x0 ? x2 : (x1 ∧ x2)` = `(x0 ∧ x2) ∨ (x1 ∧ x2)` -/
def exStore : Store := (mkNode (mkNode (mkNode Store.init 2 0 1).1 1 0 2).1 0 3 2).1

theorem exStore_facts : WF exStore ∧
    exStore.nodes = #[⟨VBOT, 0, 0⟩, ⟨VTOP, 1, 1⟩, ⟨2, 0, 1⟩, ⟨1, 0, 2⟩, ⟨0, 3, 2⟩] := by
  have ⟨w1, n1⟩ := mkNode_push Store.init wfInit 2 0 1 (by decide) (by decide) (by decide)
    (by rw [topVar_zero wfInit]; decide) (by rw [topVar_one wfInit]; decide) (by decide) (.inr rfl)
  have ⟨w2, n2⟩ := mkNode_push _ w1 1 0 2 (by rw [n1]; decide) (by rw [n1]; decide) (by decide)
    (by rw [topVar_zero w1]; decide) (by rw [topVar, n1]; decide) (by decide) (.inr (by rw [n1]; rfl))
  have ⟨w3, n3⟩ := mkNode_push _ w2 0 3 2 (by rw [n2, n1]; decide) (by rw [n2, n1]; decide) (by decide)
    (by rw [topVar, n2, n1]; decide) (by rw [topVar, n2, n1]; decide) (by decide)
    (.inl (by rw [n2, n1]; rfl))
  exact ⟨w3, by rw [exStore, n3, n2, n1]; rfl⟩

theorem exStore_valid : (storeLawful 3 (by simp [VBOT])).Valid (exStore, 4) :=
  ⟨exStore_facts.1, by rw [exStore_facts.2]; simp⟩

/-- the dump of the diagram: 3 inner nodes for a function whose decision tree has 7; node 2 is
the `hi` child of both node 3 and node 4 (SHARED), and the `hi` edge of node 4 (variable 0) goes
to a node of variable 2 (level 1 SKIPPED) -/
theorem exStore_dump : storeDump (exStore, 4) =
    [⟨VBOT, 0, 0⟩, ⟨VTOP, 1, 1⟩, ⟨2, 0, 1⟩, ⟨1, 0, 2⟩, ⟨0, 3, 2⟩] := by
  simp only [storeDump, exStore_facts.2]
  rfl

/-- what the bridge reads of it (everything but the two terminal entries) is `realDump`'s -/
theorem exStore_dump_real : (storeDump (exStore, 4)).drop 2 = realDump.drop 2 := by
  rw [exStore_dump]; rfl

theorem exStore_den : (storeLawful 3 (by simp [VBOT])).den (exStore, 4) =
    fun σ => (σ 0 && σ 2) || (σ 1 && σ 2) := by
  have ⟨w, n⟩ := exStore_facts
  funext σ
  show eval exStore 4 σ = _
  rw [eval_node exStore w 4 ⟨0, 3, 2⟩ (by decide) (by rw [n]; rfl),
      eval_node exStore w 3 ⟨1, 0, 2⟩ (by decide) (by rw [n]; rfl),
      eval_node exStore w 2 ⟨2, 0, 1⟩ (by decide) (by rw [n]; rfl), eval_zero, eval_one]
  cases σ 0 <;> cases σ 1 <;> cases σ 2 <;> rfl

/-- `DumpSpec` instantiated at this diagram: the shared, level-skipping table is a dump the
hybrid theorems accept, and its last entry denotes `(x0 ∧ x2) ∨ (x1 ∧ x2)` -/
example : DumpOK (storeDump (exStore, 4)) ∧ 2 ≤ (storeDump (exStore, 4)).length ∧
    Den (storeDump (exStore, 4)) 4 (fun σ => (σ 0 && σ 2) || (σ 1 && σ 2)) := by
  have h := (storeDump_spec 3 (by simp [VBOT])).ok (exStore, 4) exStore_valid rfl rfl
  rw [exStore_den] at h
  refine ⟨h.1, h.2.1, ?_⟩
  have h3 := h.2.2
  rwa [storeDump_len exStore 4 exStore_valid.2] at h3

/-! evaluator tests of `satGo` (order: variable 0 first, false before true) -/
#guard (storeLib 3).satVals ((storeLib 3).evalExpr (.and (.var 0) (.var 2))) ==
  [[true, false, true], [true, true, true]]
#guard satGo exStore 3 0 4 == [[false, true, true], [true, false, true], [true, true, true]]
#guard (storeLib 3).satVals (storeLib 3).mkFalse == []
#guard ((storeLib 2).satVals ((storeLib 2).evalExpr (.const true))).length == 4
-- 130 declared variables, 120 of them fixed: 2^10 valuations, nothing like 2^130 steps
#guard ((storeLib 130).satVals ((storeLib 130).evalExpr
  ((List.range 120).foldl (fun acc i => .and acc (.var i)) (.const true)))).length == 1024

#print axioms Bio.storeLawful
#print axioms Bio.storeDump_spec
#print axioms Bio.exStore_dump
#print axioms Bio.satGo_spec

end Bio
