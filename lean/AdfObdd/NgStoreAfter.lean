import AdfObdd.NgEndToEnd
/-! # The concrete run against the semantic machine, at every bound (halted or not)

`cState_rel`: along the concrete run the store stays well formed and extends the start store, and as long as the run
has not halted its state is related to a state of the semantic machine that satisfies any given invariant of that
machine.  `cState_store` is the part about the store: what a later call on the same object starts from. -/
namespace NConc.After
open NConc NSem

theorem cState_rel (h : CHeu) (hok : HeuOK h) (s : Store) (n : Nat) (ac : List Nat) (stable : Bool)
    (w0 : WF s) (hac0 : ∀ t ∈ ac, t < s.nodes.size) (hn : ac.length = n) (I : ASt → Prop)
    (h0 : I (initSt ((initC s n ac).cur.map (eval (initC s n ac).s)) n))
    (hI : ∀ k a a', I a → NGen.iter (PP s n ac stable (rawOf h s n ac stable)) k a = NGen.Res.cont a' → I a') : ∀ k,
    WF (cState h s n ac stable k).s ∧ Ext s (cState h s n ac stable k).s ∧
    ((cState h s n ac stable k).done = true ∨
      ∃ a, Rel (cState h s n ac stable k) a ∧ CInv s n (cState h s n ac stable k) ∧ I a) := by
  intro k
  induction k with
  | zero =>
    have ⟨hrel, hinv, _, _⟩ := init_facts s n ac stable w0 hac0 hn
    exact ⟨hinv.wf, hinv.ext, Or.inr ⟨_, hrel, hinv, h0⟩⟩
  | succ k ih =>
    obtain ⟨wk, ek, hk⟩ := ih
    rcases hk with hd | ⟨a, hr, hi, ha⟩
    · rw [cState_succ_done h s n ac stable hd]; exact ⟨wk, ek, Or.inl hd⟩
    · have ⟨hsim, hw, he⟩ := sim_iter ac stable (rawOf h s n ac stable) w0 hac0 hn hok k hr hi rfl
      rw [cState_succ_running h s n ac stable hi.nd]
      refine ⟨hw, he, ?_⟩
      cases hit : NGen.iter (PP s n ac stable (rawOf h s n ac stable)) k a with
      | done a1 => rw [hit] at hsim; exact Or.inl hsim.1
      | cont a1 => rw [hit] at hsim; exact Or.inr ⟨a1, hsim.1, hsim.2, hI k a a1 ha hit⟩

theorem cState_store (h : CHeu) (hok : HeuOK h) (s : Store) (n : Nat) (ac : List Nat) (stable : Bool)
    (w0 : WF s) (hac0 : ∀ t ∈ ac, t < s.nodes.size) (hn : ac.length = n) (k : Nat) :
    WF (cState h s n ac stable k).s ∧ Ext s (cState h s n ac stable k).s ∧
    ((cState h s n ac stable k).done = true ∨
      ∃ a, Rel (cState h s n ac stable k) a ∧ CInv s n (cState h s n ac stable k)) :=
  have ⟨w, e, r⟩ := cState_rel h hok s n ac stable w0 hac0 hn (fun _ => True) trivial (fun _ _ _ _ _ => trivial) k
  ⟨w, e, r.imp id fun ⟨a, hr, hi, _⟩ => ⟨a, hr, hi⟩⟩

end NConc.After
