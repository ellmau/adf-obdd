import AdfObdd.ServerGraph
import AdfObdd.CliFaithful
import AdfObdd.FromParserProofs
/-! # C16 — the answers the web service stores are the definitional ones

The solve task of the service (`ServerAdf.solveAdf`) rebuilds the ADF from the stored
`SimplifiedAdf` (node list replayed through `Bdd::node`: `rebuild`; ordering; `ac` handles) and runs
one of six strategies on it. This file composes

* the storage round trip: replaying ANY well-formed node table (`TableWF`, what the run-time
  `wfCheck` establishes) gives a well-formed store with exactly that table (`rebuild_WF`, Rebuild.lean);
* naive parsing: `ServerAdf.fromParser` (all variables, then every `ac` fact in file order, a later
  fact for the same statement overwriting an earlier one, falsum without a fact) yields a well-formed
  store whose handles denote `ServerAdf.conditions` (`fromParser_correct`, `parseNaive_denotes`): the
  loop is the placement loop of the CLI's `from_parser` (`fromParser_eq`, `condsOf_eq`), proved there
  (`FromParser.placeCompile_spec`);
* C01–C05 in the form of `CliF.section_exact` (every section, from any well-formed store, emits a
  permutation of the specification's answer) and `SpecSound` (specification = `Prop`-level
  definitions).

The six strategies are the CLI sections `grd, com, stm, stmca, stmcb, stmng` (`secOf`); `solveAdfF fuel`
is the solve task written with `CliF.runSectionF`, i.e. with the fuel-based model `SM.ngSearch .simple
fuel` of `stable_nogood(Simple)`. `ServerAdf.solveAdf`, the model the driver runs, uses the same
search with the fixed bound 10^6, so `solveAdf = solveAdfF 1000000` for ALL six strategies
(`solveAdfF_million`) and `solveAdfF fuel = solveAdf` for every `fuel` on the five strategies that run no
nogood search (`solveAdfF_eq`); both rest on `solveAdf_eq_section`. `stored_answers_exact*` are about
`solveAdfF` (all six; `StableNogood` under the hypothesis "the search halted within the bound", as in
C15, discharged for every large bound); the bound-free statement about `solveAdf` itself for the five
strategies without search, from `solveAdfF_eq` and `strategyHalts_of_ne`, and the sixth strategy are
`C16.stored_answers_exact_driver_model_no_search` / `C16.stored_answers_exact_driver_model`. -/
namespace SrvA
open ServerM ServerAdf

theorem eval_table (s : Store) : eval ⟨s.nodes, {}, {}, {}⟩ = eval s := by
  funext t σ; exact eval_congr rfl t σ

/-- the condition that counts for statement `i`: the last `ac` fact for it, falsum without one -/
def lastOf (l : List (Nat × Fm)) (i : Nat) : Fm :=
  match (l.filter (fun x => x.1 == i)).getLast? with
  | some x => x.2
  | none => Fm.bot

/-- the conditions of the `n` statements (the list `ServerAdf.conditions` computes) -/
def condsOf (n : Nat) (l : List (Nat × Fm)) : List Fm := (List.range n).map (lastOf l)

/-- "the last fact for a position" as `ServerAdf.conditions` writes it (`filter`, `getLast?`) is the
recursive `FromParser.lastAt` of the placement loop's specification -/
theorem lastAt_eq (i : Nat) : ∀ l : List (Nat × Fm),
    FromParser.lastAt l i = ((l.filter fun x => x.1 == i).getLast?).map (·.2) := by
  intro l
  induction l with
  | nil => rfl
  | cons x r ih =>
    obtain ⟨q, f⟩ := x
    simp only [FromParser.lastAt, List.filter_cons, ih]
    by_cases e : q = i
    · simp only [e, beq_self_eq_true, if_true, List.getLast?_cons]
      cases (r.filter fun x => x.1 == i).getLast? <;> rfl
    · simp only [beq_iff_eq, e, if_false]
      cases (r.filter fun x => x.1 == i).getLast? <;> rfl

theorem lastOf_eq (i : Nat) (l : List (Nat × Fm)) : lastOf l i = (FromParser.lastAt l i).getD Fm.bot := by
  rw [lastAt_eq]; unfold lastOf
  cases (l.filter fun x => x.1 == i).getLast? <;> rfl

/-- the service's conditions are the placement loop of `Adf::from_parser` at the level of formulas -/
theorem condsOf_eq (n : Nat) (l : List (Nat × Fm)) :
    condsOf n l = FromParser.placeFm (List.replicate n Fm.bot) l := by
  apply List.ext_getElem?
  intro i
  by_cases hi : i < n
  · rw [FromParser.placeFm_get l _ i Fm.bot (by simp [hi])]
    simp [condsOf, hi, lastOf_eq]
  · rw [List.getElem?_eq_none (by simp [condsOf]; omega),
      List.getElem?_eq_none (by rw [FromParser.placeFm_length]; simp; omega)]

/-- the service's `from_parser` is the placement loop of `FromParser.fromParser`, on the work list `l` -/
theorem fromParser_eq (n : Nat) (l : List (Nat × Fm)) :
    fromParser n l = FromParser.placeCompile (buildVars n Store.init) (List.replicate n 0) l := by
  unfold fromParser
  generalize (List.replicate n 0 : List Nat) = acc
  show l.foldl _ (buildVars n Store.init, acc) = _
  generalize buildVars n Store.init = s
  induction l generalizing s acc with
  | nil => rfl
  | cons x xs ih => exact ih _ _

/-- **`from_parser` as the parse task runs it** (C09 for the service's variant: facts in file order,
later facts overwrite, falsum without a fact): a well-formed store, one valid handle per statement,
and handle `i` denotes the condition that counts for statement `i` -/
theorem fromParser_correct (n : Nat) (l : List (Nat × Fm)) (hn : n ≤ VBOT) (hok : ∀ x ∈ l, x.2.atomsOK) :
    WF (fromParser n l).1 ∧ (fromParser n l).2.length = n ∧
    ∀ (i t : Nat) (f : Fm), (fromParser n l).2[i]? = some t → (condsOf n l)[i]? = some f →
      t < (fromParser n l).1.nodes.size ∧ ∀ σ, eval (fromParser n l).1 t σ = f.sem σ := by
  have w0 := FromParser.buildVars_WF n hn
  have ⟨w, _, hl, hv, hd⟩ := FromParser.placeCompile_spec l (buildVars n Store.init) (List.replicate n 0)
    (List.replicate n Fm.bot) w0 (fun t ht => by rw [(List.mem_replicate.mp ht).2]; exact zero_lt _ w0)
    (by rw [List.map_replicate, List.map_replicate]; congr 1) hok
  rw [← fromParser_eq, ← condsOf_eq] at *
  refine ⟨w, by rw [hl, List.length_replicate], fun i t f ht hf => ?_⟩
  exact ⟨hv t (List.mem_of_getElem? ht), congrFun (map_eq_map_get hd ht hf)⟩

theorem indexOf_lt (x : String) (names : List String) (i : Nat) (h : indexOf x names = some i) : i < names.length :=
  (List.idxOf?_eq_some_iff.mp (indexOf_eq_idxOf? x names ▸ h)).1

theorem bind2_eq_some {α β γ : Type} {f : α → β → γ} {x : Option α} {y : Option β} {z : γ}
    (h : (do pure (f (← x) (← y)) : Option γ) = some z) : ∃ a b, x = some a ∧ y = some b ∧ z = f a b := by
  cases x with
  | none => cases h
  | some a =>
    cases y with
    | none => cases h
    | some b => cases h; exact ⟨a, b, rfl, rfl, rfl⟩

theorem toFm_atomsLt (names : List String) : ∀ (f : ParserM.Fml) (φ : Fm), toFm names f = some φ →
    NConc.atomsLt names.length φ := by
  intro f
  induction f with
  | top => intro φ h; cases h; trivial
  | bot => intro φ h; cases h; trivial
  | atom l =>
    intro φ h
    obtain ⟨i, hi, rfl⟩ := Option.map_eq_some_iff.mp h
    exact indexOf_lt _ names i hi
  | not f ih =>
    intro φ h
    obtain ⟨ψ, hψ, rfl⟩ := Option.map_eq_some_iff.mp h
    exact ih ψ hψ
  | and a b iha ihb | or a b iha ihb | imp a b iha ihb | xor a b iha ihb | iff a b iha ihb =>
    intro φ h
    obtain ⟨ψa, ψb, ha, hb, rfl⟩ := bind2_eq_some h
    exact ⟨iha ψa ha, ihb ψb hb⟩

theorem resolve_atomsLt (p : Parsed) (l : List (Nat × Fm)) (h : resolve p = .ok l) :
    ∀ x ∈ l, NConc.atomsLt p.names.length x.2 := by
  unfold resolve at h
  intro x hx
  split at h
  · rename_i l0 hm
    cases h
    obtain ⟨y, _, hy⟩ := FromParser.omap_mem _ _ _ (FromParser.mapM_eq_omap _ _ ▸ hm) x hx
    obtain ⟨i, φ, _, hφ, rfl⟩ := bind2_eq_some hy
    exact toFm_atomsLt p.names y.2 φ hφ
  · cases h

theorem condsOf_atomsLt (n : Nat) (l : List (Nat × Fm)) (h : ∀ x ∈ l, NConc.atomsLt n x.2) :
    ∀ φ ∈ condsOf n l, NConc.atomsLt n φ := by
  intro φ hφ
  obtain ⟨i, _, rfl⟩ := List.mem_map.mp hφ
  unfold lastOf
  cases hg : (l.filter (fun x => x.1 == i)).getLast? with
  | none => trivial
  | some x =>
    have : x ∈ l.filter (fun x => x.1 == i) := List.mem_of_getLast? hg
    exact h x (List.mem_filter.mp this).1

/-- the parser's result together with its resolved `ac` facts: the common first stage of
`ServerAdf.conditions`, of naive parsing and of the hybrid arm (`ServerHybrid.lean`) -/
def resolved (code : String) : Except Err (Parsed × List (Nat × Fm)) :=
  match parseText code with
  | none => .error .parseError
  | some p =>
    match resolve p with
    | .error e => .error e
    | .ok l => .ok (p, l)

theorem resolved_ok {code : String} {p : Parsed} {l : List (Nat × Fm)} (h : resolved code = .ok (p, l)) :
    parseText code = some p ∧ resolve p = .ok l := by
  unfold resolved at h
  cases hp : parseText code with
  | none => rw [hp] at h; cases h
  | some p' =>
    rw [hp] at h
    simp only at h
    cases hr : resolve p' with
    | error e => rw [hr] at h; cases h
    | ok l' => rw [hr] at h; cases h; exact ⟨rfl, hr⟩

theorem conditions_eq (code : String) :
    conditions code =
      match resolved code with
      | .error e => .error e
      | .ok (p, l) => .ok (p.names, condsOf p.names.length l) := by
  unfold conditions resolved
  cases parseText code with
  | none => rfl
  | some p =>
    simp only
    cases resolve p <;> rfl

theorem conditions_error {code : String} {e : Err} (h : conditions code = .error e) : resolved code = .error e := by
  rw [conditions_eq] at h
  cases hr : resolved code with
  | error e' => rw [hr] at h; cases h; rfl
  | ok x => rw [hr] at h; cases h

theorem conditions_ok {code : String} {x : List String × List Fm} (h : conditions code = .ok x) :
    ∃ p l, resolved code = .ok (p, l) ∧ x = (p.names, condsOf p.names.length l) := by
  rw [conditions_eq] at h
  cases hr : resolved code with
  | error e => rw [hr] at h; cases h
  | ok y => rw [hr] at h; cases h; exact ⟨y.1, y.2, rfl, rfl⟩

theorem parseNaive_eq (key code : String) :
    parseNaive key code =
      match resolved code with
      | .error e => .error e
      | .ok (p, l) =>
        let r := fromParser p.names.length l
        .ok ({ key := key, names := p.names, nodes := r.1.nodes, ac := r.2 }, [⟨r.2, graphOf p.names r.1.nodes r.2⟩]) := by
  unfold parseNaive resolved
  cases parseText code with
  | none => rfl
  | some p =>
    simp only
    cases resolve p <;> rfl

theorem parseNaive_ok {key code : String} {a : SAdf} {r : SRes} (h : parseNaive key code = .ok (a, r)) :
    ∃ p l, resolved code = .ok (p, l) ∧
      a = { key := key, names := p.names, nodes := (fromParser p.names.length l).1.nodes,
            ac := (fromParser p.names.length l).2 } := by
  rw [parseNaive_eq] at h
  cases hr : resolved code with
  | error e => rw [hr] at h; cases h
  | ok x =>
    obtain ⟨p, l⟩ := x
    rw [hr] at h
    cases h
    exact ⟨p, l, rfl, rfl⟩

def secOf : Strategy → Cli.Section
  | .ground => .grd | .complete => .com | .stable => .stm
  | .stableCountingA => .stmca | .stableCountingB => .stmcb | .stableNogood => .stmng

/-- `ServerAdf.solveAdf` with the fuel-based model of the nogood-learning search (`SM.ngSearch .simple
fuel`, the loop C05 is about) in the `StableNogood` arm: rebuild the stored table, run the section,
attach the graphs -/
def solveAdfF (fuel : Nat) (a : SAdf) (s : Strategy) : Except Err SRes :=
  let r := CliF.runSectionF fuel .simple (secOf s) (rebuild a.nodes) a.ac.length a.ac
  .ok (r.2.map (fun ac => ⟨ac, graphOf a.names r.1.nodes ac⟩))

theorem solveAdf_eq_section (a : SAdf) (s : Strategy) :
    solveAdf a s =
      (let r := Cli.runSection .simple (secOf s) (rebuild a.nodes) a.ac.length a.ac
       .ok (r.2.map (fun ac => ⟨ac, graphOf a.names r.1.nodes ac⟩))) := by
  unfold solveAdf
  cases s <;> simp only [secOf, Cli.runSection]

theorem solveAdf_ground (a : SAdf) :
    solveAdf a .ground =
      (let g := groundedLoop StoreRA (a.ac.length + 1) (rebuild a.nodes) a.ac
       .ok [⟨g.2, graphOf a.names g.1.nodes g.2⟩]) := by
  simp only [solveAdf, List.map_cons, List.map_nil]

theorem solveAdf_complete (a : SAdf) :
    solveAdf a .complete =
      (let c := completeAll (rebuild a.nodes) a.ac.length a.ac
       .ok (c.2.2.map (fun v => ⟨v, graphOf a.names c.1.nodes v⟩))) := by
  simp only [solveAdf]

theorem runSectionF_of_no_search (fuel : Nat) (s : Strategy) (h : s ≠ .stableNogood) (st : Store) (n : Nat)
    (ac : List Nat) :
    CliF.runSectionF fuel .simple (secOf s) st n ac = Cli.runSection .simple (secOf s) st n ac := by
  cases s <;> first | rfl | exact absurd rfl h

theorem solveAdfF_million (a : SAdf) (s : Strategy) : solveAdfF 1000000 a s = solveAdf a s := by
  rw [solveAdf_eq_section, solveAdfF, CliF.runSectionF_eq]

theorem solveAdfF_eq (fuel : Nat) (a : SAdf) (s : Strategy) (h : s ≠ .stableNogood) :
    solveAdfF fuel a s = solveAdf a s := by
  rw [solveAdf_eq_section, solveAdfF, runSectionF_of_no_search fuel s h]

/-- the stored vectors (`AcAndGraph.ac`) read as three-valued interpretations -/
def storedI3 (res : SRes) : List I3 := res.map (fun x => x.ac.map storeIsConst)

/-- did the strategy's search (if it runs one) halt within the bound? -/
def strategyHalts (fuel : Nat) (a : SAdf) (s : Strategy) : Bool :=
  CliF.sectionHaltsF fuel .simple (secOf s) (rebuild a.nodes) a.ac.length a.ac

theorem strategyHalts_of_ne (fuel : Nat) (a : SAdf) (s : Strategy) (h : s ≠ .stableNogood) :
    strategyHalts fuel a s = true := by
  cases s with
  | stableNogood => exact absurd rfl h
  | _ => rfl

/-- the stored ADF denotes the conditions `fms` of `n` statements: a well-formed table, one handle per
statement, each valid and with the function of its condition. For naive parsing this is
`stored_naive_denotes`; for hybrid parsing the stored table is the one adopted from biodivine's dump
and this is exactly what the run-time checks of the adopted table establish (`wfCheck` for the
table, `isoF` (`isoCheck_sound`) / the semantic comparison `storedAdfOK` for the handles). -/
structure Denotes (a : SAdf) (n : Nat) (fms : List Fm) : Prop where
  table : TableWF a.nodes
  len : a.ac.length = n
  flen : fms.length = n
  atoms : ∀ φ ∈ fms, NConc.atomsLt n φ
  den : ∀ (i t : Nat) (f : Fm), a.ac[i]? = some t → fms[i]? = some f →
    t < a.nodes.size ∧ ∀ σ, eval ⟨a.nodes, {}, {}, {}⟩ t σ = f.sem σ

theorem reps_of_atomsLt (n : Nat) (fms : List Fm) (ha : ∀ φ ∈ fms, NConc.atomsLt n φ) :
    (∀ f ∈ fms.map Fm.sem, TT.DetBy n f) ∧ SpecSound.Reps n (CliF.tablesOf n fms) (fms.map Fm.sem) := by
  have hdet : ∀ f ∈ fms.map Fm.sem, TT.DetBy n f := by
    intro f hf
    obtain ⟨φ, hφ, rfl⟩ := List.mem_map.mp hf
    exact NConc.sem_supp φ (ha φ hφ)
  refine ⟨hdet, ?_⟩
  have := SpecSound.reps_ofFn n (fms.map Fm.sem) hdet
  rw [List.map_map] at this
  exact this

theorem Denotes.roots {a : SAdf} {n : Nat} {fms : List Fm} (h : Denotes a n fms) : ∀ t ∈ a.ac, t < a.nodes.size := by
  intro t ht
  obtain ⟨i, hi, rfl⟩ := List.getElem_of_mem ht
  have hi' : i < fms.length := by rw [h.flen, ← h.len]; exact hi
  exact (h.den i _ _ (List.getElem?_eq_getElem hi) (List.getElem?_eq_getElem hi')).1

theorem Denotes.handles {a : SAdf} {n : Nat} {fms : List Fm} (h : Denotes a n fms) {st : Store} (hst : st.nodes = a.nodes) :
    (∀ t ∈ a.ac, t < st.nodes.size) ∧ a.ac.map (eval st) = fms.map Fm.sem := by
  refine ⟨by rw [hst]; exact h.roots, ?_⟩
  apply map_eval_eq_sem _ _ fms (by rw [h.len, h.flen])
  intro i t f ht hf σ
  rw [eval_congr (s := ⟨a.nodes, {}, {}, {}⟩) hst]
  exact (h.den i t f ht hf).2 σ

theorem rebuilt_facts {a : SAdf} {n : Nat} {fms : List Fm} (h : Denotes a n fms) :
    WF (rebuild a.nodes) ∧ (∀ t ∈ a.ac, t < (rebuild a.nodes).nodes.size) ∧
    a.ac.map (eval (rebuild a.nodes)) = fms.map Fm.sem :=
  have ⟨wr, hn⟩ := rebuild_WF a.nodes h.table
  ⟨wr, h.handles hn⟩

/-- C01–C05 for a stored framework: every section, run from ANY well-formed store holding the stored
table (the rebuilt one, or the library's own store with whatever its caches hold), emits a permutation of
the specification's answer for the conditions the framework denotes -/
theorem Denotes.section_exact {a : SAdf} {n : Nat} {fms : List Fm} (h : Denotes a n fms) {st : Store} (w : WF st)
    (hst : st.nodes = a.nodes) (fuel : Nat) (sec : Cli.Section)
    (hh : CliF.sectionHaltsF fuel .simple sec st n a.ac = true) :
    WF (CliF.runSectionF fuel .simple sec st n a.ac).1 ∧ Ext st (CliF.runSectionF fuel .simple sec st n a.ac).1 ∧
    ((CliF.runSectionF fuel .simple sec st n a.ac).2.map (fun v => v.map storeIsConst)).Perm
      (Cli.specSection n (CliF.tablesOf n fms) sec) :=
  have ⟨hv, hden⟩ := h.handles hst
  have ⟨hdet, R⟩ := reps_of_atomsLt n fms h.atoms
  have hD : (fms.map Fm.sem).length = n := by simp [h.flen]
  CliF.section_exact R hD (CliF.Same.refl hdet) fuel .simple sec st a.ac w h.len hv hden hh

/-- **stored_answers_exact, any stored table** (both parsing strategies): for a stored ADF that denotes
the conditions `fms`, every strategy: the solve task succeeds, and the vectors it stores are — as a
multiset of three-valued interpretations — exactly the specification's answer for the strategy,
provided the strategy's search (`StableNogood` only) halted within the bound -/
theorem stored_answers_exact_any_table (fuel : Nat) (a : SAdf) (n : Nat) (fms : List Fm) (s : Strategy)
    (h : Denotes a n fms) (hh : strategyHalts fuel a s = true) :
    ∃ res, solveAdfF fuel a s = .ok res ∧
      (storedI3 res).Perm (Cli.specSection n (CliF.tablesOf n fms) (secOf s)) := by
  have ⟨wr, hn⟩ := rebuild_WF a.nodes h.table
  have hlen := h.len
  subst hlen
  refine ⟨_, rfl, ?_⟩
  unfold storedI3
  rw [List.map_map]
  exact (h.section_exact wr hn fuel (secOf s) hh).2.2

theorem strategyHalts_within (a : SAdf) (n : Nat) (fms : List Fm) (s : Strategy) (h : Denotes a n fms) :
    ∀ fuel, NConc.ngBound n ≤ fuel → strategyHalts fuel a s = true :=
  have ⟨wr, hv, _⟩ := rebuilt_facts h
  h.len ▸ CliF.section_halts_within .simple (secOf s) (rebuild a.nodes) a.ac.length a.ac wr rfl hv

/-- the search halts from the bound `NConc.ngBound n` on, so for every large bound
`stored_answers_exact_any_table` assumes nothing -/
theorem stored_answers_exact_every_large_bound (a : SAdf) (n : Nat) (fms : List Fm) (s : Strategy)
    (h : Denotes a n fms) :
    ∃ F0, ∀ fuel, F0 ≤ fuel → strategyHalts fuel a s = true ∧
      ∃ res, solveAdfF fuel a s = .ok res ∧
        (storedI3 res).Perm (Cli.specSection n (CliF.tablesOf n fms) (secOf s)) :=
  ⟨NConc.ngBound n, fun fuel hf =>
    have hh := strategyHalts_within a n fms s h fuel hf
    ⟨hh, stored_answers_exact_any_table fuel a n fms s h hh⟩⟩

theorem stored_naive_denotes (n : Nat) (l : List (Nat × Fm)) (names : List String) (key : String) (hn : n ≤ VBOT)
    (ha : ∀ x ∈ l, NConc.atomsLt n x.2) :
    Denotes { key := key, names := names, nodes := (fromParser n l).1.nodes, ac := (fromParser n l).2 } n (condsOf n l) := by
  have hok : ∀ x ∈ l, x.2.atomsOK := fun x hx => NConc.atomsOK_of_lt hn _ (ha x hx)
  have ⟨w, hlen, hc⟩ := fromParser_correct n l hn hok
  refine ⟨w.table, hlen, by simp [condsOf], condsOf_atomsLt n l ha, ?_⟩
  intro i t f ht hf
  have ⟨a, b⟩ := hc i t f ht hf
  exact ⟨a, fun σ => by rw [← b σ]; exact eval_congr rfl t σ⟩

/-- **the parse task, naive parsing, from the submitted text**: whatever a successful parse stores
denotes the conditions `ServerAdf.conditions` reads off the code -/
theorem parseNaive_denotes (key code : String) (a : SAdf) (r : SRes) (h : parseNaive key code = .ok (a, r))
    (hn : a.names.length ≤ VBOT) :
    ∃ fms, conditions code = .ok (a.names, fms) ∧ Denotes a a.names.length fms := by
  obtain ⟨p, l, hr, rfl⟩ := parseNaive_ok h
  refine ⟨condsOf p.names.length l, by rw [conditions_eq, hr], ?_⟩
  exact stored_naive_denotes p.names.length l p.names key hn (resolve_atomsLt p l (resolved_ok hr).2)

/-- the definitional answer of a strategy for conditions `D` over `n` statements: the least fixpoint
of Γ; the fixpoints of Γ, each once; the stable models (two-valued models whose true statements are
true in the least fixpoint of the reduct), each once -/
def PropAnswer (n : Nat) (D : List BoolFn) : Strategy → List I3 → Prop
  | .ground, out => ∃ g, out = [g] ∧ IsLfp D g
  | .complete, out => out.Nodup ∧ ∀ w : I3, w ∈ out ↔ (w.length = n ∧ Gam D w = w)
  | _, out => out.Nodup ∧ ∀ v : I3, v ∈ out ↔ (v.length = n ∧ TotalI v ∧ Gam D v = v ∧
      ∀ w : I3, IsLfp (redu D v) w → ∀ i : Nat, v[i]? = some (some true) → w[i]? = some (some true))

theorem propAnswer_of_perm {n : Nat} {tts : List Nat} {D : List BoolFn} (R : SpecSound.Reps n tts D)
    (hD : D.length = n) (s : Strategy) {out : List I3} (h : out.Perm (Cli.specSection n tts (secOf s))) :
    PropAnswer n D s out := by
  cases s with
  | ground =>
    have h' : out.Perm [Spec.grounded n tts] := h
    exact ⟨_, List.perm_singleton.mp h', SpecSound.grounded_spec R hD⟩
  | complete =>
    have h' : out.Perm (Spec.completeAll n tts) := h
    exact ⟨h'.nodup_iff.mpr (SpecSound.completeAll_nodup n tts),
      fun w => by rw [h'.mem_iff, SpecSound.completeAll_spec R w]⟩
  | stable | stableCountingA | stableCountingB | stableNogood =>
    have h' : out.Perm (Spec.stableAll n tts) := h
    exact ⟨h'.nodup_iff.mpr (SpecSound.stableAll_nodup n tts),
      fun v => by rw [h'.mem_iff, SpecSound.stable_spec R v]⟩

theorem Denotes.propAnswer {a : SAdf} {n : Nat} {fms : List Fm} (h : Denotes a n fms) (s : Strategy) {out : List I3}
    (hp : out.Perm (Cli.specSection n (CliF.tablesOf n fms) (secOf s))) : PropAnswer n (fms.map Fm.sem) s out :=
  propAnswer_of_perm (reps_of_atomsLt n fms h.atoms).2 (by simp [h.flen]) s hp

/-- **stored answers = the definitions** (any stored table denoting `fms`): ground stores the least
fixpoint of Γ, complete stores every fixpoint of Γ once, the four stable strategies store every stable
model once — for the Boolean functions of the submitted conditions -/
theorem stored_answers_definitional (fuel : Nat) (a : SAdf) (n : Nat) (fms : List Fm) (s : Strategy)
    (h : Denotes a n fms) (hh : strategyHalts fuel a s = true) :
    ∃ res, solveAdfF fuel a s = .ok res ∧ PropAnswer n (fms.map Fm.sem) s (storedI3 res) := by
  obtain ⟨res, h1, h2⟩ := stored_answers_exact_any_table fuel a n fms s h hh
  exact ⟨res, h1, h.propAnswer s h2⟩

end SrvA
#print axioms SrvA.stored_answers_exact_any_table
#print axioms SrvA.stored_answers_exact_every_large_bound
#print axioms SrvA.parseNaive_denotes
#print axioms SrvA.stored_answers_definitional
