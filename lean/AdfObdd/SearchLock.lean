import AdfObdd.CallHistoryMemo
import AdfObdd.CountExact
import AdfObdd.NgEndToEnd
/-! # The two searches do not depend on memo contents (C11)

The counting-guided search (`countAll` = grounded + `GK.search (countParams …)` + stability filter) and the
nogood-learning search (`SM.ngSearch` = grounded + `SM.ngRun`): two runs from well-formed stores with the same node
table (memo tables arbitrary) emit the same vectors in the same ORDER (the nogood search also shows the same
interpretations to the heuristic and halts within the same bound) and end with the same node table.

For the searches as the model runs them (`countAll`, `SM.ngSearch` with a built-in or scripted heuristic) this is
C12's comparison of the configured search with the reference (`countAllC_sim`, `ngSearchC_sim`) at the empty feature
set, applied to both stores (`Lk.of_cfg`): there the heuristics, the goal value and the cube enumeration are shown to
read the node table only, and every store-changing step to respect the relation.

The phases of the nogood iteration are also related directly, by `SLk` (same control state, related stores), for ANY
heuristic that answers alike on related stores (`cChoice_sim … cSearch_sim`): every store-changing step is
`apply_interpretation` or the stability check, which respect any simulation of `StoreRA` by itself (`applyVecG_sim`,
`stabilityCheckG_sim`). `Heuristic::Rand` (`CallHistoryRand.lean`), which is not one of the heuristics of `SM.Heu`,
needs this form. -/
namespace CallH
open CI

/-- the counting search is not generic in the restriction algebra (its heuristics, goal value and cube enumeration read
the node table); C12 compares it under every feature set with the reference: take the empty feature set -/
theorem countAll_sim (s s' : Store) (n : Nat) (ac : List Nat) (useA : Bool) (h : Lk s s') :
    (countAll s n ac useA).2 = (countAll s' n ac useA).2 ∧ Lk (countAll s n ac useA).1 (countAll s' n ac useA).1 :=
  Lk.of_cfg (f := fun fs => countAllC Cfg.none fs n ac useA) (g := fun s => countAll s n ac useA)
    (fun fs s r => countAllC_sim Cfg.none false _ False (Stable.true _) fs s n ac useA r) h

/-- **`stable_count_optimisation_heu_a/b`**: same vectors in the same order, same node table -/
theorem countAll_lock (s s' : Store) (n : Nat) (ac : List Nat) (useA : Bool) (h : Lk s s') (hn : ac.length = n)
    (hv : ∀ a ∈ ac, a < s.nodes.size) :
    Lk (countAll s n ac useA).1 (countAll s' n ac useA).1 ∧ (countAll s' n ac useA).2 = (countAll s n ac useA).2 :=
  have ⟨q, r⟩ := countAll_sim s s' n ac useA h
  ⟨r, q.symm⟩

open NConc

abbrev wS (c : SM.NgS) (s : Store) : SM.NgS := { c with s := s }

variable {R : Store → Store → Prop}

/-- the two runs are in the same control state; their stores are related -/
structure SLk (R : Store → Store → Prop) (c c' : SM.NgS) : Prop where
  eq : c' = wS c c'.s
  r : R c.s c'.s

theorem SLk.of {c : SM.NgS} {s' : Store} (r : R c.s s') : SLk R c (wS c s') := ⟨rfl, r⟩

theorem SLk.ex {c c' : SM.NgS} (h : SLk R c c') : ∃ s', c' = wS c s' ∧ R c.s s' := ⟨_, h.eq, h.r⟩

theorem applyInterp_sim (sim : RASim StoreRA StoreRA R) (interp xs : List Nat) (s s' : Store) (h : R s s') :
    (applyInterp s interp xs).2 = (applyInterp s' interp xs).2 ∧ R (applyInterp s interp xs).1 (applyInterp s' interp xs).1 := by
  rw [applyInterp_eq_applyVec, applyInterp_eq_applyVec]
  have := applyVecG_sim sim interp xs s s' h
  rwa [applyVecG_store] at this

theorem stabilityCheck_sim (sim : RASim StoreRA StoreRA R) (n : Nat) (ac cand : List Nat) (s s' : Store) (h : R s s') :
    (stabilityCheck s n ac cand).2 = (stabilityCheck s' n ac cand).2 ∧
    R (stabilityCheck s n ac cand).1 (stabilityCheck s' n ac cand).1 := by
  have := stabilityCheckG_sim sim n ac cand s s' h
  rwa [stabilityCheckG_store] at this

section
variable {hc : CHeu} (hcong : ∀ (s s' : Store) v time, R s s' → hc s v time = hc s' v time)
  (sim : RASim StoreRA StoreRA R)

include hcong in
theorem cChoice_sim {c c' : SM.NgS} (h : SLk R c c') : SLk R (cChoice hc c) (cChoice hc c') := by
  obtain ⟨s', rfl, r⟩ := h.ex
  unfold cChoice
  dsimp only
  rw [← hcong _ _ c.cur c.time r]
  split
  · split <;> exact .of r
  · exact .of r

theorem cBack_sim {c c' : SM.NgS} (h : SLk R c c') : SLk R (cBack c) (cBack c') := by
  obtain ⟨s', rfl, r⟩ := h.ex
  unfold cBack
  dsimp only
  split <;> exact .of r

theorem SLk.ite {p : Prop} [Decidable p] {a a' b b' : SM.NgS} (h : p → SLk R a b) (h' : ¬ p → SLk R a' b') :
    SLk R (if p then a else a') (if p then b else b') := by
  split
  · exact h ‹_›
  · exact h' ‹_›

include sim

/-- everything after the closure: the two `apply_interpretation` calls and the stability check are the only uses of
the store -/
theorem cFinal_sim (n : Nat) (ac : List Nat) (stable updNg : Bool) {c c' : SM.NgS} (h : SLk R c c') :
    SLk R (cFinal n ac stable c updNg) (cFinal n ac stable c' updNg) := by
  obtain ⟨s', rfl, r⟩ := h.ex
  have ⟨q1, r1⟩ := applyInterp_sim sim c.cur ac c.s s' r
  have ⟨q2, r2⟩ := applyInterp_sim sim c.cur c.cur _ _ r1
  have ⟨q3, r3⟩ := stabilityCheck_sim sim n ac (applyInterp (applyInterp c.s c.cur ac).1 c.cur c.cur).2 _ _ r2
  unfold cFinal cProp cClass
  simp only [← q1, ← q2]
  refine .ite (fun _ => .of r1) fun _ => ?_
  refine .ite (fun _ => .of r2) fun _ => ?_
  refine .ite (fun _ => .of r2) fun _ => ?_
  refine .ite (fun _ => .of r2) fun _ => ?_
  cases stable with
  | false => exact .of r2
  | true =>
    simp only [if_true, ← q3]
    exact .ite (fun _ => .of r3) (fun _ => .of r3)

theorem cTail_sim (n : Nat) (ac : List Nat) (stable : Bool) {c c' : SM.NgS} (h : SLk R c c') :
    SLk R (cTail n ac stable c) (cTail n ac stable c') := by
  obtain ⟨s', rfl, r⟩ := h.ex
  unfold cTail
  dsimp only
  split
  · exact .of r
  · exact cFinal_sim sim n ac stable true (.of r)
  · exact cFinal_sim sim n ac stable false (.of r)

include hcong

theorem cIter_sim (n : Nat) (ac : List Nat) (stable : Bool) {c c' : SM.NgS} (h : SLk R c c') :
    SLk R (cIter hc n ac stable c) (cIter hc n ac stable c') := by
  obtain ⟨s1, e1, r1⟩ := (cChoice_sim hcong h).ex
  unfold cIter
  dsimp only
  rw [e1]
  split
  · exact .of r1
  · exact cTail_sim sim n ac stable (cBack_sim (.of r1))

theorem cRun_sim (n : Nat) (ac : List Nat) (stable : Bool) : ∀ (fuel : Nat) {c c' : SM.NgS}, SLk R c c' →
    SLk R (cRun hc n ac stable fuel c) (cRun hc n ac stable fuel c')
  | 0, _, _, h => h
  | f + 1, c, c', h => by
    have hd : c'.done = c.done := by rw [h.eq]
    simp only [cRun, hd]
    split
    · exact h
    · exact cRun_sim n ac stable f (cIter_sim hcong sim n ac stable h)

theorem cSearch_sim (fuel : Nat) (s s' : Store) (n : Nat) (ac : List Nat) (stable : Bool) (h : R s s') :
    SLk R (cRun hc n ac stable fuel (initC s n ac)) (cRun hc n ac stable fuel (initC s' n ac)) := by
  have ⟨d1, a1⟩ := groundedLoop_sim sim (n + 1) s s' ac h
  refine cRun_sim hcong sim n ac stable fuel ⟨?_, a1⟩
  simp only [initC, d1]
end

theorem ngSearch_sim (heu : SM.Heu) (fuel : Nat) (s s' : Store) (n : Nat) (ac : List Nat) (stable : Bool) (h : Lk s s') :
    (SM.ngSearch heu fuel s n ac stable).2 = (SM.ngSearch heu fuel s' n ac stable).2 ∧
    Lk (SM.ngSearch heu fuel s n ac stable).1 (SM.ngSearch heu fuel s' n ac stable).1 :=
  Lk.of_cfg (f := fun fs => ngSearchC Cfg.none heu fuel fs n ac stable) (g := fun s => SM.ngSearch heu fuel s n ac stable)
    (fun fs s r => ngSearchC_sim (Stable.true _) heu fuel fs s n ac stable r) h

/-- **`stable_nogood` / `two_val_nogood_channel`**: same vectors in the same order, same interpretations
shown to the heuristic, halting within the same bound, same node table -/
theorem ngSearch_lock (heu : SM.Heu) (fuel : Nat) (s s' : Store) (n : Nat) (ac : List Nat) (stable : Bool)
    (h : Lk s s') (hv : ∀ a ∈ ac, a < s.nodes.size) :
    Lk (SM.ngSearch heu fuel s n ac stable).1 (SM.ngSearch heu fuel s' n ac stable).1 ∧
    (SM.ngSearch heu fuel s' n ac stable).2 = (SM.ngSearch heu fuel s n ac stable).2 :=
  have ⟨q, r⟩ := ngSearch_sim heu fuel s s' n ac stable h
  ⟨r, q.symm⟩

end CallH
