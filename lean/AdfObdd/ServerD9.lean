import AdfObdd.ServerProv
/-! # C16 / C17 — the theorem for ALL histories, with finding D9 as its explicit carve-out

Corollaries of `GoodT.runAll` (`ServerStale.lean`) and `Prov.run` (`ServerProv.lean`):

* `no_d9_all_belong`: a history NO prefix of which shows D9's shape (`d9Shape`: a document appears under a
  key while an unwritten task of that key exists / another document carries the key) - deletions,
  account removals and renames allowed - reaches only states in which EVERY document stores only what
  belongs to its own code.
* `recreated_clean_belongs` (per key): if, at the last moment a document appeared under the key
  `(u, n)`, it was created by `POST /adf/add` while no unwritten task of that key existed, then
  whatever the document under that key stores afterwards belongs to its own code - whatever else
  happened before (stale writes into earlier documents included) and whatever happens to other keys.
  The hypothesis that fails in D9's history is exactly `pendingAt … = false`.
* `reachable_results_belong_to_the_code`: histories without deletions and renames never show D9's shape
  (`noD9_of_keeps`, by the invariant `Good` of `ServerReach.lean`), so they are covered by `no_d9_all_belong`.
* `subsRun_sound`: every (parsing, code) pair recorded for a key is the pair of a document that existed
  at some point of the history. -/
namespace ServerM
section
variable {T H A R : Type} [DecidableEq T]

theorem runAll_append (E : Env T H A R) : ∀ (a b : List (Event T)) (st : State T H A R),
    runAll E st (a ++ b) =
      ((runAll E (runAll E st a).1 b).1, (runAll E st a).2 ++ (runAll E (runAll E st a).1 b).2) := by
  intro a
  induction a with
  | nil => intro b st; rfl
  | cons e es ih => intro b st; simp only [List.cons_append, runAll, ih b (stepEv E st e).1, List.append_assoc]

theorem taintRun_append (E : Env T H A R) : ∀ (a b : List (Event T)) (st : State T H A R) (tn : T → T → Bool),
    taintRun E st tn (a ++ b) = taintRun E (runAll E st a).1 (taintRun E st tn a) b := by
  intro a
  induction a with
  | nil => intro b st tn; rfl
  | cons e es ih => intro b st tn; exact ih b _ _

/-- no prefix of the history shows D9's STALE-WRITE shape at any key (a document appears under a key that
has an unwritten task or already a document). The predicate does NOT exclude D9's other symptom, the LOST write (the key is renamed or deleted while a task runs and
the task's write matches nothing; `NoLostWrite` of `ServerLive.lean`, `histLost` of `Props/C16.lean`) -/
def NoStaleWrite (E : Env T H A R) : State T H A R → List (Event T) → Prop
  | _, [] => True
  | st, e :: es => (∀ u n, d9Shape E st e u n = false) ∧ NoStaleWrite E (stepEv E st e).1 es

theorem taintStep_noD9 (E : Env T H A R) (st : State T H A R) (e : Event T) (tn : T → T → Bool)
    (h0 : ∀ u n, tn u n = false) (hd : ∀ u n, d9Shape E st e u n = false) : ∀ u n, taintStep E st e tn u n = false := by
  intro u n
  unfold taintStep
  split
  · rename_i hlt
    have := hd u n
    unfold d9Shape at this
    simp only [hlt, decide_true, Bool.true_and, Bool.or_eq_false_iff, decide_eq_false_iff_not, ne_eq, Decidable.not_not] at this
    rw [if_pos this.2, this.1]
    unfold srcTaint
    cases renameOf st e with
    | none => rfl
    | some x => simp [h0]
  · exact h0 u n

theorem taintRun_noD9 (E : Env T H A R) : ∀ (es : List (Event T)) (st : State T H A R) (tn : T → T → Bool),
    (∀ u n, tn u n = false) → NoStaleWrite E st es → ∀ u n, taintRun E st tn es u n = false := by
  intro es
  induction es with
  | nil => intro st tn h0 _; exact h0
  | cons e es ih => intro st tn h0 hd; exact ih _ _ (taintStep_noD9 E st e tn h0 hd.1) hd.2

/-- in every state reached from the empty server by a history that never shows
D9's shape (deletions, account removals, renames allowed), whatever a document stores belongs to its
own code -/
theorem no_d9_all_belong (E : Env T H A R) (es : List (Event T)) (hd : NoStaleWrite E {} es) (p : Problem T A R)
    (hp : p ∈ (runAll E {} es).1.db.problems) : DocOK E p :=
  reachable_untainted_belong_to_the_code E es p hp (taintRun_noD9 E es {} _ (fun _ _ => rfl) hd _ _)

/-- `NoStaleWrite` as a computation: D9's shape can only show at the key of a document of the new state -/
def noD9b (E : Env T H A R) : State T H A R → List (Event T) → Bool
  | _, [] => true
  | st, e :: es =>
    (stepEv E st e).1.db.problems.all (fun p => !d9Shape E st e p.username p.name) && noD9b E (stepEv E st e).1 es

theorem noD9b_sound (E : Env T H A R) : ∀ (es : List (Event T)) (st : State T H A R), noD9b E st es = true → NoStaleWrite E st es := by
  intro es
  induction es with
  | nil => intro _ _; trivial
  | cons e es ih =>
    intro st h
    simp only [noD9b, Bool.and_eq_true] at h
    refine ⟨fun u n => ?_, ih _ h.2⟩
    cases hd : d9Shape E st e u n with
    | false => rfl
    | true =>
      exfalso
      have hgrow : docsAt st.db u n < docsAt (stepEv E st e).1.db u n := by
        unfold d9Shape at hd
        simp only [Bool.and_eq_true, decide_eq_true_eq] at hd
        exact hd.1
      have hpos : 0 < docsAt (stepEv E st e).1.db u n := by omega
      obtain ⟨p, hp, hq⟩ := List.countP_pos_iff.mp hpos
      have hk := isProb_key hq
      have := List.all_eq_true.mp h.1 p hp
      rw [hk.1, hk.2, hd] at this
      cases this

/-- in a state satisfying the invariant `Good` of `ServerReach.lean` (every task addresses an existing
document) an event that neither removes nor renames documents does not show D9's shape -/
theorem d9Shape_false_of_good (E : Env T H A R) {st : State T H A R} (h : Good E st.db) (e : Event T)
    (hk : e.keeps = true) : ∀ u n, d9Shape E st e u n = false := by
  intro u n
  have nogrow : docsAt (stepEv E st e).1.db u n ≤ docsAt st.db u n → d9Shape E st e u n = false := by
    intro hle
    unfold d9Shape
    have : ¬ docsAt st.db u n < docsAt (stepEv E st e).1.db u n := by omega
    simp [this]
  cases stepEv_effect E st e with
  | same hp | finish _ _ _ _ _ _ hp => apply nogrow; unfold docsAt; rw [hp]; exact Nat.le_refl _
  | write _ _ t w _ _ _ hp =>
    apply nogrow; unfold docsAt
    rw [hp, countP_updFirst _ _ _ (fun x => isProb_apply _ _ w x)]; exact Nat.le_refl _
  | solve u' n' p a s t0 hf ha _ hp ht => apply nogrow; unfold docsAt; rw [hp]; exact Nat.le_refl _
  | del u' n' _ hp ht => apply nogrow; unfold docsAt; rw [hp]; exact countP_delFirst_le _ _ _
  | delAll u' _ hp ht => apply nogrow; unfold docsAt; rw [hp]; exact List.filter_sublist.countP_le
  | rename u' u'' hk' => rw [hk] at hk'; cases hk'
  | add u' n' c pg t0 _ hnone _ hp ht =>
    by_cases hkey : u = u' ∧ n = n'
    · obtain ⟨rfl, rfl⟩ := hkey
      have hz : docsAt st.db u n = 0 := (countP_eq_zero_iff_find _ _).mpr hnone
      have hpend : pendingAt st.db u n = false := by
        cases hc : pendingAt st.db u n with
        | false => rfl
        | true =>
          exfalso
          unfold pendingAt at hc
          obtain ⟨t, htm, ht'⟩ := List.any_eq_true.mp hc
          simp only [Bool.and_eq_true, Bool.not_eq_true', decide_eq_true_eq] at ht'
          obtain ⟨p, hf, _⟩ := h.tasks t htm
          rw [ht'.1.2, ht'.2, hnone] at hf
          cases hf
      unfold d9Shape
      simp [hz, hpend]
    · apply nogrow
      unfold docsAt
      have hnew : isProb u' n' ({ name := n', username := u', code := c, parsing := pg } : Problem T A R) = true := by
        simp [isProb]
      rw [hp, countP_append_one, isProb_other hkey _ hnew]
      simp

/-- **deletion-free histories never show D9's shape**: `reachable_results_belong_to_the_code` (end of
this file) is the special case of `no_d9_all_belong` for them -/
theorem noD9_of_keeps (E : Env T H A R) : ∀ (es : List (Event T)) (st : State T H A R), Good E st.db →
    (∀ e ∈ es, e.keeps = true) → NoStaleWrite E st es := by
  intro es
  induction es with
  | nil => intro _ _ _; trivial
  | cons e es ih =>
    intro st h hk
    have hke := hk e (List.mem_cons_self ..)
    exact ⟨d9Shape_false_of_good E h e hke, ih _ (h.next E e hke) (fun e' he' => hk e' (List.mem_cons_of_mem _ he'))⟩

def NoGrowAt (E : Env T H A R) (u n : T) : State T H A R → List (Event T) → Prop
  | _, [] => True
  | st, e :: es => docsAt (stepEv E st e).1.db u n ≤ docsAt st.db u n ∧ NoGrowAt E u n (stepEv E st e).1 es

theorem taintRun_noGrow (E : Env T H A R) (u n : T) : ∀ (es : List (Event T)) (st : State T H A R) (tn : T → T → Bool),
    NoGrowAt E u n st es → taintRun E st tn es u n = tn u n := by
  intro es
  induction es with
  | nil => intro st tn _; rfl
  | cons e es ih =>
    intro st tn hg
    show taintRun E _ (taintStep E st e tn) es u n = _
    rw [ih _ _ hg.2, taintStep_same E st e tn u n hg.1]

/-- split the history at the LAST event under which a document appeared under
the key `(u, n)` (`es2` makes none appear). If that event is not a rename request and found the key
without documents and WITHOUT UNWRITTEN TASKS (the hypothesis D9's history violates), then in the final
state every document under that key stores only what belongs to its own code. -/
theorem recreated_clean_belongs (E : Env T H A R) (es1 es2 : List (Event T)) (e : Event T) (u n : T)
    (hz : docsAt (runAll E {} es1).1.db u n = 0)
    (happ : 0 < docsAt (stepEv E (runAll E {} es1).1 e).1.db u n)
    (hpend : pendingAt (runAll E {} es1).1.db u n = false)
    (hren : renameOf (runAll E {} es1).1 e = none)
    (hg : NoGrowAt E u n (stepEv E (runAll E {} es1).1 e).1 es2)
    (p : Problem T A R) (hp : p ∈ (runAll E {} (es1 ++ e :: es2)).1.db.problems)
    (hk : p.username = u ∧ p.name = n) : DocOK E p := by
  apply reachable_untainted_belong_to_the_code E _ p hp
  rw [hk.1, hk.2, taintRun_append]
  show taintRun E _ (taintStep E _ e _) es2 u n = false
  rw [taintRun_noGrow E u n es2 _ _ hg]
  unfold taintStep
  rw [hz, if_pos happ, if_pos rfl, hpend]
  unfold srcTaint
  rw [hren]
  rfl

/-- the (parsing, code) pairs of all documents in all states the history passes through (after each event) -/
def everCodes (E : Env T H A R) : State T H A R → List (Event T) → List (Parsing × T)
  | _, [] => []
  | st, e :: es => (stepEv E st e).1.db.problems.map (fun p => (p.parsing, p.code)) ++ everCodes E (stepEv E st e).1 es

theorem subsRun_sound (E : Env T H A R) : ∀ (es : List (Event T)) (st : State T H A R) (sb : T → T → List (Parsing × T))
    (u n : T), ∀ x ∈ subsRun E st sb es u n, (∃ v m, x ∈ sb v m) ∨ x ∈ everCodes E st es := by
  intro es
  induction es with
  | nil => intro st sb u n x hx; exact Or.inl ⟨u, n, hx⟩
  | cons e es ih =>
    intro st sb u n x hx
    rcases ih _ _ u n x hx with ⟨v, m, hv⟩ | h
    · unfold subsStep at hv
      simp only [List.mem_append] at hv
      rcases hv with (h1 | h2) | h3
      · exact Or.inl ⟨v, m, h1⟩
      · right
        obtain ⟨p, hp, rfl⟩ := List.mem_map.mp h2
        show _ ∈ _ ++ _
        exact List.mem_append_left _ (List.mem_map.mpr ⟨p, (List.mem_filter.mp hp).1, rfl⟩)
      · cases hr : renameOf st e with
        | none => rw [hr] at h3; cases h3
        | some y =>
          rw [hr] at h3
          simp only at h3
          split at h3
          · exact Or.inl ⟨_, _, h3⟩
          · cases h3
    · right
      show _ ∈ _ ++ _
      exact List.mem_append_right _ h

/-- for ALL histories: every stored result is `E.solve a s` for a
framework `a = E.parse parsing code` of a (parsing, code) pair that is recorded for the document's key and
was the pair of a document that existed at some point of the history -/
theorem reachable_results_from_submitted_codes (E : Env T H A R) (es : List (Event T)) (p : Problem T A R)
    (hp : p ∈ (runAll E {} es).1.db.problems) (s : Strategy) (res : R) (hr : p.res.get s = .some res) :
    ∃ x ∈ subsRun E {} (fun _ _ => []) es p.username p.name, x ∈ everCodes E {} es ∧
      ∃ a r, E.parse x.1 x.2 = .ok (a, r) ∧ E.solve a s = .ok res := by
  obtain ⟨x, hx, a, r, h1, h2⟩ := (reachable_results_have_provenance E es p hp).2.2 s res hr
  refine ⟨x, hx, ?_, a, r, h1, h2⟩
  rcases subsRun_sound E es {} _ _ _ x hx with ⟨v, m, hv⟩ | h
  · cases hv
  · exact h

/-- in every state reached from the empty server by a
deletion-free history — any requests of any users in any order, interleaved with the task events —
whatever a document shows under strategy `s` is the environment's answer `E.solve a s` for the
framework `a` that `E.parse` yields for the document's OWN code and parsing strategy, and a stored
framework is that parse result -/
theorem reachable_results_belong_to_the_code (E : Env T H A R) (es : List (Event T))
    (hk : ∀ e ∈ es, e.keeps = true) (p : Problem T A R) (hp : p ∈ (runAll E {} es).1.db.problems) :
    (∀ a, p.adf = .some a → ∃ r, E.parse p.parsing p.code = .ok (a, r)) ∧
    (∀ s res, p.res.get s = .some res → ∃ a r, E.parse p.parsing p.code = .ok (a, r) ∧ E.solve a s = .ok res) :=
  no_d9_all_belong E es (noD9_of_keeps E es {} (Good.init E) hk) p hp

end
end ServerM
