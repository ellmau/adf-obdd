import AdfObdd.CallHistoryMemoFull
/-! # `Heuristic::Rand` and `Adf::seed` over an ABSTRACT deterministic generator (C11, "same seed")

`lib/src/adf.rs:39-40,159-167`: the object owns `rng : RefCell<StdRng>`, created from entropy
(`StdRng::from_entropy()`: without a call of `seed` two objects built the same way answer Rand searches
differently) and replaced by `seed(&mut self, seed)`; `heu_rand` (`heuristics.rs:80-95`) draws twice per call
(`next_u64() % possible.len()`, then `gen_bool(0.5)`), `possible` being non-empty whenever the loop asks
(`choice` is only set for a vector that is not two-valued).  The generator state therefore advances by two
per heuristic call and persists across searches on the object.

`StdRng` itself (ChaCha12) is NOT modelled.  The model takes an arbitrary function
`G : seed → index of the draw → raw output` (as `SM.Heu.script` does with splitmix) and threads the number of
draws made so far through the object: `RState`.  "Same seed, same call sequence ⇒ same answers in the same
order" is then a statement about every such `G`; the non-trivial content proved here is that the answers do
not depend on the memo contents of the two objects either (`same_seed_same_answers`), i.e. the only inputs
are the node table, `n`, `ac`, the seed and the calls. -/
namespace CallH
open NConc

/-- `heu_rand` over the generator `G`, for an object whose generator was seeded with `seed` and has made
`ctr` draws before this search; `time` = number of earlier heuristic calls of this search -/
def randHeu (G : Nat → Nat → Nat) (seed ctr : Nat) : CHeu := fun _ v time =>
  let u := SM.undecided v
  match u[(G seed (ctr + 2 * time)) % u.length]? with
  | some (i, _) => some (i, (G seed (ctr + 2 * time + 1)) % 2)
  | none => none

/-- it always proposes an undecided statement with a truth value, for every generator -/
theorem randHeu_ok (G : Nat → Nat → Nat) (seed ctr : Nat) : HeuOK (randHeu G seed ctr) := by
  constructor
  · intro s v time i t hc
    simp only [randHeu] at hc
    split at hc
    · rename_i j x hget
      simp only [Option.some.injEq, Prod.mk.injEq] at hc
      obtain ⟨hi, ht⟩ := hc
      subst hi
      have := mem_undecided (List.mem_of_getElem? hget)
      exact ⟨by omega, this.1, x, this.2⟩
    · cases hc
  · intro s v time hc
    apply undecided_nil
    simp only [randHeu] at hc
    split at hc
    · cases hc
    · rename_i hget
      false_or_by_contra
      rename_i hne
      have hpos : 0 < (SM.undecided v).length := List.length_pos_iff.mpr hne
      have hlt := Nat.mod_lt (G seed (ctr + 2 * time)) hpos
      rw [List.getElem?_eq_getElem hlt] at hget; cases hget

/-- the object with its generator: seed and number of draws made -/
structure RState where
  st : AdfState
  seed : Nat
  ctr : Nat

inductive RCall where
  | plain (c : Call)                        -- every call of `Call`
  | seed (k : Nat)                          -- `Adf::seed`
  | rand (fuel : Nat) (stable : Bool)       -- `stable_nogood(Rand)` / `two_val_nogood(Rand)`

def runRCall (G : Nat → Nat → Nat) (r : RState) : RCall → RState × Answer
  | .plain c => ({ r with st := (runCall r.st c).1 }, (runCall r.st c).2)
  | .seed k => ({ r with seed := k, ctr := 0 }, .handles [])
  | .rand fuel stable =>
    let x := cRun (randHeu G r.seed r.ctr) r.st.n r.st.ac stable fuel (initC r.st.s r.st.n r.st.ac)
    ({ st := { r.st with s := x.s }, seed := r.seed, ctr := r.ctr + 2 * x.time },
     if x.done then .ng x.out x.trace else .fuelExhausted)

def runRCalls (G : Nat → Nat → Nat) : RState → List RCall → RState × List Answer
  | r, [] => (r, [])
  | r, c :: cs => let x := runRCall G r c; let xs := runRCalls G x.1 cs; (xs.1, x.2 :: xs.2)

structure REq (r r' : RState) : Prop where
  memo : MemoEq r.st r'.st
  seed : r'.seed = r.seed
  ctr : r'.ctr = r.ctr

theorem runRCall_lock (G : Nat → Nat → Nat) (r r' : RState) (c : RCall) (hi : Inv r.st) (h : REq r r') :
    (runRCall G r' c).2 = (runRCall G r c).2 ∧ REq (runRCall G r c).1 (runRCall G r' c).1 ∧
    Inv (runRCall G r c).1.st := by
  obtain ⟨st, sd, ct⟩ := r
  obtain ⟨st', sd', ct'⟩ := r'
  obtain ⟨hm, hs, hc⟩ := h
  simp only at hm hs hc hi
  subst hs hc
  cases c with
  | plain c =>
    have ⟨a, m⟩ := memo_independent st st' c hi hm
    exact ⟨a, ⟨m, rfl, rfl⟩, (runCall_step st c hi).1⟩
  | seed k => exact ⟨rfl, ⟨hm, rfl, rfl⟩, hi⟩
  | rand fuel stable =>
    -- the Rand heuristic does not look at the store at all
    have r := cSearch_sim (hc := randHeu G sd' ct') (fun _ _ _ _ _ => rfl) lk_sim fuel st.s st'.s st.n st.ac stable hm.lk
    have hst := After.cState_store (randHeu G sd' ct') (randHeu_ok G sd' ct') st.s st.n st.ac stable hi.wf hi.ac hi.len fuel
    simp only [runRCall, hm.n, hm.ac, hm.issued]
    rw [r.eq]
    exact ⟨rfl, ⟨memoEq_store _ _ _ r.r, rfl, rfl⟩, (hi.store hst.1 hst.2.1).1⟩

/-- same seed, same call sequence ⇒ same answers in the same order, for every deterministic generator `G`:
two objects that agree on node table, `n`, `ac`, issued handles (memo contents arbitrary), seed and number of
draws made answer every sequence of calls - `seed`, Rand searches in both modes, and all calls of `Call` -
identically, and end in such a pair again -/
theorem same_seed_same_answers (G : Nat → Nat → Nat) : ∀ (h : List RCall) (r r' : RState), Inv r.st → REq r r' →
    (runRCalls G r' h).2 = (runRCalls G r h).2 ∧ REq (runRCalls G r h).1 (runRCalls G r' h).1 := by
  intro h
  induction h with
  | nil => intro r r' _ hm; exact ⟨rfl, hm⟩
  | cons c cs ih =>
    intro r r' hi hm
    have ⟨a1, m1, i1⟩ := runRCall_lock G r r' c hi hm
    have ⟨a2, m2⟩ := ih _ _ i1 m1
    simp only [runRCalls]
    exact ⟨by rw [a1, a2], m2⟩

end CallH
