import AdfObdd.HybridProofs
import AdfObdd.CountExact
import AdfObdd.NgEndToEnd
/-! # The hybrid back-end: every semantics on the hybrid-built native object

`Bio.hybridStep L dump opt ac` = `hybrid_step_opt(opt)` (HybridModel.lean). Hypotheses everywhere:
`W : Bio.Lawful L n` (the assumption about biodivine's operations, BioModel.lean), `hd : Bio.DumpSpec W
dump` (the assumption about its dump), `ac` valid diagrams, `ac.length = n`. The ORIGINAL framework is
`D := ac.map W.den`. Each theorem runs the native algorithm on the store/handles built by
`hybridStep` and characterises the answer by `D` - for BOTH values of `opt`. -/

theorem pre_detBy {n : Nat} {f : BoolFn} (g : I3) (h : TT.DetBy n f) : TT.DetBy n (fun σ => f (over σ 0 g)) := by
  intro σ τ hst
  apply h
  intro x hx
  rw [over_apply, over_apply, hst x hx]

theorem hyb_detBy {n : Nat} {D : List BoolFn} {g : I3} (opt : Bool) (h : ∀ f ∈ D, TT.DetBy n f) :
    ∀ f ∈ (if opt then pre D g else D), TT.DetBy n f := by
  cases opt with
  | false => exact h
  | true =>
    intro f' hf'
    obtain ⟨f, hf, rfl⟩ := List.mem_map.mp hf'
    exact pre_detBy g (h f hf)

namespace Bio
section hybrid
variable {T : Type} {L : Lib T} {n : Nat} (W : Lawful L n) {dump : T → List Node} (hd : DumpSpec W dump)
include hd

/-- **the one statement about the hybrid step**: the native object denotes conditions that answer like the library
object's in every semantics; each theorem below is the native theorem and one transfer -/
theorem hybridStep_same (opt : Bool) (ac : List T) (hv : ∀ a ∈ ac, W.Valid a) (hn : ac.length = n) :
    ∃ D', (hybridStep L dump opt ac).2.length = n ∧
      Denotes (hybridStep L dump opt ac).1 (hybridStep L dump opt ac).2 D' ∧ SameSem (ac.map W.den) D' :=
  have ⟨hl, h⟩ := hybridStep_denotes W hd opt ac hv hn
  ⟨_, hl, h, SameSem.hyb opt (bioGrounded_lfp W ac hv hn).2⟩

/-- **grounded**: `Adf::grounded` on the hybrid-built object is the least fixpoint of Γ for the original
framework, and it is the vector the biodivine back-end itself reports -/
theorem hybrid_grounded (opt : Bool) (ac : List T) (hv : ∀ a ∈ ac, W.Valid a) (hn : ac.length = n) :
    let r := hybridStep L dump opt ac
    let out := (groundedLoop StoreRA (n + 1) r.1 r.2).2.map storeIsConst
    IsLfp (ac.map W.den) out ∧ out = (bioGrounded L ac).map storeIsConst := by
  intro r out
  obtain ⟨_, hl, ⟨w, hlt, rfl⟩, hs⟩ := hybridStep_same W hd opt ac hv hn
  have h := (hs.lfp out).mp (grounded_native (n + 1) r.1 r.2 w hlt (Nat.lt_succ_of_le (Nat.le_of_eq hl)))
  exact ⟨h, h.unique (bioGrounded_lfp W ac hv hn).2⟩

/-- **stable** (`Adf::stable` and `Adf::stable_with_prefilter`): on the hybrid-built object both list,
without duplicates, exactly the stable models of the original framework, and the same list -/
theorem hybrid_stable (opt : Bool) (ac : List T) (hv : ∀ a ∈ ac, W.Valid a) (hn : ac.length = n) :
    let r := hybridStep L dump opt ac
    let out := (stableAll r.1 n r.2).2.map (fun v => v.map storeIsConst)
    out.Nodup ∧ (∀ v : I3, v ∈ out ↔ (v.length = n ∧ StableExact.StableI (ac.map W.den) v)) ∧
    (Cli.stablePre r.1 n r.2).2 = (stableAll r.1 n r.2).2 := by
  intro r out
  obtain ⟨_, hl, ⟨w, hlt, rfl⟩, hs⟩ := hybridStep_same W hd opt ac hv hn
  have ⟨a, b⟩ := StableExact.stableAll_exact r.1 n r.2 w hl hlt
  exact ⟨a, fun v => (b v).trans (and_congr_right' (hs.stable_iff v)),
    by rw [(StableExact.stableAll_filter r.1 n r.2 w hl hlt).2, (StableExact.stablePre_filter r.1 n r.2 w hl hlt).2]⟩

/-- **counting search** (`stable_count_optimisation_heu_a/b`): exactly the stable models of the original
framework, each once -/
theorem hybrid_count (opt useA : Bool) (ac : List T) (hv : ∀ a ∈ ac, W.Valid a) (hn : ac.length = n) :
    let r := hybridStep L dump opt ac
    let out := (countAll r.1 n r.2 useA).2.map (fun v => v.map storeIsConst)
    out.Nodup ∧ ∀ v : I3, v ∈ out ↔ (v.length = n ∧ StableExact.StableI (ac.map W.den) v) := by
  intro r out
  obtain ⟨_, hl, ⟨w, hlt, rfl⟩, hs⟩ := hybridStep_same W hd opt ac hv hn
  have ⟨a, b⟩ := CI.countAll_exact r.1 n r.2 useA w hl hlt
  exact ⟨a, fun v => (b v).trans (and_congr_right' (hs.stable_iff v))⟩

end hybrid
end Bio
