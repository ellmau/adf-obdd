import AdfObdd.CliModel
import AdfObdd.BioModel
import AdfObdd.SortModel
import AdfObdd.Bridge
/-! # `App::run` of the `adf-bdd` binary on the TEXT of the input file, arm by arm

`Cli.run` (CliModel.lean, what the model driver executes) starts from a built native framework and
does not distinguish the `biodivine` arm from the `naive` one. This file models the three
hand-wired arms of `bin/src/main.rs` as they are written, from the text of the file to the exit
status and the lines on stdout:

* every arm: `AdfParser::parse` (`ParserM.parse`; `Err` → `panic!` → exit status 101, nothing
  printed), then `--lx` / `--an` on the parser object (`varsort_lexi` / `varsort_alphanum`,
  SortModel.lean) BEFORE the framework is built;
* `naive`: `Adf::from_parser` (`FromParser.fromParser`), then `grounded` / `complete` / `stable` /
  `stable_nogood` on the own store — `runNaive`, which IS `Cli.run .naive` (`C15.naive_arm_is_driver_model`);
* `biodivine`: `adfbiodivine::Adf::from_parser` (+ `stm_rewriting` iff `--stmrew`) on the external
  library (`Bio.Lib`), then `Bio.bioGrounded` / `bioComplete` / `bioStable` / `bioStableRep`;
* `hybrid`: the same construction, `grounded_internal` ON THE LIBRARY, `from_biodivine_vector`
  (`bridgeAll`: the library's node dump replayed into a fresh own store), then the native functions;
  `--stmrew` / `--stmrew2` run `Adf::stable_bdd_representation(&biodivine)`
  (`Bio.nativeStableRep`: candidates from the library's `sat_valuations` of the single rewriting
  formula, test on the own store);
* every printed line is `PrintableInterpretation`'s `Display`: `render`.

The external world of the binary (`World`): the BDD library for a set of `nv` variables, the node
dump `Bdd::to_string()` the bridge parses, the comparison-sort of crate `lexical-sort`. -/
namespace CliM
open ParserM FromParser Cli

/-- `--lx` / `--an` (clap group `sorting`: at most one of them) -/
inductive Sorting where | none | lx | an
deriving DecidableEq, Repr

/-- one invocation: `--lib`, the semantics flags, the sorting flag, `--heu` -/
structure Inv where
  mode : Mode
  flags : Flags
  sort : Sorting := .none
  heu : SM.Heu := .simple

/-- what the binary gets from other crates -/
structure World (T : Type) where
  /-- `biodivine_lib_bdd` for a variable set of `nv` variables -/
  lib : Nat → Bio.Lib T
  /-- `Bdd::to_string()` as `from_biodivine_vector` reads it: the list of `var,low,high` triples,
  entries 0 and 1 are the terminals -/
  dump : T → List Node
  /-- the name list after `string_sort_unstable(natural_lexical_cmp)` -/
  anSort : List Label → List Label

/-- exit status and stdout (one entry per line, without the line break) -/
structure Out where
  exit : Nat
  stdout : List (List Char)
deriving DecidableEq, Repr

/-- `panic!` before anything is printed: exit status 101, empty stdout (`Cli.rejected`) -/
def rejected : Out := ⟨101, []⟩

/-- `T` / `F` / `u` of `PrintableInterpretation::fmt`: `is_truth_value` (`Term` 0 or 1), `is_true` -/
def mark (t : Nat) : Char := if t == 1 then 'T' else if t == 0 then 'F' else 'u'

/-- one statement: `T(name) ` -/
def entry (name : Label) (t : Nat) : List Char := mark t :: '(' :: (name ++ [')', ' '])

/-- the line of one interpretation, without the final line break of `writeln!`: for every position
`pos` of the vector, in order, the entry under `ordering.name(Var(pos))` = `namelist[pos]`
(the `expect` cannot fail: every vector the arms print has one entry per name, `CliMP`) -/
def render (names : List Label) (v : List Nat) : List Char :=
  v.zipIdx.flatMap fun p => entry (names.getD p.2 []) p.1

def sortState (an : List Label → List Label) : Sorting → PState → PState
  | .none, st => st
  | .lx, st => SortModel.varsortLexi st
  | .an, st => st.resort (an st.namelist)

abbrev Block := Section × List (List Nat)

/-- the `if self.… { … }` blocks of an arm in order, threading the store -/
def runWith (R : Section → Store → Store × List (List Nat)) :
    List Section → Store × List Block → Store × List Block
  | [], acc => acc
  | sec :: rest, acc =>
    let r := R sec acc.1
    runWith R rest (r.1, acc.2 ++ [(sec, r.2)])

/-- a section of the naive arm; the two sections that run the nogood-learning search get the bound
`fuel` on the number of loop iterations (`Cli.runSection` is the instance `fuel = 1000000`) -/
def secNaive (fuel : Nat) (heu : SM.Heu) (n : Nat) (ac : List Nat) (sec : Section) (s : Store) :
    Store × List (List Nat) :=
  match sec with
  | .twoval => let r := SM.ngSearch heu fuel s n ac false; (r.1, r.2.1)
  | .stmng => let r := SM.ngSearch heu fuel s n ac true; (r.1, r.2.1)
  | sec => runSection heu sec s n ac

/-- a section of the hybrid arm: as the naive one on the bridged object, except that `--stmrew` /
`--stmrew2` is `naive_adf.stable_bdd_representation(&adf)` with the candidates of the library object -/
def secHybrid (fuel : Nat) (heu : SM.Heu) (cands : List (List Nat)) (n : Nat) (ac : List Nat) (sec : Section)
    (s : Store) : Store × List (List Nat) :=
  match sec with
  | .stmrew => Bio.nativeStableRep s n ac cands
  | sec => secNaive fuel heu n ac sec s

/-- did the section's search (if it runs one) reach its end within the bound? -/
def secHalts (fuel : Nat) (heu : SM.Heu) (n : Nat) (ac : List Nat) (sec : Section) (s : Store) : Bool :=
  match sec with
  | .twoval => (SM.ngSearch heu fuel s n ac false).2.2.2
  | .stmng => (SM.ngSearch heu fuel s n ac true).2.2.2
  | _ => true

def haltsWith (H : Section → Store → Bool) (R : Section → Store → Store × List (List Nat)) :
    List Section → Store → Bool
  | [], _ => true
  | sec :: rest, s => H sec s && haltsWith H R rest (R sec s).1

theorem runWith_fst (R : Section → Store → Store × List (List Nat)) :
    ∀ (l : List Section) (acc : Store × List Block), (runWith R l acc).2.map (·.1) = acc.2.map (·.1) ++ l := by
  intro l
  induction l with
  | nil => intro acc; simp [runWith]
  | cons x xs ih => intro acc; simp only [runWith]; rw [ih]; simp

theorem runWith_thread {R : Section → Store → Store × List (List Nat)} {H : Section → Store → Bool}
    {P : Store → Prop} {Q : Block → Prop}
    (step : ∀ sec s, P s → H sec s = true → P (R sec s).1 ∧ Q (sec, (R sec s).2)) :
    ∀ (l : List Section) (acc : Store × List Block), P acc.1 → haltsWith H R l acc.1 = true →
      (∀ blk ∈ acc.2, Q blk) → P (runWith R l acc).1 ∧ ∀ blk ∈ (runWith R l acc).2, Q blk := by
  intro l
  induction l with
  | nil => intro acc hp _ hq; exact ⟨hp, hq⟩
  | cons sec rest ih =>
    intro acc hp hh hq
    simp only [haltsWith, Bool.and_eq_true] at hh
    have ⟨hp', hq'⟩ := step sec acc.1 hp hh.1
    simp only [runWith]
    refine ih _ hp' hh.2 (fun blk hb => ?_)
    rcases List.mem_append.mp hb with h | h
    · exact hq blk h
    · rw [List.mem_singleton.mp h]; exact hq'

theorem haltsWith_thread {R : Section → Store → Store × List (List Nat)} {H : Section → Store → Bool}
    {P : Store → Prop} : ∀ (l : List Section), (∀ sec ∈ l, ∀ s, P s → H sec s = true ∧ P (R sec s).1) →
      ∀ s : Store, P s → haltsWith H R l s = true := by
  intro l
  induction l with
  | nil => intro _ s _; rfl
  | cons sec rest ih =>
    intro step s hp
    simp only [haltsWith, Bool.and_eq_true]
    have h := step sec (List.mem_cons_self ..) s hp
    exact ⟨h.1, ih (fun x hx => step x (List.mem_cons_of_mem _ hx)) _ h.2⟩

/-- `Adf::from_parser`, then the sections; `none` = `from_parser` panics -/
def runNaive (fuel : Nat) (f : Flags) (heu : SM.Heu) (st : PState) : Option (List Block) :=
  (fromParser st).map fun b =>
    (runWith (secNaive fuel heu (dictSizeOf st) b.2) (sections .naive f) (b.1, [])).2

/-- characters `BddVariableSetBuilder::make_variable` refuses in a variable name (`NOT_IN_VAR_NAME`
of biodivine_lib_bdd 0.5.23) — it panics on them -/
def notInVarName : List Char := ['!', '&', '|', '^', '=', '<', '>', '(', ')', '?', ':']

def bioNameOK (l : Label) : Bool := l.all fun c => !notInVarName.contains c

/-- `Formula::to_boolean_expr` followed by the name resolution of `eval_expression`
(constructor for constructor) -/
def fmToBExpr : Fm → Bio.BExpr
  | .top => .const true
  | .bot => .const false
  | .atom v => .var v
  | .not f => .not (fmToBExpr f)
  | .and a b => .and (fmToBExpr a) (fmToBExpr b)
  | .or a b => .or (fmToBExpr a) (fmToBExpr b)
  | .imp a b => .imp (fmToBExpr a) (fmToBExpr b)
  | .xor a b => .xor (fmToBExpr a) (fmToBExpr b)
  | .iff a b => .iff (fmToBExpr a) (fmToBExpr b)

/-- the work list of the library-side `from_parser`: as `FromParser.workList` (the same four
panics: `formula_order`, `ac_at`, index out of bounds, unknown variable in `eval_expression`), but an
atom is resolved by the LIBRARY's own name → variable map, the position map of the `namelist` the
variables were created from -/
def workListBio (st : PState) : Option (List (Nat × Fm)) :=
  match st.formulaOrder with
  | none => none
  | some ord =>
    if st.formulae.length < ord.length then none
    else if ord.any (fun p => decide (dictSizeOf st ≤ p)) then none
    else match (st.formulae.take ord.length).mapM (resolveFml (indexOf st.namelist)) with
      | none => none
      | some fms => some (ord.zip fms)

/-- the library-side object: `ac` and the prepared rewriting (`from_parser_with_stm_rewrite` iff
`--stmrew`; NOT for `--stmrew2`). `none` = panic: a label `make_variable` refuses (labels are
pairwise different, the other panic of `make_variable` cannot occur), or one of `workListBio`. -/
def bioBuild {T : Type} (L : Bio.Lib T) (st : PState) (rew : Bool) : Option (List T × Option T) :=
  if st.namelist.all bioNameOK then
    (workListBio st).map fun items =>
      let ord := items.map (·.1)
      let es := items.map fun pf => fmToBExpr pf.2
      (Bio.acOf L (dictSizeOf st) ord es, if rew then some (Bio.stmRewriting L ord es) else none)
  else none

/-- the four blocks the arm implements (`Cli.implemented .biodivine`) -/
def secBio {T : Type} (L : Bio.Lib T) (rw : Option T) (acB : List T) : Section → List (List Nat)
  | .grd => [Bio.bioGrounded L acB]
  | .com => Bio.bioComplete L acB
  | .stm => Bio.bioStable L acB
  | .stmrew => Bio.bioStableRep L rw acB
  | _ => []

def runBio {T : Type} (L : Bio.Lib T) (f : Flags) (st : PState) : Option (List Block) :=
  (bioBuild L st f.stmrew).map fun b =>
    (sections .biodivine f).map fun sec => (sec, secBio L b.2 b.1 sec)

/-- `from_biodivine_vector`, one entry: constants directly, otherwise the dump is replayed through
`Bdd::node` into the running store and the entry becomes the handle of the last dump entry -/
def bridgeOne {T : Type} (L : Bio.Lib T) (dump : T → List Node) (s : Store) (t : T) : Store × Nat :=
  if L.isTrue t then (s, 1)
  else if L.isFalse t then (s, 0)
  else
    let r := replayL ((dump t).drop 2) s [0, 1]
    (r.1, r.2.getD (r.2.length - 1) 0)

/-- `from_biodivine_vector`: entry by entry on the running store, starting from `Bdd::new()` -/
def bridgeAll {T : Type} (L : Bio.Lib T) (dump : T → List Node) : List T → Store → List Nat → Store × List Nat
  | [], s, acc => (s, acc)
  | t :: ts, s, acc => let r := bridgeOne L dump s t; bridgeAll L dump ts r.1 (acc ++ [r.2])

/-- `adf.hybrid_step()`: `grounded_internal` on the library, then the bridge -/
def hybridStep {T : Type} (L : Bio.Lib T) (dump : T → List Node) (acB : List T) : Store × List Nat :=
  bridgeAll L dump (Bio.groundedInternal L acB) Store.init []

def runHybrid {T : Type} (L : Bio.Lib T) (dump : T → List Node) (fuel : Nat) (f : Flags) (heu : SM.Heu)
    (st : PState) : Option (List Block) :=
  (bioBuild L st f.stmrew).map fun b =>
    let h := hybridStep L dump b.1
    let cands := Bio.stableModelCandidates L b.2 b.1
    (runWith (secHybrid fuel heu cands (dictSizeOf st) h.2) (sections .hybrid f) (h.1, [])).2

/-! compiled form of `runHybrid`: Lean is strict, so `runHybrid` as written would compute the candidate
list of `--stmrew`/`--stmrew2` (for `--stmrew2`: the conjunction `stable_representation()` over ALL
conditions on the library and its `sat_valuations`) for EVERY hybrid invocation, whether or not the
section is printed; Rust computes it inside `stable_bdd_representation`, i.e. only for that section. The
compiled form computes it only if the section is printed; proved equal (`@[csimp]`), the theorems keep
speaking about `runHybrid`. -/

theorem runWith_congr (R R' : Section → Store → Store × List (List Nat)) :
    ∀ (l : List Section) (acc : Store × List Block), (∀ sec ∈ l, ∀ s, R sec s = R' sec s) →
      runWith R l acc = runWith R' l acc := by
  intro l
  induction l with
  | nil => intro acc _; rfl
  | cons x xs ih =>
    intro acc h
    simp only [runWith]
    rw [h x (List.mem_cons_self ..) acc.1]
    exact ih _ (fun sec hs s => h sec (List.mem_cons_of_mem _ hs) s)

theorem secHybrid_stmrew (fuel : Nat) (heu : SM.Heu) (cands : List (List Nat)) (n : Nat) (ac : List Nat) (s : Store) :
    secHybrid fuel heu cands n ac .stmrew s = Bio.nativeStableRep s n ac cands := rfl

theorem secHybrid_of_ne (fuel : Nat) (heu : SM.Heu) (cands : List (List Nat)) (n : Nat) (ac : List Nat)
    {sec : Section} (h : sec ≠ .stmrew) (s : Store) :
    secHybrid fuel heu cands n ac sec s = secNaive fuel heu n ac sec s := by
  cases sec <;> first | exact absurd rfl h | rfl

def runHybridL {T : Type} (L : Bio.Lib T) (dump : T → List Node) (fuel : Nat) (f : Flags) (heu : SM.Heu)
    (st : PState) : Option (List Block) :=
  (bioBuild L st f.stmrew).map fun b =>
    let h := hybridStep L dump b.1
    let cands := if Section.stmrew ∈ sections .hybrid f then Bio.stableModelCandidates L b.2 b.1 else []
    (runWith (secHybrid fuel heu cands (dictSizeOf st) h.2) (sections .hybrid f) (h.1, [])).2

@[csimp] theorem runHybrid_eq_runHybridL : @runHybrid = @runHybridL := by
  funext T L dump fuel f heu st
  unfold runHybrid runHybridL
  congr 1
  funext b
  by_cases hm : Section.stmrew ∈ sections .hybrid f
  · simp only [if_pos hm]
  · simp only [if_neg hm]
    exact congrArg Prod.snd (runWith_congr _ _ (sections .hybrid f) _ fun sec hs s => by
      have hne : sec ≠ .stmrew := fun e => hm (e ▸ hs)
      rw [secHybrid_of_ne _ _ _ _ _ hne, secHybrid_of_ne _ _ _ _ _ hne])

/-- the blocks of an invocation on a (sorted) parser object; `none` = the construction panics -/
def runParsed {T : Type} (W : World T) (fuel : Nat) (i : Inv) (st : PState) : Option (List Block) :=
  match i.mode with
  | .naive => runNaive fuel i.flags i.heu st
  | .biodivine => runBio (W.lib (dictSizeOf st)) i.flags st
  | .hybrid => runHybrid (W.lib (dictSizeOf st)) W.dump fuel i.flags i.heu st

def parsed {T : Type} (W : World T) (i : Inv) (t : List Char) : Option PState :=
  (parse t).map (sortState W.anSort i.sort)

/-- **the binary on the text of the file**: exit status and stdout. `fuel` bounds the iterations
of each nogood-learning search (the Rust loop has no bound; see `haltedParsed`). -/
def runText {T : Type} (W : World T) (fuel : Nat) (i : Inv) (t : List Char) : Out :=
  match parsed W i t with
  | none => rejected
  | some st =>
    match runParsed W fuel i st with
    | none => rejected
    | some blocks => ⟨0, blocks.flatMap fun b => b.2.map (render st.namelist)⟩

/-- no nogood-learning search of the invocation hit the bound `fuel` (a Boolean the model computes) -/
def haltedParsed {T : Type} (W : World T) (fuel : Nat) (i : Inv) (st : PState) : Bool :=
  match i.mode with
  | .biodivine => true
  | .naive =>
    match fromParser st with
    | none => true
    | some b => haltsWith (secHalts fuel i.heu (dictSizeOf st) b.2) (secNaive fuel i.heu (dictSizeOf st) b.2)
        (sections .naive i.flags) b.1
  | .hybrid =>
    match bioBuild (W.lib (dictSizeOf st)) st i.flags.stmrew with
    | none => true
    | some b =>
      let h := hybridStep (W.lib (dictSizeOf st)) W.dump b.1
      let cands := Bio.stableModelCandidates (W.lib (dictSizeOf st)) b.2 b.1
      haltsWith (secHalts fuel i.heu (dictSizeOf st) h.2)
        (secHybrid fuel i.heu cands (dictSizeOf st) h.2) (sections .hybrid i.flags) h.1

end CliM
