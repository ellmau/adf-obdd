import AdfObdd.NgEndToEnd
import AdfObdd.Channel
/-! # The channel variants of the nogood-learning search

`nogood_internal(…, s: Sender)` as a `Chan.Producer`: one producer step is one iteration of the `loop`
(`NConc.cIter`, i.e. `SM.ngIter` for the built-in heuristics); the iteration that finds a model appends
it to `out`, and the next producer step is the `s.send(cur_interpr.clone())` of that model (in the Rust
the send sits inside the iteration; nothing observable happens between the two); when the loop has
broken and everything is sent the function returns and drops `s`.

* `stable_nogood_channel` / `two_val_nogood_channel`: `stable = true / false`, any capacity, any schedule
  (the consumer is another thread);
* `stable_nogood`: unbounded channel, the sequential schedule (`Chan.sequential_exact`). -/
namespace NConc

def ngProducer (hc : CHeu) (n : Nat) (ac : List Nat) (stable : Bool) : Chan.Producer SM.NgS (List Nat) :=
  { iter := cIter hc n ac stable, done := fun st => st.done, out := fun st => st.out }

theorem ngProducer_mono (hc : CHeu) (n : Nat) (ac : List Nat) (stable : Bool) : Chan.Mono (ngProducer hc n ac stable) :=
  fun st => (cIter_frame hc n ac stable st).2

theorem runG_eq_cRun (hc : CHeu) (n : Nat) (ac : List Nat) (stable : Bool) (st : SM.NgS) :
    ∀ k, Chan.runG (ngProducer hc n ac stable) k st = cRun hc n ac stable k st := by
  intro k
  induction k with
  | zero => rfl
  | succ k ih =>
    rw [cRun_succ]
    show (if (Chan.runG (ngProducer hc n ac stable) k st).done = true then Chan.runG (ngProducer hc n ac stable) k st
          else cIter hc n ac stable (Chan.runG (ngProducer hc n ac stable) k st)) = _
    rw [ih]

/-- the configuration of search + channel + consumer after a schedule -/
def chanRun (hc : CHeu) (cap : Option Nat) (sched : List Chan.Ev) (s : Store) (n : Nat) (ac : List Nat) (stable : Bool) :
    Chan.Cfg SM.NgS (List Nat) :=
  Chan.run (ngProducer hc n ac stable) cap sched (Chan.init (initC s n ac))

section chan
variable (hc : CHeu) (cap : Option Nat) (s : Store) (n : Nat) (ac : List Nat) (stable : Bool)

theorem chanRun_inv (sched : List Chan.Ev) :
    Chan.Inv (ngProducer hc n ac stable) cap (initC s n ac) (chanRun hc cap sched s n ac stable) :=
  Chan.run_inv (ngProducer_mono hc n ac stable) sched _ (Chan.Inv.init _ cap _)

theorem done_runG {fuel : Nat} (hd : (cSearch hc fuel s n ac stable).2.2.2 = true) :
    (ngProducer hc n ac stable).done (Chan.runG (ngProducer hc n ac stable) fuel (initC s n ac)) = true := by
  rw [runG_eq_cRun]; exact hd

theorem out_runG (fuel : Nat) :
    (ngProducer hc n ac stable).out (Chan.runG (ngProducer hc n ac stable) fuel (initC s n ac)) =
      (cSearch hc fuel s n ac stable).2.1 := by
  rw [runG_eq_cRun]; rfl

/-- **channel variants, all at once.** If the search halts within `fuel` (it does: `search_exact_any_heuristic`),
then for EVERY capacity and EVERY schedule of producer and consumer steps:
1. what the consumer has received so far, followed by what is queued, is a prefix of the list the search returns;
2. if the sender has been dropped, every model has been sent: received ++ queued = the whole list, and the
   sequence of events at the sending end is one `send` per model, in order, followed by the `close` - nothing
   is sent after it;
3. as long as the sender has not been dropped the log contains no `close`;
4. if the consumer's iteration has ended, it has received exactly the list the search returns (same order,
   same multiplicities), the channel is closed and empty;
5. (capacity ≥ 1) a schedule with enough fair rounds ends the consumer's iteration. -/
theorem channel_delivers {fuel : Nat} (hd : (cSearch hc fuel s n ac stable).2.2.2 = true) (sched : List Chan.Ev) :
    let c := chanRun hc cap sched s n ac stable
    let res := (cSearch hc fuel s n ac stable).2.1
    (c.got ++ c.buf <+: res) ∧
    (c.closed = true → c.got ++ c.buf = res ∧ c.log = res.map Chan.ChEv.send ++ [Chan.ChEv.close]) ∧
    (c.closed = false → ∀ e ∈ c.log, e ≠ Chan.ChEv.close) ∧
    (c.consDone = true → c.got = res ∧ c.closed = true ∧ c.buf = []) ∧
    ((∀ k, cap = some k → 1 ≤ k) → ∀ m, Chan.Fair m sched → fuel + res.length + 1 + res.length + 1 ≤ m →
        c.consDone = true) := by
  intro c res
  have hm := ngProducer_mono hc n ac stable
  have hN := done_runG hc s n ac stable hd
  have hinv := chanRun_inv hc cap s n ac stable sched
  have hres : res = (ngProducer hc n ac stable).out (Chan.runG (ngProducer hc n ac stable) fuel (initC s n ac)) :=
    (out_runG hc s n ac stable fuel).symm
  refine ⟨?_, ?_, ?_, ?_, ?_⟩
  · rw [hres]; exact Chan.got_buf_prefix hm hN hinv
  · intro hcl
    rw [hres]; exact ⟨Chan.closed_all_sent hN hinv hcl, Chan.closed_log hN hinv hcl⟩
  · exact Chan.open_log hinv
  · intro hcd
    rw [hres]; exact Chan.finished_exact hN hinv hcd
  · intro hcap m hf hle
    apply Chan.fair_finishes hm hN hcap m sched hf _ (Chan.Inv.init _ cap _)
    rw [Chan.measure_init, ← hres]; exact hle

/-- the iterator variant `stable_nogood`: unbounded channel, the whole search first (`a` producer steps), then
`r.iter().collect()` (`b` consumer steps): the collection ends and is exactly the list the search returns -/
theorem iterator_variant {fuel : Nat} (hd : (cSearch hc fuel s n ac stable).2.2.2 = true) (a b : Nat)
    (ha : fuel + (cSearch hc fuel s n ac stable).2.1.length + 1 ≤ a)
    (hb : (cSearch hc fuel s n ac stable).2.1.length + 1 ≤ b) :
    let c := chanRun hc none (List.replicate a Chan.Ev.prod ++ List.replicate b Chan.Ev.cons) s n ac stable
    c.consDone = true ∧ c.got = (cSearch hc fuel s n ac stable).2.1 := by
  have hm := ngProducer_mono hc n ac stable
  have hN := done_runG hc s n ac stable hd
  have hres := out_runG hc s n ac stable fuel
  have := Chan.sequential_exact hm hN a b (by rw [hres]; exact ha) (by rw [hres]; exact hb)
  rw [hres] at this
  exact this

end chan

/-- further producer/consumer steps after the sender was dropped change neither the log nor what was delivered -/
theorem channel_frozen_after_close (hc : CHeu) (cap : Option Nat) (s : Store) (n : Nat) (ac : List Nat) (stable : Bool)
    (sched more : List Chan.Ev) (hcl : (chanRun hc cap sched s n ac stable).closed = true) :
    (chanRun hc cap (sched ++ more) s n ac stable).closed = true ∧
    (chanRun hc cap (sched ++ more) s n ac stable).log = (chanRun hc cap sched s n ac stable).log ∧
    (chanRun hc cap (sched ++ more) s n ac stable).got ++ (chanRun hc cap (sched ++ more) s n ac stable).buf =
      (chanRun hc cap sched s n ac stable).got ++ (chanRun hc cap sched s n ac stable).buf := by
  unfold chanRun at hcl ⊢
  rw [Chan.run_append]
  exact Chan.closed_frozen _ cap more _ hcl

end NConc
