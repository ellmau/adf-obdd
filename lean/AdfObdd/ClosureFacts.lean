import AdfObdd.NgHalt
/-! the model of `conclusion_closure` (`updateVec`, `closureLoop`, `conclusionClosure`), the layout law `Sized`
    (bucket `k` holds nogoods of size `k`: the store as repaired) and the two closure facts the termination argument
    needs, `cl_flip` / `cl_direct`, on fixed-length vectors: the `…_sized` forms for any `Sized` buckets, the others
    for `bucketsOf`, the buckets rebuilt from a flat list -/

/-- buckets by size, as the repaired `add_ng` builds them (membership view): `n + 1` buckets,
bucket `k` holds the nogoods of size `k` (the empty nogood sits in bucket 0) -/
def bucketsOf (n : Nat) (flat : List PA) : List (List PA) :=
  (List.range (n + 1)).map (fun k => flat.filter (fun g => size g == k))

def Stored (bs : List (List PA)) (h : PA) : Prop := ∃ (k : Nat) (b : List PA), bs[k]? = some b ∧ h ∈ b

theorem stored_iff_mem {bs : List (List PA)} {h : PA} : Stored bs h ↔ ∃ b ∈ bs, h ∈ b := by
  constructor
  · rintro ⟨k, b, hk, hb⟩
    exact ⟨b, List.mem_of_getElem? hk, hb⟩
  · rintro ⟨b, hb, hh⟩
    obtain ⟨k, hk⟩ := List.getElem?_of_mem hb
    exact ⟨k, b, hk, hh⟩

theorem stored_iff_flatten {bs : List (List PA)} {h : PA} : Stored bs h ↔ h ∈ bs.flatten :=
  stored_iff_mem.trans List.mem_flatten.symm

/-- the layout `conclusions` relies on: bucket `k` holds only nogoods of size `k` -/
def Sized (bs : List (List PA)) : Prop := ∀ (k : Nat) (b : List PA), bs[k]? = some b → ∀ g ∈ b, size g = k

theorem mem_relevant_iff {bs : List (List PA)} {A : PA} {b : List PA} :
    b ∈ relevant bs A ↔ ∃ k, k < size A + 2 ∧ bs[k]? = some b := by
  unfold relevant
  rw [List.mem_take_iff_getElem]
  constructor
  · rintro ⟨k, hk, rfl⟩
    exact ⟨k, (Nat.lt_min.mp hk).1, List.getElem?_eq_getElem (Nat.lt_min.mp hk).2⟩
  · rintro ⟨k, hk, hb⟩
    obtain ⟨hkl, rfl⟩ := List.getElem?_eq_some_iff.mp hb
    exact ⟨k, Nat.lt_min.mpr ⟨hk, hkl⟩, rfl⟩

theorem Sized.relevant_iff {bs : List (List PA)} (hz : Sized bs) {A g : PA} :
    (∃ bk ∈ relevant bs A, g ∈ bk) ↔ Stored bs g ∧ size g ≤ size A + 1 := by
  constructor
  · rintro ⟨bk, hb, hg⟩
    obtain ⟨k, hk, hbk⟩ := mem_relevant_iff.mp hb
    exact ⟨⟨k, bk, hbk, hg⟩, by rw [hz k bk hbk g hg]; exact Nat.le_of_lt_succ hk⟩
  · rintro ⟨⟨k, bk, hbk, hg⟩, hs⟩
    exact ⟨bk, mem_relevant_iff.mpr ⟨k, by rw [← hz k bk hbk g hg]; exact Nat.lt_succ_of_le hs, hbk⟩, hg⟩

theorem getElem?_bucketsOf {n : Nat} {flat : List PA} {k : Nat} {b : List PA} :
    (bucketsOf n flat)[k]? = some b ↔ k ≤ n ∧ flat.filter (fun g => size g == k) = b := by
  unfold bucketsOf
  rw [List.getElem?_map]
  rcases Nat.lt_or_ge k (n + 1) with h | h
  · rw [List.getElem?_range h, Option.map_some, Option.some.injEq]
    exact ⟨fun e => ⟨Nat.le_of_lt_succ h, e⟩, And.right⟩
  · rw [List.getElem?_eq_none (by rw [List.length_range]; exact h)]
    exact ⟨nofun, fun e => absurd e.1 (Nat.not_le_of_lt h)⟩

theorem bucketsOf_sized (n : Nat) (flat : List PA) : Sized (bucketsOf n flat) := by
  intro k b hk g hg
  obtain ⟨_, rfl⟩ := getElem?_bucketsOf.mp hk
  exact beq_iff_eq.mp (List.mem_filter.mp hg).2

theorem stored_bucketsOf {n : Nat} {flat : List PA} {g : PA} :
    Stored (bucketsOf n flat) g ↔ g ∈ flat ∧ size g ≤ n := by
  constructor
  · rintro ⟨k, b, hk, hg⟩
    obtain ⟨hkn, rfl⟩ := getElem?_bucketsOf.mp hk
    have ⟨h1, h2⟩ := List.mem_filter.mp hg
    exact ⟨h1, by rw [beq_iff_eq.mp h2]; exact hkn⟩
  · rintro ⟨hg, hs⟩
    exact ⟨size g, _, getElem?_bucketsOf.mpr ⟨hs, rfl⟩, List.mem_filter.mpr ⟨hg, beq_self_eq_true _⟩⟩

theorem mem_bucketsOf {n : Nat} {flat : List PA} {b : List PA} (h : b ∈ bucketsOf n flat) :
    ∀ g ∈ b, g ∈ flat :=
  fun _ hg => (stored_bucketsOf.mp (stored_iff_mem.mpr ⟨b, h, hg⟩)).1

theorem size_cons (a : Option Bool) (l : PA) : size (a :: l) = (if a.isSome then 1 else 0) + size l := by
  cases a <;> simp [size] <;> omega

theorem pget_cons_zero (a : Option Bool) (l : PA) : pget (a :: l) 0 = a := by simp [pget]
theorem pget_cons_succ (a : Option Bool) (l : PA) (i : Nat) : pget (a :: l) (i+1) = pget l i := by simp [pget]

theorem psub_tail {x y : Option Bool} {g A : PA} (hs : PSub (x :: g) (y :: A)) : PSub g A := fun i b h => by
  have := hs (i+1) b (by rw [pget_cons_succ]; exact h)
  rwa [pget_cons_succ] at this

theorem size_mono : ∀ (g A : PA), g.length = A.length → PSub g A → size g ≤ size A := by
  intro g
  induction g with
  | nil => intro A _ _; simp [size]
  | cons x g ih =>
    intro A hl hs
    cases A with
    | nil => simp at hl
    | cons y A =>
      have hs' := psub_tail hs
      have := ih A (by simpa using hl) hs'
      rw [size_cons, size_cons]
      cases x with
      | none => simp; omega
      | some b =>
        have := hs 0 b (by rw [pget_cons_zero])
        rw [pget_cons_zero] at this; subst this; simp; omega

theorem size_setAt (l : PA) (v : Nat) (b : Bool) (hv : v < l.length) (hn : pget l v = none) :
    size (setAt l v b) = size l + 1 := by
  have hl : l[v] = none := by rwa [pget, List.getElem?_eq_getElem hv] at hn
  unfold size setAt
  rw [if_pos hv, ← List.countP_eq_length_filter, ← List.countP_eq_length_filter, List.countP_set hv, hl]
  rfl

theorem setAt_length (l : PA) (v : Nat) (b : Bool) (hv : v < l.length) : (setAt l v b).length = l.length := by
  unfold setAt; rw [if_pos hv]; simp

theorem size_lt (g A : PA) (hl : g.length = A.length) (hs : PSub g A)
    (h : ∃ i, pget g i = none ∧ (pget A i).isSome = true) : size g < size A := by
  obtain ⟨i, hg, hA⟩ := h
  obtain ⟨b, hb⟩ := Option.isSome_iff_exists.mp hA
  have hi : i < g.length := hl ▸ pget_lt hb
  -- `g` with position `i` decided as in `A` is still contained in `A`
  have := size_mono (setAt g i b) A ((setAt_length g i b hi).trans hl) fun j c hj => by
    rw [pget_setAt] at hj
    split at hj
    next e => rw [e, ← hj]; exact hb
    next => exact hs j c hj
  rwa [size_setAt g i b hi hg] at this

theorem list_ext_pget {l l' : PA} (hl : l.length = l'.length) (h : ∀ i, i < l.length → pget l i = pget l' i) :
    l = l' := by
  apply List.ext_getElem hl
  intro i h1 h2
  have := h i h1
  unfold pget at this
  rw [List.getElem?_eq_getElem h1, List.getElem?_eq_getElem h2] at this
  simpa using this

theorem setAt_same {acc : PA} {i : Nat} {v : Bool} (h : pget acc i = some v) : setAt acc i v = acc := by
  apply list_ext_pget (setAt_length acc i v (pget_lt h))
  intro j _
  rw [pget_setAt]
  split
  next c => rw [c, h]
  next => rfl

theorem not_closed_of_psub_setAt {g H : PA} {v : Nat} {b : Bool} (hn : pget H v = none)
    (hp : PSub g (setAt H v b)) : ¬ Closed g H := by
  rintro ⟨i, c, hg, hH⟩
  have := hp i c hg
  rw [pget_setAt] at this
  split at this
  next e => rw [e, hn] at hH; cases hH
  next => rw [hH] at this; cases c <;> cases this

theorem conclude_closed {g H : PA} (h : Closed g H) : conclude g H = none := by
  fun_cases conclude g H with
  | case2 _ _ hm => exact absurd ((mismatch_iff g H).mpr h) hm
  | _ => rfl

theorem violating_closed {g H R : PA} (h : Closed g H) (hs : PSub H R) : violating g R = false := by
  obtain ⟨i, c, hg, hH⟩ := h
  cases hv : violating g R with
  | false => rfl
  | true =>
    have := (violating_iff g R).mp hv i c hg
    rw [hs i _ hH] at this
    cases c <;> simp at this

theorem eq_of_psub_of_size_le {C g : PA} (hl : C.length = g.length) (hs : PSub C g) (hsz : size g ≤ size C) :
    g = C := by
  apply list_ext_pget hl.symm
  intro i _
  cases hC : pget C i with
  | some b => exact hs i b hC
  | none =>
    cases hg : pget g i with
    | none => rfl
    | some b => have := size_lt C g hl hs ⟨i, hC, by rw [hg]; rfl⟩; omega

theorem eq_singleton_of_nodup {α : Type} {l : List α} {a : α} (hl : l.Nodup) (h : ∀ x, x ∈ l ↔ x = a) : l = [a] :=
  List.perm_singleton.mp ((List.perm_ext_iff_of_nodup hl (List.pairwise_singleton _ a)).mpr (by simpa using h))

/-- the freshly learned nogood concludes the flipped literal -/
theorem conclude_flip (H : PA) (v : Nat) (b : Bool) (hv : v < H.length) (hn : pget H v = none) :
    conclude (setAt H v b) H = some (v, !b) := by
  have hlen := setAt_length H v b hv
  have hi : implPos (setAt H v b) H = [v] := by
    have hnd : (implPos (setAt H v b) H).Nodup := List.Nodup.sublist List.filter_sublist List.nodup_range
    refine eq_singleton_of_nodup hnd (fun i => ?_)
    rw [implPos_mem, pget_setAt]
    by_cases e : i = v
    · subst e; simp [hn]
    · rw [if_neg e]
      cases hg : pget H i <;> simp [e]
  have hm : mismatch (setAt H v b) H = false :=
    Bool.eq_false_iff.mpr fun h => not_closed_of_psub_setAt hn (PSub.refl _) ((mismatch_iff _ H).mp h)
  unfold conclude
  rw [hi, hm]
  simp [pget_setAt]

theorem size_le_length (l : PA) : size l ≤ l.length := by
  unfold size; exact List.length_filter_le _ _

section flip
variable (n : Nat) (flat : List PA) (H : PA) (v : Nat) (b : Bool)

/-- the premises under which the closure must flip the popped choice -/
structure FlipPre : Prop where
  hlen : H.length = n
  hv : v < n
  hn : pget H v = none
  glen : ∀ g ∈ flat, g.length = n
  cmem : setAt H v b ∈ flat
  cls : ∀ g ∈ flat, Closed g H ∨ PSub (setAt H v b) g

variable {n flat H v b}

theorem FlipPre.sizeC (h : FlipPre n flat H v b) : size (setAt H v b) = size H + 1 :=
  size_setAt H v b (by rw [h.hlen]; exact h.hv) h.hn

theorem FlipPre.dich (h : FlipPre n flat H v b) {g : PA} (hg : g ∈ flat) (hsz : size g ≤ size H + 1) :
    (conclude g H = none ∨ conclude g H = some (v, !b)) ∧
    violating g (setAt H v (!b)) = false ∧ violating g H = false := by
  have hvH : v < H.length := by rw [h.hlen]; exact h.hv
  rcases h.cls g hg with hc | hs
  · exact ⟨Or.inl (conclude_closed hc), violating_closed hc (psub_setAt _ h.hn), violating_closed hc (PSub.refl _)⟩
  · have hl : (setAt H v b).length = g.length := by rw [setAt_length H v b hvH, h.hlen, h.glen g hg]
    -- of the size of the fresh nogood, `g` is the fresh nogood
    obtain rfl := eq_of_psub_of_size_le hl hs (by rw [h.sizeC]; exact hsz)
    have hgv : pget (setAt H v b) v = some b := by rw [pget_setAt, if_pos rfl]
    refine ⟨Or.inr (conclude_flip H v b hvH h.hn), ?_, ?_⟩
    · cases hvi : violating (setAt H v b) (setAt H v (!b)) with
      | false => rfl
      | true =>
        have := (violating_iff _ _).mp hvi v b hgv
        rw [pget_setAt] at this; simp at this
    · cases hvi : violating (setAt H v b) H with
      | false => rfl
      | true =>
        have := (violating_iff _ _).mp hvi v b hgv
        rw [h.hn] at this; cases this
end flip

section flip2
variable {n : Nat} {flat : List PA} {H : PA} {v : Nat} {b : Bool}

theorem bucketStep_flip (hn : pget H v = none) (bk : List PA)
    (hd : ∀ g ∈ bk, conclude g H = none ∨ conclude g H = some (v, !b)) (acc : PA)
    (hacc : acc = H ∨ acc = setAt H v (!b)) :
    (bk.filterMap (fun g => conclude g H) = [] ∧ bucketStep H (some acc) bk = some acc) ∨
    (bk.filterMap (fun g => conclude g H) ≠ [] ∧ bucketStep H (some acc) bk = some (setAt H v (!b))) := by
  have hall : ∀ x ∈ bk.filterMap (fun g => conclude g H), x = (v, !b) := by
    intro x hx
    rw [List.mem_filterMap] at hx
    obtain ⟨g, hg, hc⟩ := hx
    rcases hd g hg with h | h
    · rw [h] at hc; cases hc
    · rw [h] at hc; cases hc; rfl
  unfold bucketStep
  simp only
  generalize bk.filterMap (fun g => conclude g H) = pairs at *
  cases pairs with
  | nil => left; simp
  | cons x rest =>
    right
    refine ⟨by simp, ?_⟩
    have hcons : consistentPairs (x :: rest) = true := by
      unfold consistentPairs
      rw [List.all_eq_true]; intro a ha
      rw [List.all_eq_true]; intro c hc
      rw [hall a ha, hall c hc]; simp
    rw [if_neg (by simp [hcons])]
    have hcontra : (x :: rest).any (fun x => pget acc x.1 == some (!x.2)) = false := by
      rw [List.any_eq_false]; intro a ha
      rw [hall a ha]
      rcases hacc with rfl | rfl
      · simp [hn]
      · simp [pget_setAt]
    rw [if_neg (by simp [hcontra])]
    -- the first write gives the flipped vector, every further one rewrites the same position
    have hs : ∀ a, a = H ∨ a = setAt H v (!b) → setAt a v (!b) = setAt H v (!b) := by
      rintro _ (rfl | rfl)
      · rfl
      · exact setAt_same (by rw [pget_setAt, if_pos rfl])
    refine congrArg some (List.foldlRecOn (motive := (· = setAt H v (!b))) rest _ ?_ fun a ha y hy => ?_)
    · rw [hall x (List.mem_cons_self ..)]; exact hs acc hacc
    · rw [hall y (List.mem_cons_of_mem _ hy), ha]; exact hs _ (Or.inr rfl)

theorem fold_flip (hn : pget H v = none) : ∀ (bs : List (List PA)) (acc : PA),
    (∀ bk ∈ bs, ∀ g ∈ bk, conclude g H = none ∨ conclude g H = some (v, !b)) →
    (acc = H ∨ acc = setAt H v (!b)) →
    (bs.foldl (bucketStep H) (some acc) = some (setAt H v (!b))) ∨
    (bs.foldl (bucketStep H) (some acc) = some acc ∧ ∀ bk ∈ bs, bk.filterMap (fun g => conclude g H) = []) := by
  intro bs
  induction bs with
  | nil => intro acc _ _; right; exact ⟨rfl, fun _ h => by cases h⟩
  | cons bk bs ih =>
    intro acc hd hacc
    simp only [List.foldl_cons]
    have hd' : ∀ bk' ∈ bs, ∀ g ∈ bk', conclude g H = none ∨ conclude g H = some (v, !b) :=
      fun bk' h => hd bk' (List.mem_cons_of_mem _ h)
    rcases bucketStep_flip hn bk (hd bk (List.mem_cons_self ..)) acc hacc with ⟨he, hs⟩ | ⟨_, hs⟩
    · rw [hs]
      rcases ih acc hd' hacc with h | ⟨h1, h2⟩
      · left; exact h
      · right; refine ⟨h1, ?_⟩
        intro x hx
        rcases List.mem_cons.mp hx with rfl | hx
        · exact he
        · exact h2 x hx
    · rw [hs]
      rcases ih (setAt H v (!b)) hd' (Or.inr rfl) with h | ⟨h1, _⟩
      · left; exact h
      · left; exact h1

/-- `cl_flip` at the level of one `conclusions` call -/
theorem conclusions_flip_sized {bs : List (List PA)} (h : FlipPre n flat H v b) (hz : Sized bs)
    (hall : ∀ g, Stored bs g → g ∈ flat) (hC : Stored bs (setAt H v b)) :
    conclusions bs H = some (setAt H v (!b)) := by
  have hmem : ∀ bk ∈ relevant bs H, ∀ g ∈ bk, g ∈ flat ∧ size g ≤ size H + 1 := fun bk hb g hg =>
    (hz.relevant_iff.mp ⟨bk, hb, hg⟩).imp_left (hall g)
  have hhas : ∃ bk ∈ relevant bs H, setAt H v b ∈ bk := hz.relevant_iff.mpr ⟨hC, Nat.le_of_eq h.sizeC⟩
  have hvH : v < H.length := by rw [h.hlen]; exact h.hv
  have hd : ∀ bk ∈ relevant bs H, ∀ g ∈ bk,
      conclude g H = none ∨ conclude g H = some (v, !b) := by
    intro bk hb g hg
    have ⟨hgf, hsz⟩ := hmem bk hb g hg
    exact (h.dich hgf hsz).1
  -- the bucket of the fresh nogood is looked at and concludes something
  obtain ⟨bkC, hbucket, hCin⟩ := hhas
  have hnonempty : bkC.filterMap (fun g => conclude g H) ≠ [] := by
    intro he
    have : (v, !b) ∈ bkC.filterMap (fun g => conclude g H) := by
      rw [List.mem_filterMap]; exact ⟨_, hCin, conclude_flip H v b hvH h.hn⟩
    rw [he] at this; cases this
  unfold conclusions
  rcases fold_flip h.hn (relevant bs H) H hd (Or.inl rfl) with hf | ⟨_, hall⟩
  · rw [hf]
    simp only
    have hany : (relevant bs H).any
        (fun bk => bk.any (fun e => violating e (setAt H v (!b)) || violating e H)) = false := by
      rw [List.any_eq_false]; intro bk hb
      rw [Bool.not_eq_true, List.any_eq_false]; intro g hg
      have ⟨hgf, hsz⟩ := hmem bk hb g hg
      have ⟨_, h1, h2⟩ := h.dich hgf hsz
      simp [h1, h2]
    rw [if_neg (by simp [hany])]
  · exact absurd (hall _ hbucket) hnonempty

theorem FlipPre.stored (h : FlipPre n flat H v b) :
    (∀ g, Stored (bucketsOf n flat) g → g ∈ flat) ∧ Stored (bucketsOf n flat) (setAt H v b) :=
  ⟨fun _ hs => (stored_bucketsOf.mp hs).1, stored_bucketsOf.mpr ⟨h.cmem, by
    have := size_le_length (setAt H v b)
    rw [setAt_length H v b (by rw [h.hlen]; exact h.hv), h.hlen] at this
    exact this⟩⟩

/-- `cl_flip` at the level of one `conclusions` call on the store re-bucketed from a flat list -/
theorem conclusions_flip (h : FlipPre n flat H v b) :
    conclusions (bucketsOf n flat) H = some (setAt H v (!b)) := by
  exact conclusions_flip_sized h (bucketsOf_sized n flat) h.stored.1 h.stored.2
#print axioms conclusions_flip
end flip2

/-- `update_term_vec`: positions decided in `val` overwrite `v`; the flag says whether an
undecided position of `v` became decided -/
def updateVec (val v : PA) : PA × Bool :=
  ((List.range v.length).map (fun i => match pget val i with | some b => some b | none => pget v i),
   (List.range v.length).any (fun i => (pget val i).isSome && (pget v i).isNone))

/-- the `while update` loop of `conclusion_closure`. Fuel 0 is not reached with the fuel `conclusionClosure` passes
(`closure_cases`, `closureLoop_fuel` in `ClosureSound.lean`), so what is answered there does not matter. -/
def closureLoop (buckets : List (List PA)) : Nat → PA → Closure
  | 0, r => Closure.update r
  | fuel+1, r =>
    match conclusions buckets r with
    | none => Closure.inconsistent
    | some val =>
      let u := updateVec val r
      if u.2 then closureLoop buckets fuel u.1 else Closure.update u.1

def conclusionClosure (buckets : List (List PA)) (interp : PA) : Closure :=
  match conclusions buckets interp with
  | none => Closure.inconsistent
  | some val =>
    let u := updateVec val interp
    if !u.2 then Closure.noUpdate else closureLoop buckets (interp.length + 1) u.1

theorem closure_of_conflict {bs : List (List PA)} {A : PA} (h : conclusions bs A = none) :
    conclusionClosure bs A = Closure.inconsistent := by
  rw [conclusionClosure, h]

theorem pget_updateVec (val v : PA) (i : Nat) (hi : i < v.length) :
    pget (updateVec val v).1 i = (match pget val i with | some b => some b | none => pget v i) := by
  unfold updateVec pget
  simp [hi]

theorem updateVec_length (val v : PA) : (updateVec val v).1.length = v.length := by
  simp [updateVec]

theorem conclusions_none_of_violating {bs : List (List PA)} {A e : PA} {b : List PA} (hb : b ∈ relevant bs A)
    (he : e ∈ b) (hv : violating e A = true) : conclusions bs A = none := by
  unfold conclusions
  split
  · rfl
  · rw [if_pos (List.any_eq_true.mpr ⟨b, hb, List.any_eq_true.mpr ⟨e, he, by rw [hv, Bool.or_true]⟩⟩)]

/-- a stored nogood contained in the interpretation is found by the final `is_violating` scan: it sits in the bucket
of its size, which is at most the size of the interpretation (the empty nogood in bucket 0, which is always looked at) -/
theorem conclusions_direct_sized {bs : List (List PA)} (hz : Sized bs) {g A : PA} (hs : Stored bs g)
    (hl : g.length = A.length) (hp : PSub g A) : conclusions bs A = none := by
  obtain ⟨bk, hb, hg⟩ := hz.relevant_iff.mpr ⟨hs, Nat.le_succ_of_le (size_mono g A hl hp)⟩
  exact conclusions_none_of_violating hb hg ((violating_iff g A).mpr hp)

/-- `cl_direct` for the concrete closure -/
theorem closure_direct (n : Nat) (flat : List PA) (A g : PA) (hg : g ∈ flat) (hl : g.length = A.length)
    (hs : PSub g A) (hn : size A ≤ n) :
    conclusionClosure (bucketsOf n flat) A = Closure.inconsistent :=
  closure_of_conflict (conclusions_direct_sized (bucketsOf_sized n flat)
    (stored_bucketsOf.mpr ⟨hg, Nat.le_trans (size_mono g A hl hs) hn⟩) hl hs)
#print axioms closure_direct

theorem conclusions_allclosed_gen (bs : List (List PA)) (A : PA)
    (h : ∀ bk ∈ relevant bs A, ∀ g ∈ bk, Closed g A) : conclusions bs A = some A := by
  have hstep : ∀ bk ∈ relevant bs A, bucketStep A (some A) bk = some A := by
    intro bk hb
    have : bk.filterMap (fun g => conclude g A) = [] := by
      rw [List.filterMap_eq_nil_iff]
      intro g hg; exact conclude_closed (h bk hb g hg)
    unfold bucketStep; simp [this]
  unfold conclusions
  rw [List.foldlRecOn (motive := (· = some A)) (relevant bs A) (bucketStep A) rfl
    fun o ho bk hb => by rw [ho]; exact hstep bk hb]
  simp only
  rw [if_neg]
  rw [Bool.not_eq_true, List.any_eq_false]; intro bk hb
  rw [Bool.not_eq_true, List.any_eq_false]; intro g hg
  have := violating_closed (h bk hb g hg) (PSub.refl A)
  simp [this]

theorem conclusions_allclosed (n : Nat) (flat : List PA) (A : PA) (h : ∀ g ∈ flat, Closed g A) :
    conclusions (bucketsOf n flat) A = some A :=
  conclusions_allclosed_gen _ A (fun _ hb g hg => h g (mem_bucketsOf (List.mem_of_mem_take hb) g hg))

theorem updateVec_self_of_sub {R A : PA} (hl : R.length = A.length) (hs : PSub A R) :
    (updateVec R A).1 = R := by
  apply list_ext_pget (by rw [updateVec_length, hl])
  intro i hi
  rw [updateVec_length] at hi
  rw [pget_updateVec R A i hi]
  cases hr : pget R i with
  | some b => rfl
  | none =>
    cases ha : pget A i with
    | none => rfl
    | some b => have := hs i b ha; rw [hr] at this; cases this

theorem updateVec_self_flag (A : PA) : (updateVec A A).2 = false := by
  unfold updateVec
  simp only
  rw [List.any_eq_false]
  intro i _
  cases pget A i <;> simp

/-- `cl_flip` for the concrete closure -/
theorem closure_flip_sized {n : Nat} {flat : List PA} {H : PA} {v : Nat} {b : Bool} {bs : List (List PA)}
    (h : FlipPre n flat H v b) (hz : Sized bs) (hall : ∀ g, Stored bs g → g ∈ flat)
    (hC : Stored bs (setAt H v b)) :
    conclusionClosure bs H = Closure.update (setAt H v (!b)) := by
  have hvH : v < H.length := by rw [h.hlen]; exact h.hv
  have hRlen : (setAt H v (!b)).length = H.length := setAt_length H v (!b) hvH
  have hsub : PSub H (setAt H v (!b)) := psub_setAt _ h.hn
  have hu1 : (updateVec (setAt H v (!b)) H).1 = setAt H v (!b) := updateVec_self_of_sub hRlen hsub
  have hu2 : (updateVec (setAt H v (!b)) H).2 = true := by
    unfold updateVec
    simp only
    rw [List.any_eq_true]
    refine ⟨v, List.mem_range.mpr hvH, ?_⟩
    simp [pget_setAt, h.hn]
  -- after the flip every stored nogood is complemented
  have hclosed : ∀ g ∈ flat, Closed g (setAt H v (!b)) := by
    intro g hg
    rcases h.cls g hg with hc | hs
    · exact hc.mono hsub
    · exact Closed.of_flip hs (by rw [pget_setAt, if_pos rfl])
  have h2 := conclusions_allclosed_gen bs (setAt H v (!b))
    (fun bk hb g hg => hclosed g (hall g (stored_iff_mem.mpr ⟨bk, relevant_sub hb, hg⟩)))
  have hu3 : (updateVec (setAt H v (!b)) (setAt H v (!b))).1 = setAt H v (!b) :=
    updateVec_self_of_sub rfl (PSub.refl _)
  unfold conclusionClosure
  rw [conclusions_flip_sized h hz hall hC]
  simp only [hu1, hu2]
  unfold closureLoop
  rw [h2]
  simp only [hu3, updateVec_self_flag]
  rfl

/-- `cl_flip` for the concrete closure on the store re-bucketed from a flat list -/
theorem closure_flip {n : Nat} {flat : List PA} {H : PA} {v : Nat} {b : Bool} (h : FlipPre n flat H v b) :
    conclusionClosure (bucketsOf n flat) H = Closure.update (setAt H v (!b)) := by
  exact closure_flip_sized h (bucketsOf_sized n flat) h.stored.1 h.stored.2
#print axioms closure_flip
