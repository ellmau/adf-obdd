import AdfObdd.StoreOps
/-! the biodivine bridge (`Adf::from_biodivine_vector`): replaying an ordered dump
    (two terminals first, children before parents) through `mkNode` into *any* well-formed store
    yields, for every dump index, a handle with the dump's function (C09, bridge pipeline) -/

/-- the function of dump entry `j` (relational, so that no fuel is needed) -/
inductive Den (d : List Node) : Nat → BoolFn → Prop
  | bot : Den d 0 (fun _ => false)
  | top : Den d 1 (fun _ => true)
  | inner (j : Nat) (n : Node) (fl fh : BoolFn) : 2 ≤ j → d[j]? = some n →
      Den d n.lo fl → Den d n.hi fh → Den d j (fun σ => if σ n.var then fh σ else fl σ)

/-- what the code assumes of a dump: children come first and carry larger variables -/
def DumpOK (d : List Node) : Prop :=
  ∀ (j : Nat) (n : Node), 2 ≤ j → d[j]? = some n → n.var < VBOT ∧ n.lo < j ∧ n.hi < j ∧
    (∀ m, 2 ≤ n.lo → d[n.lo]? = some m → n.var < m.var) ∧ (∀ m, 2 ≤ n.hi → d[n.hi]? = some m → n.var < m.var)

/-- the loop body for the entries from index 2 on; `m` is `term_vec` -/
def replayL : List Node → Store → List Nat → Store × List Nat
  | [], s, m => (s, m)
  | n :: rest, s, m =>
    let r := mkNode s n.var (m.getD n.lo 0) (m.getD n.hi 0)
    replayL rest r.1 (m ++ [r.2])

/-- handle `t` stands for dump entry `j`: a terminal for itself, else valid, with the entry's function, no variable above the entry's -/
structure Replayed (d : List Node) (s : Store) (j t : Nat) : Prop where
  term : j < 2 → t = j
  valid : t < s.nodes.size
  den : ∀ f : BoolFn, Den d j f → ∀ σ, eval s t σ = f σ
  ord : ∀ n : Node, 2 ≤ j → d[j]? = some n → n.var ≤ topVar s t

theorem Replayed.ext {d : List Node} {s s' : Store} {j t : Nat} (h : Replayed d s j t) (w : WF s) (e : Ext s s') :
    Replayed d s' j t :=
  ⟨h.term, e.lt h.valid, fun f hf σ => (eval_ext w e t σ h.valid).trans (h.den f hf σ),
    fun n h2 hn => topVar_ext e t h.valid ▸ h.ord n h2 hn⟩

/-- the invariant of the loop after `m.length` dump entries -/
structure BInv (d : List Node) (s : Store) (m : List Nat) : Prop where
  wf : WF s
  two : 2 ≤ m.length
  entry : ∀ (j t : Nat), m[j]? = some t → Replayed d s j t

theorem getElem?_concat_some {α : Type} {m : List α} {x t : α} {j : Nat} (h : (m ++ [x])[j]? = some t) :
    (j < m.length ∧ m[j]? = some t) ∨ (j = m.length ∧ t = x) := by
  rcases Nat.lt_trichotomy j m.length with hlt | rfl | hgt
  · rw [List.getElem?_append_left hlt] at h; exact Or.inl ⟨hlt, h⟩
  · rw [List.getElem?_concat_length] at h; exact Or.inr ⟨rfl, (Option.some.inj h).symm⟩
  · rw [List.getElem?_eq_none (by rw [List.length_append]; exact hgt)] at h; cases h

theorem replay_step (d : List Node) (hd : DumpOK d) (s : Store) (m : List Nat) (n : Node)
    (inv : BInv d s m) (hn : d[m.length]? = some n) :
    BInv d (mkNode s n.var (m.getD n.lo 0) (m.getD n.hi 0)).1 (m ++ [(mkNode s n.var (m.getD n.lo 0) (m.getD n.hi 0)).2]) ∧
    Ext s (mkNode s n.var (m.getD n.lo 0) (m.getD n.hi 0)).1 := by
  have ⟨hv, hlo, hhi, hol, ohh⟩ := hd m.length n inv.two hn
  obtain ⟨tl, htl⟩ : ∃ t, m[n.lo]? = some t := ⟨m[n.lo], List.getElem?_eq_getElem hlo⟩
  obtain ⟨th, hth⟩ : ∃ t, m[n.hi]? = some t := ⟨m[n.hi], List.getElem?_eq_getElem hhi⟩
  rw [getD_of_get htl, getD_of_get hth]
  have w := inv.wf
  have h2 := inv.two
  have el := inv.entry _ _ htl
  have eh := inv.entry _ _ hth
  -- the ordering premises of `mkNode_spec`: a child is a terminal or an entry replayed earlier
  have ordOf : ∀ c tc, c < m.length → Replayed d s c tc →
      (∀ mm, 2 ≤ c → d[c]? = some mm → n.var < mm.var) → n.var < topVar s tc := by
    intro c tc hc e hmm
    rcases Nat.lt_or_ge c 2 with c2 | c2
    · obtain rfl := e.term c2
      match tc, c2 with
      | 0, _ => rw [topVar_zero w]; exact hv
      | 1, _ => rw [topVar_one w]; exact Nat.lt_trans hv (by decide)
    · obtain ⟨mm, hdc⟩ : ∃ mm, d[c]? = some mm :=
        ⟨d[c]'(Nat.lt_trans hc (List.getElem?_eq_some_iff.mp hn).1), List.getElem?_eq_getElem _⟩
      exact Nat.lt_of_lt_of_le (hmm mm c2 hdc) (e.ord mm c2 hdc)
  have ⟨w', he, hvalid, htop, heval⟩ := mkNode_spec s w n.var tl th el.valid eh.valid hv
    (ordOf n.lo tl hlo el hol) (ordOf n.hi th hhi eh ohh)
  generalize mkNode s n.var tl th = M at *
  refine ⟨⟨w', by rw [List.length_append]; exact Nat.le_add_right_of_le h2, fun j t hj => ?_⟩, he⟩
  rcases getElem?_concat_some hj with ⟨_, hj⟩ | ⟨hjm, rfl⟩
  · exact (inv.entry j t hj).ext w he
  · refine ⟨fun h => absurd (hjm ▸ h) (Nat.not_lt_of_le h2), hvalid, fun f hden σ => ?_, fun n' _ hdn => ?_⟩
    · rw [heval]
      cases hden with
      | bot => omega
      | top => omega
      | inner _ n' fl fh _ hn' dl dh =>
        rw [hjm, hn] at hn'; cases hn'
        rw [el.den fl dl σ, eh.den fh dh σ]
    · rw [hjm, hn] at hdn; cases hdn
      exact htop

theorem replayL_spec (d : List Node) (hd : DumpOK d) : ∀ (rest : List Node) (s : Store) (m : List Nat),
    BInv d s m → rest = d.drop m.length → m.length ≤ d.length →
    BInv d (replayL rest s m).1 (replayL rest s m).2 ∧ Ext s (replayL rest s m).1 ∧
    (replayL rest s m).2.length = d.length := by
  intro rest s m inv hrest hle
  fun_induction replayL rest s m with
  | case1 s m => exact ⟨inv, Ext.refl s, Nat.le_antisymm hle (List.drop_eq_nil_iff.mp hrest.symm)⟩
  | case2 n rest s m _ ih =>
    have hlen : m.length < d.length :=
      Nat.lt_of_not_le fun h => by rw [List.drop_eq_nil_of_le h] at hrest; cases hrest
    rw [List.drop_eq_getElem_cons hlen] at hrest
    obtain ⟨hn, hrest⟩ := List.cons.inj hrest
    have ⟨inv', he⟩ := replay_step d hd s m n inv (by rw [hn]; exact List.getElem?_eq_getElem hlen)
    have ⟨a, b, c⟩ := ih inv' (by rw [hrest, List.length_append]; rfl)
      (by rw [List.length_append]; exact hlen)
    exact ⟨a, he.trans b, c⟩

/-- C09, bridge pipeline: in any well-formed store, replaying an ordered dump gives for every
dump index a valid handle with that entry's function; the store is only extended -/
theorem bridge_correct (d : List Node) (hd : DumpOK d) (hlen : 2 ≤ d.length) (s : Store) (w : WF s) :
    let r := replayL (d.drop 2) s [0, 1]
    WF r.1 ∧ Ext s r.1 ∧ r.2.length = d.length ∧
    ∀ (j t : Nat) (f : BoolFn), r.2[j]? = some t → Den d j f → t < r.1.nodes.size ∧ ∀ σ, eval r.1 t σ = f σ := by
  -- before the loop the two terminals are in place
  have inv0 : BInv d s [0, 1] := by
    refine ⟨w, Nat.le_refl 2, fun j t hj => ?_⟩
    match j, hj with
    | 0, hj =>
      obtain rfl := Option.some.inj hj
      exact ⟨fun _ => rfl, zero_lt s w, fun f hden σ => by
        cases hden with
        | bot => exact eval_zero s σ
        | inner _ _ _ _ h2 => exact absurd h2 (by decide), fun _ h2 => absurd h2 (by decide)⟩
    | 1, hj =>
      obtain rfl := Option.some.inj hj
      exact ⟨fun _ => rfl, one_lt s w, fun f hden σ => by
        cases hden with
        | top => exact eval_one s σ
        | inner _ _ _ _ h2 => exact absurd h2 (by decide), fun _ h2 => absurd h2 (by decide)⟩
  have ⟨a, b, c⟩ := replayL_spec d hd (d.drop 2) s [0, 1] inv0 rfl hlen
  exact ⟨a.wf, b, c, fun j t f hj hden => ⟨(a.entry j t hj).valid, (a.entry j t hj).den f hden⟩⟩
#print axioms bridge_correct
