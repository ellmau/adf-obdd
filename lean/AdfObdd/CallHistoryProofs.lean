import AdfObdd.CallHistory
import AdfObdd.CliFaithful
import AdfObdd.MemoTransparent
import AdfObdd.PathsDepth
import AdfObdd.FeatureTables
import AdfObdd.CubesCanon
/-! # Call histories: the store invariant, handle stability, exactness of every answer (C11)

* `CallH.Inv` — the object invariant: store well formed, `ac` has `n` valid handles, every issued
  handle valid;
* `CallH.runCall_step` / `CallH.runCalls_inv` — every call / every history keeps it, only extends the
  node table, leaves `ac`, `n` alone and only appends to the issued handles;
* `CallH.Exact` — what each answer must be, as a function of the Boolean functions `D` the conditions
  denote; `CallH.runCall_exact` — every call on an object satisfying the invariant answers exactly
  that; `CallH.Exact.agree` — two exact answers for the same `D` agree; the numbers of a query are folds that
  depend on the denotation only (`Memo.val_den`), hence `CallH.agree_of_same_den` for every call. -/
namespace CallH
open NConc NSem

theorem runCall_grounded (st : AdfState) : runCall st .grounded =
    ({ st with s := (groundedLoop StoreRA (st.n + 1) st.s st.ac).1,
               issued := st.issued ++ (groundedLoop StoreRA (st.n + 1) st.s st.ac).2 },
     .vec (groundedLoop StoreRA (st.n + 1) st.s st.ac).2) := rfl

theorem runCall_complete (st : AdfState) : runCall st .complete =
    ({ st with s := (completeAll st.s st.n st.ac).1 }, .vecs (completeAll st.s st.n st.ac).2.2) := rfl

theorem runCall_stable (st : AdfState) : runCall st .stable =
    ({ st with s := (stableAll st.s st.n st.ac).1 }, .vecs (stableAll st.s st.n st.ac).2) := rfl

theorem runCall_stablePre (st : AdfState) : runCall st .stablePre =
    ({ st with s := (Cli.stablePre st.s st.n st.ac).1 }, .vecs (Cli.stablePre st.s st.n st.ac).2) := rfl

theorem runCall_count (st : AdfState) (useA : Bool) : runCall st (.count useA) =
    ({ st with s := (countAll st.s st.n st.ac useA).1 }, .vecs (countAll st.s st.n st.ac useA).2) := rfl

theorem runCall_ng (st : AdfState) (h : SM.Heu) (fuel : Nat) (stable : Bool) :
    runCall st (.ng h fuel stable) =
      ({ st with s := (SM.ngSearch h fuel st.s st.n st.ac stable).1 },
       if (SM.ngSearch h fuel st.s st.n st.ac stable).2.2.2
       then .ng (SM.ngSearch h fuel st.s st.n st.ac stable).2.1 (SM.ngSearch h fuel st.s st.n st.ac stable).2.2.1
       else .fuelExhausted) := rfl

theorem runCall_query (st : AdfState) (i : Nat) (q : Query) : runCall st (.query i q) =
    if i < st.ac.length then (st, .nums (runQuery st.s (st.ac.getD i 0) q)) else (st, .rejected) := rfl

theorem runCall_ops (st : AdfState) (l : List Op) : runCall st (.ops l) =
    if opsValid l st.base.length then
      ({ st with s := (runOps l st.s st.base).1,
                 issued := st.issued ++ (runOps l st.s st.base).2.drop st.base.length },
       .handles ((runOps l st.s st.base).2.drop st.base.length))
    else (st, .rejected) := rfl

theorem runCalls_cons (st : AdfState) (c : Call) (cs : List Call) : runCalls st (c :: cs) =
    ((runCalls (runCall st c).1 cs).1, (runCall st c).2 :: (runCalls (runCall st c).1 cs).2) := rfl

structure Inv (st : AdfState) : Prop where
  wf : WF st.s
  len : st.ac.length = st.n
  ac : ∀ t ∈ st.ac, t < st.s.nodes.size
  issued : ∀ t ∈ st.issued, t < st.s.nodes.size

/-- what a call (a history) may change: the node table is only extended (every old entry stays
where it is), `ac` and `n` are untouched, issued handles are only appended -/
structure Step (st st' : AdfState) : Prop where
  ext : Ext st.s st'.s
  ac : st'.ac = st.ac
  n : st'.n = st.n
  issued : st.issued <+: st'.issued

theorem Step.refl (st : AdfState) : Step st st := ⟨Ext.refl _, rfl, rfl, List.prefix_refl _⟩
theorem Step.trans {a b c : AdfState} (h1 : Step a b) (h2 : Step b c) : Step a c :=
  ⟨h1.ext.trans h2.ext, h2.ac.trans h1.ac, h2.n.trans h1.n, h1.issued.trans h2.issued⟩

theorem Inv.grow {st : AdfState} (hi : Inv st) {s' : Store} (w : WF s') (e : Ext st.s s') {hs : List Nat}
    (hv : ∀ t ∈ hs, t < s'.nodes.size) :
    Inv { st with s := s', issued := st.issued ++ hs } ∧
    Step st { st with s := s', issued := st.issued ++ hs } := by
  refine ⟨⟨w, hi.len, fun t ht => Nat.lt_of_lt_of_le (hi.ac t ht) e.1, fun t ht => ?_⟩,
    ⟨e, rfl, rfl, List.prefix_append _ _⟩⟩
  rcases List.mem_append.mp ht with h | h
  · exact Nat.lt_of_lt_of_le (hi.issued t h) e.1
  · exact hv t h

theorem Inv.store {st : AdfState} (hi : Inv st) {s' : Store} (w : WF s') (e : Ext st.s s') :
    Inv { st with s := s' } ∧ Step st { st with s := s' } := by
  have := hi.grow w e (hs := []) (fun _ h => nomatch h)
  rwa [List.append_nil] at this

theorem base_valid {st : AdfState} (hi : Inv st) : ∀ t ∈ st.base, t < st.s.nodes.size :=
  List.forall_mem_cons.mpr ⟨zero_lt _ hi.wf, List.forall_mem_cons.mpr ⟨one_lt _ hi.wf, hi.ac⟩⟩

theorem base_histOK {st : AdfState} (hi : Inv st) : HistOK st.s st.base (st.base.map (eval st.s)) :=
  .ofValid _ _ (base_valid hi)

theorem ac_getD_valid {st : AdfState} (hi : Inv st) {i : Nat} (hlt : i < st.ac.length) :
    st.ac.getD i 0 < st.s.nodes.size := by
  rw [List.getD_eq_getElem?_getD, List.getElem?_eq_getElem hlt]
  exact hi.ac _ (List.getElem_mem hlt)

theorem den_getD {st : AdfState} {i : Nat} (hlt : i < st.ac.length) :
    (st.ac.map (eval st.s)).getD i (fun _ => false) = eval st.s (st.ac.getD i 0) := by
  simp [List.getD_eq_getElem?_getD, List.getElem?_eq_getElem hlt]

theorem runCall_step (st : AdfState) (c : Call) (hi : Inv st) :
    Inv (runCall st c).1 ∧ Step st (runCall st c).1 := by
  cases c with
  | grounded =>
    have ⟨w, e, v, _⟩ := groundedLoop_store (st.n + 1) st.s st.ac hi.wf hi.ac
    exact hi.grow w e v
  | complete =>
    have ⟨w, e, _⟩ := C02.complete_store st.s st.n st.ac hi.wf hi.len hi.ac
    exact hi.store w e
  | stable =>
    have ⟨⟨w, e⟩, _⟩ := C03.stable_store st.s st.n st.ac hi.wf hi.len hi.ac
    exact hi.store w e
  | stablePre =>
    have ⟨_, ⟨w, e⟩⟩ := C03.stable_store st.s st.n st.ac hi.wf hi.len hi.ac
    exact hi.store w e
  | count useA =>
    have ⟨w, e⟩ := CliF.countAll_store st.s st.n st.ac useA hi.wf hi.len hi.ac
    exact hi.store w e
  | ng h fuel stable =>
    have ⟨w, e⟩ := CliF.ngSearch_store h fuel st.s st.n st.ac stable hi.wf hi.len hi.ac
    exact hi.store w e
  | query i q =>
    rw [runCall_query]
    split <;> exact ⟨hi, Step.refl _⟩
  | ops l =>
    rw [runCall_ops]
    split
    · rename_i hv
      have ⟨w, e, hk⟩ := runOps_refines l st.s st.base _ hi.wf (base_histOK hi) hv
      exact hi.grow w e (fun t ht => hk.valid t (List.mem_of_mem_drop ht))
    · exact ⟨hi, Step.refl _⟩

theorem runCalls_inv : ∀ (h : List Call) (st : AdfState), Inv st →
    Inv (runCalls st h).1 ∧ Step st (runCalls st h).1
  | [], _, hi => ⟨hi, Step.refl _⟩
  | c :: cs, st, hi =>
    have ⟨i1, s1⟩ := runCall_step st c hi
    have ⟨i2, s2⟩ := runCalls_inv cs _ i1
    ⟨i2, s1.trans s2⟩

theorem Step.den_same {st st' : AdfState} (hi : Inv st) (h : Step st st') :
    st'.ac.map (eval st'.s) = st.ac.map (eval st.s) := by
  rw [h.ac]
  exact map_eval_ext hi.wf h.ext hi.ac

/-- the hypotheses of every statement about two objects whose conditions denote the same functions, for the
object after a history and the object before it -/
theorem after_history (st : AdfState) (hi : Inv st) (h : List Call) :
    Inv (runCalls st h).1 ∧ (runCalls st h).1.n = st.n ∧ (runCalls st h).1.ac.length = st.n ∧
    (runCalls st h).1.ac.map (eval (runCalls st h).1.s) = st.ac.map (eval st.s) :=
  have ⟨hi', stp⟩ := runCalls_inv h st hi
  ⟨hi', stp.n, stp.n ▸ hi'.len, stp.den_same hi⟩

/-- decided parts (T / F / u) of a list of term vectors -/
def dec (vs : List (List Nat)) : List I3 := vs.map (fun v => v.map storeIsConst)

/-- stable model of `D` (`stable = true`) / two-valued model of `D` (`stable = false`) -/
def ModelSpec (D : List BoolFn) (n : Nat) (stable : Bool) (v : I3) : Prop :=
  v.length = n ∧ TotalI v ∧ Gam D v = v ∧
    (stable = true → ∀ w : I3, IsLfp (redu D v) w → ∀ i : Nat, v[i]? = some (some true) → w[i]? = some (some true))

/-- the functions of the start history of an extra-formula call -/
def baseFs (D : List BoolFn) : List BoolFn := (fun _ => false) :: (fun _ => true) :: D

/-- two-valued nogood mode is the one call kind with a side condition (see `C05.ng_search_statement`) -/
def _root_.Call.twoValued : Call → Prop
  | .ng _ _ false => True
  | _ => False

/-- every condition depends on the statements `0 … n-1` only (holds for every parsed framework:
an undeclared atom makes `from_parser` panic) -/
def Supp (st : AdfState) : Prop :=
  ∀ t ∈ st.ac, ∀ σ τ : Asg, (∀ i, i < st.n → σ i = τ i) → eval st.s t σ = eval st.s t τ

/-- what the answer of a call must be, as a function of the Boolean functions `D` the
conditions denote (and of nothing else); `s'` is the store after the call (term vectors and
handles are read in it). Queries are handled separately (`runQuery_den`, `ExactQuery`): their answers are equal
as numbers. -/
def Exact (D : List BoolFn) (n : Nat) : Call → Store → Answer → Prop
  | .grounded, s', .vec v => IsLfp D (v.map storeIsConst) ∧ v.map (eval s') = semLoop (n + 1) D
  | .complete, _, .vecs vs =>
    (dec vs).Nodup ∧ (∀ w : I3, w ∈ dec vs ↔ (w.length = n ∧ Gam D w = w)) ∧
    ∃ g, (dec vs).head? = some g ∧ IsLfp D g
  | .stable, _, .vecs vs => (dec vs).Nodup ∧ ∀ v : I3, v ∈ dec vs ↔ ModelSpec D n true v
  | .stablePre, _, .vecs vs => (dec vs).Nodup ∧ ∀ v : I3, v ∈ dec vs ↔ ModelSpec D n true v
  | .count _, _, .vecs vs => (dec vs).Nodup ∧ ∀ v : I3, v ∈ dec vs ↔ ModelSpec D n true v
  | .ng _ _ stable, _, .ng vs _ => (dec vs).Nodup ∧ ∀ v : I3, v ∈ dec vs ↔ ModelSpec D n stable v
  | .ng _ _ _, _, .fuelExhausted => True
  | .query _ _, _, _ => True
  | .ops l, s', .handles hs =>
    opsValid l (D.length + 2) ∧ hs.map (eval s') = (semOps l (baseFs D)).drop (D.length + 2)
  | .ops l, _, .rejected => ¬ opsValid l (D.length + 2)
  | _, _, _ => False

theorem base_fs {st : AdfState} : st.base.map (eval st.s) = baseFs (st.ac.map (eval st.s)) := by
  simp only [AdfState.base, baseFs, List.map_cons]
  have e0 : eval st.s 0 = fun _ => false := funext (eval_zero _)
  have e1 : eval st.s 1 = fun _ => true := funext (eval_one _)
  rw [e0, e1]

theorem modelSpec_true (D : List BoolFn) (n : Nat) (v : I3) :
    ModelSpec D n true v ↔ (v.length = n ∧ TotalI v ∧ Gam D v = v ∧
      ∀ w : I3, IsLfp (redu D v) w → ∀ i : Nat, v[i]? = some (some true) → w[i]? = some (some true)) := by
  constructor
  · intro ⟨a, b, c, d⟩; exact ⟨a, b, c, d rfl⟩
  · intro ⟨a, b, c, d⟩; exact ⟨a, b, c, fun _ => d⟩

theorem runCall_exact (st : AdfState) (c : Call) (hi : Inv st) (hs : c.twoValued → Supp st) :
    Exact (st.ac.map (eval st.s)) st.n c (runCall st c).1.s (runCall st c).2 := by
  cases c with
  | grounded =>
    exact ⟨(grounded_store st.s st.n st.ac hi.wf hi.len hi.ac).2.2.2.2,
      (groundedLoop_store (st.n + 1) st.s st.ac hi.wf hi.ac).2.2.2⟩
  | complete =>
    have ⟨a, b, c⟩ := C02.complete_exact st.s st.n st.ac hi.wf hi.len hi.ac
    have ⟨_, _, g⟩ := C02.complete_store st.s st.n st.ac hi.wf hi.len hi.ac
    rw [runCall_complete]
    refine ⟨a, b, _, ?_, (grounded_store st.s st.n st.ac hi.wf hi.len hi.ac).2.2.2.2⟩
    rw [dec, List.head?_map, c, g, Option.map_some]
  | stable =>
    have ⟨a, b⟩ := C03.stable_exact st.s st.n st.ac hi.wf hi.len hi.ac
    exact ⟨a, fun v => (b v).trans (modelSpec_true _ _ v).symm⟩
  | stablePre =>
    have ⟨a, b⟩ := C03.stablepre_exact st.s st.n st.ac hi.wf hi.len hi.ac
    exact ⟨a, fun v => (b v).trans (modelSpec_true _ _ v).symm⟩
  | count useA =>
    have ⟨a, b⟩ := C04.count_search_exact st.s st.n st.ac useA hi.wf hi.len hi.ac
    exact ⟨a, fun v => (b v).trans (modelSpec_true _ _ v).symm⟩
  | ng h fuel stable =>
    have hsup : stable = false → Supp st := by
      intro e; subst e; exact hs trivial
    have f := (CliF.ng_facts h st.s st.n st.ac stable hi.wf hi.len hi.ac hsup).2 fuel
    rw [runCall_ng]
    split
    · rename_i hd
      exact (f hd).2.2
    · trivial
  | query i q =>
    rw [runCall_query]
    split <;> trivial
  | ops l =>
    have hl : st.base.length = (st.ac.map (eval st.s)).length + 2 := by
      rw [AdfState.base, List.length_cons, List.length_cons, List.length_map]
    rw [runCall_ops, hl]
    split
    · rename_i hv
      have ⟨_, _, hk⟩ := runOps_refines l st.s st.base _ hi.wf (base_histOK hi) (hl ▸ hv)
      refine ⟨hv, ?_⟩
      rw [List.map_drop, (histOK_iff.mp hk).2, base_fs]
    · rename_i hv
      exact hv

/-- two answers to the same call agree: the grounded vectors have the same decided part and their
handles denote the same functions (each in its store); lists of models are duplicate-free and equal
as sets of T/F/u vectors (for `complete`: with the same first element); query answers are equal;
extra formulas denote the same functions; both requests rejected. A bounded nogood-learning search
that hit its bound on either side says nothing (`ng_halts`: it does not for large bounds). -/
def Agree : Call → Store → Answer → Store → Answer → Prop
  | .grounded, s₁, .vec v, s₂, .vec v' =>
    v.map storeIsConst = v'.map storeIsConst ∧ v.map (eval s₁) = v'.map (eval s₂)
  | .complete, _, .vecs vs, _, .vecs vs' =>
    (dec vs).Nodup ∧ (dec vs').Nodup ∧ (∀ w : I3, w ∈ dec vs ↔ w ∈ dec vs') ∧ (dec vs).head? = (dec vs').head?
  | .stable, _, .vecs vs, _, .vecs vs' => (dec vs).Nodup ∧ (dec vs').Nodup ∧ ∀ w : I3, w ∈ dec vs ↔ w ∈ dec vs'
  | .stablePre, _, .vecs vs, _, .vecs vs' => (dec vs).Nodup ∧ (dec vs').Nodup ∧ ∀ w : I3, w ∈ dec vs ↔ w ∈ dec vs'
  | .count _, _, .vecs vs, _, .vecs vs' => (dec vs).Nodup ∧ (dec vs').Nodup ∧ ∀ w : I3, w ∈ dec vs ↔ w ∈ dec vs'
  | .ng _ _ _, _, .ng vs _, _, .ng vs' _ => (dec vs).Nodup ∧ (dec vs').Nodup ∧ ∀ w : I3, w ∈ dec vs ↔ w ∈ dec vs'
  | .ng _ _ _, _, .fuelExhausted, _, _ => True
  | .ng _ _ _, _, .ng _ _, _, .fuelExhausted => True
  | .query _ _, _, .nums l, _, .nums l' => l = l'
  | .query _ _, _, .rejected, _, .rejected => True
  | .ops _, s₁, .handles hs, s₂, .handles hs' => hs.map (eval s₁) = hs'.map (eval s₂)
  | .ops _, _, .rejected, _, .rejected => True
  | _, _, _, _, _ => False

theorem sameModels {P : I3 → Prop} {l l' : List I3} (h : l.Nodup ∧ ∀ v, v ∈ l ↔ P v)
    (h' : l'.Nodup ∧ ∀ v, v ∈ l' ↔ P v) : l.Nodup ∧ l'.Nodup ∧ ∀ w, w ∈ l ↔ w ∈ l' :=
  ⟨h.1, h'.1, fun w => (h.2 w).trans (h'.2 w).symm⟩

/-- two exact answers (for the same functions `D`) agree: per kind of call, `Exact` admits one shape of
answer (two for `ng` and `ops`) and is `False` of the others -/
theorem Exact.agree {D : List BoolFn} {n : Nat} {c : Call} {s₁ s₂ : Store} {a₁ a₂ : Answer}
    (hq : ∀ i q, c ≠ .query i q) (h₁ : Exact D n c s₁ a₁) (h₂ : Exact D n c s₂ a₂) : Agree c s₁ a₁ s₂ a₂ := by
  cases c with
  | grounded =>
    cases a₁ with
    | vec v =>
      cases a₂ with
      | vec v' => exact ⟨h₁.1.unique h₂.1, h₁.2.trans h₂.2.symm⟩
      | _ => exact h₂.elim
    | _ => exact h₁.elim
  | complete =>
    cases a₁ with
    | vecs vs =>
      cases a₂ with
      | vecs vs' =>
        obtain ⟨a, b, g, hg, lg⟩ := h₁
        obtain ⟨a', b', g', hg', lg'⟩ := h₂
        refine ⟨a, a', fun w => (b w).trans (b' w).symm, ?_⟩
        rw [hg, hg', lg.unique lg']
      | _ => exact h₂.elim
    | _ => exact h₁.elim
  | stable | stablePre | count _ =>
    cases a₁ with
    | vecs vs =>
      cases a₂ with
      | vecs vs' => exact sameModels h₁ h₂
      | _ => exact h₂.elim
    | _ => exact h₁.elim
  | ng h fuel stable =>
    cases a₁ with
    | ng vs tr =>
      cases a₂ with
      | ng vs' tr' => exact sameModels h₁ h₂
      | fuelExhausted => trivial
      | _ => exact h₂.elim
    | fuelExhausted => trivial
    | _ => exact h₁.elim
  | query i q => exact absurd rfl (hq i q)
  | ops l =>
    cases a₁ with
    | handles hs =>
      cases a₂ with
      | handles hs' => exact h₁.2.trans h₂.2.symm
      | rejected => exact absurd h₁.1 h₂
      | _ => exact h₂.elim
    | rejected =>
      cases a₂ with
      | handles hs' => exact absurd h₂.1 h₁
      | rejected => trivial
      | _ => exact h₂.elim
    | _ => exact h₁.elim

theorem runQuery_den {s s' : Store} (w : WF s) (w' : WF s') {t t' : Nat} (ht : t < s.nodes.size)
    (ht' : t' < s'.nodes.size) (e : eval s t = eval s' t') (q : Query) : runQuery s t q = runQuery s' t' q := by
  have d {α : Type} (G : Memo.Meas α) (hG : ∀ n n' a b, n.var = n'.var → G.node n a b = G.node n' a b) :
      G.F s (t + 1) t = G.F s' (t' + 1) t' := Memo.val_den G hG w w' t ht t' ht' e
  cases q <;>
    simp only [runQuery, paths, depsOf, Memo.countF_eq_F, Memo.pathsF_eq_F, Memo.depsF_eq_F,
      d Memo.cntG (fun _ _ _ _ _ => rfl), d Memo.pathG (fun _ _ _ _ _ => rfl),
      d Memo.depsG (fun _ _ _ _ h => congrArg (· :: _) h)]

/-- the side condition speaks of the denoted functions only -/
theorem supp_iff {st : AdfState} : Supp st ↔ ∀ f ∈ st.ac.map (eval st.s), NSem.Supp st.n f :=
  (List.forall_mem_map (P := NSem.Supp st.n)).symm

theorem supp_step {st st' : AdfState} (hi : Inv st) (h : Step st st') (hs : Supp st) : Supp st' := by
  rw [supp_iff, h.den_same hi, h.n]
  exact supp_iff.mp hs

theorem agree_of_same_den {st st' : AdfState} (hi : Inv st) (hi' : Inv st') (hn : st'.n = st.n)
    (hd : st'.ac.map (eval st'.s) = st.ac.map (eval st.s)) (c : Call)
    (hs : c.twoValued → Supp st) (hs' : c.twoValued → Supp st') :
    Agree c (runCall st' c).1.s (runCall st' c).2 (runCall st c).1.s (runCall st c).2 := by
  by_cases hq : ∃ i q, c = .query i q
  · obtain ⟨i, q, rfl⟩ := hq
    have hl : st'.ac.length = st.ac.length := by rw [hi'.len, hi.len, hn]
    rw [runCall_query, runCall_query, hl]
    split
    · rename_i hlt
      have hlt' : i < st'.ac.length := hl ▸ hlt
      exact runQuery_den hi'.wf hi.wf (ac_getD_valid hi' hlt') (ac_getD_valid hi hlt)
        (by rw [← den_getD hlt', ← den_getD hlt, hd]) q
    · trivial
  · have e := runCall_exact st' c hi' hs'
    rw [hd, hn] at e
    exact e.agree (fun i q e => hq ⟨i, q, e⟩) (runCall_exact st c hi hs)

/-- history independence: for every history `h` and every call `c`, the answer of `c` after
`h` agrees (`Agree`) with the answer of `c` on the object before `h` — in particular on the freshly
built object. -/
theorem history_independent (st : AdfState) (hi : Inv st) (h : List Call) (c : Call)
    (hs : c.twoValued → Supp st) :
    Agree c (runCall (runCalls st h).1 c).1.s (answerAfter st h c) (runCall st c).1.s (runCall st c).2 :=
  have ⟨hi', stp⟩ := runCalls_inv h st hi
  agree_of_same_den hi hi' stp.n (stp.den_same hi) c hs (fun hc => supp_step hi stp (hs hc))

/-- the bounded nogood-learning search does halt: for every object satisfying the invariant there
is a bound from which on the answer is not `fuelExhausted` (C05 termination) -/
theorem ng_halts (st : AdfState) (hi : Inv st) (heu : SM.Heu) (stable : Bool)
    (hs : stable = false → Supp st) :
    ∃ F0, ∀ F, F0 ≤ F → (runCall st (.ng heu F stable)).2 ≠ .fuelExhausted := by
  obtain ⟨F0, hF⟩ := (CliF.ng_facts heu st.s st.n st.ac stable hi.wf hi.len hi.ac hs).1
  refine ⟨F0, fun F hle => ?_⟩
  rw [runCall_ng, hF F hle, if_pos rfl]
  exact Answer.noConfusion

theorem fresh_inv (fms : List Fm) (hn : fms.length ≤ VBOT) (hv : ∀ f ∈ fms, NConc.atomsLt fms.length f) :
    Inv (freshAdf fms) ∧ (freshAdf fms).ac.map (eval (freshAdf fms).s) = fms.map Fm.sem := by
  have ⟨w, hl, hva, hd⟩ := C02.buildNative_fns fms hn (fun f hf => NConc.atomsOK_of_lt hn f (hv f hf))
  exact ⟨⟨w, hl, hva, fun _ h => nomatch h⟩, hd⟩

theorem fresh_supp (fms : List Fm) (hn : fms.length ≤ VBOT) (hv : ∀ f ∈ fms, NConc.atomsLt fms.length f) :
    Supp (freshAdf fms) := by
  rw [supp_iff, (fresh_inv fms hn hv).2]
  exact List.forall_mem_map.mpr fun f hf => NConc.sem_supp f (hv f hf)

end CallH
