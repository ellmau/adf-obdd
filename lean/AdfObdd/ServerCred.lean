import AdfObdd.ServerProofs
/-! Credential invariant of the web-service model (C17): what the `users` collection stores, in
    terms of an observer's record of the passwords that were set (`CredInv`, kept by every request:
    `step_cred`); the handlers `register`, `login`, `update` path by path (`step_register_ok`, …). -/
namespace ServerM
section
variable {T H A R : Type} [DecidableEq T]

/-- The observer's bookkeeping of "the password most recently set for the account named `n`",
updated from what a client can see: the request, the identity it was sent with and the status of
the response. -/
def credStep (g : T → Option T) (id : Option T) (rq : Req T) (status : Nat) : T → Option T :=
  if status = 200 then
    match rq with
    | .register u p _ => fun n => if n = u then some p else g n
    | .update u' p' _ => fun n => if n = u' then some p' else if some n = id then none else g n
    | .deleteAccount => fun n => if some n = id then none else g n
    | _ => g
  else g

/-- every user record is a temporary account without password, or stores `hash salt pw` for the
password the observer recorded; account names are unique; nothing is recorded for absent accounts -/
structure CredInv (E : Env T H A R) (users : List (User T H)) (g : T → Option T) : Prop where
  nodup : (users.map (·.username)).Nodup
  temp : ∀ x ∈ users, x.password = none → g x.username = none
  cred : ∀ x ∈ users, ∀ h, x.password = some h → ∃ salt pw, h = E.hash salt pw ∧ g x.username = some pw
  absent : ∀ n, (∀ x ∈ users, x.username ≠ n) → g n = none

theorem CredInv.init (E : Env T H A R) : CredInv E [] (fun _ => none) :=
  ⟨by simp, by simp, by simp, fun _ _ => rfl⟩

theorem find_none_iff (n : T) (l : List (User T H)) : l.find? (isUser n) = none ↔ ∀ x ∈ l, x.username ≠ n := by
  simp [List.find?_eq_none, isUser]

theorem any_isUser (n : T) (l : List (User T H)) : l.any (isUser n) = true ↔ ∃ x ∈ l, x.username = n := by
  simp [List.any_eq_true, isUser]

theorem any_false_of_find_none (n : T) (l : List (User T H)) (h : l.find? (isUser n) = none) : l.any (isUser n) = false :=
  List.any_eq_false.mpr (List.find?_eq_none.mp h)

theorem none_of_any_false (v : T) (l : List (User T H)) (h : l.any (isUser v) = false) : ∀ x ∈ l, isUser v x = false :=
  fun x hx => Bool.eq_false_iff.mpr (List.any_eq_false.mp h x hx)

theorem find_of_any {v : T} {l : List (User T H)} (h : l.any (isUser v) = true) :
    ∃ x, l.find? (isUser v) = some x :=
  Option.isSome_iff_exists.mp (List.find?_isSome.mpr (List.any_eq_true.mp h))

/-- under the unique index `replace_one` replaces every record of that name -/
theorem updFirst_user (v : T) (new : User T H) : ∀ (l : List (User T H)), (l.map (·.username)).Nodup →
    updFirst (isUser v) (fun _ => new) l = l.map (fun x => if isUser v x then new else x) := by
  intro l
  induction l with
  | nil => intro _; rfl
  | cons y ys ih =>
    intro hnd
    rw [List.map_cons, List.nodup_cons] at hnd
    cases hy : isUser v y with
    | false => simp [updFirst, hy, ih hnd.2]
    | true =>
      have hyv : y.username = v := of_decide_eq_true hy
      simp only [updFirst, hy, if_true, List.map_cons, List.cons.injEq, true_and]
      refine (List.map_congr_left fun z hz => ?_).trans (List.map_id _) |>.symm
      have : z.username ≠ v := fun h => hnd.1 (List.mem_map.mpr ⟨z, hz, h.trans hyv.symm⟩)
      simp [isUser, this]

theorem mem_updFirst_user (v : T) (new : User T H) (l : List (User T H)) (hnd : (l.map (·.username)).Nodup) (x : User T H) :
    x ∈ updFirst (isUser v) (fun _ => new) l ↔
      (x ∈ l ∧ x.username ≠ v) ∨ (x = new ∧ ∃ y ∈ l, y.username = v) := by
  rw [updFirst_user v new l hnd, List.mem_map]
  constructor
  · rintro ⟨y, hy, rfl⟩
    by_cases hyv : y.username = v
    · exact Or.inr ⟨by simp [isUser, hyv], y, hy, hyv⟩
    · exact Or.inl (by simp [isUser, hyv, hy])
  · rintro (⟨hx, hxv⟩ | ⟨rfl, y, hy, hyv⟩)
    · exact ⟨x, hx, by simp [isUser, hxv]⟩
    · exact ⟨y, hy, by simp [isUser, hyv]⟩

/-- under the unique index `delete_one` removes every record of that name -/
theorem delFirst_user (v : T) : ∀ (l : List (User T H)), (l.map (·.username)).Nodup →
    delFirst (isUser v) l = l.filter (fun x => !isUser v x) := by
  intro l
  induction l with
  | nil => intro _; rfl
  | cons y ys ih =>
    intro hnd
    rw [List.map_cons, List.nodup_cons] at hnd
    cases hy : isUser v y with
    | false => simp [delFirst, hy, ih hnd.2]
    | true =>
      have hyv : y.username = v := of_decide_eq_true hy
      simp only [delFirst, hy, if_true, List.filter_cons, Bool.not_true, Bool.false_eq_true, if_false]
      refine (List.filter_eq_self.mpr fun z hz => ?_).symm
      have : z.username ≠ v := fun h => hnd.1 (List.mem_map.mpr ⟨z, hz, h.trans hyv.symm⟩)
      simp [isUser, this]

theorem mem_delFirst_user (v : T) (l : List (User T H)) (hnd : (l.map (·.username)).Nodup) (x : User T H) :
    x ∈ delFirst (isUser v) l ↔ (x ∈ l ∧ x.username ≠ v) := by
  simp [delFirst_user v l hnd, isUser]

theorem nodup_updFirst_user (v : T) (new : User T H) (l : List (User T H)) (hnd : (l.map (·.username)).Nodup)
    (hnew : new.username = v ∨ ∀ x ∈ l, x.username ≠ new.username) :
    ((updFirst (isUser v) (fun _ => new) l).map (·.username)).Nodup := by
  rw [updFirst_user v new l hnd, List.map_map]
  rw [List.Nodup, List.pairwise_map] at hnd ⊢
  refine hnd.imp_of_mem fun {a b} ha hb hab => ?_
  -- a record that kept its name differs from the new name: `new` took the place of `v`, or its name was free
  have key : ∀ c ∈ l, c.username ≠ v → c.username ≠ new.username :=
    fun c hc hcv h => hnew.elim (fun hn => hcv (h.trans hn)) (fun hn => hn c hc h)
  by_cases hav : a.username = v <;> by_cases hbv : b.username = v
  · exact absurd (hav.trans hbv.symm) hab
  · simpa [isUser, hav, hbv] using (key b hb hbv).symm
  · simpa [isUser, hav, hbv] using key a ha hav
  · simpa [isUser, hav, hbv] using hab
theorem nodup_delFirst_user (v : T) (l : List (User T H)) (h : (l.map (·.username)).Nodup) :
    ((delFirst (isUser v) l).map (·.username)).Nodup := by
  rw [delFirst_eq_eraseP]
  exact h.sublist (List.eraseP_sublist.map _)

theorem nodup_insert_user (u : User T H) (l : List (User T H)) (h : (l.map (·.username)).Nodup)
    (hnew : ∀ x ∈ l, x.username ≠ u.username) : ((l ++ [u]).map (·.username)).Nodup := by
  rw [List.map_append, List.nodup_append]
  refine ⟨h, by simp, ?_⟩
  intro a ha b hb
  obtain ⟨x, hx, rfl⟩ := List.mem_map.mp ha
  rw [List.map_singleton, List.mem_singleton] at hb
  rw [hb]; exact hnew x hx

theorem CredInv.insert_cred {E : Env T H A R} {users : List (User T H)} {g : T → Option T} (inv : CredInv E users g)
    (u p : T) (salt : Nat) (hnew : ∀ x ∈ users, x.username ≠ u) :
    CredInv E (users ++ [⟨u, some (E.hash salt p)⟩]) (fun n => if n = u then some p else g n) := by
  refine ⟨nodup_insert_user _ users inv.nodup hnew, ?_, ?_, ?_⟩
  · intro x hx hpw
    simp only [List.mem_append, List.mem_singleton] at hx
    rcases hx with hx | hx
    · simp only [hnew x hx, if_false]; exact inv.temp x hx hpw
    · subst hx; simp at hpw
  · intro x hx h hpw
    simp only [List.mem_append, List.mem_singleton] at hx
    rcases hx with hx | hx
    · simp only [hnew x hx, if_false]; exact inv.cred x hx h hpw
    · subst hx
      simp only [Option.some.injEq] at hpw
      exact ⟨salt, p, hpw.symm, by simp⟩
  · intro n hn
    have hne : n ≠ u := fun h => hn ⟨u, some (E.hash salt p)⟩ (by simp) h.symm
    simp only [hne, if_false]
    exact inv.absent n (fun x hx => hn x (List.mem_append_left _ hx))

theorem CredInv.insert_temp {E : Env T H A R} {users : List (User T H)} {g : T → Option T} (inv : CredInv E users g)
    (u : T) (hnew : ∀ x ∈ users, x.username ≠ u) : CredInv E (users ++ [⟨u, none⟩]) g := by
  refine ⟨nodup_insert_user _ users inv.nodup hnew, ?_, ?_, ?_⟩
  · intro x hx hpw
    simp only [List.mem_append, List.mem_singleton] at hx
    rcases hx with hx | hx
    · exact inv.temp x hx hpw
    · subst hx; exact inv.absent u hnew
  · intro x hx h hpw
    simp only [List.mem_append, List.mem_singleton] at hx
    rcases hx with hx | hx
    · exact inv.cred x hx h hpw
    · subst hx; simp at hpw
  · intro n hn
    exact inv.absent n (fun x hx => hn x (List.mem_append_left _ hx))

theorem CredInv.delete {E : Env T H A R} {users : List (User T H)} {g : T → Option T} (inv : CredInv E users g) (v : T) :
    CredInv E (delFirst (isUser v) users) (fun n => if some n = some v then none else g n) := by
  have hm := mem_delFirst_user v users inv.nodup
  refine ⟨nodup_delFirst_user v users inv.nodup, ?_, ?_, ?_⟩
  · intro x hx hpw
    have := (hm x).mp hx
    simp only [Option.some.injEq, this.2, if_false]; exact inv.temp x this.1 hpw
  · intro x hx h hpw
    have := (hm x).mp hx
    simp only [Option.some.injEq, this.2, if_false]; exact inv.cred x this.1 h hpw
  · intro n hn
    simp only [Option.some.injEq]
    split
    · rfl
    · rename_i hnv
      exact inv.absent n (fun x hx hxn => by
        have hxv : x.username ≠ v := by rw [hxn]; exact hnv
        exact hn x ((hm x).mpr ⟨hx, hxv⟩) hxn)

omit [DecidableEq T] in
/-- the invariant speaks of the records, not of their order -/
theorem CredInv.of_mem {E : Env T H A R} {users users' : List (User T H)} {g : T → Option T} (inv : CredInv E users g)
    (hnd : (users'.map (·.username)).Nodup) (h : ∀ x, x ∈ users' ↔ x ∈ users) : CredInv E users' g :=
  ⟨hnd, fun x hx => inv.temp x ((h x).mp hx), fun x hx => inv.cred x ((h x).mp hx),
   fun n hn => inv.absent n fun x hx => hn x ((h x).mpr hx)⟩

theorem CredInv.replace {E : Env T H A R} {users : List (User T H)} {g : T → Option T} (inv : CredInv E users g)
    (v u' p' : T) (salt : Nat) (hex : ∃ y ∈ users, y.username = v) (hnew : u' = v ∨ ∀ x ∈ users, x.username ≠ u') :
    CredInv E (updFirst (isUser v) (fun _ => ⟨u', some (E.hash salt p')⟩) users)
      (fun n => if n = u' then some p' else if some n = some v then none else g n) := by
  have hm := mem_updFirst_user v (⟨u', some (E.hash salt p')⟩ : User T H) users inv.nodup
  have hd := mem_delFirst_user v users inv.nodup
  -- replacing `v`'s record is deleting it and inserting the new one: the same records, whatever their order
  refine ((inv.delete v).insert_cred u' p' salt fun x hx hxu => ?_).of_mem (nodup_updFirst_user v _ users inv.nodup hnew) fun x => ?_
  · obtain ⟨hx, hxv⟩ := (hd x).mp hx
    exact hnew.elim (fun h => hxv (hxu.trans h)) (fun h => h x hx hxu)
  · rw [hm x, List.mem_append, hd x, List.mem_singleton]
    exact or_congr_right (and_iff_left hex)

def NoUserWrite : Cmd T H A R → Prop
  | .uInsert _ => False
  | .uReplace _ _ => False
  | .uDelete _ => False
  | _ => True

theorem exec_users (db : Db T H A R) (c : Cmd T H A R) (h : NoUserWrite c) : (exec db c).1.users = db.users := by
  cases c <;> first | rfl | exact h.elim

theorem exec_uDelete_absent (db : Db T H A R) (v : T) (h : db.users.any (isUser v) = false) :
    exec db (.uDelete v) = (db, 0) := by
  simp only [exec, h, Bool.false_eq_true, if_false, delFirst_none _ _ (none_of_any_false v _ h)]

theorem exec_uDelete_present (db : Db T H A R) (v : T) (h : db.users.any (isUser v) = true) :
    exec db (.uDelete v) = ({ db with users := delFirst (isUser v) db.users }, 1) := by
  simp [exec, h]

theorem run_reply (s : Nat) (m : Msg T) (db : Db T H A R) :
    run (reply s m : P T H A R) db = (db, ⟨s, .keep, .msg m⟩, []) := rfl

theorem step_of_run (E : Env T H A R) (st : State T H A R) (rq : Request T) {db' : Db T H A R} {r : Resp T R}
    {cs : List (Cmd T H A R)} (hr : run (handler E rq.jar (st.sess rq.jar) rq.req) st.db = (db', r, cs)) :
    step E st rq = (⟨db', fun k => if k = rq.jar then applyCookie (st.sess rq.jar) r.cookie else st.sess k⟩, r) := by
  simp only [step, stepT, hr]

theorem step_of_run_keep (E : Env T H A R) (st : State T H A R) (rq : Request T) {db' : Db T H A R} {r : Resp T R}
    {cs : List (Cmd T H A R)} (hr : run (handler E rq.jar (st.sess rq.jar) rq.req) st.db = (db', r, cs))
    (hc : r.cookie = .keep) : step E st rq = ({ st with db := db' }, r) := by
  rw [step_of_run E st rq hr, hc]
  refine Prod.ext (state_ext rfl (funext fun k => ?_)) rfl
  show (if k = rq.jar then st.sess rq.jar else st.sess k) = st.sess k
  split
  · rename_i h; rw [h]
  · rfl

/-! One lemma per path through `register`, `login` and `update`: the hypotheses are the outcomes of the
handler's tests, the conclusion is the whole step.  (Stated as one equation with nested `if`s the same
facts are several times as expensive to use.) -/

section register
variable (E : Env T H A R) (st : State T H A R) (jar : Nat) (u p : T) (salt : Nat)

theorem step_register_emp (he : u = E.emp ∨ p = E.emp) :
    step E st ⟨jar, .register u p salt⟩ = (st, ⟨400, .keep, .msg .needUserPw⟩) :=
  step_of_run_keep E st ⟨jar, .register u p salt⟩ (cs := [])
    (by simp only [handler, hRegister, if_pos he, run_reply]) rfl

theorem step_register_taken (he : ¬ (u = E.emp ∨ p = E.emp)) {x : User T H}
    (hf : st.db.users.find? (isUser u) = some x) :
    step E st ⟨jar, .register u p salt⟩ = (st, ⟨409, .keep, .msg .nameTaken⟩) :=
  step_of_run_keep E st ⟨jar, .register u p salt⟩ (cs := [.uFind u])
    (by simp only [handler, hRegister, if_neg he, run, exec, hf, reply]) rfl

theorem step_register_ok (he : ¬ (u = E.emp ∨ p = E.emp)) (hf : st.db.users.find? (isUser u) = none) :
    step E st ⟨jar, .register u p salt⟩ =
      ({ st with db := { st.db with users := st.db.users ++ [⟨u, some (E.hash salt p)⟩] } },
       ⟨200, .keep, .msg .registered⟩) := by
  have hany := any_false_of_find_none u _ hf
  exact step_of_run_keep E st ⟨jar, .register u p salt⟩ (cs := [.uFind u, .uInsert ⟨u, some (E.hash salt p)⟩])
    (by simp only [handler, hRegister, if_neg he, run, exec, hf, hany, Bool.false_eq_true, if_false, if_true, reply]) rfl

end register

section login
variable (E : Env T H A R) (st : State T H A R) (jar : Nat) (u p : T)

theorem step_login_emp (he : u = E.emp ∨ p = E.emp) :
    step E st ⟨jar, .login u p⟩ = (st, ⟨400, .keep, .msg .needUserPw⟩) :=
  step_of_run_keep E st ⟨jar, .login u p⟩ (cs := []) (by simp only [handler, hLogin, if_pos he, run_reply]) rfl

theorem step_login_nouser (he : ¬ (u = E.emp ∨ p = E.emp)) (hf : st.db.users.find? (isUser u) = none) :
    step E st ⟨jar, .login u p⟩ = (st, ⟨404, .keep, .msg (.noUser u)⟩) :=
  step_of_run_keep E st ⟨jar, .login u p⟩ (cs := [.uFind u])
    (by simp only [handler, hLogin, if_neg he, run, exec, hf, reply]) rfl

theorem step_login_temp (he : ¬ (u = E.emp ∨ p = E.emp)) {x : User T H}
    (hf : st.db.users.find? (isUser u) = some x) (hp : x.password = none) :
    step E st ⟨jar, .login u p⟩ = (st, ⟨400, .keep, .msg .invalidUserPw⟩) :=
  step_of_run_keep E st ⟨jar, .login u p⟩ (cs := [.uFind u]) (r := ⟨400, .keep, .msg .invalidUserPw⟩)
    (by simp only [handler, hLogin, if_neg he, run, exec, hf, hp, reply]) rfl

theorem step_login_wrong (he : ¬ (u = E.emp ∨ p = E.emp)) {x : User T H} {h : H}
    (hf : st.db.users.find? (isUser u) = some x) (hp : x.password = some h) (hv : E.verify h p = false) :
    step E st ⟨jar, .login u p⟩ = (st, ⟨400, .keep, .msg .invalidEmailPw⟩) :=
  step_of_run_keep E st ⟨jar, .login u p⟩ (cs := [.uFind u]) (r := ⟨400, .keep, .msg .invalidEmailPw⟩)
    (by simp only [handler, hLogin, if_neg he, run, exec, hf, hp, hv, Bool.false_eq_true, if_false, reply]) rfl

theorem step_login_ok (he : ¬ (u = E.emp ∨ p = E.emp)) {x : User T H} {h : H}
    (hf : st.db.users.find? (isUser u) = some x) (hp : x.password = some h) (hv : E.verify h p = true) :
    step E st ⟨jar, .login u p⟩ =
      ({ st with sess := fun k => if k = jar then some u else st.sess k }, ⟨200, .login u, .msg .loginOk⟩) :=
  step_of_run E st ⟨jar, .login u p⟩ (cs := [.uFind u]) (db' := st.db) (r := ⟨200, .login u, .msg .loginOk⟩)
    (by simp only [handler, hLogin, if_neg he, run, exec, hf, hp, hv, if_true])

end login

section update
variable (E : Env T H A R) (st : State T H A R) (jar : Nat) (u' p' : T) (salt : Nat)

theorem step_update_emp (he : u' = E.emp ∨ p' = E.emp) :
    step E st ⟨jar, .update u' p' salt⟩ = (st, ⟨400, .keep, .msg .needUserPw⟩) :=
  step_of_run_keep E st ⟨jar, .update u' p' salt⟩ (cs := []) (by simp only [handler, hUpdate, if_pos he, run_reply]) rfl

theorem step_update_nosess (he : ¬ (u' = E.emp ∨ p' = E.emp)) (hs : st.sess jar = none) :
    step E st ⟨jar, .update u' p' salt⟩ = (st, ⟨401, .keep, .msg .needLoginInfo⟩) :=
  step_of_run_keep E st ⟨jar, .update u' p' salt⟩ (cs := [])
    (by simp only [handler, hUpdate, if_neg he, hs, run_reply]) rfl

theorem step_update_taken (he : ¬ (u' = E.emp ∨ p' = E.emp)) {u : T} (hs : st.sess jar = some u) (hne : u' ≠ u)
    {x : User T H} (hf : st.db.users.find? (isUser u') = some x) :
    step E st ⟨jar, .update u' p' salt⟩ = (st, ⟨409, .keep, .msg .nameTaken⟩) :=
  step_of_run_keep E st ⟨jar, .update u' p' salt⟩ (cs := [.uFind u']) (r := ⟨409, .keep, .msg .nameTaken⟩)
    (by simp only [handler, hUpdate, if_neg he, hs, ne_eq, hne, not_false_eq_true, if_true, run, exec, hf, reply]) rfl

/-- the state after a successful `update` of the account `u` -/
def updated (u : T) : State T H A R :=
  ⟨(exec { st.db with users := updFirst (isUser u) (fun _ => ⟨u', some (E.hash salt p')⟩) st.db.users }
      (.pRename u u')).1, fun k => if k = jar then some u' else st.sess k⟩

/-- no rename: the replacement cannot hit the unique index -/
theorem step_update_same (he : ¬ (u' = E.emp ∨ p' = E.emp)) (hs : st.sess jar = some u') :
    step E st ⟨jar, .update u' p' salt⟩ =
      if st.db.users.any (isUser u') = true then (updated E st jar u' p' salt u', ⟨200, .login u', .userInfo u' false⟩)
      else (st, ⟨500, .keep, .msg .accountNotUpdated⟩) := by
  cases hany : st.db.users.any (isUser u') with
  | true =>
    exact step_of_run E st ⟨jar, .update u' p' salt⟩ (cs := [.uReplace u' ⟨u', some (E.hash salt p')⟩, .pRename u' u'])
      (db' := (updated E st jar u' p' salt u').db) (r := ⟨200, .login u', .userInfo u' false⟩)
      (by simp only [handler, hUpdate, if_neg he, hs, ne_eq, not_true_eq_false, if_false, run, exec, hany,
        decide_false, Bool.false_and, Bool.false_eq_true, if_true, updated])
  | false =>
    exact step_of_run_keep E st ⟨jar, .update u' p' salt⟩ (cs := [.uReplace u' ⟨u', some (E.hash salt p')⟩])
      (r := ⟨500, .keep, .msg .accountNotUpdated⟩)
      (by simp only [handler, hUpdate, if_neg he, hs, ne_eq, not_true_eq_false, if_false, run, exec, hany,
        decide_false, Bool.false_and, Bool.false_eq_true, reply,
        updFirst_none _ _ _ (none_of_any_false u' _ hany)]) rfl

theorem step_update_free (he : ¬ (u' = E.emp ∨ p' = E.emp)) {u : T} (hs : st.sess jar = some u) (hne : u' ≠ u)
    (hf : st.db.users.find? (isUser u') = none) :
    step E st ⟨jar, .update u' p' salt⟩ =
      if st.db.users.any (isUser u) = true then (updated E st jar u' p' salt u, ⟨200, .login u', .userInfo u' false⟩)
      else (st, ⟨500, .keep, .msg .accountNotUpdated⟩) := by
  have hany' := any_false_of_find_none u' _ hf
  cases hany : st.db.users.any (isUser u) with
  | true =>
    exact step_of_run E st ⟨jar, .update u' p' salt⟩
      (cs := [.uFind u', .uReplace u ⟨u', some (E.hash salt p')⟩, .pRename u u'])
      (db' := (updated E st jar u' p' salt u).db) (r := ⟨200, .login u', .userInfo u' false⟩)
      (by simp only [handler, hUpdate, if_neg he, hs, ne_eq, hne, not_false_eq_true, if_true, run, exec, hf,
        hany, hany', Bool.and_false, Bool.false_eq_true, if_false, updated])
  | false =>
    exact step_of_run_keep E st ⟨jar, .update u' p' salt⟩
      (cs := [.uFind u', .uReplace u ⟨u', some (E.hash salt p')⟩]) (r := ⟨500, .keep, .msg .accountNotUpdated⟩)
      (by simp only [handler, hUpdate, if_neg he, hs, ne_eq, hne, not_false_eq_true, if_true, run, exec, hf,
        hany, hany', Bool.and_false, Bool.false_eq_true, if_false, reply,
        updFirst_none _ _ _ (none_of_any_false u _ hany)]) rfl

end update

theorem step_cred (E : Env T H A R) (st : State T H A R) (rq : Request T) (g : T → Option T)
    (inv : CredInv E st.db.users g) :
    CredInv E (step E st rq).1.db.users (credStep g (st.sess rq.jar) rq.req (step E st rq).2.status) := by
  obtain ⟨jar, req⟩ := rq
  -- requests after which nothing is recorded: every command keeps the invariant for `g`
  have keeps : (∀ db c, Shape E jar (st.sess jar) req c → CredInv E db.users g → CredInv E (exec db c).1.users g) →
      (∀ s, credStep g (st.sess jar) req s = g) →
      CredInv E (step E st ⟨jar, req⟩).1.db.users (credStep g (st.sess jar) req (step E st ⟨jar, req⟩).2.status) := by
    intro h1 h2
    rw [h2, step_db]
    exact run_inv (fun d => CredInv E d.users g) h1 (handler_shape E jar (st.sess jar) req) st.db inv
  -- in particular those whose commands never write the user collection
  have readonly : (∀ c, Shape E jar (st.sess jar) req c → NoUserWrite c) →
      (∀ s, credStep g (st.sess jar) req s = g) →
      CredInv E (step E st ⟨jar, req⟩).1.db.users (credStep g (st.sess jar) req (step E st ⟨jar, req⟩).2.status) :=
    fun h1 => keeps (fun db c hc h => by rw [exec_users db c (h1 c hc)]; exact h)
  cases req with
  | login u p => exact readonly (fun c hc => by rw [hc]; trivial) (fun _ => ite_self _)
  | logout => exact readonly (fun c hc => by obtain ⟨v, _, hc⟩ := hc; rw [hc]; trivial) (fun _ => ite_self _)
  | info => exact readonly (fun c hc => by obtain ⟨v, _, hc⟩ := hc; rw [hc]; trivial) (fun _ => ite_self _)
  | solve name s =>
    exact readonly (fun c hc => by
      obtain ⟨v, _, hc⟩ := hc
      rcases hc with hc | hc | ⟨t, hc, _⟩ <;> rw [hc] <;> trivial) (fun _ => ite_self _)
  | get name =>
    exact readonly (fun c hc => by
      obtain ⟨v, _, hc⟩ := hc
      rcases hc with hc | ⟨n, hc⟩ <;> rw [hc] <;> trivial) (fun _ => ite_self _)
  | delete name => exact readonly (fun c hc => by obtain ⟨v, _, hc⟩ := hc; rw [hc]; trivial) (fun _ => ite_self _)
  | list =>
    exact readonly (fun c hc => by
      obtain ⟨v, _, hc⟩ := hc
      rcases hc with hc | ⟨n, hc⟩ <;> rw [hc] <;> trivial) (fun _ => ite_self _)
  | malformed => exact readonly (fun c hc => hc.elim) (fun _ => ite_self _)
  | register u p salt =>
    by_cases he : u = E.emp ∨ p = E.emp
    · rw [step_register_emp E st jar u p salt he]; exact inv
    · cases hf : st.db.users.find? (isUser u) with
      | some x => rw [step_register_taken E st jar u p salt he hf]; exact inv
      | none =>
        rw [step_register_ok E st jar u p salt he hf]
        exact inv.insert_cred u p salt ((find_none_iff u _).mp hf)
  | update u' p' salt =>
    by_cases he : u' = E.emp ∨ p' = E.emp
    · rw [step_update_emp E st jar u' p' salt he]; exact inv
    · cases hs : st.sess jar with
      | none => rw [step_update_nosess E st jar u' p' salt he hs]; exact inv
      | some u =>
        -- the replacement, once the new name is the old one or nobody holds it
        have hok : (u' = u ∨ ∀ x ∈ st.db.users, x.username ≠ u') → ∀ o : State T H A R × Resp T R,
            o = (if st.db.users.any (isUser u) = true then
                  (updated E st jar u' p' salt u, ⟨200, .login u', .userInfo u' false⟩)
                else (st, ⟨500, .keep, .msg .accountNotUpdated⟩)) →
            CredInv E o.1.db.users (credStep g (some u) (.update u' p' salt) o.2.status) := by
          intro hnew o ho
          rw [ho]
          split
          · rename_i hany; exact inv.replace u u' p' salt ((any_isUser u _).mp hany) hnew
          · exact inv
        by_cases hne : u' = u
        · subst hne
          exact hok (Or.inl rfl) _ (step_update_same E st jar u' p' salt he hs)
        · cases hf : st.db.users.find? (isUser u') with
          | some x => rw [step_update_taken E st jar u' p' salt he hs hne hf]; exact inv
          | none =>
            exact hok (Or.inr ((find_none_iff u' _).mp hf)) _ (step_update_free E st jar u' p' salt he hs hne hf)
  | deleteAccount =>
    simp only [step, stepT, handler, hDeleteAccount]
    cases hid : st.sess jar with
    | none => simpa [run, reply, credStep] using inv
    | some v =>
      simp only [run]
      by_cases hany : st.db.users.any (isUser v) = true
      · have hany' : (exec st.db (.pDeleteAll v)).1.users.any (isUser v) = true := hany
        simp only [exec_uDelete_present _ v hany', Nat.one_ne_zero, if_false, run, credStep, if_true]
        exact inv.delete v
      · have hany' : (exec st.db (.pDeleteAll v)).1.users.any (isUser v) = false := Bool.eq_false_iff.mpr hany
        simp only [exec_uDelete_absent _ v hany', if_true, run, reply, credStep]
        exact inv
  | add name code file parsing fu fp =>
    refine keeps (fun db c hc h => ?_) (fun _ => ite_self _)
    rcases hc with ⟨_, hc | hc⟩ | ⟨n, hc⟩ | ⟨p, hc, _⟩ | ⟨t, hc, _⟩ <;> subst hc
    · exact h
    · -- the temporary account: the unique index refuses a name that is taken
      simp only [exec]
      split
      · exact h
      · rename_i hn
        exact h.insert_temp fu (fun x hx hxu => hn ((any_isUser _ _).mpr ⟨x, hx, hxu⟩))
    · exact h
    · exact h
    · exact h

end
end ServerM
