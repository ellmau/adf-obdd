import AdfObdd.FeatureTables
import AdfObdd.StoreIte
import AdfObdd.Rebuild
/-! C12, the store with its feature-dependent tables. First the bare store: the `variablelist`
    shortcut is sound (`scOf_sound`), so `restrictS (scOf c)` / `iteS (scOf c)` have everything
    `StoreOps.lean` / `StoreIte.lean` prove for a sound shortcut; `restrictS_sim` / `iteS_sim` are the
    instances that compare them with `restrictF` / `iteF`. Then the invariant `FInv c z` (`z` = nothing
    was imported yet, which is when the exception configuration has all-zero model entries), its
    preservation by `nodeC` / `restrictC` / `iteCfg`, and the exact simulation of these by the
    bare-store operations `mkNode` / `restrictS (scOf c)` / `iteS (scOf c)`. -/

theorem scDeps_sound : ScSound scDeps := by
  intro s w t v ht h σ b
  apply deps_indep s w.table t ht v
  intro hm
  have : (depsOf s t).contains v = true := List.contains_iff_mem.mpr hm
  simp only [scDeps, this] at h
  cases h

theorem scOf_sound (c : Cfg) : ScSound (scOf c) := by
  intro s w t v ht h σ b
  have : scDeps s t v = true := by
    simp only [scOf, Bool.and_eq_true] at h; exact h.2
  exact scDeps_sound s w t v ht this σ b

theorem restrictS_sim (sc : Store → Nat → Nat → Bool) (hsc : ScSound sc)
    (fuel : Nat) (s s' : Store) (t v : Nat) (b : Bool)
    (w : WF s) (w' : WF s') (hn : s.nodes = s'.nodes) (ht : t < s.nodes.size) (hf : t < fuel) :
    WF (restrictS sc fuel s t v b).1 ∧
    (restrictS sc fuel s t v b).1.nodes = (restrictF fuel s' t v b).1.nodes ∧
    (restrictS sc fuel s t v b).2 = (restrictF fuel s' t v b).2 := by
  rw [← restrictS_none]
  exact ⟨(restrictS_spec hsc fuel s t v b w ht hf).1.1,
    restrictS_lock scNone_sound hsc fuel s' s t v b w' w hn hf⟩

theorem iteS_sim (sc : Store → Nat → Nat → Bool) (hsc : ScSound sc)
    (fuel : Nat) (s s' : Store) (i t e : Nat) (w : WF s) (w' : WF s') (hn : s.nodes = s'.nodes)
    (hi : i < s.nodes.size) (ht : t < s.nodes.size) (he : e < s.nodes.size) (hf : i + t + e < fuel) :
    WF (iteS sc fuel s i t e).1 ∧
    (iteS sc fuel s i t e).1.nodes = (iteF fuel s' i t e).1.nodes ∧
    (iteS sc fuel s i t e).2 = (iteF fuel s' i t e).2 ∧
    (IteAgree s s' → IteAgree (iteS sc fuel s i t e).1 (iteF fuel s' i t e).1) := by
  rw [← iteS_none]
  have ⟨a, c, g⟩ := iteS_lock scNone_sound hsc fuel s' s i t e w' w hn (hn ▸ hi) (hn ▸ ht) (hn ▸ he) hf
  exact ⟨(iteS_spec hsc fuel s i t e w hi ht he hf).1.1, a, c, g⟩

structure TabInv (c : Cfg) (z : Bool) (fs : FStore) : Prop where
  deps : c.variablelist = true → DepsOK fs.base fs.deps
  cnt : CntOK c.exactModels fs.base fs.cnt
  full : c.adhoccounting = true → CntFull fs.base fs.cnt
  -- `z`: nothing was imported yet (`newC` gives `true`, `fixImportC` only `false`); no other field reads it
  zero : z = true → c.exc = true → CntZero fs.base fs.cnt

structure FInv (c : Cfg) (z : Bool) (fs : FStore) : Prop where
  wf : WF fs.base
  tab : TabInv c z fs

theorem TabInv_congr {c : Cfg} {z : Bool} {fs fs' : FStore} (hn : fs'.base.nodes = fs.base.nodes)
    (hd : fs'.deps = fs.deps) (hc : fs'.cnt = fs.cnt) (ti : TabInv c z fs) : TabInv c z fs' := by
  constructor
  · intro hv; rw [hd]; exact DepsOK_congr hn (ti.deps hv)
  · rw [hc]; exact CntOK_congr hn ti.cnt
  · intro ha t ht; rw [hc]; rw [hn] at ht; exact ti.full ha t ht
  · intro hz he t ht2 ht; rw [hc]; rw [hn] at ht; exact ti.zero hz he t ht2 ht

theorem nodeC_base (c : Cfg) (fs : FStore) (v lo hi : Nat) :
    (nodeC c fs v lo hi).1.base = (mkNode fs.base v lo hi).1 ∧
    (nodeC c fs v lo hi).2 = (mkNode fs.base v lo hi).2 := by
  fun_cases nodeC c fs v lo hi with
  | case1 h => rw [mkNode, if_pos h]; exact ⟨rfl, rfl⟩
  | case2 h _ hu | case3 h hu => rw [mkNode, if_neg h, hu]; exact ⟨rfl, rfl⟩

theorem nodeC_store (c : Cfg) (fs : FStore) (v lo hi : Nat) :
    (nodeC c fs v lo hi).1 = fs ∨
    (nodeC c fs v lo hi).1 =
      { base := { fs.base with nodes := fs.base.nodes.push ⟨v, lo, hi⟩,
                               uniq := fs.base.uniq.insert ⟨v, lo, hi⟩ fs.base.nodes.size }
        deps := if c.variablelist then fs.deps.push (depsEntry fs.deps v lo hi) else fs.deps
        cnt := if c.adhoccounting then
                 match fs.cnt[lo]?, fs.cnt[hi]? with
                 | some l, some h => fs.cnt.insert fs.base.nodes.size (CN.adhoc c.adhoccountmodels l h)
                 | _, _ => fs.cnt
               else fs.cnt
        sender := fs.sender
        log := if c.frontend && fs.sender then fs.log ++ [⟨v, lo, hi⟩] else fs.log } := by
  fun_cases nodeC c fs v lo hi with
  | case3 => exact Or.inr rfl
  | _ => exact Or.inl rfl

theorem Cfg.exact_of_adhoc {c : Cfg} (ha : c.adhoccounting = true) : c.exactModels = c.adhoccountmodels := by
  simp [Cfg.exactModels, Cfg.exc, ha]

theorem Cfg.exc_iff {c : Cfg} : c.exc = true ↔ c.adhoccounting = true ∧ c.adhoccountmodels = false := by
  simp [Cfg.exc]

theorem nodeC_tab (c : Cfg) (z : Bool) (fs : FStore) (v lo hi : Nat) (h : TableWF fs.base.nodes)
    (ti : TabInv c z fs) (hlo : lo < fs.base.nodes.size) (hhi : hi < fs.base.nodes.size) :
    TabInv c z (nodeC c fs v lo hi).1 := by
  rcases nodeC_store c fs v lo hi with e | e <;> rw [e]
  · exact ti
  generalize hs' : Store.mk (fs.base.nodes.push ⟨v, lo, hi⟩)
      (fs.base.uniq.insert ⟨v, lo, hi⟩ fs.base.nodes.size) fs.base.resC fs.base.iteC = s'
  have hsn : s'.nodes = fs.base.nodes.push ⟨v, lo, hi⟩ := by rw [← hs']
  have hsz : s'.nodes.size = fs.base.nodes.size + 1 := by rw [hsn]; simp
  have hold : CntOK c.exactModels s' fs.cnt := CntOK_ext h (hsn ▸ ExtN_push _ _) (by omega) ti.cnt
  have hdeps : c.variablelist = true →
      DepsOK s' (if c.variablelist then fs.deps.push (depsEntry fs.deps v lo hi) else fs.deps) := fun hv => by
    rw [if_pos hv]; exact DepsOK_push fs.base s' fs.deps v lo hi h hsn hlo hhi (ti.deps hv)
  by_cases ha : c.adhoccounting = true
  · obtain ⟨l, hl⟩ := ti.full ha lo hlo
    obtain ⟨r, hr⟩ := ti.full ha hi hhi
    have hnew : CN.agree c.exactModels (CN.adhoc c.adhoccountmodels l r) (naive s' fs.base.nodes.size) := by
      rw [naive_push fs.base s' v lo hi h hsn hlo hhi]
      exact CN.agree_adhoc (by rw [Cfg.exact_of_adhoc ha]; exact id) (ti.cnt lo l hl).2 (ti.cnt hi r hr).2
    refine ⟨hdeps, ?_, ?_, ?_⟩ <;> simp only [ha, if_true, hl, hr]
    · exact CntOK_insert hold _ _ (by omega) hnew
    · intro _ t ht
      rcases insert_cases fs.cnt fs.base.nodes.size (CN.adhoc c.adhoccountmodels l r) t with ⟨_, e⟩ | ⟨ne, e⟩ <;> rw [e]
      · exact ⟨_, rfl⟩
      · exact ti.full ha t (by omega)
    · intro hz he t ht2 ht
      rcases insert_cases fs.cnt fs.base.nodes.size (CN.adhoc c.adhoccountmodels l r) t with ⟨_, e⟩ | ⟨ne, e⟩ <;> rw [e]
      · rw [(Cfg.exc_iff.mp he).2]
        exact ⟨_, rfl, CN.adhoc_false_models l r⟩
      · exact ti.zero hz he t ht2 (by omega)
  · refine ⟨hdeps, by simp only [ha]; exact hold, fun ha' => absurd ha' ha, fun _ he => ?_⟩
    exact absurd (Cfg.exc_iff.mp he).1 ha

theorem scC_eq (c : Cfg) (z : Bool) (fs : FStore) (ti : TabInv c z fs) (t v : Nat) (ht : t < fs.base.nodes.size) :
    (c.variablelist && !(fs.deps.getD t []).contains v) = scOf c fs.base t v := by
  unfold scOf scDeps
  cases hv : c.variablelist with
  | false => rfl
  | true => rw [DepsOK_contains (ti.deps hv) t v ht]

theorem insRes_tab {c : Cfg} {z : Bool} {fs : FStore} (ti : TabInv c z fs)
    (k : Nat × Nat × Bool) (r : Nat) : TabInv c z (fs.insRes k r) :=
  TabInv_congr (fs := fs) rfl rfl rfl ti
theorem insIte_tab {c : Cfg} {z : Bool} {fs : FStore} (ti : TabInv c z fs)
    (k : Nat × Nat × Nat) (r : Nat) : TabInv c z (fs.insIte k r) :=
  TabInv_congr (fs := fs) rfl rfl rfl ti

/-- a run that projects onto `restrictS` and keeps the tables keeps the invariant; the node table has not shrunk and
holds the handle returned -/
theorem FInv.of_restrictS {c : Cfg} {z : Bool} {fs : FStore} (inv : FInv c z fs) {fuel t v : Nat} {b : Bool}
    (ht : t < fs.base.nodes.size) (hf : t < fuel) {r : FStore × Nat}
    (h : r.1.base = (restrictS (scOf c) fuel fs.base t v b).1 ∧ r.2 = (restrictS (scOf c) fuel fs.base t v b).2 ∧
      TabInv c z r.1) :
    FInv c z r.1 ∧ fs.base.nodes.size ≤ r.1.base.nodes.size ∧ r.2 < r.1.base.nodes.size := by
  have ⟨w1, x1, l1, _, _⟩ := (restrictS_spec (scOf_sound c) fuel fs.base t v b inv.wf ht hf).1
  rw [h.1, h.2.1]
  exact ⟨⟨h.1 ▸ w1, h.2.2⟩, x1.1, l1⟩

theorem restrictC_sim (c : Cfg) (z : Bool) : ∀ (fuel : Nat) (fs : FStore) (t v : Nat) (b : Bool),
    FInv c z fs → t < fs.base.nodes.size → t < fuel →
    (restrictC c fuel fs t v b).1.base = (restrictS (scOf c) fuel fs.base t v b).1 ∧
    (restrictC c fuel fs t v b).2 = (restrictS (scOf c) fuel fs.base t v b).2 ∧
    FInv c z (restrictC c fuel fs t v b).1 := by
  suffices H : ∀ (fuel : Nat) (fs : FStore) (t v : Nat) (b : Bool),
      FInv c z fs → t < fs.base.nodes.size → t < fuel →
      (restrictC c fuel fs t v b).1.base = (restrictS (scOf c) fuel fs.base t v b).1 ∧
      (restrictC c fuel fs t v b).2 = (restrictS (scOf c) fuel fs.base t v b).2 ∧
      TabInv c z (restrictC c fuel fs t v b).1 by
    intro fuel fs t v b inv ht hf
    have h := H fuel fs t v b inv ht hf
    exact ⟨h.1, h.2.1, (inv.of_restrictS ht hf h).1⟩
  intro fuel fs t v b
  fun_induction restrictC c fuel fs t v b with
  | case1 => intro _ _ h; omega
  | case2 f fs t v b r hm => intro inv _ _; rw [restrictS_hit _ f hm]; exact ⟨rfl, rfl, inv.tab⟩
  | case3 f fs t v b hm hn => intro _ ht _; rw [Array.getElem?_eq_none_iff] at hn; omega
  | case4 f fs t v b hm n hn hs =>
    intro inv ht _
    rw [scC_eq c z fs inv.tab t v ht] at hs
    rw [restrictS_skip _ f hm hn (Or.inl hs)]; exact ⟨rfl, rfl, inv.tab⟩
  | case5 f fs t v b hm n hn hs hc =>
    intro inv ht _
    rw [restrictS_skip _ f hm hn (Or.inr hc)]; exact ⟨rfl, rfl, inv.tab⟩
  | case6 f fs t v b hm n hn hs hc hc2 r1 r2 r3 ih1 ih2 =>
    intro inv ht hf
    rw [scC_eq c z fs inv.tab t v ht] at hs
    have hc' : ¬ (scOf c fs.base t v = true ∨ n.var > v ∨ n.var ≥ VBOT) := fun h => h.elim hs hc
    rw [restrictS_rec _ f hm hn hc', if_pos hc2]
    have ht2 : 2 ≤ t := inner_of_not_const inv.wf hn (fun h => hc (Or.inr h))
    have ⟨_, hlo, hhi, _, _, _⟩ := inv.wf.inner t n ht2 hn
    have hlt : t ≤ f := Nat.le_of_lt_succ hf
    have a1 := ih1 inv (Nat.lt_trans hlo ht) (Nat.lt_of_lt_of_le hlo hlt)
    have ⟨i1, s1, l1⟩ := inv.of_restrictS (Nat.lt_trans hlo ht) (Nat.lt_of_lt_of_le hlo hlt) a1
    have hhi' := Nat.lt_of_lt_of_le (Nat.lt_trans hhi ht) s1
    have a2 := ih2 i1 hhi' (Nat.lt_of_lt_of_le hhi hlt)
    have ⟨i2, s2, l2⟩ := i1.of_restrictS hhi' (Nat.lt_of_lt_of_le hhi hlt) a2
    unfold withRes
    dsimp only
    rw [← a1.1, ← a1.2.1, ← a2.1, ← a2.2.1]
    have ⟨e3, q3⟩ := nodeC_base c r2.1 n.var r1.2 r2.2
    have t3 := nodeC_tab c z r2.1 n.var r1.2 r2.2 i2.wf.table i2.tab (Nat.lt_of_lt_of_le l1 s2) l2
    rw [← e3, ← q3]
    exact ⟨rfl, rfl, insRes_tab t3 _ _⟩
  | case7 f fs t v b hm n hn hs hc hc2 r ihhi ihlo =>
    intro inv ht hf
    rw [scC_eq c z fs inv.tab t v ht] at hs
    have hc' : ¬ (scOf c fs.base t v = true ∨ n.var > v ∨ n.var ≥ VBOT) := fun h => h.elim hs hc
    rw [restrictS_rec _ f hm hn hc', if_neg hc2]
    have ht2 : 2 ≤ t := inner_of_not_const inv.wf hn (fun h => hc (Or.inr h))
    have ⟨_, hlo, hhi, _, _, _⟩ := inv.wf.inner t n ht2 hn
    have hlt : t ≤ f := Nat.le_of_lt_succ hf
    unfold withRes
    cases b
    · have a1 := ihlo inv (Nat.lt_trans hlo ht) (Nat.lt_of_lt_of_le hlo hlt)
      rw [show n.child false = n.lo from rfl, ← a1.1, ← a1.2.1]
      exact ⟨rfl, rfl, insRes_tab a1.2.2 _ _⟩
    · have a1 := ihhi inv (Nat.lt_trans hhi ht) (Nat.lt_of_lt_of_le hhi hlt)
      rw [show n.child true = n.hi from rfl, ← a1.1, ← a1.2.1]
      exact ⟨rfl, rfl, insRes_tab a1.2.2 _ _⟩

/-- the six cofactor calls of one `iteCfg` step: the store they leave and, as in `cofsS`, the six
handles with the base store -/
def cofsC (c : Cfg) (fs : FStore) (i t e mv : Nat) : FStore × MemoT.Cof6 :=
  let r1 := restrictC c (i+1) fs i mv true
  let r2 := restrictC c (t+1) r1.1 t mv true
  let r3 := restrictC c (e+1) r2.1 e mv true
  let r4 := restrictC c (i+1) r3.1 i mv false
  let r5 := restrictC c (t+1) r4.1 t mv false
  let r6 := restrictC c (e+1) r5.1 e mv false
  (r6.1, ⟨r6.1.base, r1.2, r2.2, r3.2, r4.2, r5.2, r6.2⟩)

theorem iteCfg_miss (c : Cfg) (f : Nat) {fs : FStore} {i t e : Nat} (c1 : i ≠ 1) (c0 : i ≠ 0) (c2 : t ≠ e)
    (c3 : ¬ (t = 1 ∧ e = 0)) (h : fs.base.iteC[(i, t, e)]? = none) :
    iteCfg c (f+1) fs i t e =
      (let C := cofsC c fs i t e (minVar fs.base i t e)
       let top := iteCfg c f C.1 C.2.i1 C.2.t1 C.2.e1
       let bot := iteCfg c f top.1 C.2.i0 C.2.t0 C.2.e0
       let m := nodeC c bot.1 (minVar fs.base i t e) bot.2 top.2
       (m.1.insIte (i, t, e) m.2, m.2)) := by
  rw [iteCfg, if_neg c1, if_neg c0, if_neg c2, if_neg c3, h]
  simp only [cofsC]

theorem cofsC_sim (c : Cfg) (z : Bool) (fs : FStore) (inv : FInv c z fs) (i t e mv : Nat)
    (hi : i < fs.base.nodes.size) (ht : t < fs.base.nodes.size) (he : e < fs.base.nodes.size)
    (mi : mv ≤ topVar fs.base i) (mt : mv ≤ topVar fs.base t) (me : mv ≤ topVar fs.base e) (hvb : mv < VBOT) :
    (cofsC c fs i t e mv).2 = cofsS (scOf c) fs.base i t e mv ∧ FInv c z (cofsC c fs i t e mv).1 ∧
    (cofsC c fs i t e mv).1.base = (cofsS (scOf c) fs.base i t e mv).st := by
  -- one call, on a store that still carries the node table of `fs`
  have step : ∀ (gs : FStore) (x : Nat) (b : Bool), FInv c z gs → gs.base.nodes = fs.base.nodes →
      x < fs.base.nodes.size → mv ≤ topVar fs.base x →
      (restrictC c (x+1) gs x mv b).1.base = (restrictS (scOf c) (x+1) gs.base x mv b).1 ∧
      (restrictC c (x+1) gs x mv b).2 = (restrictS (scOf c) (x+1) gs.base x mv b).2 ∧
      FInv c z (restrictC c (x+1) gs x mv b).1 ∧
      (restrictC c (x+1) gs x mv b).1.base.nodes = fs.base.nodes := by
    intro gs x b ginv gn hx hle
    have hx' : x < gs.base.nodes.size := gn ▸ hx
    have ⟨a1, a2, a3⟩ := restrictC_sim c z (x+1) gs x mv b ginv hx' (Nat.lt_succ_self _)
    have n1 := (cof (scOf_sound c) gs.base ginv.wf x mv b hx' (by rw [topVar_congr gn]; exact hle) hvb).2.1
    exact ⟨a1, a2, a3, by rw [a1, n1, gn]⟩
  simp only [cofsC, cofsS]
  have ⟨e1, q1, v1, n1⟩ := step fs i true inv rfl hi mi
  rw [← e1, ← q1]
  generalize restrictC c (i+1) fs i mv true = r1 at v1 n1 ⊢
  have ⟨e2, q2, v2, n2⟩ := step r1.1 t true v1 n1 ht mt
  rw [← e2, ← q2]
  generalize restrictC c (t+1) r1.1 t mv true = r2 at v2 n2 ⊢
  have ⟨e3, q3, v3, n3⟩ := step r2.1 e true v2 n2 he me
  rw [← e3, ← q3]
  generalize restrictC c (e+1) r2.1 e mv true = r3 at v3 n3 ⊢
  have ⟨e4, q4, v4, n4⟩ := step r3.1 i false v3 n3 hi mi
  rw [← e4, ← q4]
  generalize restrictC c (i+1) r3.1 i mv false = r4 at v4 n4 ⊢
  have ⟨e5, q5, v5, n5⟩ := step r4.1 t false v4 n4 ht mt
  rw [← e5, ← q5]
  generalize restrictC c (t+1) r4.1 t mv false = r5 at v5 n5 ⊢
  have ⟨e6, q6, v6, _⟩ := step r5.1 e false v5 n5 he me
  rw [← e6, ← q6]
  exact ⟨rfl, v6, rfl⟩

theorem iteCfg_sim (c : Cfg) (z : Bool) : ∀ (fuel : Nat) (fs : FStore) (i t e : Nat),
    FInv c z fs → i < fs.base.nodes.size → t < fs.base.nodes.size → e < fs.base.nodes.size → i + t + e < fuel →
    (iteCfg c fuel fs i t e).1.base = (iteS (scOf c) fuel fs.base i t e).1 ∧
    (iteCfg c fuel fs i t e).2 = (iteS (scOf c) fuel fs.base i t e).2 ∧
    FInv c z (iteCfg c fuel fs i t e).1 := by
  suffices H : ∀ (fuel : Nat) (fs : FStore) (i t e : Nat), FInv c z fs → i < fs.base.nodes.size →
      t < fs.base.nodes.size → e < fs.base.nodes.size → i + t + e < fuel →
      (iteCfg c fuel fs i t e).1.base = (iteS (scOf c) fuel fs.base i t e).1 ∧
      (iteCfg c fuel fs i t e).2 = (iteS (scOf c) fuel fs.base i t e).2 ∧
      TabInv c z (iteCfg c fuel fs i t e).1 by
    intro fuel fs i t e inv hi ht he hf
    have ⟨e1, q, ti⟩ := H fuel fs i t e inv hi ht he hf
    have ⟨w1, _, _, _, _⟩ := (iteS_spec (scOf_sound c) fuel fs.base i t e inv.wf hi ht he hf).1
    exact ⟨e1, q, e1 ▸ w1, ti⟩
  intro fuel
  induction fuel with
  | zero => intro fs i t e _ _ _ _ h; omega
  | succ f ih =>
    intro fs i t e inv hi ht he hf
    have w := inv.wf
    have hsc := scOf_sound c
    by_cases c1 : i = 1
    · rw [iteCfg, iteS, if_pos c1, if_pos c1]; exact ⟨rfl, rfl, inv.tab⟩
    by_cases c0 : i = 0
    · rw [iteCfg, iteS, if_neg c1, if_neg c1, if_pos c0, if_pos c0]; exact ⟨rfl, rfl, inv.tab⟩
    by_cases c2 : t = e
    · rw [iteCfg, iteS, if_neg c1, if_neg c1, if_neg c0, if_neg c0, if_pos c2, if_pos c2]
      exact ⟨rfl, rfl, inv.tab⟩
    by_cases c3 : t = 1 ∧ e = 0
    · rw [iteCfg, iteS, if_neg c1, if_neg c1, if_neg c0, if_neg c0, if_neg c2, if_neg c2, if_pos c3, if_pos c3]
      exact ⟨rfl, rfl, inv.tab⟩
    cases hm : fs.base.iteC[(i, t, e)]? with
    | some r =>
      rw [iteS_hit _ f c1 c0 c2 c3 hm, iteCfg, if_neg c1, if_neg c0, if_neg c2, if_neg c3, hm]
      exact ⟨rfl, rfl, inv.tab⟩
    | none =>
    rw [iteCfg_miss c f c1 c0 c2 c3 hm, iteS_miss _ f c1 c0 c2 c3 hm]
    unfold withIte
    dsimp only
    have ⟨mi, mt, me⟩ := minVar_le fs.base i t e
    have hvb := MemoT.minVar_lt_VBOT w t e hi c1 c0
    have K := MemoT.cofsS_spec hsc fs.base w i t e _ hi ht he mi mt me hvb (minVar_eq fs.base i t e)
    have ⟨eC, vC, bC⟩ := cofsC_sim c z fs inv i t e _ hi ht he mi mt me hvb
    generalize minVar fs.base i t e = mv at *
    generalize cofsC c fs i t e mv = D at eC vC bC ⊢
    rw [eC]
    generalize cofsS (scOf c) fs.base i t e mv = C at *
    have ⟨⟨i1, t1, e1, d1⟩, i0, t0, e0, d0⟩ := K.calls hi ht he hf
    rw [← bC] at i1 t1 e1 i0 t0 e0
    -- the two recursive calls: the induction hypothesis together with what `iteS_spec` says of the base
    have call : ∀ (gs : FStore) (x y u : Nat), FInv c z gs → x < gs.base.nodes.size → y < gs.base.nodes.size →
        u < gs.base.nodes.size → x + y + u < f →
        (iteCfg c f gs x y u).1.base = (iteS (scOf c) f gs.base x y u).1 ∧
        (iteCfg c f gs x y u).2 = (iteS (scOf c) f gs.base x y u).2 ∧
        FInv c z (iteCfg c f gs x y u).1 ∧
        gs.base.nodes.size ≤ (iteCfg c f gs x y u).1.base.nodes.size ∧
        (iteCfg c f gs x y u).2 < (iteCfg c f gs x y u).1.base.nodes.size := by
      intro gs x y u ginv hx hy hu hd
      have ⟨e1, q1, t1⟩ := ih gs x y u ginv hx hy hu hd
      have ⟨w1, x1, l1, _, _⟩ := (iteS_spec hsc f gs.base x y u ginv.wf hx hy hu hd).1
      rw [← e1, ← q1] at l1
      rw [← e1] at w1 x1
      exact ⟨e1, q1, ⟨w1, t1⟩, x1.1, l1⟩
    have ⟨eT, qT, vT, sT, lT⟩ := call D.1 C.i1 C.t1 C.e1 vC i1 t1 e1 d1
    rw [bC] at eT qT
    rw [← eT, ← qT]
    generalize iteCfg c f D.1 C.i1 C.t1 C.e1 = top at vT sT lT ⊢
    have ⟨eB, qB, vB, sB, lB⟩ := call top.1 C.i0 C.t0 C.e0 vT (Nat.lt_of_lt_of_le i0 sT) (Nat.lt_of_lt_of_le t0 sT)
      (Nat.lt_of_lt_of_le e0 sT) d0
    rw [← eB, ← qB]
    generalize iteCfg c f top.1 C.i0 C.t0 C.e0 = bot at vB sB lB ⊢
    have ⟨eM, qM⟩ := nodeC_base c bot.1 mv bot.2 top.2
    have tM := nodeC_tab c z bot.1 mv bot.2 top.2 vB.wf.table vB.tab lB (Nat.lt_of_lt_of_le lT sB)
    rw [← eM, ← qM]
    exact ⟨rfl, rfl, insIte_tab tM _ _⟩

#print axioms restrictS_spec
#print axioms restrictS_lock
#print axioms iteS_spec
#print axioms iteS_lock
#print axioms nodeC_tab
#print axioms restrictC_sim
#print axioms iteCfg_sim
