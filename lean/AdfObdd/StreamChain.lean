import AdfObdd.StreamFull
/-! # C19 for a relay chain of arbitrary length

    producer --pend--> (scheduler) --q₀--> store₀ --q₁--> store₁ --…--> store_{k-1}

Every store of the chain is a `Bdd::with_sender_receiver` relay (`StreamF.recv true`: push each received
node verbatim, forward it through the own sender), except that the last one has nobody behind it: what it
forwards is discarded.  That is at the same time the model of `with_receiver` (no sender) and of a relay
whose downstream receiver was dropped (`send` fails, the error is logged and ignored: the `match send.send(node)`
of `recv` in `frontend.rs`): the event `dropFrom i` removes the stores `i, i+1, …` from the chain, after which store `i-1`
forwards into the void.

Events: producer operations creating `0..many` nodes, deliveries of `k` pending messages into the first
inbox, `poll i t` = `store_i.recv(Term(t))`, polls on the producer, `dropFrom i`; a schedule is any list
of events.  `RInv` is the conservation invariant along the chain, proved by induction over the chain
(`pollAt_inv`) and over the event sequence (`run_inv`). -/
namespace StreamC
open StreamF

variable {α : Type}

/-- a store of the chain -/
structure Relay (α : Type) where
  q : List α       -- its receiving channel
  tbl : List α     -- its node table
  k : Nat          -- messages consumed so far
deriving DecidableEq, Repr

structure Chain (α : Type) where
  prod : List α            -- producer's node table
  pend : List α            -- sent by the producer, not yet in the first inbox
  relays : List (Relay α)

inductive Ev (α : Type) where
  | create (ns : List α)
  | deliver (k : Nat)
  | poll (i t : Nat)         -- `store_i.recv(Term(t))`
  | prodPoll (t : Nat)
  | dropFrom (i : Nat)       -- stores `i, i+1, …` are dropped

def Chain.init (c : List α) (k : Nat) : Chain α :=
  { prod := c, pend := [], relays := List.replicate k { q := [], tbl := c, k := 0 } }

/-- append messages to the inbox of the first store (if any) -/
def feed : List (Relay α) → List α → List (Relay α)
  | [], _ => []
  | r :: rest, x => { r with q := r.q ++ x } :: rest

/-- `store_i.recv(t)`; what it forwards goes into the inbox of store `i+1` -/
def pollAt : List (Relay α) → Nat → Nat → List (Relay α) × Option Bool
  | [], _, _ => ([], none)
  | r :: rest, 0, t =>
    let res := recv true r.q r.tbl t
    ({ q := res.q, tbl := res.tbl, k := r.k + res.consumed } :: feed rest res.fwd, some res.found)
  | r :: rest, i+1, t => let p := pollAt rest i t; (r :: p.1, p.2)

def stepEv (s : Chain α) : Ev α → Chain α × Option Bool
  | .create ns => ({ s with prod := s.prod ++ ns, pend := s.pend ++ ns }, none)
  | .deliver k => ({ s with pend := s.pend.drop k, relays := feed s.relays (s.pend.take k) }, none)
  | .poll i t => let p := pollAt s.relays i t; ({ s with relays := p.1 }, p.2)
  | .prodPoll t => (s, some (recv false [] s.prod t).found)
  | .dropFrom i => ({ s with relays := s.relays.take i }, none)

def run (evs : List (Ev α)) (s : Chain α) : Chain α := evs.foldl (fun s e => (stepEv s e).1) s

/-- conservation along the chain: table ++ inbox of each store is the table of the store before it (`up`
for the first), and the counter counts the mirrored nodes -/
def RInv (c : List α) : List α → List (Relay α) → Prop
  | _, [] => True
  | up, r :: rest => r.tbl ++ r.q = up ∧ r.tbl.length = c.length + r.k ∧ RInv c r.tbl rest

/-- `delivered ++ pend = prod`, and the chain hangs off `delivered` -/
def Inv (c : List α) (s : Chain α) : Prop := ∃ up, up ++ s.pend = s.prod ∧ RInv c up s.relays

theorem rinv_feed (c : List α) (x : List α) : ∀ (up : List α) (rs : List (Relay α)),
    RInv c up rs → RInv c (up ++ x) (feed rs x)
  | _, [], _ => trivial
  | up, r :: rest, h => by
    obtain ⟨h1, h2, h3⟩ := h
    exact ⟨by show r.tbl ++ (r.q ++ x) = up ++ x
              rw [← List.append_assoc, h1], h2, h3⟩

theorem rinv_take (c : List α) : ∀ (i : Nat) (up : List α) (rs : List (Relay α)), RInv c up rs → RInv c up (rs.take i)
  | 0, _, _, _ => by simp [RInv]
  | _+1, _, [], _ => trivial
  | i+1, up, r :: rest, h => by
    obtain ⟨h1, h2, h3⟩ := h
    exact ⟨h1, h2, rinv_take c i r.tbl rest h3⟩

theorem pollAt_inv (c : List α) (t : Nat) : ∀ (rs : List (Relay α)) (i : Nat) (up : List α),
    RInv c up rs → RInv c up (pollAt rs i t).1
  | [], _, _, _ => trivial
  | r :: rest, 0, up, h => by
    obtain ⟨h1, h2, h3⟩ := h
    have ⟨a, b, cc, _⟩ := recv_spec r.q r.tbl t
    refine ⟨?_, ?_, ?_⟩
    · show (recv true r.q r.tbl t).tbl ++ (recv true r.q r.tbl t).q = up
      rw [a]; exact h1
    · show (recv true r.q r.tbl t).tbl.length = c.length + (r.k + (recv true r.q r.tbl t).consumed)
      rw [b, List.length_append, cc, h2]; omega
    · show RInv c (recv true r.q r.tbl t).tbl (feed rest (recv true r.q r.tbl t).fwd)
      rw [b]; exact rinv_feed c _ _ _ h3
  | r :: rest, i+1, up, h => by
    obtain ⟨h1, h2, h3⟩ := h
    exact ⟨h1, h2, pollAt_inv c t rest i r.tbl h3⟩

theorem Inv.init (c : List α) (k : Nat) : Inv c (Chain.init c k) := by
  refine ⟨c, by simp [Chain.init], ?_⟩
  show RInv c c (List.replicate k { q := [], tbl := c, k := 0 })
  induction k with
  | zero => trivial
  | succ k ih => exact ⟨by simp, rfl, ih⟩

theorem step_inv (c : List α) (s : Chain α) (e : Ev α) (h : Inv c s) : Inv c (stepEv s e).1 := by
  obtain ⟨up, h1, h2⟩ := h
  cases e with
  | create ns => exact ⟨up, by simp [stepEv, ← h1], h2⟩
  | deliver k =>
    refine ⟨up ++ s.pend.take k, ?_, rinv_feed c _ _ _ h2⟩
    show up ++ s.pend.take k ++ s.pend.drop k = s.prod
    rw [List.append_assoc, List.take_append_drop]; exact h1
  | poll i t => exact ⟨up, h1, pollAt_inv c t _ i up h2⟩
  | prodPoll t => exact ⟨up, h1, h2⟩
  | dropFrom i => exact ⟨up, h1, rinv_take c i up _ h2⟩

theorem run_inv (c : List α) (evs : List (Ev α)) (s : Chain α) (h : Inv c s) : Inv c (run evs s) :=
  List.foldlRecOn (motive := Inv c) evs _ h fun s hs e _ => step_inv c s e hs

theorem rinv_mem (c : List α) : ∀ (up : List α) (rs : List (Relay α)), RInv c up rs →
    ∀ r ∈ rs, r.tbl <+: up ∧ r.tbl.length = c.length + r.k
  | _, [], _ => fun _ hr => by cases hr
  | up, r :: rest, h => by
    have hpre : r.tbl <+: up := ⟨r.q, h.1⟩
    intro r' hr'
    rcases List.mem_cons.mp hr' with rfl | hm
    · exact ⟨hpre, h.2.1⟩
    · have := rinv_mem c r.tbl rest h.2.2 r' hm
      exact ⟨this.1.trans hpre, this.2⟩

theorem rinv_sorted (c : List α) : ∀ (up : List α) (rs : List (Relay α)), RInv c up rs →
    rs.Pairwise (fun a b => b.k ≤ a.k)
  | _, [], _ => List.Pairwise.nil
  | up, r :: rest, h => by
    refine List.Pairwise.cons (fun b hb => ?_) (rinv_sorted c r.tbl rest h.2.2)
    have ⟨hp, hl⟩ := rinv_mem c r.tbl rest h.2.2 b hb
    have := hp.length_le
    have := h.2.1
    omega

theorem rinv_drained (c : List α) : ∀ (up : List α) (rs : List (Relay α)), RInv c up rs → (∀ r ∈ rs, r.q = []) →
    ∀ r ∈ rs, r.tbl = up
  | _, [], _, _ => fun _ hr => by cases hr
  | up, r :: rest, h, hq => by
    obtain ⟨h1, _, h3⟩ := h
    have hr : r.tbl = up := by
      have := hq r (List.mem_cons_self ..)
      rw [this, List.append_nil] at h1; exact h1
    intro r' hr'
    rcases List.mem_cons.mp hr' with rfl | hm
    · exact hr
    · rw [← hr]
      exact rinv_drained c r.tbl rest h3 (fun x hx => hq x (List.mem_cons_of_mem _ hx)) r' hm

theorem Inv.mirror {c : List α} {s : Chain α} (h : Inv c s) :
    (∀ r ∈ s.relays, r.tbl = s.prod.take (c.length + r.k) ∧ c.length + r.k ≤ s.prod.length) ∧
    s.relays.Pairwise (fun a b => b.k ≤ a.k) := by
  obtain ⟨up, h1, h2⟩ := h
  refine ⟨fun r hr => ?_, rinv_sorted c up _ h2⟩
  have ⟨hp, hl⟩ := rinv_mem c up _ h2 r hr
  have hP : r.tbl <+: s.prod := hp.trans ⟨s.pend, h1⟩
  rw [← hl]
  exact ⟨List.prefix_iff_eq_take.mp hP, hP.length_le⟩

theorem Inv.drained {c : List α} {s : Chain α} (h : Inv c s) (hp : s.pend = []) (hq : ∀ r ∈ s.relays, r.q = []) :
    ∀ r ∈ s.relays, r.tbl = s.prod := by
  obtain ⟨up, h1, h2⟩ := h
  rw [hp, List.append_nil] at h1
  rw [← h1]
  exact rinv_drained c up _ h2 hq

theorem feed_length (x : List α) (rs : List (Relay α)) : (feed rs x).length = rs.length := by
  cases rs <;> rfl

theorem pollAt_found (t : Nat) : ∀ (rs : List (Relay α)) (i : Nat),
    (pollAt rs i t).1.length = rs.length ∧
    ((pollAt rs i t).2 = none ↔ rs.length ≤ i) ∧
    (∀ r, (pollAt rs i t).1[i]? = some r → ((pollAt rs i t).2 = some true ↔ t < r.tbl.length))
  | [], i => by simp [pollAt]
  | r :: rest, 0 => by
    refine ⟨by simp [pollAt, feed_length], by simp [pollAt], ?_⟩
    intro r' hr'
    simp only [pollAt, List.getElem?_cons_zero, Option.some.injEq] at hr' ⊢
    subst hr'
    exact (recv_spec r.q r.tbl t).2.2.2
  | r :: rest, i+1 => by
    have ⟨a, b, cc⟩ := pollAt_found t rest i
    refine ⟨by simp [pollAt, a], ?_, ?_⟩
    · simp only [pollAt, List.length_cons]; rw [b]; omega
    · intro r' hr'
      simp only [pollAt, List.getElem?_cons_succ] at hr' ⊢
      exact cc r' hr'

/-- a poll only touches store `i` (table, inbox, counter) and the inbox of store `i+1` -/
theorem pollAt_others (t : Nat) : ∀ (rs : List (Relay α)) (i j : Nat), j ≠ i →
    ((pollAt rs i t).1[j]?).map (fun r => (r.tbl, r.k)) = (rs[j]?).map (fun r => (r.tbl, r.k))
  | [], _, _, _ => by simp [pollAt]
  | r :: rest, 0, j, hj => by
    cases j with
    | zero => exact absurd rfl hj
    | succ j =>
      simp only [pollAt, List.getElem?_cons_succ]
      cases rest with
      | nil => rfl
      | cons r2 rest' => cases j <;> rfl
  | r :: rest, i+1, j, hj => by
    cases j with
    | zero => rfl
    | succ j =>
      simp only [pollAt, List.getElem?_cons_succ]
      exact pollAt_others t rest i j (by omega)

/-- everything upstream of the inbox of store `i` -/
def upstream (i : Nat) (s : Chain α) : List α × List α × List (Relay α) := (s.prod, s.pend, s.relays.take i)

/-- events that concern only stores `i, i+1, …`: their polls, and their being dropped -/
def downstreamEv (i : Nat) : Ev α → Bool
  | .poll j _ => decide (i ≤ j)
  | .dropFrom j => decide (i ≤ j)
  | _ => false

/-! Cutting the chain after store `i - 1` commutes with every event that concerns the stores before `i`. -/

theorem feed_take (x : List α) : ∀ (rs : List (Relay α)) (i : Nat), (feed rs x).take i = feed (rs.take i) x
  | _, 0 => rfl
  | [], _+1 => rfl
  | _ :: _, _+1 => rfl

theorem pollAt_take (t : Nat) : ∀ (rs : List (Relay α)) (j i : Nat), j < i →
    (pollAt rs j t).1.take i = (pollAt (rs.take i) j t).1 ∧ (pollAt rs j t).2 = (pollAt (rs.take i) j t).2
  | [], _, i, _ => by simp [pollAt]
  | r :: rest, 0, i+1, _ => by simp only [pollAt, List.take_succ_cons, feed_take, and_self]
  | r :: rest, j+1, i+1, h => by
    have ⟨a, b⟩ := pollAt_take t rest j i (by omega)
    simp only [pollAt, List.take_succ_cons, a, b, and_self]

theorem pollAt_take_ge (t : Nat) : ∀ (rs : List (Relay α)) (j i : Nat), i ≤ j → (pollAt rs j t).1.take i = rs.take i
  | [], _, i, _ => by simp [pollAt]
  | r :: rest, j, 0, _ => by simp
  | r :: rest, j+1, i+1, h => by
    simp only [pollAt, List.take_succ_cons]
    rw [pollAt_take_ge t rest j i (by omega)]

theorem upstream_cut (i : Nat) (s : Chain α) (e : Ev α) (hd : downstreamEv i e = false) :
    upstream i (stepEv s e).1 = upstream i (stepEv { s with relays := s.relays.take i } e).1 ∧
    (stepEv s e).2 = (stepEv { s with relays := s.relays.take i } e).2 := by
  have tt : (s.relays.take i).take i = s.relays.take i := by rw [List.take_take, Nat.min_self]
  cases e with
  | create ns => simp [stepEv, upstream, tt]
  | deliver k => simp [stepEv, upstream, feed_take, tt]
  | poll j t =>
    have hj : j < i := by simpa [downstreamEv] using hd
    have ⟨a, b⟩ := pollAt_take t s.relays j i hj
    have ⟨a', _⟩ := pollAt_take t (s.relays.take i) j i hj
    rw [tt] at a'
    simp only [stepEv, upstream, a, a', b, and_self]
  | prodPoll t => simp [stepEv, upstream, tt]
  | dropFrom j =>
    have hj : j < i := by simpa [downstreamEv] using hd
    simp [stepEv, upstream, List.take_take, Nat.min_eq_left (Nat.le_of_lt hj)]

theorem upstream_step (i : Nat) (s s' : Chain α) (e : Ev α) (h : upstream i s = upstream i s')
    (hd : downstreamEv i e = false) :
    upstream i (stepEv s e).1 = upstream i (stepEv s' e).1 ∧ (stepEv s e).2 = (stepEv s' e).2 := by
  have hc : ({ s with relays := s.relays.take i } : Chain α) = { s' with relays := s'.relays.take i } := by
    simp only [upstream, Prod.mk.injEq] at h
    rw [h.1, h.2.1, h.2.2]
  have a := upstream_cut i s e hd
  have b := upstream_cut i s' e hd
  rw [a.1, a.2, b.1, b.2, hc]
  exact ⟨rfl, rfl⟩

theorem upstream_downstreamEv (i : Nat) (s : Chain α) (e : Ev α) (hd : downstreamEv i e = true) :
    upstream i (stepEv s e).1 = upstream i s := by
  cases e with
  | create ns => simp [downstreamEv] at hd
  | deliver k => simp [downstreamEv] at hd
  | prodPoll t => simp [downstreamEv] at hd
  | poll j t =>
    have hj : i ≤ j := by simpa [downstreamEv] using hd
    simp only [stepEv, upstream]
    rw [pollAt_take_ge t _ j i hj]
  | dropFrom j =>
    have hj : i ≤ j := by simpa [downstreamEv] using hd
    simp only [stepEv, upstream]
    rw [List.take_take]
    have : min i j = i := by omega
    rw [this]

/-- **a relay keeps mirroring whatever happens behind it.** For every schedule, deleting all events that concern
the stores `i, i+1, …` (their polls, their being dropped at any point) leaves producer, pending messages and
the stores `0 … i-1` - tables, inboxes, counters - exactly as they are -/
theorem upstream_independent (i : Nat) (evs : List (Ev α)) :
    ∀ s s' : Chain α, upstream i s = upstream i s' →
      upstream i (run evs s) = upstream i (run (evs.filter (fun e => !downstreamEv i e)) s') := by
  induction evs with
  | nil => intro s s' h; simpa [run] using h
  | cons e evs ih =>
    intro s s' h
    cases hd : downstreamEv i e with
    | true =>
      simp only [run, List.foldl_cons, List.filter_cons, hd, Bool.not_true, Bool.false_eq_true, if_false]
      exact ih _ _ (by rw [upstream_downstreamEv i s e hd]; exact h)
    | false =>
      simp only [run, List.foldl_cons, List.filter_cons, hd, Bool.not_false, if_true]
      exact ih _ _ (upstream_step i s s' e h hd).1

def pollSeq (rs : List (Relay α)) (js : List Nat) (T : Nat) : List (Relay α) :=
  js.foldl (fun rs j => (pollAt rs j T).1) rs

theorem pollSeq_cons_succ (T : Nat) (r : Relay α) (js : List Nat) (X : List (Relay α)) :
    pollSeq (r :: X) (js.map (· + 1)) T = r :: pollSeq X js T := by
  rw [pollSeq, List.foldl_map]
  exact List.foldl_hom (r :: ·) fun _ _ => rfl

/-- polling every store once, front to back, for a handle beyond the upstream table
empties every channel and makes every table equal to the upstream table -/
theorem drain_all (c : List α) (T : Nat) : ∀ (n : Nat) (rs : List (Relay α)) (up : List α), rs.length = n →
    RInv c up rs → up.length ≤ T → ∀ r ∈ pollSeq rs (List.range n) T, r.q = [] ∧ r.tbl = up
  | 0, rs, _, hl, _, _ => by
    have : rs = [] := List.eq_nil_of_length_eq_zero hl
    subst this; intro r hr; cases hr
  | n+1, [], _, hl, _, _ => by cases hl
  | n+1, r :: rest, up, hl, h, hT => by
    have hp := pollAt_inv c T (r :: rest) 0 up h
    have ⟨_, e1, e2⟩ := recv_beyond r.q r.tbl T (by rw [← List.length_append, h.1]; exact hT)
    rw [h.1] at e2
    rw [List.range_succ_eq_map]
    show ∀ r' ∈ pollSeq (pollAt (r :: rest) 0 T).1 ((List.range n).map (· + 1)) T, _
    simp only [pollAt] at hp ⊢
    rw [pollSeq_cons_succ]
    intro r' hr'
    rcases List.mem_cons.mp hr' with rfl | hm
    · exact ⟨e1, e2⟩
    · exact drain_all c T n _ up (by rw [feed_length]; simpa using hl) (e2 ▸ hp.2.2) hT r' hm

theorem run_polls (T : Nat) (js : List Nat) (s : Chain α) :
    run (js.map (fun j => Ev.poll j T)) s = { s with relays := pollSeq s.relays js T } := by
  rw [run, pollSeq, List.foldl_map]
  exact List.foldl_hom (g₂ := fun s j => (stepEv s (.poll j T)).1) (fun rs => { s with relays := rs }) fun _ _ => rfl

/-- from ANY reachable state: deliver what is pending, then let store 0, store 1, … each ask for a handle
beyond the producer's table: every channel is empty and every table equals the producer's -/
theorem Inv.drain {c : List α} {s : Chain α} (h : Inv c s) (T : Nat) (hT : s.prod.length ≤ T) :
    let s' := run (Ev.deliver s.pend.length :: (List.range s.relays.length).map (fun j => Ev.poll j T)) s
    s'.prod = s.prod ∧ s'.pend = [] ∧ ∀ r ∈ s'.relays, r.q = [] ∧ r.tbl = s.prod := by
  intro s'
  have h1 : Inv c (stepEv s (.deliver s.pend.length)).1 := step_inv c s _ h
  have e : s' = run ((List.range s.relays.length).map (fun j => Ev.poll j T)) (stepEv s (.deliver s.pend.length)).1 := rfl
  rw [run_polls] at e
  obtain ⟨up, u1, u2⟩ := h1
  have hpend : (stepEv s (.deliver s.pend.length)).1.pend = [] := by simp [stepEv]
  rw [hpend, List.append_nil] at u1
  have hup : up = s.prod := u1
  refine ⟨by rw [e]; rfl, by rw [e]; exact hpend, ?_⟩
  intro r hr
  rw [e] at hr
  have := drain_all c T s.relays.length (stepEv s (.deliver s.pend.length)).1.relays up
    (by simp [stepEv, feed_length]) u2 (by rw [hup]; exact hT) r hr
  rw [hup] at this; exact this

theorem stepEv_length_le (x : Chain α) (e : Ev α) : (stepEv x e).1.relays.length ≤ x.relays.length := by
  cases e with
  | create ns => exact Nat.le_refl _
  | deliver n => simp [stepEv, feed_length]
  | poll j t => simp [stepEv, (pollAt_found t x.relays j).1]
  | prodPoll t => exact Nat.le_refl _
  | dropFrom j => simp only [stepEv, List.length_take]; omega

theorem run_length_le (es : List (Ev α)) (x : Chain α) : (run es x).relays.length ≤ x.relays.length :=
  List.foldlRecOn (motive := fun y => y.relays.length ≤ x.relays.length) es _ (Nat.le_refl _)
    fun y hy e _ => Nat.le_trans (stepEv_length_le y e) hy

theorem length_after_drop (i : Nat) (evs more : List (Ev α)) (x : Chain α) :
    (run (evs ++ [.dropFrom i] ++ more) x).relays.length ≤ i := by
  simp only [run, List.foldl_append, List.foldl_cons, List.foldl_nil]
  refine Nat.le_trans (run_length_le more _) ?_
  simp only [stepEv, List.length_take]; omega

/-! ## the one-relay system of `StreamFull` is the chain of length 2 -/

def ofSys (s : Sys α) : Chain α :=
  { prod := s.prod, pend := s.pend,
    relays := [{ q := s.q1, tbl := s.relay, k := s.k1 }, { q := s.q2, tbl := s.recv, k := s.k2 }] }

def ofEv : StreamF.Ev α → Ev α
  | .create ns => .create ns
  | .deliver k => .deliver k
  | .relayPoll t => .poll 0 t
  | .recvPoll t => .poll 1 t
  | .prodPoll t => .prodPoll t

theorem ofSys_step (s : Sys α) (e : StreamF.Ev α) :
    ofSys (StreamF.stepEv s e).1 = (stepEv (ofSys s) (ofEv e)).1 ∧
    (∀ b, (StreamF.stepEv s e).2 = some b → (stepEv (ofSys s) (ofEv e)).2 = some b) := by
  cases e <;> simp [ofSys, ofEv, StreamF.stepEv, stepEv, pollAt, feed]

theorem ofSys_run (evs : List (StreamF.Ev α)) (s : Sys α) : ofSys (StreamF.run evs s) = run (evs.map ofEv) (ofSys s) := by
  rw [run, List.foldl_map]
  exact (List.foldl_hom ofSys fun x e => (ofSys_step x e).1.symm).symm

theorem ofSys_init (c : List α) : ofSys (Sys.init c) = Chain.init c 2 := rfl

/-! ## the producer is a real diagram store -/

structure PChain where
  st : Store
  hist : List Nat
  ch : Chain Node

inductive PEv where
  | op (o : Op)
  | ev (e : Ev Node)

def PChain.init (k : Nat) : PChain := { st := Store.init, hist := [0, 1], ch := Chain.init Store.init.nodes.toList k }

def pstep (p : PChain) : PEv → PChain × Option Bool
  | .op o =>
    let r := stepOp p.st p.hist o
    ({ st := r.1, hist := p.hist ++ [r.2], ch := (stepEv p.ch (.create (created p.st r.1))).1 }, none)
  | .ev e => let r := stepEv p.ch e; ({ p with ch := r.1 }, r.2)

def prun (evs : List PEv) (p : PChain) : PChain := evs.foldl (fun p e => (pstep p e).1) p

/-- operations refer to issued history positions; only the producer creates nodes -/
def pevsValid : List PEv → Nat → Prop
  | [], _ => True
  | .op o :: es, len => o.valid len ∧ pevsValid es (len + 1)
  | .ev (.create _) :: _, _ => False
  | .ev _ :: es, len => pevsValid es len

structure PInv (p : PChain) : Prop where
  wf : WF p.st
  hist : ∃ fs, HistOK p.st p.hist fs
  tbl : p.ch.prod = p.st.nodes.toList
  inv : Inv Store.init.nodes.toList p.ch

theorem PInv.init (k : Nat) : PInv (PChain.init k) := ⟨WF_init, ⟨_, HistOK.init⟩, rfl, Inv.init _ k⟩

theorem pstep_inv (p : PChain) (e : PEv) (es : List PEv) (h : PInv p) (hv : pevsValid (e :: es) p.hist.length) :
    PInv (pstep p e).1 ∧ pevsValid es (pstep p e).1.hist.length := by
  obtain ⟨w, ⟨fs, hh⟩, ht, hi⟩ := h
  cases e with
  | op o =>
    have ⟨w', hh', hs⟩ := stepOp_sends w hh hv.1
    exact ⟨⟨w', hh', (congrArg (· ++ _) ht).trans hs.symm, step_inv _ _ _ hi⟩, by simpa [pstep] using hv.2⟩
  | ev e =>
    cases e with
    | create ns => exact hv.elim
    | _ => exact ⟨⟨w, ⟨fs, hh⟩, ht, step_inv _ _ _ hi⟩, hv⟩

theorem prun_inv : ∀ (evs : List PEv) (p : PChain), PInv p → pevsValid evs p.hist.length → PInv (prun evs p)
  | [], _, h, _ => h
  | e :: evs, p, h, hv =>
    have ⟨h', hv'⟩ := pstep_inv p e evs h hv
    prun_inv evs _ h' hv'

end StreamC

/-! ## the one-relay system as the chain of length 2: its invariant is the chain's -/
namespace StreamF
open StreamC (ofSys ofEv)

variable {α : Type}

theorem inv_ofSys (c : List α) (s : Sys α) : Inv c s ↔ StreamC.Inv c (ofSys s) :=
  ⟨fun ⟨h1, h2, l1, l2⟩ => ⟨s.relay ++ s.q1, h1, rfl, l1, h2, l2, trivial⟩,
   fun ⟨_, a, b, l1, d, l2, _⟩ => ⟨by rw [b]; exact a, d, l1, l2⟩⟩

theorem step_inv (c : List α) (s : Sys α) (e : Ev α) (h : Inv c s) : Inv c (stepEv s e).1 := by
  rw [inv_ofSys, (StreamC.ofSys_step s e).1]
  exact StreamC.step_inv c _ _ ((inv_ofSys c s).mp h)

theorem run_inv (c : List α) (evs : List (Ev α)) (s : Sys α) (h : Inv c s) : Inv c (run evs s) := by
  rw [inv_ofSys, StreamC.ofSys_run]
  exact StreamC.run_inv c _ _ ((inv_ofSys c s).mp h)

theorem Inv.mirror {c : List α} {s : Sys α} (h : Inv c s) :
    s.relay = s.prod.take (c.length + s.k1) ∧ s.recv = s.prod.take (c.length + s.k2) ∧
    s.k2 ≤ s.k1 ∧ c.length + s.k1 ≤ s.prod.length := by
  have ⟨a, b⟩ := ((inv_ofSys c s).mp h).mirror
  have ⟨r1, e1⟩ := a ⟨s.q1, s.relay, s.k1⟩ (List.mem_cons_self ..)
  have ⟨r2, _⟩ := a ⟨s.q2, s.recv, s.k2⟩ (List.mem_cons_of_mem _ (List.mem_cons_self ..))
  exact ⟨r1, r2, (List.pairwise_cons.mp b).1 _ (List.mem_cons_self ..), e1⟩

theorem PInv.init : PInv PSys.init :=
  ⟨WF_init, ⟨_, HistOK.init⟩, rfl, Inv.init _⟩

theorem pstep_inv (p : PSys) (e : PEv) (es : List PEv) (h : PInv p) (hv : pevsValid (e :: es) p.hist.length) :
    PInv (pstep p e).1 ∧ pevsValid es (pstep p e).1.hist.length := by
  obtain ⟨w, ⟨fs, hh⟩, ht, hi⟩ := h
  cases e with
  | op o =>
    have ⟨w', hh', hs⟩ := stepOp_sends w hh hv.1
    exact ⟨⟨w', hh', (congrArg (· ++ _) ht).trans hs.symm, step_inv _ _ _ hi⟩, by simpa [pstep] using hv.2⟩
  | ev e =>
    cases e with
    | create ns => exact hv.elim
    | _ => exact ⟨⟨w, ⟨fs, hh⟩, ht, step_inv _ _ _ hi⟩, hv⟩

theorem prun_inv : ∀ (evs : List PEv) (p : PSys), PInv p → pevsValid evs p.hist.length → PInv (prun evs p)
  | [], _, h, _ => h
  | e :: evs, p, h, hv =>
    have ⟨h', hv'⟩ := pstep_inv p e evs h hv
    prun_inv evs _ h' hv'

end StreamF

