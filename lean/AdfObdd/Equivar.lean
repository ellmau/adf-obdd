import AdfObdd.Lfp
/-! the consequence operator commutes with reordering/renaming of statements; hence its fixpoints (and, in
    EquivarMore.lean, the grounded and the stable answers), read as maps from statements to truth values, do not
    depend on the variable order (C10, specification level) -/

/-- `D'` is `D` presented in another order: statement `i` sits at position `p i`,
and every variable `k` is called `p k` -/
structure Renamed (p q : Nat → Nat) (D D' : List BoolFn) : Prop where
  inv1 : ∀ k, q (p k) = k
  inv2 : ∀ k, p (q k) = k
  len : D'.length = D.length
  range : ∀ i, i < D.length → p i < D.length
  rangeq : ∀ j, j < D.length → q j < D.length
  fn : ∀ i f, D[i]? = some f → D'[p i]? = some (fun σ' => f (fun k => σ' (p k)))

def RenamedI (p : Nat → Nat) (n : Nat) (w w' : I3) : Prop :=
  w'.length = n ∧ w.length = n ∧ ∀ i, i < n → w'[p i]? = w[i]?

theorem RenamedI.symm {p q : Nat → Nat} {n : Nat} {w w' : I3} (inv2 : ∀ k, p (q k) = k)
    (rangeq : ∀ j, j < n → q j < n) (h : RenamedI p n w w') : RenamedI q n w' w := by
  refine ⟨h.2.1, h.1, ?_⟩
  intro j hj
  have := h.2.2 (q j) (rangeq j hj)
  rw [inv2 j] at this
  exact this.symm

theorem over_rename (p q : Nat → Nat) (n : Nat) (w w' : I3) (hq : ∀ k, q (p k) = k)
    (hrq : ∀ j, j < n → q j < n) (h : RenamedI p n w w') (σ' : Asg) (k : Nat) :
    over σ' 0 w' (p k) = over (fun j => σ' (p j)) 0 w k := by
  rw [over_zero_apply, over_zero_apply]
  obtain ⟨hl', hl, hw⟩ := h
  rcases Nat.lt_or_ge k n with hk | hk
  · rw [hw k hk]
  · -- outside the statements nothing is decided on either side:
    -- p maps [0,n) onto [0,n), so it maps the outside to the outside
    have hpk : n ≤ p k := Nat.le_of_not_lt fun hlt => by
      have := hrq (p k) hlt
      rw [hq k] at this; omega
    rw [List.getElem?_eq_none (by omega : w.length ≤ k),
      List.getElem?_eq_none (by omega : w'.length ≤ p k)]

theorem constOf_surj (f : BoolFn) (g : Asg → Asg) (hs : ∀ σ, ∃ σ', g σ' = σ) :
    constOf (fun σ' => f (g σ')) = constOf f :=
  eq_constOf fun _ => constOf_some.trans
    ⟨fun h σ => let ⟨σ', e⟩ := hs σ; e ▸ h σ', fun h σ' => h (g σ')⟩

/-- C10 core: position `p i` of `Γ_{D'}(w')` equals position `i` of `Γ_D(w)` -/
theorem Gam_renamed (p q : Nat → Nat) (D D' : List BoolFn) (w w' : I3) (h : Renamed p q D D')
    (hw : RenamedI p D.length w w') :
    RenamedI p D.length (Gam D w) (Gam D' w') := by
  refine ⟨by rw [Gam_length, h.len], Gam_length D w, ?_⟩
  intro i hi
  have hf : D[i]? = some D[i] := List.getElem?_eq_getElem hi
  have hf' := h.fn i D[i] hf
  simp only [Gam, List.getElem?_map, hf, hf', Option.map_some]
  congr 1
  have hover : ∀ σ', (fun k => over σ' 0 w' (p k)) = over (fun j => σ' (p j)) 0 w := by
    intro σ'; funext k
    exact over_rename p q D.length w w' h.inv1 h.rangeq hw σ' k
  simp only [hover]
  exact constOf_surj (fun σ => D[i] (over σ 0 w)) (fun σ' j => σ' (p j))
    (fun σ => ⟨fun j => σ (q j), by funext j; simp [h.inv1]⟩)

/-- fixpoints correspond: complete interpretations are the same up to the presentation -/
theorem complete_renamed (p q : Nat → Nat) (D D' : List BoolFn) (w w' : I3) (h : Renamed p q D D')
    (hw : RenamedI p D.length w w') : Gam D w = w → Gam D' w' = w' := by
  intro hfix
  have hG := Gam_renamed p q D D' w w' h hw
  rw [hfix] at hG
  -- both `Gam D' w'` and `w'` are the `p`-presentation of `w`; positions `p i` exhaust `[0,n)`
  apply List.ext_getElem?
  intro j
  rcases Nat.lt_or_ge j D.length with hj | hj
  · rw [← (RenamedI.symm h.inv2 h.rangeq hG).2.2 j hj, ← (RenamedI.symm h.inv2 h.rangeq hw).2.2 j hj]
  · rw [List.getElem?_eq_none (by rw [hG.1]; exact hj), List.getElem?_eq_none (by rw [hw.1]; exact hj)]
#print axioms complete_renamed
