import AdfObdd.ServerCmdProofs
/-! # C17 — command granularity: a response is a function of what the request's OWN commands returned

`ServerCmdProofs.RInv` says where the problem DATA in a response comes from (documents returned to the
request's own finds). This file adds the functional dependence: under every schedule, the remaining
program of a request in flight - in particular its response, once it has reached it - is determined by
the request itself (jar, identity decoded at arrival, payload) and the list of results the database
returned to the commands THIS request issued (`Fed`, `Fed.det`); whatever the other requests in flight
did in between is visible to it only through those results. All problem documents among those results
carry the user name of the command's filter (`foundBy_of_rok`). -/
namespace ServerCmd
open ServerM
section
variable {T H A R : Type}

abbrev Answer (T H A R : Type) := (c : DbCmd T H A R) × c.Res

/-- `Fed p rs q`: the program `p`, given the results `rs` to its successive commands, has become `q` -/
inductive Fed : P T H A R → List (Answer T H A R) → P T H A R → Prop
  | nil (p : P T H A R) : Fed p [] p
  | cons (c : DbCmd T H A R) (k : c.Res → P T H A R) (r : c.Res) (rs : List (Answer T H A R)) (q : P T H A R) :
      Fed (k r) rs q → Fed (.cmd c k) (⟨c, r⟩ :: rs) q

theorem Fed.det {p q q' : P T H A R} {rs : List (Answer T H A R)} (h : Fed p rs q) (h' : Fed p rs q') : q = q' := by
  induction h with
  | nil p => cases h'; rfl
  | cons c k r rs q _ ih =>
    cases h' with
    | cons _ _ _ _ _ h2 => exact ih h2

theorem Fed.snoc {p : P T H A R} {rs : List (Answer T H A R)} {c : DbCmd T H A R} {k : c.Res → P T H A R}
    (h : Fed p rs (.cmd c k)) (r : c.Res) : Fed p (rs ++ [⟨c, r⟩]) (k r) := by
  generalize hq : (Prog.cmd c k : P T H A R) = q at h
  induction h with
  | nil p => subst hq; exact Fed.cons c k r [] _ (Fed.nil _)
  | cons c' k' r' rs q _ ih => exact Fed.cons c' k' r' _ _ (ih hq)

variable [DecidableEq T]

/-- the invariant: every request in flight is its handler program fed with results that `exec` gave to
its own commands (so that the guarantees `Rok` of the database apply to them: in particular every problem
document among them carries the user name of its command's filter, `foundBy_of_rok`) -/
def FedInv (E : Env T H A R) (s : CState T H A R) : Prop :=
  ∀ f ∈ s.pool, ∃ rs, Fed (handler E f.jar f.id f.req) rs f.prog ∧ ∀ a ∈ rs, Rok a.1 a.2

theorem FedInv.step (E : Env T H A R) (s : CState T H A R) (a : Act T) (inv : FedInv E s) : FedInv E (stepC E s a) := by
  rcases stepC_cases E s a with h | ⟨rq, h⟩ | ⟨i, f, c, k, hi, hp, h⟩ | ⟨i, f, r, hi, hp, h⟩ | ⟨e, h⟩
  · rw [h]; exact inv
  · rw [h]
    intro f hf
    rcases List.mem_append.mp hf with hf | hf
    · exact inv f hf
    · rw [List.mem_singleton.mp hf]
      exact ⟨[], Fed.nil _, by intro a ha; cases ha⟩
  · rw [h]
    obtain ⟨rs, hfed, hok⟩ := inv f (List.mem_of_getElem? hi)
    rw [hp] at hfed
    intro g hg
    rcases List.mem_or_eq_of_mem_set hg with h | h
    · exact inv g h
    · rw [h]
      refine ⟨rs ++ [⟨c, (exec s.db c).2⟩], hfed.snoc _, ?_⟩
      intro a ha
      rcases List.mem_append.mp ha with ha | ha
      · exact hok a ha
      · rw [List.mem_singleton.mp ha]; exact exec_rok s.db c
  · rw [h]; exact fun g hg => inv g (List.mem_of_mem_eraseIdx hg)
  · rw [h]; exact inv

theorem FedInv.reach (E : Env T H A R) (as : List (Act T)) : FedInv E (runC E {} as) :=
  runC_inv E (FedInv E) (FedInv.step E) as {} (by intro f hf; cases hf)

theorem Fed.allCmds {Q : Cmd T H A R → Prop} {L : Resp T R → Prop} {p q : P T H A R} {rs : List (Answer T H A R)}
    (hf : Fed p rs q) : AllCmds Q L p → (∀ a ∈ rs, Rok a.1 a.2) → (∀ a ∈ rs, Q a.1) ∧ AllCmds Q L q := by
  induction hf with
  | nil p => intro h _; exact ⟨(by intro a ha; cases ha), h⟩
  | cons c k r rs q _ ih =>
    intro h hr
    cases h with
    | cmd _ _ hq hk =>
      have := ih (hk r (hr ⟨c, r⟩ (List.mem_cons_self ..))) (fun a ha => hr a (List.mem_cons_of_mem _ ha))
      refine ⟨?_, this.2⟩
      intro a ha
      rcases List.mem_cons.mp ha with h | h
      · subst h; exact hq
      · exact this.1 a h

end
end ServerCmd
