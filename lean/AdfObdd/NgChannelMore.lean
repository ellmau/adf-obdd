import AdfObdd.NgChannel
import AdfObdd.ChannelZero
import AdfObdd.ChannelClones
import AdfObdd.ChannelDrop
import AdfObdd.NgStoreAfter
/-! # The nogood search on the extended channel models

Instances of `ChannelZero` (`bounded(0)`), `ChannelClones` (several searches on clones of one sender) and
`ChannelDrop` (receiver dropped early) with the producer `NConc.ngProducer` of NgChannel.lean. -/
namespace NConc

def chanRunZ (hc : CHeu) (sched : List Chan.Ev) (s : Store) (n : Nat) (ac : List Nat) (stable : Bool) :
    Chan.Cfg SM.NgS (List Nat) :=
  Chan.Zero.run (ngProducer hc n ac stable) sched (Chan.init (initC s n ac))

theorem rendezvous_delivers (hc : CHeu) (s : Store) (n : Nat) (ac : List Nat) (stable : Bool) {fuel : Nat}
    (hd : (cSearch hc fuel s n ac stable).2.2.2 = true) (sched : List Chan.Ev) :
    let c := chanRunZ hc sched s n ac stable
    let res := (cSearch hc fuel s n ac stable).2.1
    (c.got <+: res ∧ c.buf = []) ∧
    (c.closed = true → c.got = res ∧ c.log = res.map Chan.ChEv.send ++ [Chan.ChEv.close]) ∧
    (c.consDone = true → c.got = res ∧ c.closed = true) ∧
    (∀ m, Chan.Fair m sched → fuel + res.length + 1 + res.length + 1 ≤ m → c.consDone = true) := by
  have := Chan.Zero.delivers (ngProducer_mono hc n ac stable) (done_runG hc s n ac stable hd) sched
  rw [out_runG hc s n ac stable fuel] at this
  exact this

/-- search + channel + consumer with the event "the consumer drops the receiver" -/
def chanRunD (hc : CHeu) (cap : Option Nat) (sched : List Chan.DEv) (s : Store) (n : Nat) (ac : List Nat) (stable : Bool) :
    Chan.DCfg SM.NgS (List Nat) :=
  Chan.drun (ngProducer hc n ac stable) cap sched ⟨Chan.init (initC s n ac), false, false⟩

/-- **the `expect` at the send site panics.** After any schedule `sched` (receiver still there) in which fewer
models were handed to the channel than the search finds in total, the consumer drops the receiver; then every
continuation `more` with more than `fuel` producer steps ends with the producer thread panicked, and the
consumer has exactly what it had received at the moment of the drop -/
theorem receiver_dropped_panics (hc : CHeu) (cap : Option Nat) (s : Store) (n : Nat) (ac : List Nat) (stable : Bool)
    {fuel : Nat} (hd : (cSearch hc fuel s n ac stable).2.2.2 = true) (sched : List Chan.Ev) (more : List Chan.DEv)
    (hlt : (chanRun hc cap sched s n ac stable).sent < (cSearch hc fuel s n ac stable).2.1.length)
    (hmore : fuel < more.count Chan.DEv.prod) :
    let c := chanRunD hc cap (sched.map Chan.Ev.toD ++ Chan.DEv.dropRecv :: more) s n ac stable
    c.panicked = true ∧ c.base.got = (chanRun hc cap sched s n ac stable).got := by
  intro c
  have hm := ngProducer_mono hc n ac stable
  have hN := done_runG hc s n ac stable hd
  have hc0 : c = Chan.drun (ngProducer hc n ac stable) cap more
      ⟨chanRun hc cap sched s n ac stable, true, false⟩ := by
    show Chan.drun _ cap (sched.map Chan.Ev.toD ++ Chan.DEv.dropRecv :: more) _ = _
    unfold Chan.drun
    rw [List.foldl_append]
    have := Chan.drun_no_drop (ngProducer hc n ac stable) cap sched (Chan.init (initC s n ac))
    unfold Chan.drun at this
    rw [this]
    rfl
  rw [hc0]
  constructor
  · apply Chan.recv_dropped_panics hm hN more _ (chanRun_inv hc cap s n ac stable sched) rfl
    · rw [out_runG hc s n ac stable fuel]; exact hlt
    · exact Nat.lt_of_le_of_lt (Nat.sub_le _ _) hmore
  · exact (Chan.drun_got_frozen _ cap more _ rfl).1

/-- the call `…_nogood_channel(heuristic, s.clone())` on the object whose store is `s` -/
def ngJob (hc : CHeu) (s : Store) (n : Nat) (ac : List Nat) (stable : Bool) : Chan.Job SM.NgS (List Nat) :=
  ⟨ngProducer hc n ac stable, initC s n ac, ngProducer_mono hc n ac stable⟩

/-- the calls `(heuristic, stable?, fuel)` made one after the other on ONE object: every search starts on the
store the previous one has left behind -/
def ngJobs (n : Nat) (ac : List Nat) : Store → List (CHeu × Bool × Nat) → List (Chan.Job SM.NgS (List Nat))
  | _, [] => []
  | s, (hc, stable, fuel) :: tl => ngJob hc s n ac stable :: ngJobs n ac (cSearch hc fuel s n ac stable).1 tl

/-- what the searches return, one list per call -/
def ngResults (n : Nat) (ac : List Nat) : Store → List (CHeu × Bool × Nat) → List (List (List Nat))
  | _, [] => []
  | s, (hc, stable, fuel) :: tl => (cSearch hc fuel s n ac stable).2.1 :: ngResults n ac (cSearch hc fuel s n ac stable).1 tl

/-- every call halts within its fuel -/
def ngAllDone (n : Nat) (ac : List Nat) : Store → List (CHeu × Bool × Nat) → Prop
  | _, [] => True
  | s, (hc, stable, fuel) :: tl =>
    (cSearch hc fuel s n ac stable).2.2.2 = true ∧ ngAllDone n ac (cSearch hc fuel s n ac stable).1 tl

theorem ngJob_halts (hc : CHeu) (s : Store) (n : Nat) (ac : List Nat) (stable : Bool) {fuel : Nat}
    (hd : (cSearch hc fuel s n ac stable).2.2.2 = true) :
    (ngJob hc s n ac stable).Halts (cSearch hc fuel s n ac stable).2.1 :=
  ⟨fuel, done_runG hc s n ac stable hd, out_runG hc s n ac stable fuel⟩

theorem ngJobs_halt (n : Nat) (ac : List Nat) : ∀ (calls : List (CHeu × Bool × Nat)) (s : Store),
    ngAllDone n ac s calls → Chan.AllHalt (ngJobs n ac s calls) (ngResults n ac s calls) := by
  intro calls
  induction calls with
  | nil => intro s _; exact Chan.AllHalt.nil
  | cons x tl ih =>
    intro s h
    obtain ⟨hc, stable, fuel⟩ := x
    exact Chan.AllHalt.cons (ngJob_halts hc s n ac stable h.1) (ih _ h.2)

/-- "exactly the models of `D`, each once" for a list of handle vectors -/
def ExactD (D : List BoolFn) (n : Nat) (stable : Bool) (res : List (List Nat)) : Prop :=
  let out := res.map (fun v => v.map storeIsConst)
  out.Nodup ∧ ∀ v : I3, v ∈ out ↔
    (v.length = n ∧ TotalI v ∧ Gam D v = v ∧
      (stable = true → ∀ w : I3, IsLfp (redu D v) w → ∀ i : Nat, v[i]? = some (some true) → w[i]? = some (some true)))

/-- every call returns exactly the models of `D` (stable or two-valued, as the call says) -/
def ngAllExact (n : Nat) (ac : List Nat) (D : List BoolFn) : Store → List (CHeu × Bool × Nat) → Prop
  | _, [] => True
  | s, (hc, stable, fuel) :: tl =>
    ExactD D n stable (cSearch hc fuel s n ac stable).2.1 ∧ ngAllExact n ac D (cSearch hc fuel s n ac stable).1 tl

theorem mem_ngResults_of_exact {n : Nat} {ac : List Nat} {D : List BoolFn} {stable : Bool} {v : I3}
    (hv : v.length = n ∧ TotalI v ∧ Gam D v = v ∧
      (stable = true → ∀ w : I3, IsLfp (redu D v) w → ∀ i : Nat, v[i]? = some (some true) → w[i]? = some (some true))) :
    ∀ (calls : List (CHeu × Bool × Nat)) (s : Store), ngAllExact n ac D s calls → (∃ c ∈ calls, c.2.1 = stable) →
      v ∈ (ngResults n ac s calls).flatten.map (fun v => v.map storeIsConst) := by
  intro calls
  induction calls with
  | nil => intro _ _ ⟨_, hc, _⟩; cases hc
  | cons x tl ih =>
    intro s h ⟨c, hc, hm⟩
    obtain ⟨hx, st, f⟩ := x
    simp only [ngResults, List.flatten_cons, List.map_append, List.mem_append]
    rcases List.mem_cons.mp hc with rfl | hc
    · subst hm; exact Or.inl ((h.1.2 v).mpr hv)
    · exact Or.inr (ih _ h.2 ⟨c, hc, hm⟩)

/-- fuels exist: for a well-formed object (and, if one of the calls is two-valued, conditions that depend on
the statements only) every list of heuristics/modes can be completed with fuels such that all calls halt; each
call - although it runs on the store the earlier calls have left behind - returns exactly the models of the
functions `D` the conditions denote -/
theorem ng_fuels_exist (n : Nat) (ac : List Nat) (D : List BoolFn) : ∀ (hs : List (CHeu × Bool)) (s : Store),
    (∀ x ∈ hs, HeuOK x.1) → WF s → ac.length = n → (∀ t ∈ ac, t < s.nodes.size) → ac.map (eval s) = D →
    ((∃ x ∈ hs, x.2 = false) → ∀ t ∈ ac, ∀ σ τ : Asg, (∀ i, i < n → σ i = τ i) → eval s t σ = eval s t τ) →
    ∃ calls : List (CHeu × Bool × Nat), calls.map (fun x => (x.1, x.2.1)) = hs ∧ ngAllDone n ac s calls ∧
      ngAllExact n ac D s calls := by
  intro hs
  induction hs with
  | nil => intro s _ _ _ _ _ _; exact ⟨[], rfl, trivial, trivial⟩
  | cons x tl ih =>
    intro s hok w hn hac hD hsup
    obtain ⟨hc, stable⟩ := x
    obtain ⟨fuel, hd, hex⟩ := search_exact_any_heuristic hc (hok _ (List.mem_cons_self ..)) s n ac stable w hn hac
      (fun hst => hsup ⟨(hc, stable), List.mem_cons_self .., hst⟩)
    rw [hD] at hex
    have hst := After.cState_store hc (hok _ (List.mem_cons_self ..)) s n ac stable w hac hn fuel
    have hs' : (cSearch hc fuel s n ac stable).1 = (cState hc s n ac stable fuel).s := rfl
    have he : Ext s (cSearch hc fuel s n ac stable).1 := hs' ▸ hst.2.1
    obtain ⟨calls, h1, h2, h3⟩ := ih (cSearch hc fuel s n ac stable).1
      (fun y hy => hok y (List.mem_cons_of_mem _ hy)) (hs' ▸ hst.1) hn
      (fun t ht => Nat.lt_of_lt_of_le (hac t ht) he.1)
      ((map_eval_ext w he hac).trans hD)
      (by
        intro hex t ht σ τ hστ
        rw [eval_ext w he t σ (hac t ht), eval_ext w he t τ (hac t ht)]
        obtain ⟨y, hy, hy2⟩ := hex
        exact hsup ⟨y, List.mem_cons_of_mem _ hy, hy2⟩ t ht σ τ hστ)
    exact ⟨(hc, stable, fuel) :: calls, by simp [h1], ⟨hd, h2⟩, ⟨hex, h3⟩⟩

theorem ngJobs_length (n : Nat) (ac : List Nat) : ∀ (calls : List (CHeu × Bool × Nat)) (s : Store),
    (ngJobs n ac s calls).length = calls.length := by
  intro calls
  induction calls with
  | nil => intro _; rfl
  | cons y ys ih => intro s; obtain ⟨a, b, c⟩ := y; simp [ngJobs, ih]

/-- the shared channel: the thread that runs the calls `x :: tl` on the object with store `s`, and the consumer -/
def chanRunM (cap : Option Nat) (sched : List Chan.Ev) (n : Nat) (ac : List Nat) (s : Store)
    (x : CHeu × Bool × Nat) (tl : List (CHeu × Bool × Nat)) : Chan.MCfg SM.NgS (List Nat) :=
  Chan.mrun cap sched (Chan.minit (ngJob x.1 s n ac x.2.1) (ngJobs n ac (cSearch x.1 x.2.2 s n ac x.2.1).1 tl))

/-- **k searches of one object on clones of one sender** (the pattern of the library's own test): the consumer
of the shared channel receives a prefix of the concatenation of the k result lists, its loop does not end
before the k-th handle was dropped, ends (fair schedules) after it, and has then received exactly the
concatenation -/
theorem clones_deliver_ng (cap : Option Nat) (n : Nat) (ac : List Nat) (s : Store)
    (x : CHeu × Bool × Nat) (tl : List (CHeu × Bool × Nat)) (hd : ngAllDone n ac s (x :: tl)) :
    ∃ m, ∀ (sched : List Chan.Ev),
      let c := chanRunM cap sched n ac s x tl
      let all := (ngResults n ac s (x :: tl)).flatten
      (c.got ++ c.buf <+: all) ∧
      ((c.senders = 0 ↔ c.running = false) ∧ (c.senders = 0 → c.drops = tl.length + 1) ∧
        (c.drops < tl.length + 1 → 1 ≤ c.senders ∧ c.consDone = false)) ∧
      (c.senders = 0 → c.got ++ c.buf = all) ∧
      (c.consDone = true → c.got = all ∧ c.senders = 0 ∧ c.buf = []) ∧
      ((∀ k, cap = some k → 1 ≤ k) → Chan.Fair m sched → c.consDone = true) := by
  obtain ⟨hc, stable, fuel⟩ := x
  have hlen := ngJobs_length n ac tl (cSearch hc fuel s n ac stable).1
  have := Chan.clones_deliver (ngJob hc s n ac stable) (ngJobs n ac (cSearch hc fuel s n ac stable).1 tl)
    (cSearch hc fuel s n ac stable).2.1 (ngResults n ac (cSearch hc fuel s n ac stable).1 tl)
    (ngJob_halts hc s n ac stable hd.1) (ngJobs_halt n ac tl _ hd.2) cap
  rw [hlen] at this
  exact this

end NConc
