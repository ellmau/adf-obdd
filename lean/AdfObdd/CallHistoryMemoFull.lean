import AdfObdd.SearchLock
import AdfObdd.Persist
/-! # Call histories: answers (with their ORDER) and node tables do not depend on memo contents

Every call of `runCall` is one of the store-threading computations of `CallHistoryMemo.lean` /
`SearchLock.lean` (or a diagram operation sequence: `runOps_memo_transparent`, or a read of the node
table), so two objects that differ only in what their memo tables hold answer it identically and
stay such a pair (`memo_independent`); hence every history (`runCalls_memo_independent`), and the
consequences for memo-dropped and exported / re-imported copies. -/
namespace CallH

/-- two objects that are equal up to the CONTENTS of the memo tables of their stores -/
structure MemoEq (st st' : AdfState) : Prop where
  lk : Lk st.s st'.s
  n : st'.n = st.n
  ac : st'.ac = st.ac
  issued : st'.issued = st.issued

/-- the two searches (their lock-step lemmas live in `SearchLock.lean`) -/
def _root_.Call.isSearch : Call → Prop
  | .count _ => True
  | .ng _ _ _ => True
  | _ => False

def memo_independent_statement : Prop :=
  ∀ (st st' : AdfState) (c : Call), Inv st → MemoEq st st' →
    (runCall st' c).2 = (runCall st c).2 ∧ MemoEq (runCall st c).1 (runCall st' c).1

theorem memoEq_store (n : Nat) (ac iss : List Nat) {r r' : Store} (h : Lk r r') :
    MemoEq ⟨r, n, ac, iss⟩ ⟨r', n, ac, iss⟩ := ⟨h, rfl, rfl, rfl⟩

/-- every call kind: the answer — vectors, their ORDER, handle numbers, for the nogood search
also the interpretations shown to the heuristic and whether the bound was hit — and the node table
afterwards do not depend on what the memo tables of the incoming store hold -/
theorem memo_independent : memo_independent_statement := by
  intro st st' c hi h
  cases c with
  | grounded =>
    have ⟨d, a⟩ := groundedLoop_sim lk_sim (st.n + 1) st.s st'.s st.ac h.lk
    rw [runCall_grounded, runCall_grounded, h.n, h.ac, h.issued, d]
    exact ⟨rfl, memoEq_store _ _ _ a⟩
  | complete =>
    have ⟨d, a⟩ := completeAllG_sim lk_sim st.s st'.s st.n st.ac h.lk
    rw [completeAllG_store, completeAllG_store] at d a
    rw [runCall_complete, runCall_complete, h.n, h.ac, h.issued, d]
    exact ⟨rfl, memoEq_store _ _ _ a⟩
  | stable =>
    have ⟨d, a⟩ := stableAll_lock st.s st'.s st.n st.ac h.lk
    rw [runCall_stable, runCall_stable, h.n, h.ac, h.issued, d]
    exact ⟨rfl, memoEq_store _ _ _ a⟩
  | stablePre =>
    have ⟨d, a⟩ := stablePre_lock st.s st'.s st.n st.ac h.lk
    rw [runCall_stablePre, runCall_stablePre, h.n, h.ac, h.issued, d]
    exact ⟨rfl, memoEq_store _ _ _ a⟩
  | count useA =>
    have ⟨d, a⟩ := countAll_sim st.s st'.s st.n st.ac useA h.lk
    rw [runCall_count, runCall_count, h.n, h.ac, h.issued, d]
    exact ⟨rfl, memoEq_store _ _ _ a⟩
  | ng heu fuel stable =>
    have ⟨d, a⟩ := ngSearch_sim heu fuel st.s st'.s st.n st.ac stable h.lk
    rw [runCall_ng, runCall_ng, h.n, h.ac, h.issued, d]
    exact ⟨rfl, memoEq_store _ _ _ a⟩
  | query i q =>
    rw [runCall_query, runCall_query, h.ac]
    split
    · rename_i hlt
      have v := ac_getD_valid hi hlt
      exact ⟨congrArg Answer.nums (runQuery_den h.lk.w' h.lk.w (h.lk.nodes ▸ v) v
        (funext (eval_congr h.lk.nodes _)) q), h⟩
    · exact ⟨rfl, h⟩
  | ops l =>
    have hb : st'.base = st.base := congrArg (0 :: 1 :: ·) h.ac
    rw [runCall_ops, runCall_ops, hb, h.n, h.ac, h.issued]
    split
    · rename_i hvl
      have ⟨r, nn⟩ := runOps_memo_transparent l st.s st'.s st.base h.lk.w h.lk.w' h.lk.nodes
        (fun k hk => ((base_histOK hi).ok k hk).1) hvl
      have ⟨w1, _, _⟩ := runOps_refines l st.s st.base _ h.lk.w (base_histOK hi) hvl
      have ⟨w1', _, _⟩ := runOps_refines l st'.s st.base _ h.lk.w'
        (.ofValid _ _ (h.lk.nodes ▸ base_valid hi)) hvl
      rw [r]
      exact ⟨rfl, memoEq_store _ _ _ ⟨w1, w1', nn⟩⟩
    · exact ⟨rfl, h⟩

theorem runCalls_memo_independent : ∀ (h : List Call) (st st' : AdfState), Inv st → MemoEq st st' →
    (runCalls st' h).2 = (runCalls st h).2 ∧ MemoEq (runCalls st h).1 (runCalls st' h).1
  | [], _, _, _, hm => ⟨rfl, hm⟩
  | c :: cs, st, st', hi, hm => by
    have ⟨a1, m1⟩ := memo_independent st st' c hi hm
    have ⟨a2, m2⟩ := runCalls_memo_independent cs _ _ (runCall_step st c hi).1 m1
    rw [runCalls_cons, runCalls_cons, a1, a2]
    exact ⟨rfl, m2⟩

theorem runCalls_memo_independent_partial : ∀ (h : List Call) (st st' : AdfState), Inv st → MemoEq st st' →
    (∀ c ∈ h, ¬ c.isSearch) →
    (runCalls st' h).2 = (runCalls st h).2 ∧ MemoEq (runCalls st h).1 (runCalls st' h).1 :=
  fun h st st' hi hm _ => runCalls_memo_independent h st st' hi hm

theorem answers_depend_on_node_table (h : List Call) (st st' : AdfState) (hi : Inv st) (hi' : Inv st')
    (hnodes : st'.s.nodes = st.s.nodes) (hn : st'.n = st.n) (hac : st'.ac = st.ac) (his : st'.issued = st.issued) :
    (runCalls st' h).2 = (runCalls st h).2 ∧ (runCalls st' h).1.s.nodes = (runCalls st h).1.s.nodes ∧
    (runCalls st' h).1.issued = (runCalls st h).1.issued := by
  have ⟨a, m⟩ := runCalls_memo_independent h st st' hi ⟨⟨hi.wf, hi'.wf, hnodes⟩, hn, hac, his⟩
  exact ⟨a, m.lk.nodes, m.issued⟩

def dropMemo (st : AdfState) : AdfState := { st with s := { st.s with iteC := {}, resC := {} } }

theorem memoEq_drop (st : AdfState) (hi : Inv st) : MemoEq st (dropMemo st) :=
  ⟨⟨hi.wf, hi.wf.dropMemo, rfl⟩, rfl, rfl, rfl⟩

/-- the object after `serde` export and import of its `Bdd` (`Persist.exportB` / `importB`: node
table and unique table survive, the memo tables are `#[serde(skip)]`) -/
def reimport (st : AdfState) : AdfState :=
  { st with s := (Persist.importB (Persist.exportB ⟨st.s, #[], {}⟩)).st }

theorem memoEq_reimport (st : AdfState) (hi : Inv st) : MemoEq st (reimport st) := by
  have hs := Persist.import_skipped ⟨st.s, #[], {}⟩
  have hn := Persist.import_nodes ⟨st.s, #[], {}⟩
  exact ⟨⟨hi.wf, Persist.WF_of_same st.s _ hi.wf hn (Persist.import_uniq ⟨st.s, #[], {}⟩) hs.2.2.1 hs.2.2.2, hn⟩,
    rfl, rfl, rfl⟩

end CallH
