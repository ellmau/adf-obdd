import AdfObdd.HybridEndToEnd
import AdfObdd.CliModes
/-! # The hybrid arm of the CLI as the binary wires it

1. `bin/src/main.rs` (hybrid arm): `naive_adf = adf.hybrid_step()` (PRE-GROUNDED native object),
   then for `--stmrew` / `--stmrew2` `naive_adf.stable_bdd_representation(&adf)`: the candidates come
   from the UN-grounded biodivine object `adf` (`stable_model_candidates`: the prepared rewriting for
   `--stmrew`, `stable_representation()` for `--stmrew2`), the reduct test runs on the pre-grounded
   native store. `Bio.nativeStableRep_exact` (`C03.native_rewriting_exact`) needs both objects to
   denote the SAME functions (`hsame`), which is false for this pairing as soon as grounding decides a
   statement. `Bio.native_rewriting_on_hybrid` is the theorem for the pairing that runs (both values of
   the flag of `hybrid_step_opt`): the printed vectors are exactly the stable models of the ORIGINAL
   conditions, each once.
2. the two models of `from_biodivine_vector` - `Bio.bridgeOne/bridgeAll/hybridStep` (HybridModel.lean,
   the object of the theorems of C01-C03/C09) and `CliM.bridgeOne/bridgeAll/hybridStep` (CliModes.lean,
   what `CliM.runText`, the driver and C15 run) - are THE SAME FUNCTION wherever a non-constant diagram
   has a dump with at least the two terminal entries (`bridgeOne_agree`, `bridgeAll_agree`,
   `hybridStep_agree`); they differ on a one-entry dump of a non-constant diagram (0 vs 1), which
   `Bio.DumpSpec` excludes. -/

namespace Bio

theorem bridgeOne_agree {T : Type} (L : Lib T) (dump : T → List Node) (s : Store) (t : T)
    (h : L.isTrue t = false → L.isFalse t = false → 2 ≤ (dump t).length) :
    CliM.bridgeOne L dump s t = Bio.bridgeOne L dump s t := by
  unfold CliM.bridgeOne Bio.bridgeOne
  by_cases h1 : L.isTrue t = true
  · simp [h1]
  · by_cases h0 : L.isFalse t = true
    · simp [h1, h0]
    · simp only [h1, h0, if_false, Bool.false_eq_true]
      rw [termVec_eq _ _ (h (by simpa using h1) (by simpa using h0))]
      simp only [List.getLast?_eq_getElem?, List.getD_eq_getElem?_getD]

/-- the accumulator form of the CLI model against the structural recursion of the hybrid model -/
theorem bridgeAll_agree {T : Type} (L : Lib T) (dump : T → List Node) :
    ∀ (ts : List T) (s : Store) (acc : List Nat),
    (∀ t ∈ ts, L.isTrue t = false → L.isFalse t = false → 2 ≤ (dump t).length) →
    CliM.bridgeAll L dump ts s acc = ((Bio.bridgeAll L dump ts s).1, acc ++ (Bio.bridgeAll L dump ts s).2) := by
  intro ts
  induction ts with
  | nil => intro s acc _; simp [CliM.bridgeAll, Bio.bridgeAll]
  | cons t ts ih =>
    intro s acc h
    simp only [CliM.bridgeAll, Bio.bridgeAll]
    rw [bridgeOne_agree L dump s t (h t (List.mem_cons_self ..)),
      ih _ _ (fun x hx => h x (List.mem_cons_of_mem _ hx))]
    simp

/-- **`CliM.hybridStep` IS `Bio.hybridStep … true`** (= `hybrid_step()`, what the CLI calls) for every
lawful library whose dump satisfies `DumpSpec`: the hybrid theorems of C01-C03/C09 are about the
function the driver runs -/
theorem hybridStep_agree {T : Type} {L : Lib T} {n : Nat} (W : Lawful L n) {dump : T → List Node}
    (hd : DumpSpec W dump) (ac : List T) (hv : ∀ a ∈ ac, W.Valid a) (hn : ac.length ≤ n) :
    CliM.hybridStep L dump ac = Bio.hybridStep L dump true ac := by
  have ⟨gv, _, _, _⟩ := groundedInternal_pre W ac hv hn
  unfold CliM.hybridStep Bio.hybridStep fromBiodivineVector
  rw [bridgeAll_agree L dump _ _ _ (fun t ht h1 h0 => (hd.ok t (gv t ht) h1 h0).2.1)]
  simp

/-- **the rewriting variants as the hybrid arm of the CLI runs them**: native object from
`hybrid_step_opt(opt)` (the CLI: `opt = true`, pre-grounded), candidates from the ORIGINAL biodivine
object (`rw = some r`: prepared rewriting, `--stmrew`; `rw = none`: `stable_representation()`,
`--stmrew2`), reduct test on the native store. No duplicate, exactly the stable models of the original
conditions. -/
theorem native_rewriting_on_hybrid {T : Type} {L : Lib T} {n : Nat} (W : Lawful L n) {dump : T → List Node}
    (hd : DumpSpec W dump) (opt : Bool) (rw : Option T) (ac : List T) (hv : ∀ a ∈ ac, W.Valid a)
    (hn : ac.length = n) (hgr : GoodRewrite W ac rw) :
    let r := hybridStep L dump opt ac
    let res := nativeStableRep r.1 n r.2 (stableModelCandidates L rw ac)
    let out := res.2.map (fun v => v.map storeIsConst)
    (WF res.1 ∧ Ext r.1 res.1) ∧ out.Nodup ∧
    ∀ v : I3, v ∈ out ↔ (v.length = n ∧ StableExact.StableI (ac.map W.den) v) := by
  obtain ⟨_, hl, ⟨w, hlt, rfl⟩, tr⟩ := hybridStep_same W hd opt ac hv hn
  obtain ⟨R, vals, hR, hs, he⟩ := candidates_enum W rw ac hv hn hgr
  rw [he]
  exact nativeStableRep_answers _ n _ w hl hlt (ac.map W.den) (by rw [List.length_map, hn])
    tr.stable_iff R hR vals hs

end Bio
