import AdfObdd.CountExact
import AdfObdd.NgOrder
import AdfObdd.CubesCanon
import AdfObdd.CountSearchRel
/-! # The counting searches list their models in an order that depends on the FUNCTIONS only

Two well-formed stores `s`, `s'` with condition vectors `ac`, `ac'` that denote the same functions (different node
tables, different handle numbers - e.g. after an arbitrary call history vs. freshly built).  `countAll` (both
heuristics) emits the same decided parts IN THE SAME ORDER on both (`countAll_order`).

Proof: the two runs of `GK.search (countParams ..)` are in lock step (`GK.search_rel`) for the relation
"the interpretation vectors are valid and denote the same functions, the `will_be` vectors have the same decided
parts": the pick reads positions, decidedness, path counts and dependency sets (functions of the denotations:
`paths_den`, `deps_exact`); the goal reads path counts; the cube list is canonical (`CubesCanon.cubesF_den`); the
cube step, the flip step and the leaf compute restrictions (denotation-level specification `mapS_store`) and test
decided parts.  The stability filter afterwards tests `SelfLfp`, a predicate of the conditions' functions and of the
candidate's decided part. -/
namespace CI.Rel
open CI NConc.Ord

def HR (s s' : Store) (t t' : Nat) : Prop := t < s.nodes.size ∧ t' < s'.nodes.size ∧ eval s t = eval s' t'

def VR (s s' : Store) (v v' : List Nat) : Prop := AllLt s v ∧ AllLt s' v' ∧ v.map (eval s) = v'.map (eval s')

variable {s s' : Store}

theorem HR.sic (w : WF s) (w' : WF s') {t t' : Nat} (h : HR s s' t t') : storeIsConst t = storeIsConst t' := by
  rw [sic_constOf w h.1, sic_constOf w' h.2.1, h.2.2]

theorem HR.const (w : WF s) (w' : WF s') {t : Nat} (ht : t < 2) : HR s s' t t := by
  refine ⟨by have := w.len; omega, by have := w'.len; omega, ?_⟩
  funext σ
  rw [eval_lt2 s t ht, eval_lt2 s' t ht]

theorem VR.length {v v' : List Nat} (h : VR s s' v v') : v.length = v'.length := by
  simpa using congrArg List.length h.2.2

theorem VR.getD (w : WF s) (w' : WF s') {v v' : List Nat} (h : VR s s' v v') (i : Nat) :
    HR s s' (v.getD i 0) (v'.getD i 0) := by
  rw [List.getD_eq_getElem?_getD, List.getD_eq_getElem?_getD]
  cases hi : v[i]? with
  | none =>
    rw [List.getElem?_eq_none_iff, h.length, ← List.getElem?_eq_none_iff] at hi
    rw [hi]
    exact HR.const w w' (by decide)
  | some a =>
    obtain ⟨b, hb, e⟩ := get_of_map_eq h.2.2 hi
    rw [hb]
    exact ⟨h.1 a (List.mem_of_getElem? hi), h.2.1 b (List.mem_of_getElem? hb), e⟩

theorem VR.d3 (w : WF s) (w' : WF s') {v v' : List Nat} (h : VR s s' v v') : d3 v = d3 v' := by
  rw [d3_den w h.1, d3_den w' h.2.1, h.2.2]

theorem VR.set {v v' : List Nat} (h : VR s s' v v') {a a' : Nat} (ha : HR s s' a a') (i : Nat) :
    VR s s' (v.set i a) (v'.set i a') :=
  ⟨h.1.set ha.1 i, h.2.1.set ha.2.1 i, by rw [List.map_set, List.map_set, h.2.2, ha.2.2]⟩

theorem VR.mono (w : WF s) (w' : WF s') {v v' : List Nat} (h : VR s s' v v') {s1 s1' : Store} (e : Ext s s1)
    (e' : Ext s' s1') : VR s1 s1' v v' :=
  ⟨h.1.mono e, h.2.1.mono e', by rw [map_eval_ext w e h.1, map_eval_ext w' e' h.2.1, h.2.2]⟩

structure MapOut (s s' : Store) (r r' : Store × List Nat) : Prop where
  wf : WF r.1
  wf' : WF r'.1
  ext : Ext s r.1
  ext' : Ext s' r'.1
  vr : VR r.1 r'.1 r.2 r'.2

theorem mapS_rel {f f' : Store → Nat → Store × Nat} {F : BoolFn → BoolFn} (hf : StoreRA.Computes f F)
    (hf' : StoreRA.Computes f' F)
    (w : WF s) (w' : WF s') {xs xs' : List Nat} (h : VR s s' xs xs') :
    MapOut s s' (mapS f s xs) (mapS f' s' xs') := by
  have ⟨a1, a2, a3, a4⟩ := mapS_store hf xs s w h.1
  have ⟨b1, b2, b3, b4⟩ := mapS_store hf' xs' s' w' h.2.1
  exact ⟨a1, b1, a2, b2, a3, b3, by rw [a4, b4, h.2.2]⟩

theorem applyVec_rel (w : WF s) (w' : WF s') {interp interp' xs xs' : List Nat} (hd : d3 interp = d3 interp')
    (h : VR s s' xs xs') : MapOut s s' (applyVec s interp xs) (applyVec s' interp' xs') := by
  rw [applyVec_eq, applyVec_eq]
  have c' := computes_restrictBy interp'
  rw [← hd] at c'
  exact mapS_rel (computes_restrictBy interp) c' w w' h

theorem mapRestrict_rel (w : WF s) (w' : WF s') (v : Nat) (b : Bool) {xs xs' : List Nat}
    (h : VR s s' xs xs') : MapOut s s' (mapRestrict s v b xs) (mapRestrict s' v b xs') := by
  rw [mapRestrict_eq, mapRestrict_eq]
  exact mapS_rel (computes_restrictF v b) (computes_restrictF v b) w w' h

theorem beq_const (t : Nat) {c : Nat} (hc : c < 2) : (t == c) = (storeIsConst t == storeIsConst c) := by
  obtain ⟨b, hb⟩ := isTV_iff.mp (decide_eq_true hc : isTV c = true)
  rw [Bool.eq_iff_iff, beq_iff_eq, beq_iff_eq, hb, sic_some, sic_some.mp hb]

theorem sic_getD2 (wb : List Nat) (i : Nat) : storeIsConst (wb.getD i 2) = ((d3 wb)[i]?).getD none := by
  rw [d3_get, List.getD_eq_getElem?_getD]
  cases wb[i]? <;> rfl

theorem d3_set (v : List Nat) (i a : Nat) : d3 (v.set i a) = (d3 v).set i (storeIsConst a) := by
  simp [d3, List.map_set]

theorem consistent_d3 (v wb : List Nat) :
    consistentWith v wb = ((d3 v).zip (d3 wb)).all (fun p => (p.2 == p.1) || !p.2.isSome) := by
  unfold consistentWith d3
  rw [List.zip_map, List.all_map]
  congr 1
  funext ⟨a, b⟩
  simp only [Function.comp, Prod.map, noInfIncons, sameInfo, isTV_eq_isSome]

theorem consistent_rel {v v' wb wb' : List Nat} (h1 : d3 v = d3 v') (h2 : d3 wb = d3 wb') :
    consistentWith v wb = consistentWith v' wb' := by
  rw [consistent_d3, consistent_d3, h1, h2]

theorem noInf_rel {a a' b b' : Nat} (ha : storeIsConst a = storeIsConst a') (hb : storeIsConst b = storeIsConst b') :
    noInfIncons a b = noInfIncons a' b' := by
  simp only [noInfIncons, sameInfo, isTV_eq_isSome, ha, hb]

theorem litLoop_rel (w : WF s) (w' : WF s') {bad val : Nat} (hb : bad < 2) (hv : val < 2) {wb wb' : List Nat}
    (hwb : d3 wb = d3 wb') : ∀ (vs ni ni' : List Nat), VR s s' ni ni' →
    Option.Rel (VR s s') (litLoop bad val wb vs ni) (litLoop bad val wb' vs ni')
  | [], _, _, h => .some h
  | v :: vs, ni, ni', h => by
    simp only [litLoop]
    rw [beq_const _ hb, beq_const (wb.getD v 2) hb, (h.getD w w' v).sic w w', sic_getD2 wb, hwb,
      ← sic_getD2 wb', ← beq_const _ hb, ← beq_const _ hb]
    split
    · exact .none
    · exact litLoop_rel w w' hb hv hwb vs _ _ (h.set (HR.const w w' hv) v)

theorem applyCube_rel (w : WF s) (w' : WF s') {wb wb' ni ni' : List Nat} (hwb : d3 wb = d3 wb') (h : VR s s' ni ni')
    (cu : PCube) : Option.Rel (VR s s') (applyCube ni wb cu) (applyCube ni' wb' cu) := by
  rw [applyCube_eq, applyCube_eq]
  have h1 := litLoop_rel w w' (bad := 1) (val := 0) (by decide) (by decide) hwb cu.1 ni ni' h
  generalize litLoop 1 0 wb cu.1 ni = o, litLoop 1 0 wb' cu.1 ni' = o' at h1
  cases h1 with
  | none => exact .none
  | some hab => exact litLoop_rel w w' (by decide) (by decide) hwb cu.2 _ _ hab

open Classical in
noncomputable def activeK (v : Nat) (fs : List BoolFn) : Nat :=
  ((List.range fs.length).filter (fun i => decide (Essential (fs.getD v (fun _ => false)) i))).length

theorem active_den (w : WF s) {interp : List Nat} (hv : AllLt s interp) (v : Nat) :
    active s v interp = activeK v (interp.map (eval s)) := by
  have hh : interp.getD v 0 < s.nodes.size ∧
      (interp.map (eval s)).getD v (fun _ => false) = eval s (interp.getD v 0) := by
    rw [List.getD_eq_getElem?_getD, List.getD_eq_getElem?_getD, List.getElem?_map]
    cases hi : interp[v]? with
    | none =>
      refine ⟨by have := w.len; show 0 < _; omega, ?_⟩
      funext σ; show false = eval s 0 σ; rw [eval_zero]
    | some a => exact ⟨hv a (List.mem_of_getElem? hi), rfl⟩
  unfold active activeK
  rw [List.length_map]
  congr 1
  apply List.filter_congr
  intro i _
  rw [Bool.eq_iff_iff]
  simp only [List.contains_iff_mem, decide_eq_true_eq]
  rw [hh.2]
  exact deps_exact s w _ i hh.1

noncomputable def cmpKA (fs : List BoolFn) (l r : KP) : Ordering :=
  match compare (passiveK r.1 fs) (passiveK l.1 fs) with
  | .eq => match compare (activeK l.1 fs) (activeK r.1 fs) with
    | .eq => compare (minPathsK l.2) (minPathsK r.2)
    | o => o
  | o => o

noncomputable def cmpKB (fs : List BoolFn) (l r : KP) : Ordering :=
  match compare (minPathsK l.2) (minPathsK r.2) with
  | .eq => compare (passiveK r.1 fs) (passiveK l.1 fs)
  | o => o

theorem candidates_eq (c : CState) :
    candidates c = (SM.undecided c.1).filter (fun p => !isTV (c.2.getD p.1 2)) := by
  unfold candidates SM.undecided
  rw [List.filter_map, List.filter_filter]
  congr 2
  funext ⟨t, i⟩
  simp only [Function.comp, Bool.not_or, Bool.and_comm]

noncomputable def candK (fs : List BoolFn) (wd : I3) : List KP :=
  (undecidedK fs).filter (fun p => !((wd[p.1]?).getD none).isSome)

theorem candidates_key (w : WF s) {c : CState} (hv : AllLt s c.1) :
    (candidates c).map (keyOf s) = candK (c.1.map (eval s)) (d3 c.2) := by
  rw [candidates_eq, candK, ← undecided_key w hv, List.filter_map]
  congr 2
  funext p
  simp only [Function.comp, keyOf, isTV_eq_isSome, sic_getD2]

/-- `pick` through the denotations -/
noncomputable def pickK (useA : Bool) (fs : List BoolFn) (wd : I3) : Option Nat :=
  (minByG (if useA then cmpKA fs else cmpKB fs) (candK fs wd)).map (·.1)

theorem pick_key (w : WF s) (ac : List Nat) (useA u : Bool) {c : CState} (hv : AllLt s c.1) :
    (countParams ac useA u).pick s c = pickK useA (c.1.map (eval s)) (d3 c.2) := by
  have hval : ∀ p ∈ candidates c, p.2 < s.nodes.size := by
    intro p hp
    obtain ⟨i, t⟩ := p
    exact hv t (List.mem_of_getElem? (candidates_mem.mp hp).1)
  have hmp : ∀ p ∈ candidates c, minPaths s p.2 = minPathsK (eval s p.2) :=
    fun p hp => minPaths_fn w (hval p hp)
  have m1 := minBy_map (keyOf s) (if useA then heuA s c.1 else heuB s c.1)
    (if useA then cmpKA (c.1.map (eval s)) else cmpKB (c.1.map (eval s))) (candidates c) (by
      intro p hp q hq
      cases useA with
      | true =>
        simp only [if_true, heuA, cmpKA, keyOf, hmp p hp, hmp q hq, passive_den w hv, active_den w hv]
        rfl
      | false =>
        simp only [Bool.false_eq_true, if_false, heuB, cmpKB, keyOf, hmp p hp, hmp q hq, passive_den w hv]
        rfl)
  rw [countParams_pick, pickK, ← candidates_key w hv, ← m1, Option.map_map]
  cases minBy (if useA then heuA s c.1 else heuB s c.1) (candidates c) <;> rfl

structure R (ac ac' : List Nat) (s : Store) (c : CState) (s' : Store) (c' : CState) : Prop where
  wf : WF s
  wf' : WF s'
  vr : VR s s' c.1 c'.1
  wb : d3 c.2 = d3 c'.2
  ac : VR s s' ac ac'

theorem R.mono {ac ac' : List Nat} {c c' : CState} {s1 s1' : Store} (h : R ac ac' s c s' c') (l : SLe s s1)
    (l' : SLe s' s1') : R ac ac' s1 c s1' c' :=
  ⟨l.2 h.wf, l'.2 h.wf', h.vr.mono h.wf h.wf' l.1 l'.1, h.wb, h.ac.mono h.wf h.wf' l.1 l'.1⟩

theorem leafVec_d3 (c : CState) :
    d3 (leafVec c) =
    (d3 c.1).zipIdx.map (fun (p : Option Bool × Nat) => if !p.1.isSome then ((d3 c.2)[p.2]?).getD none else p.1) := by
  unfold leafVec d3
  rw [List.zipIdx_map, List.map_map, List.map_map]
  apply List.map_congr_left
  intro x _
  obtain ⟨t, i⟩ := x
  simp only [Function.comp, Prod.map, id, isTV_eq_isSome]
  split
  · rw [sic_getD2]; rfl
  · rfl

theorem relLaws (ac ac' : List Nat) (useA u : Bool) :
    GK.RelLaws (countParams ac useA u) (countParams ac' useA u) (R ac ac')
      (fun s s' s1 s1' => SLe s s1 ∧ SLe s' s1') d3 d3 where
  refl := fun s s' => ⟨SLe.refl s, SLe.refl s'⟩
  trans := fun _ _ _ _ _ _ h k => ⟨h.1.trans k.1, h.2.trans k.2⟩
  pick := by
    intro s c s' c' h
    rw [pick_key h.wf ac useA u h.vr.1, pick_key h.wf' ac' useA u h.vr.2.1, h.vr.2.2, h.wb]
  goal := by
    intro s c s' c' idx h _
    have hr := h.vr.getD h.wf h.wf' idx
    rw [countParams_goal, countParams_goal, paths_den h.wf h.wf' hr.1 hr.2.1 hr.2.2]
  cubes := by
    intro s c s' c' idx h _
    have hr := h.vr.getD h.wf h.wf' idx
    have ha : (fun cu => (applyCube c.1 c.2 cu).isSome) = fun cu => (applyCube c'.1 c'.2 cu).isSome := by
      funext cu
      have hcu := applyCube_rel h.wf h.wf' h.wb h.vr cu
      generalize applyCube c.1 c.2 cu = o, applyCube c'.1 c'.2 cu = o' at hcu
      cases hcu <;> rfl
    rw [countParams_cubes, countParams_cubes, ha, cubesOf, cubesOf,
      CubesCanon.cubesF_den s s' h.wf h.wf' _ _ hr.1 hr.2.1 hr.2.2]
  cubeStep := by
    intro s0 c s0' c' idx s s' cu h0 _ hG _
    have h := h0.mono hG.1 hG.2
    generalize (countParams ac useA u).goal s0 c idx = g
    rw [countParams_cubeStep, countParams_cubeStep]
    have hcu := applyCube_rel h.wf h.wf' h.wb h.vr cu
    generalize applyCube c.1 c.2 cu = o, applyCube c'.1 c'.2 cu = o' at hcu
    cases hcu with
    | none => exact ⟨⟨SLe.refl s, SLe.refl s'⟩, Or.inl ⟨rfl, rfl⟩⟩
    | @some a a' hab =>
      have hset := hab.set (HR.const h.wf h.wf' (sic_lt (sic_gT g))) idx
      have m := applyVec_rel h.wf h.wf' (hset.d3 h.wf h.wf') hset
      simp only
      generalize applyVec s (a.set idx (if g then 1 else 0)) (a.set idx (if g then 1 else 0)) = U,
        applyVec s' (a'.set idx (if g then 1 else 0)) (a'.set idx (if g then 1 else 0)) = U' at m ⊢
      rw [consistent_rel (m.vr.d3 m.wf m.wf') h.wb]
      refine ⟨⟨sle_of m.ext m.wf, sle_of m.ext' m.wf'⟩, ?_⟩
      cases consistentWith U'.2 c'.2 with
      | true => exact Or.inr ⟨_, _, rfl, rfl, ⟨m.wf, m.wf', m.vr, h.wb, h.ac.mono h.wf h.wf' m.ext m.ext'⟩⟩
      | false => exact Or.inl ⟨rfl, rfl⟩
  flipStep := by
    intro s0 c s0' c' idx s s' h0 _ hG
    have h := h0.mono hG.1 hG.2
    generalize (countParams ac useA u).goal s0 c idx = g
    rw [countParams_flipStep, countParams_flipStep]
    have m1 := mapRestrict_rel h.wf h.wf' idx (!g) h.vr
    have m2 := applyVec_rel m1.wf m1.wf' (m1.vr.d3 m1.wf m1.wf') m1.vr
    have hn := (m1.vr.getD m1.wf m1.wf' idx).sic m1.wf m1.wf'
    have hu := (m2.vr.getD m2.wf m2.wf' idx).sic m2.wf m2.wf'
    simp only [flipAns]
    generalize mapRestrict s idx (!g) c.1 = M, mapRestrict s' idx (!g) c'.1 = M' at m1 m2 hn hu ⊢
    generalize applyVec M.1 M.2 M.2 = U, applyVec M'.1 M'.2 M'.2 = U' at m2 hu ⊢
    have e1 := Ext.trans m1.ext m2.ext
    have e1' := Ext.trans m1.ext' m2.ext'
    rw [noInf_rel hn hu, noInf_rel hn (rfl : storeIsConst (if g then 0 else 1) = _)]
    refine ⟨⟨sle_of e1 m2.wf, sle_of e1' m2.wf'⟩, ?_⟩
    cases noInfIncons (M'.2.getD idx 0) (U'.2.getD idx 0) with
    | false => exact Or.inl ⟨rfl, rfl⟩
    | true =>
      cases noInfIncons (M'.2.getD idx 0) (if g then 0 else 1) with
      | false => exact Or.inl ⟨rfl, rfl⟩
      | true =>
        exact Or.inr ⟨_, _, rfl, rfl, ⟨m2.wf, m2.wf', m2.vr.set (HR.const m2.wf m2.wf' (sic_lt (sic_other g))) idx,
          by rw [d3_set, d3_set, h.wb, hn], h.ac.mono h.wf h.wf' e1 e1'⟩⟩
  leaf := by
    intro s c s' c' h _
    rw [countParams_leaf, countParams_leaf]
    have hd : d3 (leafVec c) = d3 (leafVec c') := by
      rw [leafVec_d3, leafVec_d3, h.vr.d3 h.wf h.wf', h.wb]
    have m := applyVec_rel h.wf h.wf' hd h.ac
    simp only [consistent_rel (m.vr.d3 m.wf m.wf') hd]
    split
    · exact ⟨⟨sle_of m.ext m.wf, sle_of m.ext' m.wf'⟩, by simp only [List.map_cons, List.map_nil, m.vr.d3 m.wf m.wf']⟩
    · exact ⟨⟨sle_of m.ext m.wf, sle_of m.ext' m.wf'⟩, by simp only [List.map_cons, List.map_nil, h.vr.d3 h.wf h.wf']⟩

open Classical in
theorem map_d3_filter_selfLfp (D : List BoolFn) (l : List (List Nat)) :
    (l.filter (fun v => decide (SelfLfp D (d3 v)))).map d3 = (l.map d3).filter (fun w => decide (SelfLfp D w)) :=
  (List.filter_map (f := d3) (p := fun w => decide (SelfLfp D w))).symm

/-- the search proper: the candidates (before the stability filter) have the same decided parts in the same order -/
theorem countLogic_order (s s' : Store) (n : Nat) (ac ac' : List Nat) (useA : Bool) (w : WF s) (w' : WF s')
    (hl : ac.length = n) (hl' : ac'.length = n)
    (hv : ∀ t ∈ ac, t < s.nodes.size) (hv' : ∀ t ∈ ac', t < s'.nodes.size)
    (hsame : ac.map (eval s) = ac'.map (eval s')) :
    (countLogic ac useA (n + 1) (groundedLoop StoreRA (n + 1) s ac).1 (groundedLoop StoreRA (n + 1) s ac).2
      (List.replicate n 2)).2.map d3 =
    (countLogic ac' useA (n + 1) (groundedLoop StoreRA (n + 1) s' ac').1 (groundedLoop StoreRA (n + 1) s' ac').2
      (List.replicate n 2)).2.map d3 := by
  have ⟨hinv, e0⟩ := start_inv s n ac w hl hv
  have ⟨hinv', e0'⟩ := start_inv s' n ac' w' hl' hv'
  have ⟨_, _, _, d1⟩ := groundedLoop_store (n + 1) s ac w hv
  have ⟨_, _, _, d1'⟩ := groundedLoop_store (n + 1) s' ac' w' hv'
  exact (GK.search_rel (relLaws ac ac' useA false) (n + 1) _ _ _ _
    ⟨hinv.wf, hinv'.wf, ⟨hinv.val, hinv'.val, by rw [d1, d1', hsame]⟩, rfl, VR.mono w w' ⟨hv, hv', hsame⟩ e0 e0'⟩).2

/-- **`stable_count_optimisation_heu_a/b` list the same decided parts in the same order on every object whose
conditions denote the same functions** -/
theorem countAll_order (s s' : Store) (n : Nat) (ac ac' : List Nat) (useA : Bool) (w : WF s) (w' : WF s')
    (hl : ac.length = n) (hl' : ac'.length = n)
    (hv : ∀ t ∈ ac, t < s.nodes.size) (hv' : ∀ t ∈ ac', t < s'.nodes.size)
    (hsame : ac.map (eval s) = ac'.map (eval s')) :
    (countAll s n ac useA).2.map d3 = (countAll s' n ac' useA).2.map d3 := by
  rw [(countAll_filter s n ac useA w hl hv).2.2, (countAll_filter s' n ac' useA w' hl' hv').2.2, map_d3_filter_selfLfp,
    map_d3_filter_selfLfp, countLogic_order s s' n ac ac' useA w w' hl hl' hv hv' hsame, hsame]

end CI.Rel

#print axioms CI.Rel.countAll_order
#print axioms CI.Rel.countLogic_order
