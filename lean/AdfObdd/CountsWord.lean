import AdfObdd.PathsDepth
import AdfObdd.OpsProofs
/-! # where the unbounded counting model coincides with 64-bit machine arithmetic (C13, D13)

`countF` (`CountsDef.lean`) models `modelcount_naive` of `obdd.rs` over unbounded naturals; the
code computes with `usize` (64 bit). This file states exactly where the two coincide:

* `counts_sum_fuel` — counter-models + models = `2^depth`, and both are positive at an inner node;
* `counts_fit_word_fuel` — so every final count of a diagram with at most 64 levels is `< 2^64`;
* `count_intermediates_fit_fuel` — and so is every intermediate value the code computes at a node;
* `countW` — the same recursion with every `+`, `*`, `2^·` and the `as u32` cast wrapped, and
  `countW_eq_countF`: on diagrams with at most 64 levels nothing wraps;
* `conj65_table_overflow` — on the conjunction of 65 variables the wrapped counter differs: 64 is sharp.

No Mathlib in the import closure. -/

theorem two_pow_lt_word {e : Nat} (h : e ≤ 63) : 2 ^ e < 2 ^ 64 :=
  Nat.pow_lt_pow_right (by decide) (by omega)

theorem lt_of_add_eq {a b S W : Nat} (hs : a + b = S) (hS : S ≤ W) (hb : 1 ≤ b) : a < W := by omega

/-- every diagram except ⊤ has a counter-model, every diagram except ⊥ has a model (this is where
reducedness, `lo ≠ hi`, enters) -/
theorem counts_pos_fuel (s : Store) (h : TableWF s.nodes) : ∀ (fuel t : Nat), t < s.nodes.size → t < fuel →
    (t ≠ 1 → 1 ≤ (countF s fuel t).1) ∧ (t ≠ 0 → 1 ≤ (countF s fuel t).2.1) := by
  intro fuel t
  rw [Memo.countF_eq_F]
  refine Memo.F_ind_wf Memo.cntG s h (fun t c => (t ≠ 1 → 1 ≤ c.1) ∧ (t ≠ 0 → 1 ≤ c.2.1))
    ⟨fun h => absurd rfl h, fun _ => Nat.le_refl _⟩ ⟨fun _ => Nat.le_refl _, fun h => absurd rfl h⟩ ?_ fuel t
  intro t n l r ht2 hn il ir
  have hne : n.lo ≠ n.hi := (h.inner t n ht2 hn).2.2.2.1
  -- the children differ, so one of them is not ⊤ (not ⊥) and contributes a counter-model (a model)
  have pos : ∀ {a b x y : Nat}, (1 ≤ a ∨ 1 ≤ b) → 1 ≤ a * 2 ^ x + b * 2 ^ y := by
    intro a b x y hab
    have px := Nat.two_pow_pos x
    have py := Nat.two_pow_pos y
    rcases hab with ha | hb
    · exact Nat.le_trans (Nat.mul_le_mul ha px) (Nat.le_add_right _ _)
    · exact Nat.le_trans (Nat.mul_le_mul hb py) (Nat.le_add_left _ _)
  constructor
  · intro _
    by_cases e : n.lo = 1
    · exact pos (Or.inr (ir.1 fun e' => hne (e.trans e'.symm)))
    · exact pos (Or.inl (il.1 e))
  · intro _
    by_cases e : n.lo = 0
    · exact pos (Or.inr (ir.2 fun e' => hne (e.trans e'.symm)))
    · exact pos (Or.inl (il.2 e))

theorem counts_sum_fuel (s : Store) (h : TableWF s.nodes) (fuel t : Nat) (ht : t < s.nodes.size) (hf : t < fuel) :
    (countF s fuel t).1 + (countF s fuel t).2.1 = 2 ^ (countF s fuel t).2.2 ∧
    (2 ≤ t → 1 ≤ (countF s fuel t).1 ∧ 1 ≤ (countF s fuel t).2.1) :=
  ⟨counts_total_fuel s h fuel t ht hf, fun h2 =>
    ⟨(counts_pos_fuel s h fuel t ht hf).1 (by omega), (counts_pos_fuel s h fuel t ht hf).2 (by omega)⟩⟩

theorem counts_fit_word_fuel (s : Store) (h : TableWF s.nodes) (fuel t : Nat) (ht : t < s.nodes.size) (hf : t < fuel)
    (hd : (countF s fuel t).2.2 ≤ 64) :
    (countF s fuel t).1 < 2 ^ 64 ∧ (countF s fuel t).2.1 < 2 ^ 64 ∧ (countF s fuel t).2.2 < 2 ^ 64 := by
  have hsum := counts_total_fuel s h fuel t ht hf
  have ⟨hc, hm⟩ := counts_pos_fuel s h fuel t ht hf
  have hp : 2 ^ (countF s fuel t).2.2 ≤ 2 ^ 64 := Nat.pow_le_pow_right (by decide) hd
  obtain ⟨f, rfl⟩ : ∃ f, fuel = f + 1 := ⟨fuel - 1, by omega⟩
  -- a count is less than the sum `2^depth` unless the other count is 0, which happens at a terminal only
  refine ⟨?_, ?_, Nat.lt_of_le_of_lt hd (by decide)⟩
  · by_cases e : t = 0
    · subst e; rw [countF_zero]; decide
    · exact lt_of_add_eq hsum hp (hm e)
  · by_cases e : t = 1
    · subst e; rw [countF_one]; decide
    · exact lt_of_add_eq (Nat.add_comm _ _ ▸ hsum) hp (hc e)

/-! ## one step of the counter, as the code computes it

`modelcount_naive` computes at an inner node, from the children's results `(cl, ml, dl)` (lo) and
`(ch, mh, dh)` (hi):
```
if lodepth > hidepth { hi_exp = (lodepth - hidepth) as u32 } else { lo_exp = (hidepth - lodepth) as u32 }
( lo.cmodels * 2usize.pow(lo_exp) + hi.cmodels * 2usize.pow(hi_exp),
  lo.models  * 2usize.pow(lo_exp) + hi.models  * 2usize.pow(hi_exp),  max(lodepth, hidepth) + 1 )
``` -/

/-- `lo_exp` of the code -/
def loExp (dl dh : Nat) : Nat := if dl > dh then 0 else dh - dl
/-- `hi_exp` of the code -/
def hiExp (dl dh : Nat) : Nat := if dl > dh then dl - dh else 0

/-- the code's exponents are the ones of the model: `depth - 1 - depth(child)` -/
theorem loExp_eq (dl dh : Nat) : loExp dl dh = max dl dh - dl := by
  unfold loExp
  split
  · next h => rw [Nat.max_eq_left (Nat.le_of_lt h), Nat.sub_self]
  · next h => rw [Nat.max_eq_right (Nat.le_of_not_lt h)]
theorem hiExp_eq (dl dh : Nat) : hiExp dl dh = max dl dh - dh := by
  unfold hiExp
  split
  · next h => rw [Nat.max_eq_left (Nat.le_of_lt h)]
  · next h => rw [Nat.max_eq_right (Nat.le_of_not_lt h), Nat.sub_self]

/-- every value computed in one step — the two exponents (before and after the cast to `u32`),
the two powers, the four products, the two sums and the new depth — fits a 64-bit word -/
structure StepFits (cl ml dl ch mh dh : Nat) : Prop where
  loExp_le : loExp dl dh ≤ 63
  hiExp_le : hiExp dl dh ≤ 63
  powLo : 2 ^ loExp dl dh < 2 ^ 64
  powHi : 2 ^ hiExp dl dh < 2 ^ 64
  prodCL : cl * 2 ^ loExp dl dh < 2 ^ 64
  prodCH : ch * 2 ^ hiExp dl dh < 2 ^ 64
  prodML : ml * 2 ^ loExp dl dh < 2 ^ 64
  prodMH : mh * 2 ^ hiExp dl dh < 2 ^ 64
  sumC : cl * 2 ^ loExp dl dh + ch * 2 ^ hiExp dl dh < 2 ^ 64
  sumM : ml * 2 ^ loExp dl dh + mh * 2 ^ hiExp dl dh < 2 ^ 64
  depth : max dl dh + 1 < 2 ^ 64

theorem step_fits (cl ml dl ch mh dh : Nat) (h1 : cl + ml = 2 ^ dl) (h2 : ch + mh = 2 ^ dh)
    (hD : max dl dh + 1 ≤ 64)
    (hc : 1 ≤ cl * 2 ^ (max dl dh - dl) + ch * 2 ^ (max dl dh - dh))
    (hm : 1 ≤ ml * 2 ^ (max dl dh - dl) + mh * 2 ^ (max dl dh - dh)) :
    StepFits cl ml dl ch mh dh := by
  have tot := total_arith cl ml ch mh dl dh (max dl dh) h1 h2 (Nat.le_max_left _ _) (Nat.le_max_right _ _)
  have hp : 2 ^ (max dl dh + 1) ≤ 2 ^ 64 := Nat.pow_le_pow_right (by decide) hD
  have hD' : max dl dh ≤ 63 := Nat.le_of_succ_le_succ hD
  have el : max dl dh - dl ≤ 63 := Nat.le_trans (Nat.sub_le _ _) hD'
  have eh : max dl dh - dh ≤ 63 := Nat.le_trans (Nat.sub_le _ _) hD'
  have pl := two_pow_lt_word el
  have ph := two_pow_lt_word eh
  rw [← loExp_eq] at tot hc hm el pl
  rw [← hiExp_eq] at tot hc hm eh ph
  -- the two sums add up to `2^depth ≤ 2^64` and neither is zero; every product is part of a sum
  have sC : cl * 2 ^ loExp dl dh + ch * 2 ^ hiExp dl dh < 2 ^ 64 := lt_of_add_eq tot hp hm
  have sM : ml * 2 ^ loExp dl dh + mh * 2 ^ hiExp dl dh < 2 ^ 64 := lt_of_add_eq (Nat.add_comm _ _ ▸ tot) hp hc
  exact ⟨el, eh, pl, ph, Nat.lt_of_le_of_lt (Nat.le_add_right _ _) sC, Nat.lt_of_le_of_lt (Nat.le_add_left _ _) sC,
    Nat.lt_of_le_of_lt (Nat.le_add_right _ _) sM, Nat.lt_of_le_of_lt (Nat.le_add_left _ _) sM, sC, sM,
    Nat.lt_of_le_of_lt hD (by decide)⟩

theorem count_intermediates_fit_fuel (s : Store) (h : TableWF s.nodes) (f t : Nat) (n : Node)
    (ht2 : 2 ≤ t) (hn : s.nodes[t]? = some n) (hf : t < f + 1) (hd : (countF s (f+1) t).2.2 ≤ 64) :
    StepFits (countF s f n.lo).1 (countF s f n.lo).2.1 (countF s f n.lo).2.2
             (countF s f n.hi).1 (countF s f n.hi).2.1 (countF s f n.hi).2.2 := by
  have ht := lt_of_get hn
  have ⟨_, hlo, hhi, _, _, _⟩ := h.inner t n ht2 hn
  have hpos := (counts_sum_fuel s h (f+1) t ht hf).2 ht2
  rw [countF_node s f t n ht2 hn] at hd hpos
  have hf' := Nat.le_of_lt_succ hf
  exact step_fits _ _ _ _ _ _
    (counts_total_fuel s h f n.lo (Nat.lt_trans hlo ht) (Nat.lt_of_lt_of_le hlo hf'))
    (counts_total_fuel s h f n.hi (Nat.lt_trans hhi ht) (Nat.lt_of_lt_of_le hhi hf')) hd hpos.1 hpos.2

/-- wrapping `usize` addition -/
def wadd (a b : Nat) : Nat := (a + b) % 2 ^ 64
/-- wrapping `usize` multiplication -/
def wmul (a b : Nat) : Nat := (a * b) % 2 ^ 64
/-- `2usize.pow(e)`, wrapping (`2^e` is `0` modulo `2^64` from `e = 64` on) -/
def wpow2 (e : Nat) : Nat := if e < 64 then 2 ^ e else 0
/-- `x as u32` -/
def asU32 (a : Nat) : Nat := a % 2 ^ 32

theorem wpow2_eq_mod (e : Nat) : wpow2 e = 2 ^ e % 2 ^ 64 := by
  unfold wpow2
  split
  · rename_i h; exact (Nat.mod_eq_of_lt (Nat.pow_lt_pow_right (by decide) h)).symm
  · rename_i h
    have : 2 ^ e = 2 ^ 64 * 2 ^ (e - 64) := by rw [← Nat.pow_add]; congr 1; omega
    rw [this, Nat.mul_mod_right]

/-- `modelcount_naive` as a release build computes it: the recursion of `countF`, every `+`, `*`,
`2^·` wrapped to 64 bits, the exponents cast to `u32` as in the code -/
def countW (s : Store) : Nat → Nat → Nat × Nat × Nat
  | 0, _ => (0, 0, 0)
  | fuel+1, t =>
    if t = 1 then (0, 1, 0) else if t = 0 then (1, 0, 0) else
    match s.nodes[t]? with
    | none => (0, 0, 0)
    | some n =>
      let l := countW s fuel n.lo
      let h := countW s fuel n.hi
      let lo_exp := if l.2.2 > h.2.2 then 0 else asU32 (h.2.2 - l.2.2)
      let hi_exp := if l.2.2 > h.2.2 then asU32 (l.2.2 - h.2.2) else 0
      (wadd (wmul l.1 (wpow2 lo_exp)) (wmul h.1 (wpow2 hi_exp)),
       wadd (wmul l.2.1 (wpow2 lo_exp)) (wmul h.2.1 (wpow2 hi_exp)),
       wadd (max l.2.2 h.2.2) 1)

theorem countW_one (s : Store) (f : Nat) : countW s (f+1) 1 = (0, 1, 0) := by simp [countW]
theorem countW_zero (s : Store) (f : Nat) : countW s (f+1) 0 = (1, 0, 0) := by simp [countW]
def wnode (l h : Nat × Nat × Nat) : Nat × Nat × Nat :=
  let lo_exp := if l.2.2 > h.2.2 then 0 else asU32 (h.2.2 - l.2.2)
  let hi_exp := if l.2.2 > h.2.2 then asU32 (l.2.2 - h.2.2) else 0
  (wadd (wmul l.1 (wpow2 lo_exp)) (wmul h.1 (wpow2 hi_exp)),
   wadd (wmul l.2.1 (wpow2 lo_exp)) (wmul h.2.1 (wpow2 hi_exp)),
   wadd (max l.2.2 h.2.2) 1)

theorem countW_node (s : Store) (f t : Nat) (n : Node) (ht : 2 ≤ t) (hn : s.nodes[t]? = some n) :
    countW s (f+1) t = wnode (countW s f n.lo) (countW s f n.hi) := by
  conv => lhs; unfold countW
  rw [if_neg (by omega), if_neg (by omega), hn]
  rfl

theorem wstep_eq (n : Node) (l h : Nat × Nat × Nat) (F : StepFits l.1 l.2.1 l.2.2 h.1 h.2.1 h.2.2) :
    wnode l h = Memo.cntG.node n l h := by
  -- an exponent of at most 63 survives the cast to `u32`
  have small : ∀ {a : Nat}, a ≤ 63 → asU32 a = a := fun ha => Nat.mod_eq_of_lt (Nat.lt_of_le_of_lt ha (by decide))
  have hl : (if l.2.2 > h.2.2 then 0 else asU32 (h.2.2 - l.2.2)) = loExp l.2.2 h.2.2 := by
    rw [← small F.loExp_le]; unfold loExp; split <;> rfl
  have hh : (if l.2.2 > h.2.2 then asU32 (l.2.2 - h.2.2) else 0) = hiExp l.2.2 h.2.2 := by
    rw [← small F.hiExp_le]; unfold hiExp; split <;> rfl
  have pl : wpow2 (loExp l.2.2 h.2.2) = 2 ^ loExp l.2.2 h.2.2 := if_pos (Nat.lt_succ_of_le F.loExp_le)
  have ph : wpow2 (hiExp l.2.2 h.2.2) = 2 ^ hiExp l.2.2 h.2.2 := if_pos (Nat.lt_succ_of_le F.hiExp_le)
  unfold wnode
  simp only [hl, hh, pl, ph]
  unfold wadd wmul
  rw [Nat.mod_eq_of_lt F.prodCL, Nat.mod_eq_of_lt F.prodCH, Nat.mod_eq_of_lt F.prodML,
      Nat.mod_eq_of_lt F.prodMH, Nat.mod_eq_of_lt F.sumC, Nat.mod_eq_of_lt F.sumM,
      Nat.mod_eq_of_lt F.depth, loExp_eq, hiExp_eq]
  rfl

theorem countW_eq_countF (s : Store) (h : TableWF s.nodes) : ∀ (fuel t : Nat), t < s.nodes.size → t < fuel →
    (countF s fuel t).2.2 ≤ 64 → countW s fuel t = countF s fuel t := by
  intro fuel
  induction fuel with
  | zero => intro t _ h; exact absurd h (Nat.not_lt_zero _)
  | succ f ih =>
    intro t ht hf hd
    by_cases h1 : t = 1
    · subst h1; rw [countF_one, countW_one]
    by_cases h0 : t = 0
    · subst h0; rw [countF_zero, countW_zero]
    have ht2 : 2 ≤ t := by omega
    obtain ⟨n, hn⟩ := get_of_lt ht
    have F := count_intermediates_fit_fuel s h f t n ht2 hn hf hd
    have hc : ∀ b, n.child b < s.nodes.size ∧ n.child b < f ∧ (countF s f (n.child b)).2.2 ≤ 64 := fun b =>
      have hlt := Tab.child_lt s h ht2 hn b
      ⟨Nat.lt_trans hlt ht, Nat.lt_of_lt_of_le hlt (Nat.le_of_lt_succ hf),
        Nat.le_trans (Nat.le_of_lt (depth_child_lt s f ht2 hn b)) hd⟩
    rw [countW_node s f t n ht2 hn, ih n.lo (hc false).1 (hc false).2.1 (hc false).2.2,
        ih n.hi (hc true).1 (hc true).2.1 (hc true).2.2, wstep_eq n _ _ F]
    exact (countF_node s f t n ht2 hn).symm

/-! ## the bound 64 is sharp: the conjunction of 65 variables -/

/-- the conjunction of the variables `n-k, …, n-1`, built bottom-up with the store's own `mkNode`
(store, handle) -/
def conjChain (n : Nat) : Nat → Store × Nat
  | 0 => (Store.init, 1)
  | k+1 => mkNode (conjChain n k).1 (n - (k+1)) 0 (conjChain n k).2

/-- its node table, given explicitly: ⊥, ⊤, then node `j+2` tests variable `n-(j+1)`, goes to ⊥
on false and to node `j+1` on true -/
def conjNodes (n : Nat) : Nat → Array Node
  | 0 => #[⟨VBOT, 0, 0⟩, ⟨VTOP, 1, 1⟩]
  | k+1 => (conjNodes n k).push ⟨n - (k+1), 0, k+1⟩

theorem conjNodes_size (n : Nat) : ∀ k, (conjNodes n k).size = k + 2 := by
  intro k
  induction k with
  | zero => rfl
  | succ k ih => simp [conjNodes, ih]

theorem conjNodes_get (n : Nat) : ∀ K j, j < K → (conjNodes n K)[j+2]? = some ⟨n - (j+1), 0, j+1⟩ := by
  intro K
  induction K with
  | zero => intro j h; omega
  | succ K ih =>
    intro j hj
    simp only [conjNodes]
    rw [Array.getElem?_push, conjNodes_size]
    by_cases e : j = K
    · subst e; simp
    · rw [if_neg (by omega)]; exact ih j (by omega)

theorem forall_range_succ {P : Nat → Prop} {n k : Nat} (hk : k + 1 ≤ n) :
    (∀ i, n - (k+1) ≤ i → i < n → P i) ↔ P (n - (k+1)) ∧ ∀ i, n - k ≤ i → i < n → P i := by
  have e : n - k = n - (k+1) + 1 := by omega
  rw [e]
  constructor
  · exact fun h => ⟨h _ (Nat.le_refl _) (Nat.sub_lt (Nat.lt_of_lt_of_le (Nat.succ_pos k) hk) (Nat.succ_pos k)),
      fun i h1 h2 => h i (Nat.le_of_succ_le h1) h2⟩
  · intro ⟨h0, h⟩ i h1 h2
    rcases Nat.eq_or_lt_of_le h1 with e | hlt
    · rw [← e]; exact h0
    · exact h i hlt h2

theorem conjChain_spec (n : Nat) (hn : n < VBOT) : ∀ k, k ≤ n →
    WF (conjChain n k).1 ∧ (conjChain n k).2 = k + 1 ∧ (conjChain n k).1.nodes = conjNodes n k ∧
    (∀ σ, eval (conjChain n k).1 (k+1) σ = true ↔ ∀ i, n - k ≤ i → i < n → σ i = true) := by
  intro k
  induction k with
  | zero =>
    intro _
    refine ⟨WF_init, rfl, rfl, fun σ => ?_⟩
    rw [eval_one]
    exact ⟨fun _ i h1 h2 => absurd h2 (Nat.not_lt_of_le h1), fun _ => rfl⟩
  | succ k ih =>
    intro hk
    have ⟨w, hh, hnodes, hev⟩ := ih (Nat.le_of_succ_le hk)
    rw [conjChain]
    generalize conjChain n k = C at *
    rw [hh]
    have hsize : C.1.nodes.size = k + 2 := by rw [hnodes, conjNodes_size]
    have hv : n - (k+1) < VBOT := Nat.lt_of_le_of_lt (Nat.sub_le _ _) hn
    -- the new node is not in the table: its high child is the newest handle
    have hnone : C.1.uniq[(⟨n - (k+1), 0, k+1⟩ : Node)]? = none := by
      cases hl : C.1.uniq[(⟨n - (k+1), 0, k+1⟩ : Node)]? with
      | none => rfl
      | some t =>
        have ⟨ht2, hget⟩ := (w.uniqOK _ t).mp hl
        have hhi : k + 1 < t := (w.inner t _ ht2 hget).2.2.1
        have := lt_of_get hget
        omega
    have htop : n - (k+1) < topVar C.1 (k+1) := by
      cases k with
      | zero => rw [topVar_one w]; exact Nat.lt_trans hv (by decide)
      | succ j =>
        rw [topVar_of_get (n := ⟨n - (j+1), 0, j+1⟩) (by rw [hnodes]; exact conjNodes_get n (j+1) j (Nat.lt_succ_self j))]
        show n - (j+1+1) < n - (j+1)
        omega
    have ⟨w', _, _, _, hev'⟩ := mkNode_spec C.1 w (n - (k+1)) 0 (k+1) (by omega) (by omega) hv
      (by rw [topVar_zero w]; exact hv) htop
    rw [mkNode_fresh C.1 _ _ _ (Nat.succ_ne_zero k).symm hnone] at w' hev' ⊢
    refine ⟨w', hsize, by show C.1.nodes.push _ = _; rw [hnodes]; rfl, fun σ => ?_⟩
    dsimp only at hev' ⊢
    rw [show k + 1 + 1 = C.1.nodes.size from hsize.symm, hev' σ, eval_zero, forall_range_succ hk, ← hev σ]
    cases σ (n - (k+1)) <;> simp

theorem countF_conj (s : Store) (n K : Nat) (hs : s.nodes = conjNodes n K) :
    ∀ j, j ≤ K → countF s (j+2) (j+1) = (2 ^ j - 1, 1, j) := by
  intro j
  induction j with
  | zero => intro _; rw [countF_one]
  | succ j ih =>
    intro hj
    have hn : s.nodes[j+2]? = some ⟨n - (j+1), 0, j+1⟩ := by rw [hs]; exact conjNodes_get n K j (by omega)
    rw [countF_node s (j+2) (j+1+1) _ (by omega) hn]
    simp only
    rw [countF_zero, ih (by omega)]
    simp only [Nat.zero_le, Nat.max_eq_right, Nat.sub_zero, Nat.sub_self, Nat.pow_zero, Nat.mul_one,
      Nat.one_mul, Nat.zero_mul, Nat.zero_add]
    rw [Nat.pow_succ, Nat.mul_two, Nat.add_sub_assoc (Nat.two_pow_pos j)]

/-- on every store whose table is the chain of 65 nodes, the unbounded model counts `2^65 - 1`
counter-models and one model at depth 65, while the 64-bit evaluation returns `2^64 - 1`
counter-models: the factor `2usize.pow(64)` of the lo child wraps to 0 -/
theorem conj65_table_overflow (s : Store) (w : TableWF s.nodes) (hnodes : s.nodes = conjNodes 65 65) :
    countF s 67 66 = (2 ^ 65 - 1, 1, 65) ∧ countW s 67 66 = (2 ^ 64 - 1, 1, 65) := by
  have hF : countF s 67 66 = (2 ^ 65 - 1, 1, 65) := countF_conj s 65 65 hnodes 65 (Nat.le_refl _)
  have hF64 : countF s 66 65 = (2 ^ 64 - 1, 1, 64) := countF_conj s 65 65 hnodes 64 (by decide)
  have hsize : s.nodes.size = 67 := by rw [hnodes, conjNodes_size]
  have hd : (countF s 66 65).2.2 ≤ 64 := by rw [hF64]; exact Nat.le_refl 64
  have hW64 : countW s 66 65 = (2 ^ 64 - 1, 1, 64) := by
    rw [countW_eq_countF s w 66 65 (by omega) (by omega) hd, hF64]
  have hget : s.nodes[66]? = some ⟨0, 0, 65⟩ := by
    rw [hnodes]; exact conjNodes_get 65 65 64 (by decide)
  refine ⟨hF, ?_⟩
  rw [countW_node s 66 66 _ (by decide) hget]
  simp only
  rw [countW_zero, hW64]
  decide

/-- the store holding the conjunction of the 65 variables 0, …, 64 (handle 66), built with `mkNode` -/
def conj65 : Store := (conjChain 65 65).1

/-! evaluation, in addition to the theorems: the compiled definitions give the same numbers; the
wrapped value for 65 variables is the one measured on the release build (finding D13) -/
#guard countW (conjChain 64 64).1 66 65 == (18446744073709551615, 1, 64)
#guard countW conj65 67 66 == (18446744073709551615, 1, 65)
#guard countF conj65 67 66 == (36893488147419103231, 1, 65)

#print axioms counts_sum_fuel
#print axioms counts_fit_word_fuel
#print axioms count_intermediates_fit_fuel
#print axioms countW_eq_countF
