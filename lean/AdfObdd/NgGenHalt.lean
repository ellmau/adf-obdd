import AdfObdd.NgGen
/-! # The generic nogood-learning search: liveness laws, and what one iteration does

`GLive`: the laws under which the search halts (`NgBound.lean` has the induction); `GLive0`: the same without
`cl_direct`, which only the last step from the initial state needs (everything up to the big-step lemma takes `GLive0`),
written as the shape laws `Shape`, which `GSound` has too, plus the liveness laws proper.
`tail_out`: the tail of an iteration (closure, consistency, propagation, classification) takes a state
without pending choice or backtrack to one that is dead, has decided more, or asks for a choice - or, unless
`dec = id`, to one in which only the vector changed: the propagation step may change the vector without changing
its decided part (the code compares handle vectors); by `gam_idem` the step after such an iteration leaves the
vector alone, so an iteration that neither decides anything nor classifies is followed by one that does
(`after_tail2N` in `NgBound.lean`). `step3_to_choice`, `step3_plain`: what backtracking does to stack, vector and store. -/
namespace NGen

variable {V Sto : Type}

/-- liveness laws of the parameters; `mu` measures how much is decided, `n` bounds it -/
structure GLive (P : GParams V Sto) (n : Nat) (mu : PA → Nat) : Prop where
  ok_gam : ∀ X, P.Ok X → P.Ok (P.gam X)
  ok_set : ∀ k X v b, P.Ok X → P.heu k X = some (v, b) → P.Ok (P.setV X v b)
  ok_upd : ∀ st X R, P.OkS st → P.Ok X → P.closure st (P.dec X) = Closure.update R → P.Ok (P.updV X R)
  dec_set : ∀ k X v b, P.Ok X → P.heu k X = some (v, b) → P.dec (P.setV X v b) = setAt (P.dec X) v b
  dec_upd : ∀ st X R, P.OkS st → P.Ok X → P.closure st (P.dec X) = Closure.update R → P.dec (P.updV X R) = R
  okg : ∀ X, P.Ok X → P.OkG (P.dec X)
  oks_add : ∀ st g, P.OkS st → P.OkG g → P.OkS (P.add st g)
  mem_add : ∀ st g x, P.OkS st → P.OkG g → (P.Mem (P.add st g) x ↔ (x = g ∨ P.Mem st x))
  heu_valid : ∀ k X v b, P.Ok X → P.heu k X = some (v, b) →
      pget (P.dec X) v = none ∧ mu (P.dec X) < mu (setAt (P.dec X) v b)
  heu_total : ∀ k X, P.Ok X → P.twoVal (P.dec X) = false → (P.heu k X).isSome = true ∧ mu (P.dec X) < n
  gam_sub : ∀ X, P.Ok X → PSub (P.dec X) (P.dec (P.gam X))
  gam_grow : ∀ X, P.Ok X → P.dec (P.gam X) ≠ P.dec X → mu (P.dec X) < mu (P.dec (P.gam X))
  /-- a propagation step that decides nothing new is idempotent (canonicity, in the instance) -/
  gam_idem : ∀ X, P.Ok X → P.dec (P.gam X) = P.dec X → P.gam (P.gam X) = P.gam X
  upd_sub : ∀ st A R, P.OkS st → P.OkG A → P.closure st A = Closure.update R → PSub A R ∧ mu A < mu R
  mu_le : ∀ A, P.OkG A → mu A ≤ n
  /-- back at `H` after the branch `v = b`: if the learned `H ∪ {v=b}` is stored and every stored nogood has a literal
  complemented in `H` or extends `H ∪ {v=b}`, the closure answers the flipped value, so the level makes no second choice -/
  cl_flip : ∀ st H v b, P.OkS st → P.OkG H → P.OkG (setAt H v b) → pget H v = none → P.Mem st (setAt H v b) →
      (∀ g, P.Mem st g → Closed g H ∨ PSub (setAt H v b) g) →
      ∃ R, P.closure st H = Closure.update R ∧ pget R v = some (!b)
  cl_direct : ∀ st A, P.OkS st → P.OkG A → (∃ g, P.Mem st g ∧ PSub g A) → P.closure st A = Closure.inconsistent

structure GLive0 (P : GParams V Sto) (n : Nat) (mu : PA → Nat) : Prop extends Shape P where
  heu_valid : ∀ k X v b, P.Ok X → P.heu k X = some (v, b) →
      pget (P.dec X) v = none ∧ mu (P.dec X) < mu (setAt (P.dec X) v b)
  heu_total : ∀ k X, P.Ok X → P.twoVal (P.dec X) = false → (P.heu k X).isSome = true ∧ mu (P.dec X) < n
  gam_sub : ∀ X, P.Ok X → PSub (P.dec X) (P.dec (P.gam X))
  gam_grow : ∀ X, P.Ok X → P.dec (P.gam X) ≠ P.dec X → mu (P.dec X) < mu (P.dec (P.gam X))
  gam_idem : ∀ X, P.Ok X → P.dec (P.gam X) = P.dec X → P.gam (P.gam X) = P.gam X
  upd_sub : ∀ st A R, P.OkS st → P.OkG A → P.closure st A = Closure.update R → PSub A R ∧ mu A < mu R
  mu_le : ∀ A, P.OkG A → mu A ≤ n
  cl_flip : ∀ st H v b, P.OkS st → P.OkG H → P.OkG (setAt H v b) → pget H v = none → P.Mem st (setAt H v b) →
      (∀ g, P.Mem st g → Closed g H ∨ PSub (setAt H v b) g) →
      ∃ R, P.closure st H = Closure.update R ∧ pget R v = some (!b)

theorem GLive.to0 {P : GParams V Sto} {n : Nat} {mu : PA → Nat} (h : GLive P n mu) : GLive0 P n mu := { h with }

/-- apply `iter` j times starting at iteration number `k`, all of them continuing -/
noncomputable def iterN (P : GParams V Sto) : Nat → Nat → St V Sto → Option (St V Sto)
  | _, 0, s => some s
  | k, j+1, s => match iter P k s with
    | Res.cont s' => iterN P (k+1) j s'
    | Res.done _ => none

theorem iterN_add (P : GParams V Sto) : ∀ (a b k : Nat) (s s' s'' : St V Sto), iterN P k a s = some s' →
    iterN P (k + a) b s' = some s'' → iterN P k (a + b) s = some s'' := by
  intro a b k s s' s'' h1 h2
  fun_induction iterN P k a s with
  | case1 k s => cases h1; simpa using h2
  | case2 k a s s1 hi ih =>
    have e : k + (a + 1) = (k + 1) + a := by omega
    rw [show a + 1 + b = (a + b) + 1 by omega, iterN, hi]
    exact ih h1 (e ▸ h2)
  | case3 k a s s1 hi => cases h1

/-- the entries pushed since `base` without a choice: popping them learns only nogoods that extend `base` -/
def Plain (P : GParams V Sto) (base top : PA) (extra : List (Entry V)) : Prop :=
  ∀ e ∈ extra, e.choice = none ∧ PSub base e.ng ∧ PSub e.ng top ∧ P.OkG e.ng

theorem Plain.top {P : GParams V Sto} {base top top' : PA} {l : List (Entry V)} (h : Plain P base top l)
    (hs : PSub top top') : Plain P base top' l :=
  fun e he => ⟨(h e he).1, (h e he).2.1, (h e he).2.2.1.trans hs, (h e he).2.2.2⟩

/-- what `stepTail` does to a state without pending choice or backtrack, when it classifies or
decides something -/
inductive TailOut3 (P : GParams V Sto) (mu : PA → Nat) (s s' : St V Sto) : Prop
  | dead (pl : List (Entry V)) : s'.backtrack = true → s'.choice = false → s'.stack = pl ++ s.stack →
      Plain P (P.dec s.cur) (P.dec s'.cur) pl → s'.store = s.store → PSub (P.dec s.cur) (P.dec s'.cur) →
      P.Ok s'.cur → TailOut3 P mu s s'
  | grown (pl : List (Entry V)) : s'.backtrack = false → s'.choice = false → s'.stack = pl ++ s.stack →
      Plain P (P.dec s.cur) (P.dec s'.cur) pl → s'.store = s.store → PSub (P.dec s.cur) (P.dec s'.cur) →
      mu (P.dec s.cur) < mu (P.dec s'.cur) →
      (∀ R, P.closure s.store (P.dec s.cur) = Closure.update R → PSub R (P.dec s'.cur)) →
      P.Ok s'.cur → TailOut3 P mu s s'
  | choose : s'.backtrack = false → s'.choice = true → s'.stack = s.stack → s'.store = s.store →
      P.dec s'.cur = P.dec s.cur → P.twoVal (P.dec s.cur) = false →
      P.closure s.store (P.dec s.cur) = Closure.noUpdate → P.Ok s'.cur → TailOut3 P mu s s'

/-- the outcome of `stepTail` that `TailOut3` leaves out: only the vector changed (its decided part did not); then the
new vector is a fixed point of `gam` -/
structure Stut (P : GParams V Sto) (s s' : St V Sto) : Prop where
  b1 : s'.backtrack = false
  b2 : s'.choice = false
  hst : s'.stack = s.stack
  hstore : s'.store = s.store
  hcur : P.dec s'.cur = P.dec s.cur
  hset : P.gam s'.cur = s'.cur
  hne : P.gam s.cur ≠ s.cur
  hok : P.Ok s'.cur

theorem TailOut3.transfer {P : GParams V Sto} {mu : PA → Nat} {s1 s s' : St V Sto} (h : TailOut3 P mu s1 s')
    (h1 : s1.stack = s.stack) (h2 : s1.store = s.store) (h3 : P.dec s1.cur = P.dec s.cur) : TailOut3 P mu s s' := by
  cases h with
  | dead pl a b c d e f g => exact TailOut3.dead pl a b (h1 ▸ c) (h3 ▸ d) (h2 ▸ e) (h3 ▸ f) g
  | grown pl a b c d e f g i j =>
    exact TailOut3.grown pl a b (h1 ▸ c) (h3 ▸ d) (h2 ▸ e) (h3 ▸ f) (h3 ▸ g)
      (by rw [← h2, ← h3]; exact i) j
  | choose a b c d e f g i =>
    exact TailOut3.choose a b (h1 ▸ c) (h2 ▸ d) (h3 ▸ e) (h3 ▸ f) (by rw [← h2, ← h3]; exact g) i

variable {P : GParams V Sto} {n : Nat} {mu : PA → Nat}

theorem final_out (hL : GLive0 P n mu) (s s3 : St V Sto) (updNg : Bool) (pl : List (Entry V))
    (hb : s3.backtrack = false) (hc : s3.choice = false) (hst : s3.stack = pl ++ s.stack)
    (hpl : Plain P (P.dec s.cur) (P.dec s3.cur) pl) (hstore : s3.store = s.store)
    (hsub : PSub (P.dec s.cur) (P.dec s3.cur)) (hok : P.Ok s3.cur)
    (hup : updNg = true → mu (P.dec s.cur) < mu (P.dec s3.cur))
    (hno : updNg = false → s3 = s ∧ pl = [] ∧ P.closure s.store (P.dec s.cur) = Closure.noUpdate)
    (hR : ∀ R, P.closure s.store (P.dec s.cur) = Closure.update R → PSub R (P.dec s3.cur)) :
    TailOut3 P mu s (stepFinal P s3 updNg) ∨ Stut P s (stepFinal P s3 updNg) := by
  have gs := hL.gam_sub s3.cur hok
  have hokg := hL.ok_gam s3.cur hok
  -- whenever more is decided than in `s`, the state with the propagated vector is the outcome `grown`
  have grown : mu (P.dec s.cur) < mu (P.dec (P.gam s3.cur)) → TailOut3 P mu s { s3 with cur := P.gam s3.cur } :=
    fun hm => TailOut3.grown pl hb hc hst (hpl.top gs) hstore (hsub.trans gs) hm (fun R h => (hR R h).trans gs) hokg
  fun_cases stepFinal P s3 updNg with
  | case1 hac => exact Or.inl (TailOut3.dead pl rfl hc hst hpl hstore hsub hok)
  | case2 hac cur' s4 hfp =>
    by_cases hdec : P.dec (P.gam s3.cur) = P.dec s3.cur
    · -- only the vector changed
      cases hu : updNg with
      | true => exact Or.inl (grown (hdec ▸ hup hu))
      | false =>
        obtain ⟨e1, -, -⟩ := hno hu
        subst e1
        exact Or.inr ⟨hb, hc, rfl, rfl, hdec, hL.gam_idem _ hok hdec, hfp, hokg⟩
    · have hg := hL.gam_grow _ hok hdec
      cases hu : updNg with
      | true => exact Or.inl (grown (Nat.lt_trans (hup hu) hg))
      | false => exact Or.inl (grown ((hno hu).1 ▸ hg))
  | case3 hac cur' s4 hfp hun =>
    have heq : P.gam s3.cur = s3.cur := Classical.not_not.mp hfp
    exact Or.inl (grown (heq.symm ▸ hup hun))
  | case4 hac cur' s4 hfp hun htv =>
    have heq : P.gam s3.cur = s3.cur := Classical.not_not.mp hfp
    obtain ⟨rfl, -, hcl⟩ := hno (by simpa using hun)
    simp only [s4, cur', heq] at htv ⊢
    exact Or.inl (TailOut3.choose hb rfl rfl rfl rfl (by simpa using htv) hcl hok)
  | case5 hac cur' s4 | case6 hac cur' s4 =>
    -- a leaf: reported or not, it is dead
    exact Or.inl (TailOut3.dead _ rfl hc (congrArg (List.cons _) hst)
      (List.forall_mem_cons.mpr ⟨⟨rfl, hsub.trans gs, PSub.refl _, hL.okg _ hokg⟩, hpl.top gs⟩) hstore (hsub.trans gs) hokg)

theorem tail_out (hL : GLive0 P n mu) (s : St V Sto) (hb : s.backtrack = false) (hc : s.choice = false)
    (hok : P.Ok s.cur) (hoks : P.OkS s.store) :
    TailOut3 P mu s (stepTail P s) ∨ Stut P s (stepTail P s) := by
  have hokg := hL.okg _ hok
  fun_cases stepTail P s with
  | case1 hcl =>
    exact Or.inl (TailOut3.dead [] rfl hc rfl (fun _ h => by cases h) rfl (PSub.refl _) hok)
  | case2 r hcl =>
    have ⟨hs, hm⟩ := hL.upd_sub _ _ r hoks hokg hcl
    have hd := hL.dec_upd _ _ r hoks hok hcl
    have hok' := hL.ok_upd _ _ r hoks hok hcl
    have hokr : P.OkG r := by rw [← hd]; exact hL.okg _ hok'
    exact final_out hL s _ true [{ choice := none, ng := r }] hb hc rfl
      (fun e he => by rw [List.mem_singleton.mp he]; simp only [hd]; exact ⟨trivial, hs, PSub.refl _, hokr⟩) rfl
      (by simp only [hd]; exact hs) hok' (fun _ => by simp only [hd]; exact hm) (fun h => by cases h)
      (fun R h => by rw [hcl] at h; cases h; simp only [hd]; exact PSub.refl _)
  | case3 hcl =>
    exact final_out hL s s false [] hb hc rfl (fun _ h => by cases h) rfl (PSub.refl _) hok
      (fun h => by cases h) (fun _ => ⟨rfl, rfl, hcl⟩) (fun R h => by rw [hcl] at h; cases h)

theorem step1_neg (k : Nat) {s : St V Sto} (hc : s.choice = false) : step1 P k s = s := by
  unfold step1; rw [if_neg (by simp [hc])]

theorem step3_neg {s : St V Sto} (hb : s.backtrack = false) : step3 P s = s := by
  unfold step3; rw [if_neg (by simp [hb])]

theorem step3_pos {s : St V Sto} (hb : s.backtrack = true) :
    step3 P s = { s with backtrack := false, stack := (popLoop P s.stack s.store s.cur).1,
                         store := (popLoop P s.stack s.store s.cur).2.1, cur := (popLoop P s.stack s.store s.cur).2.2 } := by
  unfold step3; rw [if_pos hb]

/-- `iter` by the flags of the state: `_N` none set, `_B` backtrack on a non-empty stack, `_D` backtrack on an empty one
(done), `_C` choice -/
theorem iter_N (k : Nat) (s : St V Sto) (hb : s.backtrack = false) (hc : s.choice = false) :
    iter P k s = Res.cont (stepTail P s) := by
  unfold iter; simp only [step1_neg k hc]
  rw [if_neg (by simp [hb]), step3_neg hb]

theorem iter_B (k : Nat) (s : St V Sto) (hc : s.choice = false) (hs : s.stack ≠ []) :
    iter P k s = Res.cont (stepTail P (step3 P s)) := by
  unfold iter; simp only [step1_neg k hc]
  rw [if_neg (by simp [hs])]

theorem iter_D (k : Nat) (s : St V Sto) (hb : s.backtrack = true) (hc : s.choice = false) (hs : s.stack = []) :
    iter P k s = Res.done s := by
  unfold iter; simp only [step1_neg k hc]
  rw [if_pos ⟨hb, hs⟩]

def afterChoice (P : GParams V Sto) (s : St V Sto) (v : Nat) (b : Bool) : St V Sto :=
  { s with choice := false, cur := P.setV s.cur v b,
           stack := { choice := some (s.cur, v, b), ng := P.dec (P.setV s.cur v b) } :: s.stack }

theorem iter_C (k : Nat) (s : St V Sto) (hb : s.backtrack = false) (hc : s.choice = true) (v : Nat) (b : Bool)
    (hh : P.heu k s.cur = some (v, b)) :
    iter P k s = Res.cont (stepTail P (afterChoice P s v b)) := by
  have h1 : step1 P k s = afterChoice P s v b := by
    unfold step1 afterChoice; rw [if_pos hc, hh]
  unfold iter; simp only [h1]
  have hb' : (afterChoice P s v b).backtrack = false := hb
  rw [if_neg (by simp [hb']), step3_neg hb']

theorem popLoop_plain_append (hP : Shape P) (tl : List (Entry V)) (cur : V) : ∀ (extra : List (Entry V)) (store : Sto),
    (∀ e ∈ extra, e.choice = none ∧ P.OkG e.ng) → P.OkS store →
    ∃ t, popLoop P (extra ++ tl) store cur = popLoop P tl t cur ∧ P.OkS t ∧
      ∀ g, P.Mem t g ↔ ((∃ e ∈ extra, e.ng = g) ∨ P.Mem store g) := by
  intro extra
  induction extra with
  | nil => intro store _ hS; exact ⟨store, rfl, hS, fun g => by simp⟩
  | cons e extra ih =>
    intro store hp hS
    have ⟨he, heg⟩ := hp e (List.mem_cons_self ..)
    obtain ⟨t, h1, h2, h3⟩ := ih (P.add store e.ng) (fun x hx => hp x (List.mem_cons_of_mem _ hx)) (hP.oks_add _ _ hS heg)
    refine ⟨t, by simp only [List.cons_append, popLoop, he]; exact h1, h2, fun g => ?_⟩
    simp only [h3 g, hP.mem_add store e.ng g hS heg, List.mem_cons, exists_eq_or_imp]
    rw [eq_comm (a := g), or_left_comm, or_assoc]

theorem step3_to_choice (hP : Shape P) {s : St V Sto} {extra rest : List (Entry V)} {H : V} {v : Nat} {b : Bool}
    {C : PA} (hb : s.backtrack = true) (hst : s.stack = extra ++ { choice := some (H, v, b), ng := C } :: rest)
    (hex : ∀ e ∈ extra, e.choice = none ∧ P.OkG e.ng) (hC : P.OkG C) (hS : P.OkS s.store) :
    ∃ t, step3 P s = { s with backtrack := false, stack := rest, store := t, cur := H } ∧ P.OkS t ∧
      ∀ g, P.Mem t g ↔ (g = C ∨ (∃ e ∈ extra, e.ng = g) ∨ P.Mem s.store g) := by
  obtain ⟨t, h1, h2, h3⟩ := popLoop_plain_append hP ({ choice := some (H, v, b), ng := C } :: rest) s.cur extra s.store hex hS
  refine ⟨P.add t C, ?_, hP.oks_add _ _ h2 hC, fun g => ?_⟩
  · rw [step3_pos hb, hst, h1]; rfl
  · rw [hP.mem_add t C g h2 hC, h3 g]

theorem step3_plain (hP : Shape P) {s : St V Sto} (hb : s.backtrack = true)
    (hex : ∀ e ∈ s.stack, e.choice = none ∧ P.OkG e.ng) (hS : P.OkS s.store) :
    ∃ t, step3 P s = { s with backtrack := false, stack := [], store := t } ∧ P.OkS t ∧
      ∀ e ∈ s.stack, P.Mem t e.ng := by
  obtain ⟨t, h1, h2, h3⟩ := popLoop_plain_append hP [] s.cur s.stack s.store hex hS
  rw [List.append_nil] at h1
  refine ⟨t, ?_, h2, fun e he => (h3 e.ng).mpr (Or.inl ⟨e, he, rfl⟩)⟩
  rw [step3_pos hb, h1]; rfl

/-- `w` is the invariant of the termination argument ((W) in DESIGN §7): while `backtrack` is false every stored nogood
has a literal complemented in the current interpretation, so the old nogoods conclude nothing and the search is
chronological -/
structure LInv (P : GParams V Sto) (s : St V Sto) : Prop where
  nb : s.backtrack = false
  w : ∀ g, P.Mem s.store g → Closed g (P.dec s.cur)
  ch : s.choice = true → P.twoVal (P.dec s.cur) = false
  okc : P.Ok s.cur
  oks : P.OkS s.store

/-- from `s` (at iteration number `k`) the loop reaches, without halting, a state that asks for
backtracking and whose stack is the given one plus plain entries above `base` -/
def ReachB (P : GParams V Sto) (k : Nat) (s : St V Sto) (base : PA) (stk : List (Entry V)) (st0 : Sto) : Prop :=
  ∃ j s', iterN P k j s = some s' ∧ s'.backtrack = true ∧ s'.choice = false ∧
    (∃ extra, s'.stack = extra ++ stk ∧ Plain P base (P.dec s'.cur) extra) ∧
    (∀ g, P.Mem s'.store g → P.Mem st0 g ∨ PSub base g) ∧ PSub base (P.dec s'.cur) ∧
    P.OkS s'.store ∧ P.Ok s'.cur

theorem Plain.weaken {base base' top : PA} {l : List (Entry V)} (h : Plain P base' top l) (hs : PSub base base') :
    Plain P base top l := fun e he => ⟨(h e he).1, hs.trans (h e he).2.1, (h e he).2.2.1, (h e he).2.2.2⟩

theorem run_of_iterN : ∀ (j f k : Nat) (s s' : St V Sto), iterN P k j s = some s' →
    run P k (j + f) s = run P (k + j) f s' := by
  intro j f k s s' h
  fun_induction iterN P k j s with
  | case1 k s => cases h; simp
  | case2 k j s s1 hi ih =>
    rw [show j + 1 + f = (j + f) + 1 by omega, run, hi, show k + (j + 1) = (k + 1) + j by omega]
    exact ih h
  | case3 k j s s1 hi => cases h

end NGen
