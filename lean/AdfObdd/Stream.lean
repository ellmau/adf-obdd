
namespace StreamM
/-! the streaming mirror (`Bdd::recv`) — for every interleaving of node creations
    and polls the receiver holds a prefix of the producer's table; a relay chain too -/

structure SNode where
  var : Nat
  lo : Nat
  hi : Nat
deriving DecidableEq, Repr

/-- `recv(term)` body once `term` is not present: drain the channel until the requested handle
arrives or the channel is empty; `fwd` collects what a relay forwards -/
def drain : List SNode → List SNode → Nat → (List SNode × List SNode × List SNode × Bool)
  | [], recv, _ => ([], recv, [], false)
  | n :: q, recv, t =>
    if recv.length = t then (q, recv ++ [n], [n], true)     -- the new handle is `recv.length`
    else
      let r := drain q (recv ++ [n]) t
      (r.1, r.2.1, n :: r.2.2.1, r.2.2.2)

def poll (q recv : List SNode) (t : Nat) : (List SNode × List SNode × List SNode × Bool) :=
  if t < recv.length then (q, recv, [], true) else drain q recv t

theorem drain_spec : ∀ (q recv : List SNode) (t : Nat), recv.length ≤ t →
    let r := drain q recv t
    r.2.1 ++ r.1 = recv ++ q ∧ r.2.1 = recv ++ r.2.2.1 ∧ (r.2.2.2 = true ↔ t < r.2.1.length) := by
  intro q recv t h
  fun_induction drain q recv t with
  | case1 => simp; omega
  | case2 => simp
  | case3 n q recv t he r ih =>
    have ⟨a, b, c⟩ := ih (by rw [List.length_append]; exact Nat.lt_of_le_of_ne h he)
    simp only [r]
    exact ⟨by rw [a]; simp, by rw [b]; simp, c⟩

theorem poll_spec (q recv : List SNode) (t : Nat) :
    let r := poll q recv t
    r.2.1 ++ r.1 = recv ++ q ∧ r.2.1 = recv ++ r.2.2.1 ∧ (r.2.2.2 = true ↔ t < r.2.1.length) := by
  fun_cases poll q recv t with
  | case1 h => simp [h]
  | case2 h => exact drain_spec q recv t (by omega)

/-- events of a producer – relay – receiver chain -/
inductive Ev where
  | create (n : SNode)        -- the producer inserts a fresh node (and sends it)
  | relayPoll (t : Nat)       -- the relay polls for handle t (and forwards what it receives)
  | recvPoll (t : Nat)        -- the final receiver polls

structure Sys where
  prod : List SNode
  q1 : List SNode
  relay : List SNode
  q2 : List SNode
  recv : List SNode

def stepEv (s : Sys) : Ev → Sys × Option Bool
  | Ev.create n => ({ s with prod := s.prod ++ [n], q1 := s.q1 ++ [n] }, none)
  | Ev.relayPoll t =>
    let r := poll s.q1 s.relay t
    ({ s with q1 := r.1, relay := r.2.1, q2 := s.q2 ++ r.2.2.1 }, some r.2.2.2)
  | Ev.recvPoll t =>
    let r := poll s.q2 s.recv t
    ({ s with q2 := r.1, recv := r.2.1 }, some r.2.2.2)

def SysInv (s : Sys) : Prop := s.relay ++ s.q1 = s.prod ∧ s.recv ++ s.q2 = s.relay

theorem step_inv (s : Sys) (e : Ev) (h : SysInv s) : SysInv (stepEv s e).1 := by
  obtain ⟨h1, h2⟩ := h
  cases e with
  | create n => exact ⟨by simp [stepEv, ← h1], h2⟩
  | relayPoll t =>
    have ⟨a, b, _⟩ := poll_spec s.q1 s.relay t
    refine ⟨by simp only [stepEv]; rw [a]; exact h1, ?_⟩
    simp only [stepEv]; rw [b, ← List.append_assoc, h2]
  | recvPoll t =>
    have ⟨a, _, _⟩ := poll_spec s.q2 s.recv t
    exact ⟨h1, by simp only [stepEv]; rw [a]; exact h2⟩

/-- C19: after any sequence of events both mirrors hold prefixes of the producer's table, in
order; what is missing is exactly what is still in the channels -/
theorem run_inv (evs : List Ev) (s : Sys) (h : SysInv s) :
    SysInv (evs.foldl (fun s e => (stepEv s e).1) s) :=
  List.foldlRecOn evs _ h fun s hs e _ => step_inv s e hs

theorem recvPoll_found (s : Sys) (t : Nat) :
    (stepEv s (Ev.recvPoll t)).2 = some true ↔ t < (stepEv s (Ev.recvPoll t)).1.recv.length := by
  have ⟨_, _, c⟩ := poll_spec s.q2 s.recv t
  simp only [stepEv, Option.some.injEq]; exact c

theorem drained_equal (s : Sys) (h : SysInv s) (h1 : s.q1 = []) (h2 : s.q2 = []) :
    s.recv = s.prod := by
  obtain ⟨a, b⟩ := h
  rw [h1, List.append_nil] at a; rw [h2, List.append_nil] at b; rw [b, a]
#print axioms run_inv

end StreamM
