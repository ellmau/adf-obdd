import AdfObdd.ChannelFair
/-! # A producer loop that sends its results into a channel, and a consumer that iterates over it

Generic model behind the channel clause of C05 (`Adf::stable_nogood_channel`,
`Adf::two_val_nogood_channel`, `Adf::stable_nogood`):

* the PRODUCER is a deterministic loop (`iter`, `done`, `out`): one producer step is one loop
  iteration, or - if the iteration just made has appended a result to `out` that is not yet in the
  channel - the `s.send(v)` of that result, or - once the loop has ended and everything is sent - the
  return of the function, which drops the sender it was given (`closed := true`);
* the CHANNEL is a FIFO list `buf` plus the flag `closed` ("all senders dropped": the function was
  handed the only sender); `cap = none` is `crossbeam_channel::unbounded`, `cap = some k` (k ≥ 1) is
  `bounded(k)`: a `send` into a full channel blocks, i.e. the producer step is a no-op;
* the CONSUMER is `for v in receiver.iter()`: a consumer step takes the front message; on an empty
  channel it blocks (no-op) unless the channel is closed, in which case the iteration ends
  (`consDone := true`);
* `run` executes a schedule (`ChannelFair.lean`).  The ghost field `log` records what happens at the sending
  end (`send v` / `close`), `iters` counts loop iterations.

Results (all for every schedule): `Inv` (conservation: received ++ queued = sent so far = prefix of the
emitted list; closed only after the last result was sent; the log is `send`s followed by at most one
final `close`), `laws`/`fair_finishes` (every fair schedule ends the consumer's iteration: the system is an
instance of `Sys.Laws`), `finished_exact` (whenever the consumer's iteration has ended it has received
exactly the emitted list, in order).

Limits of THIS model, and where they are lifted: `closed` is "the one sender this
producer was handed is dropped", which is "the channel is disconnected" only if no clone of the sender exists -
several producers on clones of one sender: `ChannelClones.lean` (explicit sender count); `cap = some 0` makes every
`send` block forever here, whereas crossbeam's `bounded(0)` is a rendezvous channel: `ChannelZero.lean`; the
receiver dropped before the end, over whole schedules: `ChannelDrop.lean`. -/
namespace Chan

/-- what happens at the sending end of the channel -/
inductive ChEv (α : Type) where
  | send (v : α)
  | close
deriving DecidableEq, Repr

/-- the producer loop: `out` is the list of results emitted so far -/
structure Producer (σ α : Type) where
  iter : σ → σ
  done : σ → Bool
  out : σ → List α

structure Cfg (σ α : Type) where
  p : σ                    -- state of the producer loop
  iters : Nat              -- ghost: loop iterations made
  sent : Nat               -- how many of `out p` have been handed to the channel
  buf : List α             -- the channel
  closed : Bool            -- the sender has been dropped
  got : List α             -- what the consumer has received, in order
  consDone : Bool          -- the consumer's `for … in r.iter()` has ended
  log : List (ChEv α)      -- ghost: events at the sending end
deriving DecidableEq

variable {σ α : Type}

def full (cap : Option Nat) (buf : List α) : Bool :=
  match cap with
  | none => false
  | some k => decide (k ≤ buf.length)

def prodStep (P : Producer σ α) (cap : Option Nat) (c : Cfg σ α) : Cfg σ α :=
  if c.closed then c else
  match (P.out c.p)[c.sent]? with
  | some v =>
    if full cap c.buf then c
    else { c with sent := c.sent + 1, buf := c.buf ++ [v], log := c.log ++ [ChEv.send v] }
  | none =>
    if P.done c.p then { c with closed := true, log := c.log ++ [ChEv.close] }
    else { c with p := P.iter c.p, iters := c.iters + 1 }

def consStep (c : Cfg σ α) : Cfg σ α :=
  if c.consDone then c else
  match c.buf with
  | v :: rest => { c with buf := rest, got := c.got ++ [v] }
  | [] => if c.closed then { c with consDone := true } else c

def step (P : Producer σ α) (cap : Option Nat) (c : Cfg σ α) : Ev → Cfg σ α
  | .prod => prodStep P cap c
  | .cons => consStep c

def run (P : Producer σ α) (cap : Option Nat) (sched : List Ev) (c : Cfg σ α) : Cfg σ α :=
  sched.foldl (step P cap) c

def init (p0 : σ) : Cfg σ α :=
  { p := p0, iters := 0, sent := 0, buf := [], closed := false, got := [], consDone := false, log := [] }

theorem run_append (P : Producer σ α) (cap : Option Nat) (a b : List Ev) (c : Cfg σ α) :
    run P cap (a ++ b) c = run P cap b (run P cap a c) :=
  List.foldl_append

theorem prodStep_cases (P : Producer σ α) (cap : Option Nat) (c : Cfg σ α) :
    (prodStep P cap c = c ∧ (c.closed = true ∨ ∃ v, (P.out c.p)[c.sent]? = some v ∧ full cap c.buf = true)) ∨
    (∃ v, c.closed = false ∧ (P.out c.p)[c.sent]? = some v ∧ full cap c.buf = false ∧
      prodStep P cap c = { c with sent := c.sent + 1, buf := c.buf ++ [v], log := c.log ++ [ChEv.send v] }) ∨
    (c.closed = false ∧ (P.out c.p)[c.sent]? = none ∧ P.done c.p = true ∧
      prodStep P cap c = { c with closed := true, log := c.log ++ [ChEv.close] }) ∨
    (c.closed = false ∧ (P.out c.p)[c.sent]? = none ∧ P.done c.p = false ∧
      prodStep P cap c = { c with p := P.iter c.p, iters := c.iters + 1 }) := by
  fun_cases prodStep P cap c with
  | case1 h => exact Or.inl ⟨rfl, Or.inl h⟩
  | case2 h v hv hf => exact Or.inl ⟨rfl, Or.inr ⟨v, hv, hf⟩⟩
  | case3 h v hv hf => exact Or.inr (Or.inl ⟨v, eq_false_of_ne_true h, hv, eq_false_of_ne_true hf, rfl⟩)
  | case4 h hv hd => exact Or.inr (Or.inr (Or.inl ⟨eq_false_of_ne_true h, hv, hd, rfl⟩))
  | case5 h hv hd => exact Or.inr (Or.inr (Or.inr ⟨eq_false_of_ne_true h, hv, eq_false_of_ne_true hd, rfl⟩))

theorem consStep_cases (c : Cfg σ α) :
    (consStep c = c ∧ (c.consDone = true ∨ c.buf = [] ∧ c.closed = false)) ∨
    (∃ v rest, c.consDone = false ∧ c.buf = v :: rest ∧ consStep c = { c with buf := rest, got := c.got ++ [v] }) ∨
    (c.consDone = false ∧ c.buf = [] ∧ c.closed = true ∧ consStep c = { c with consDone := true }) := by
  fun_cases consStep c with
  | case1 h => exact Or.inl ⟨rfl, Or.inl h⟩
  | case2 h v rest hb => exact Or.inr (Or.inl ⟨v, rest, eq_false_of_ne_true h, hb, rfl⟩)
  | case3 h hb hcl => exact Or.inr (Or.inr ⟨eq_false_of_ne_true h, hb, hcl, rfl⟩)
  | case4 h hb hcl => exact Or.inl ⟨rfl, Or.inr ⟨hb, eq_false_of_ne_true hcl⟩⟩

theorem prodStep_of_closed {P : Producer σ α} {cap : Option Nat} {c : Cfg σ α} (h : c.closed = true) :
    prodStep P cap c = c := by
  unfold prodStep; rw [if_pos h]

theorem consStep_of_done {c : Cfg σ α} (h : c.consDone = true) : consStep c = c := by
  unfold consStep; rw [if_pos h]

theorem prodStep_cons_end (P : Producer σ α) (cap : Option Nat) (c : Cfg σ α) :
    (prodStep P cap c).got = c.got ∧ (prodStep P cap c).consDone = c.consDone := by
  rcases prodStep_cases P cap c with ⟨e, _⟩ | ⟨v, _, _, _, e⟩ | ⟨_, _, _, e⟩ | ⟨_, _, _, e⟩ <;> rw [e] <;> exact ⟨rfl, rfl⟩

theorem consStep_prod_end (c : Cfg σ α) :
    (consStep c).closed = c.closed ∧ (consStep c).log = c.log ∧
    (consStep c).got ++ (consStep c).buf = c.got ++ c.buf := by
  rcases consStep_cases c with ⟨e, _⟩ | ⟨v, rest, _, hb, e⟩ | ⟨_, _, _, e⟩ <;> rw [e]
  · exact ⟨rfl, rfl, rfl⟩
  · exact ⟨rfl, rfl, by rw [hb]; exact List.append_assoc ..⟩
  · exact ⟨rfl, rfl, rfl⟩

/-- the loop run for `k` iterations (stops at `done`) -/
def runG (P : Producer σ α) : Nat → σ → σ
  | 0, p => p
  | k+1, p => if P.done (runG P k p) then runG P k p else P.iter (runG P k p)

/-- the loop only ever appends to its output -/
def Mono (P : Producer σ α) : Prop := ∀ p, P.out p <+: P.out (P.iter p)

section facts
variable {P : Producer σ α} (hm : Mono P) {p0 : σ}
include hm

theorem runG_out_succ (k : Nat) : P.out (runG P k p0) <+: P.out (runG P (k + 1) p0) := by
  rw [runG]
  split
  · exact List.prefix_refl _
  · exact hm _

theorem runG_out_le {j k : Nat} (h : j ≤ k) : P.out (runG P j p0) <+: P.out (runG P k p0) := by
  induction h with
  | refl => exact List.prefix_refl _
  | step _ ih => exact ih.trans (runG_out_succ hm _)

omit hm in
theorem runG_stable {j : Nat} (hd : P.done (runG P j p0) = true) : ∀ k, j ≤ k → runG P k p0 = runG P j p0 := by
  intro k h
  induction h with
  | refl => rfl
  | step _ ih => rw [runG, ih, if_pos hd]

theorem out_prefix_final {N : Nat} (hN : P.done (runG P N p0) = true) (j : Nat) :
    P.out (runG P j p0) <+: P.out (runG P N p0) := by
  rcases Nat.le_total j N with h | h
  · exact runG_out_le hm h
  · rw [runG_stable hN j h]; exact List.prefix_refl _

omit hm in
theorem done_final {N : Nat} (hN : P.done (runG P N p0) = true) {j : Nat} (hj : P.done (runG P j p0) = true) :
    runG P j p0 = runG P N p0 := by
  rcases Nat.le_total j N with h | h
  · exact (runG_stable hj N h).symm
  · exact runG_stable hN j h

omit hm in
theorem not_done_lt {N : Nat} (hN : P.done (runG P N p0) = true) {j : Nat} (hj : P.done (runG P j p0) = false) :
    j < N := by
  rcases Nat.lt_or_ge j N with h | h
  · exact h
  · rw [runG_stable hN j h, hN] at hj; cases hj

end facts

structure Inv (P : Producer σ α) (cap : Option Nat) (p0 : σ) (c : Cfg σ α) : Prop where
  hp : c.p = runG P c.iters p0
  hs : c.sent ≤ (P.out c.p).length
  hq : c.got ++ c.buf = (P.out c.p).take c.sent
  hc : c.closed = true → P.done c.p = true ∧ c.sent = (P.out c.p).length
  hd : c.consDone = true → c.closed = true ∧ c.buf = []
  hcap : ∀ k, cap = some k → 1 ≤ k → c.buf.length ≤ k
  hlog : c.log = ((P.out c.p).take c.sent).map ChEv.send ++ (if c.closed then [ChEv.close] else [])

theorem Inv.init (P : Producer σ α) (cap : Option Nat) (p0 : σ) : Inv P cap p0 (init p0 : Cfg σ α) :=
  ⟨rfl, Nat.zero_le _, rfl, nofun, nofun, fun _ _ _ => Nat.zero_le _, rfl⟩

theorem take_succ_of_get {l : List α} {i : Nat} {v : α} (h : l[i]? = some v) : l.take (i + 1) = l.take i ++ [v] := by
  rw [List.take_add_one, h]; rfl

theorem Inv.length_eq {P : Producer σ α} {cap : Option Nat} {p0 : σ} {c : Cfg σ α} (h : Inv P cap p0 c) :
    c.got.length + c.buf.length = c.sent := by
  have := congrArg List.length h.hq
  rwa [List.length_append, List.length_take, Nat.min_eq_left h.hs] at this

theorem prodStep_inv {P : Producer σ α} (hm : Mono P) {cap : Option Nat} {p0 : σ} {c : Cfg σ α}
    (h : Inv P cap p0 c) : Inv P cap p0 (prodStep P cap c) := by
  have hopen : c.closed = false → ¬ c.consDone = true := fun hcl hcd => by
    rw [(h.hd hcd).1] at hcl; cases hcl
  rcases prodStep_cases P cap c with ⟨e, _⟩ | ⟨v, hcl, hv, hf, e⟩ | ⟨hcl, hv, hdn, e⟩ | ⟨hcl, hv, hdn, e⟩ <;> rw [e]
  · exact h
  · refine ⟨h.hp, (List.getElem?_eq_some_iff.mp hv).1, ?_, ?_, fun hcd => absurd hcd (hopen hcl), ?_, ?_⟩
    · show c.got ++ (c.buf ++ [v]) = (P.out c.p).take (c.sent + 1)
      rw [take_succ_of_get hv, ← List.append_assoc, h.hq]
    · intro hc; rw [hcl] at hc; cases hc
    · intro k hk _
      show (c.buf ++ [v]).length ≤ k
      rw [hk] at hf
      rw [List.length_append, List.length_singleton]
      exact Nat.lt_of_not_le (of_decide_eq_false hf)
    · show c.log ++ [ChEv.send v] = ((P.out c.p).take (c.sent + 1)).map ChEv.send ++ (if c.closed then [ChEv.close] else [])
      rw [h.hlog, take_succ_of_get hv, hcl]; simp
  · have heq : c.sent = (P.out c.p).length := Nat.le_antisymm h.hs (List.getElem?_eq_none_iff.mp hv)
    refine ⟨h.hp, h.hs, h.hq, fun _ => ⟨hdn, heq⟩, fun hcd => absurd hcd (hopen hcl), h.hcap, ?_⟩
    show c.log ++ [ChEv.close] = _
    rw [h.hlog, hcl]; simp
  · -- one more iteration: nothing was pending, so the prefix of the output already sent is unchanged
    have htk : (P.out (P.iter c.p)).take c.sent = (P.out c.p).take c.sent := by
      obtain ⟨t, ht⟩ := hm c.p
      rw [← ht, List.take_append_of_le_length h.hs]
    refine ⟨?_, Nat.le_trans h.hs (hm c.p).length_le, ?_, ?_, h.hd, h.hcap, ?_⟩
    · show P.iter c.p = runG P (c.iters + 1) p0
      rw [runG, ← h.hp, hdn]; rfl
    · show c.got ++ c.buf = (P.out (P.iter c.p)).take c.sent
      rw [htk]; exact h.hq
    · intro hc; rw [hcl] at hc; cases hc
    · show c.log = ((P.out (P.iter c.p)).take c.sent).map ChEv.send ++ _
      rw [htk]; exact h.hlog

theorem consStep_inv {P : Producer σ α} {cap : Option Nat} {p0 : σ} {c : Cfg σ α}
    (h : Inv P cap p0 c) : Inv P cap p0 (consStep c) := by
  rcases consStep_cases c with ⟨e, _⟩ | ⟨v, rest, hcd, hb, e⟩ | ⟨hcd, hb, hcl, e⟩ <;> rw [e]
  · exact h
  · refine ⟨h.hp, h.hs, ?_, h.hc, ?_, ?_, h.hlog⟩
    · show c.got ++ [v] ++ rest = _
      rw [← h.hq, hb, List.append_assoc]; rfl
    · intro hc; rw [hcd] at hc; cases hc
    · intro k hk h1
      have := h.hcap k hk h1
      rw [hb, List.length_cons] at this
      exact Nat.le_of_succ_le this
  · exact ⟨h.hp, h.hs, h.hq, h.hc, fun _ => ⟨hcl, hb⟩, h.hcap, h.hlog⟩

theorem step_inv {P : Producer σ α} (hm : Mono P) {cap : Option Nat} {p0 : σ} {c : Cfg σ α}
    (h : Inv P cap p0 c) (e : Ev) : Inv P cap p0 (step P cap c e) := by
  cases e
  · exact prodStep_inv hm h
  · exact consStep_inv h

theorem run_inv {P : Producer σ α} (hm : Mono P) {cap : Option Nat} {p0 : σ} (sched : List Ev) :
    ∀ c : Cfg σ α, Inv P cap p0 c → Inv P cap p0 (run P cap sched c) := by
  intro c h
  exact List.foldlRecOn sched (step P cap) h (fun _ h e _ => step_inv hm h e)

section consequences
variable {P : Producer σ α} (hm : Mono P) {cap : Option Nat} {p0 : σ} {N : Nat}
  (hN : P.done (runG P N p0) = true) {c : Cfg σ α} (h : Inv P cap p0 c)
include hm hN h

/-- SAFETY: at every moment, what the consumer has received followed by what is queued is a prefix of
the final output of the loop -/
theorem got_buf_prefix : c.got ++ c.buf <+: P.out (runG P N p0) := by
  rw [h.hq]
  refine List.IsPrefix.trans (List.take_prefix _ _) ?_
  rw [h.hp]; exact out_prefix_final hm hN _

theorem got_prefix : c.got <+: P.out (runG P N p0) :=
  List.IsPrefix.trans (List.prefix_append _ _) (got_buf_prefix hm hN h)

theorem sent_le_final : (P.out c.p).length ≤ (P.out (runG P N p0)).length := by
  rw [h.hp]; exact (out_prefix_final hm hN _).length_le

omit hm in
/-- the channel is closed only after the last result was sent: then received ++ queued is the whole
final output -/
theorem closed_all_sent (hc : c.closed = true) : c.got ++ c.buf = P.out (runG P N p0) := by
  have ⟨hd, hs⟩ := h.hc hc
  rw [h.hq, hs, List.take_length]
  rw [h.hp] at hd ⊢
  rw [done_final hN hd]

omit hm in
theorem closed_log (hc : c.closed = true) : c.log = (P.out (runG P N p0)).map ChEv.send ++ [ChEv.close] := by
  rw [h.hlog, ← h.hq, closed_all_sent hN h hc, hc]; rfl

omit hm hN in
theorem open_log (hc : c.closed = false) : ∀ e ∈ c.log, e ≠ ChEv.close := by
  intro e he
  rw [h.hlog, hc] at he
  simp only [Bool.false_eq_true, if_false, List.append_nil, List.mem_map] at he
  obtain ⟨v, _, rfl⟩ := he
  exact nofun

omit hm in
/-- COMPLETION: whenever the consumer's iteration has ended, it has received exactly the final output
of the loop, in order, the channel is closed and empty -/
theorem finished_exact (hc : c.consDone = true) :
    c.got = P.out (runG P N p0) ∧ c.closed = true ∧ c.buf = [] := by
  have ⟨h1, h2⟩ := h.hd hc
  have := closed_all_sent hN h h1
  rw [h2, List.append_nil] at this
  exact ⟨this, h1, h2⟩

end consequences

/-- nothing is sent after closing: a closed configuration keeps `got ++ buf`, `closed` and the log under
every further schedule -/
theorem closed_frozen (P : Producer σ α) (cap : Option Nat) (sched : List Ev) :
    ∀ c : Cfg σ α, c.closed = true →
      (run P cap sched c).closed = true ∧ (run P cap sched c).log = c.log ∧
      (run P cap sched c).got ++ (run P cap sched c).buf = c.got ++ c.buf := by
  intro c h
  refine List.foldlRecOn (motive := fun c' => c'.closed = true ∧ c'.log = c.log ∧ c'.got ++ c'.buf = c.got ++ c.buf)
    sched (step P cap) ⟨h, rfl, rfl⟩ ?_
  intro c' ⟨h1, h2, h3⟩ e _
  cases e with
  | prod => rw [show step P cap c' .prod = c' from prodStep_of_closed h1]; exact ⟨h1, h2, h3⟩
  | cons =>
    have ⟨k1, k2, k3⟩ := consStep_prod_end c'
    exact ⟨k1.trans h1, k2.trans h2, k3.trans h3⟩

theorem consDone_stays (P : Producer σ α) (cap : Option Nat) (sched : List Ev) :
    ∀ c : Cfg σ α, c.consDone = true → (run P cap sched c).consDone = true := by
  intro c h
  refine List.foldlRecOn (motive := fun c' => c'.consDone = true) sched (step P cap) h ?_
  intro c' h' e _
  cases e with
  | prod => exact (prodStep_cons_end P cap c').2.trans h'
  | cons => rw [show step P cap c' .cons = c' from consStep_of_done h']; exact h'

theorem run_all_blocked (P : Producer σ α) (cap : Option Nat) (b : List Ev) (c : Cfg σ α)
    (h : ∀ e ∈ b, step P cap c e = c) : run P cap b c = c :=
  List.foldlRecOn (motive := (· = c)) b (step P cap) rfl fun c' hc e he => by rw [hc]; exact h e he

/-- work left at the sending end: loop iterations, sends, the close -/
def measureP (N L : Nat) (c : Cfg σ α) : Nat := (N - c.iters) + (L - c.sent) + (if c.closed then 0 else 1)

/-- work left: at the sending end, receptions, the end of the consumer's iteration -/
def measure (N L : Nat) (c : Cfg σ α) : Nat :=
  measureP N L c + (L - c.got.length) + (if c.consDone then 0 else 1)

theorem measure_pos (N L : Nat) {c : Cfg σ α} (h : c.consDone = false) : 0 < measure N L c := by
  rw [measure, h]; exact Nat.succ_pos _

theorem measure_init (N L : Nat) (p0 : σ) : measure N L (init p0 : Cfg σ α) = N + L + 1 + L + 1 := rfl

section live
variable {P : Producer σ α} (hm : Mono P) {cap : Option Nat} {p0 : σ} {N : Nat}
  (hN : P.done (runG P N p0) = true) {c : Cfg σ α} (h : Inv P cap p0 c)
include hm hN h

theorem prod_progress :
    (prodStep P cap c = c ∧ (c.closed = true ∨ ∃ v, (P.out c.p)[c.sent]? = some v ∧ full cap c.buf = true)) ∨
    measureP N (P.out (runG P N p0)).length (prodStep P cap c) < measureP N (P.out (runG P N p0)).length c := by
  rcases prodStep_cases P cap c with e | ⟨v, hcl, hv, hf, e⟩ | ⟨hcl, hv, hdn, e⟩ | ⟨hcl, hv, hdn, e⟩
  · exact Or.inl e
  · have hlt := Nat.lt_of_lt_of_le (List.getElem?_eq_some_iff.mp hv).1 (sent_le_final hm hN h)
    rw [e]
    exact Or.inr (Nat.add_lt_add_right (Nat.add_lt_add_left (Nat.sub_succ_lt_self _ _ hlt) _) _)
  · rw [e]
    refine Or.inr (Nat.add_lt_add_left ?_ _)
    show 0 < if c.closed then 0 else 1
    rw [hcl]; exact Nat.one_pos
  · have hlt : c.iters < N := not_done_lt hN (by rw [← h.hp]; exact hdn)
    rw [e]
    exact Or.inr (Nat.add_lt_add_right (Nat.add_lt_add_right (Nat.sub_succ_lt_self _ _ hlt) _) _)

theorem cons_progress :
    (consStep c = c ∧ (c.consDone = true ∨ c.buf = [] ∧ c.closed = false)) ∨
    measure N (P.out (runG P N p0)).length (consStep c) < measure N (P.out (runG P N p0)).length c := by
  rcases consStep_cases c with e | ⟨v, rest, hcd, hb, e⟩ | ⟨hcd, hb, hcl, e⟩
  · exact Or.inl e
  · -- a message is queued, so fewer than `sent` have been received; only the reception term changes
    have hlt : c.got.length < (P.out (runG P N p0)).length := by
      have h1 := h.length_eq
      have h2 := h.hs
      have h3 := sent_le_final hm hN h
      rw [hb, List.length_cons] at h1
      omega
    rw [e]
    refine Or.inr (Nat.add_lt_add_right (Nat.add_lt_add_left ?_ _) _)
    show _ - (c.got ++ [v]).length < _ - c.got.length
    rw [List.length_append, List.length_singleton]
    exact Nat.sub_succ_lt_self _ _ hlt
  · rw [e]
    refine Or.inr (Nat.add_lt_add_left ?_ _)
    show 0 < if c.consDone then 0 else 1
    rw [hcd]; exact Nat.one_pos

end live

theorem not_full_nil {cap : Option Nat} (hcap : ∀ k, cap = some k → 1 ≤ k) : full cap ([] : List α) = false := by
  cases cap with
  | none => rfl
  | some k => exact decide_eq_false (Nat.not_le_of_lt (hcap k rfl))

theorem step_progress {P : Producer σ α} (hm : Mono P) {cap : Option Nat} {p0 : σ} {N : Nat}
    (hN : P.done (runG P N p0) = true) {c : Cfg σ α} (h : Inv P cap p0 c) (e : Ev) :
    step P cap c e = c ∨
    measure N (P.out (runG P N p0)).length (step P cap c e) < measure N (P.out (runG P N p0)).length c := by
  cases e with
  | prod =>
    -- the consumer's share of the measure is untouched
    refine (prod_progress hm hN h).imp And.left fun hlt => ?_
    have ⟨h1, h2⟩ := prodStep_cons_end P cap c
    show measure N _ (prodStep P cap c) < measure N _ c
    rw [measure, measure, h1, h2]
    exact Nat.add_lt_add_right (Nat.add_lt_add_right hlt _) _
  | cons => exact (cons_progress hm hN h).imp_left And.left

def sys (P : Producer σ α) (cap : Option Nat) (p0 : σ) (N : Nat) : Sys (Cfg σ α) where
  prod := prodStep P cap
  cons := consStep
  inv := Inv P cap p0
  fin := fun c => c.consDone
  meas := measure N (P.out (runG P N p0)).length

theorem sys_run (P : Producer σ α) (cap : Option Nat) (p0 : σ) (N : Nat) (sched : List Ev) (c : Cfg σ α) :
    (sys P cap p0 N).run sched c = run P cap sched c := by
  unfold Sys.run run
  congr 1

/-- NO DEADLOCK needs capacity ≥ 1 (or an unbounded channel): the empty channel is then not full, so a
producer that has not returned can move whenever the consumer waits -/
theorem laws {P : Producer σ α} (hm : Mono P) {cap : Option Nat} {p0 : σ} {N : Nat}
    (hN : P.done (runG P N p0) = true) (hcap : ∀ k, cap = some k → 1 ≤ k) : (sys P cap p0 N).Laws where
  inv_step := fun _ e h => step_inv hm h e
  progress := fun _ e h => step_progress hm hN h e
  nodead := by
    intro c h hcd
    -- a step that decreases a measure changes the configuration
    rcases cons_progress hm hN h with ⟨_, hw⟩ | hlt
    · left
      obtain ⟨hb, hcl⟩ := hw.resolve_left (by rw [show c.consDone = false from hcd]; nofun)
      rcases prod_progress hm hN h with ⟨_, hw⟩ | hlt
      · obtain ⟨v, _, hf⟩ := hw.resolve_left (by rw [hcl]; nofun)
        rw [hb, not_full_nil hcap] at hf; cases hf
      · exact mt (congrArg _) (Nat.ne_of_lt hlt)
    · exact Or.inr (mt (congrArg _) (Nat.ne_of_lt hlt))
  fin_stays := fun c e h => consDone_stays P cap [e] c h
  pos := fun c h => measure_pos N _ h

/-- LIVENESS: every schedule with at least `measure` fair rounds ends the consumer's iteration -/
theorem fair_finishes {P : Producer σ α} (hm : Mono P) {cap : Option Nat} {p0 : σ} {N : Nat}
    (hN : P.done (runG P N p0) = true) (hcap : ∀ k, cap = some k → 1 ≤ k) (m : Nat) (sched : List Ev)
    (hf : Fair m sched) (c : Cfg σ α) (h : Inv P cap p0 c) (hle : measure N (P.out (runG P N p0)).length c ≤ m) :
    (run P cap sched c).consDone = true := by
  rw [← sys_run P cap p0 N]
  exact Sys.fair_finishes (laws hm hN hcap) m sched hf c h hle

/-! ## the sequential schedule of `stable_nogood`: the whole search first, then `r.iter().collect()` -/

/-- with an unbounded channel the producer is never blocked: `N + L + 1` producer steps run the loop to
its end, send everything and drop the sender -/
theorem unbounded_producer_finishes {P : Producer σ α} (hm : Mono P) {p0 : σ} {N : Nat}
    (hN : P.done (runG P N p0) = true) : ∀ (a : Nat) (c : Cfg σ α), Inv P none p0 c →
    measureP N (P.out (runG P N p0)).length c ≤ a → (run P none (List.replicate a Ev.prod) c).closed = true := by
  intro a
  induction a with
  | zero =>
    intro c _ hle
    cases hcl : c.closed with
    | true => exact hcl
    | false => simp [measureP, hcl] at hle
  | succ a ih =>
    intro c h hle
    show (run P none (List.replicate a Ev.prod) (prodStep P none c)).closed = true
    rcases prod_progress hm hN h with ⟨e, hcl | ⟨_, _, hf⟩⟩ | hlt
    · rw [e]; exact (closed_frozen P none _ c hcl).1
    · cases hf
    · exact ih _ (prodStep_inv hm h) (by omega)

theorem closed_consumer_finishes (P : Producer σ α) (cap : Option Nat) : ∀ (b : Nat) (c : Cfg σ α),
    c.closed = true → c.buf.length + 1 ≤ b → (run P cap (List.replicate b Ev.cons) c).consDone = true := by
  intro b
  induction b with
  | zero => intro c _ h; omega
  | succ b ih =>
    intro c hcl hle
    show (run P cap (List.replicate b Ev.cons) (consStep c)).consDone = true
    rcases consStep_cases c with ⟨e, hcd | ⟨_, ho⟩⟩ | ⟨v, rest, _, hb, e⟩ | ⟨_, _, _, e⟩ <;> rw [e]
    · exact consDone_stays P cap _ c hcd
    · rw [hcl] at ho; cases ho
    · refine ih _ hcl ?_
      rw [hb, List.length_cons] at hle
      exact Nat.le_of_succ_le_succ hle
    · exact consDone_stays P cap _ _ rfl

/-- **the iterator variant**: unbounded channel, first `a` producer steps (the whole call of
`nogood_internal`, sender dropped at its end), then `b` consumer steps (`r.iter().collect()`): the
collection ends and is exactly the final output -/
theorem sequential_exact {P : Producer σ α} (hm : Mono P) {p0 : σ} {N : Nat}
    (hN : P.done (runG P N p0) = true) (a b : Nat)
    (ha : N + (P.out (runG P N p0)).length + 1 ≤ a) (hb : (P.out (runG P N p0)).length + 1 ≤ b) :
    let c := run P none (List.replicate a Ev.prod ++ List.replicate b Ev.cons) (init p0)
    c.consDone = true ∧ c.got = P.out (runG P N p0) := by
  intro c
  have hi0 : Inv P none p0 (init p0 : Cfg σ α) := Inv.init P none p0
  have h1 := run_inv hm (List.replicate a Ev.prod) _ hi0
  have hcl := unbounded_producer_finishes hm hN a _ hi0 ha
  have hlen : (run P none (List.replicate a Ev.prod) (init p0)).buf.length ≤ (P.out (runG P N p0)).length := by
    rw [← closed_all_sent hN h1 hcl, List.length_append]; omega
  have hcd : c.consDone = true := by
    show (run P none (List.replicate a Ev.prod ++ List.replicate b Ev.cons) (init p0)).consDone = true
    rw [run_append]
    exact closed_consumer_finishes P none b _ hcl (by omega)
  exact ⟨hcd, (finished_exact hN (run_inv hm _ _ hi0) hcd).1⟩

/-! ## the receiver is dropped before the producer is done

`s.send(cur_interpr.clone()).expect("Sender should accept results")` (`adf.rs:922`): `send` fails once every
receiver is gone (also when it was blocked on a full bounded channel), and the `expect` panics; unwinding
drops the sender.  The theorems above are about schedules in which the consumer keeps its receiver (it only
takes messages); `DCfg` adds the event `dropRecv` and shows that this is the only difference. -/

inductive DEv where
  | prod
  | cons
  | dropRecv
deriving DecidableEq, Repr

structure DCfg (σ α : Type) where
  base : Cfg σ α
  recvGone : Bool      -- the consumer has dropped the receiver
  panicked : Bool      -- the producer thread has panicked in `expect`

def dstep (P : Producer σ α) (cap : Option Nat) (c : DCfg σ α) : DEv → DCfg σ α
  | .prod =>
    if c.panicked then c
    else if c.recvGone && !c.base.closed && ((P.out c.base.p)[c.base.sent]?).isSome then
      { c with panicked := true, base := { c.base with closed := true, log := c.base.log ++ [ChEv.close] } }
    else { c with base := prodStep P cap c.base }
  | .cons => if c.recvGone then c else { c with base := consStep c.base }
  | .dropRecv => { c with recvGone := true }

def drun (P : Producer σ α) (cap : Option Nat) (sched : List DEv) (c : DCfg σ α) : DCfg σ α :=
  sched.foldl (dstep P cap) c

def Ev.toD : Ev → DEv
  | .prod => .prod
  | .cons => .cons

theorem drun_no_drop (P : Producer σ α) (cap : Option Nat) : ∀ (sched : List Ev) (c : Cfg σ α),
    drun P cap (sched.map Ev.toD) { base := c, recvGone := false, panicked := false } =
      { base := run P cap sched c, recvGone := false, panicked := false } := by
  intro sched
  induction sched with
  | nil => intro c; rfl
  | cons e es ih =>
    intro c
    cases e with
    | prod => exact ih (prodStep P cap c)
    | cons => exact ih (consStep c)

/-- a model that is still to be sent when the receiver is gone makes the producer panic (and the unwinding
drops the sender) -/
theorem send_after_drop_panics (P : Producer σ α) (cap : Option Nat) (c : DCfg σ α) (v : α)
    (hg : c.recvGone = true) (hp : c.panicked = false) (hc : c.base.closed = false)
    (hv : (P.out c.base.p)[c.base.sent]? = some v) :
    (dstep P cap c .prod).panicked = true ∧ (dstep P cap c .prod).base.closed = true ∧
    (dstep P cap c .prod).base.got = c.base.got ∧ (dstep P cap c .prod).base.buf = c.base.buf := by
  simp [dstep, hg, hp, hc, hv]

/-- with nothing to send the producer goes on searching (or returns normally) although the receiver is gone -/
theorem no_pending_no_panic (P : Producer σ α) (cap : Option Nat) (c : DCfg σ α)
    (hp : c.panicked = false) (hv : (P.out c.base.p)[c.base.sent]? = none) :
    dstep P cap c .prod = { c with base := prodStep P cap c.base } := by
  simp [dstep, hp, hv]

/-- a loop of three iterations emitting `0, 10, 20` -/
def toy : Producer Nat Nat :=
  { iter := (· + 1), done := fun p => decide (3 ≤ p), out := fun p => (List.range p).map (· * 10) }

theorem toy_mono : Mono toy := by
  intro p
  show (List.range p).map (· * 10) <+: (List.range (p + 1)).map (· * 10)
  rw [List.range_succ, List.map_append]; exact List.prefix_append _ _

/-- the fourth producer step is a `send` into the full channel: blocked -/
example : (run toy (some 1) [.prod, .prod, .prod, .prod] (init 0)).buf = [0] ∧
          (run toy (some 1) [.prod, .prod, .prod, .prod] (init 0)).sent = 1 ∧
          run toy (some 1) [.prod, .prod, .prod, .prod] (init 0) = run toy (some 1) [.prod, .prod, .prod] (init 0) := by
  decide +kernel

example :
    let c := run toy (some 1) [.prod, .prod, .cons, .cons, .prod, .prod, .prod, .cons, .prod, .prod, .prod, .cons, .prod, .cons, .cons] (init 0)
    c.got = [0, 10, 20] ∧ c.consDone = true ∧ c.buf = [] ∧
    c.log = [ChEv.send 0, ChEv.send 10, ChEv.send 20, ChEv.close] := by decide +kernel

/-- dropping the receiver while `10` is still to be sent: the producer panics -/
example : (drun toy (some 1) [.prod, .prod, .cons, .prod, .dropRecv, .prod] ⟨init 0, false, false⟩).panicked = true := by decide +kernel

end Chan
