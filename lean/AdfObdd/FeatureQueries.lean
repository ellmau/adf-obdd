import AdfObdd.FeatureStore
import AdfObdd.OpsProofs
/-! C12: `new` and `fix_import` establish the invariant; the queries `paths`, `models`,
    `max_depth`, `var_dependencies` answer, under every feature set, what the recursive
    reference functions (`pathsF`, `countF`, `depsF`) answer — with the documented exception. -/

theorem naive_proj (s : Store) (t : Nat) :
    (naive s t).cm = (countF s (t+1) t).1 ∧ (naive s t).m = (countF s (t+1) t).2.1 ∧
    (naive s t).pcm = (paths s t).1 ∧ (naive s t).pm = (paths s t).2 ∧
    (naive s t).depth = (countF s (t+1) t).2.2 := by
  unfold naive paths
  rw [naiveCN_eq]
  exact ⟨rfl, rfl, rfl, rfl, rfl⟩

/-- the two constants as `Bdd::new` and `fix_import` enter them -/
theorem CntOK_consts {em : Bool} {s : Store} {c : CntCache} (h2 : 2 ≤ s.nodes.size) (hc : CntOK em s c) :
    CntOK em s ((c.insert 1 CN.top).insert 0 CN.bot) ∧
    ∀ t, t < 2 → ∃ r, ((c.insert 1 CN.top).insert 0 CN.bot)[t]? = some r := by
  refine ⟨CntOK_insert (CntOK_insert hc 1 CN.top (by omega) ?_) 0 CN.bot (by omega) ?_, fun t ht => ?_⟩
  · rw [naive_one]; exact CN.agree_refl _ _
  · rw [naive_zero]; exact CN.agree_refl _ _
  · match t, ht with
    | 0, _ => exact ⟨CN.bot, by rw [Std.HashMap.getElem?_insert, if_pos (by decide)]⟩
    | 1, _ =>
      exact ⟨CN.top, by
        rw [Std.HashMap.getElem?_insert, if_neg (by decide), Std.HashMap.getElem?_insert, if_pos (by decide)]⟩

theorem newC_inv (c : Cfg) : FInv c true (newC c) := by
  have lt2 : ∀ {t}, t < (newC c).base.nodes.size → t < 2 := fun ht => by simpa [newC, Store.init] using ht
  have ⟨c0, f0⟩ := CntOK_consts (em := c.exactModels) WF_init.len (CntOK_empty _ _)
  refine ⟨WF_init, ?_, ?_, ?_, ?_⟩
  · intro hv
    simp only [newC, hv, if_true]
    exact ((DepsUpTo.empty SameMem Store.init).push (e := []) fun x => by rw [depsOf_const _ 0 (by omega)]).push
      (e := []) fun x => by rw [depsOf_const _ 1 (by omega)]
  · simp only [newC]
    split
    · exact c0
    · exact CntOK_empty _ _
  · intro ha t ht
    simp only [newC, ha, if_true]
    exact f0 t (lt2 ht)
  · intro _ _ t ht2 ht
    have := lt2 ht
    omega

theorem fixCounts_ok (s : Store) (h : TableWF s.nodes) (cnt : CntCache) (hc : CntOK true s cnt) :
    CntOK true s (fixCounts s cnt) ∧ CntFull s (fixCounts s cnt) := by
  have ⟨c0, f0⟩ := CntOK_consts h.len hc
  -- after `k` rounds of the refill loop the handles below `k` (and the constants) have entries
  have key := Array.foldl_induction (as := Array.range s.nodes.size)
    (motive := fun k c => CntOK true s c ∧ ∀ i, i < 2 ∨ i < k → ∃ r, c[i]? = some r)
    (f := fun c i => (memoCN s (i+1) c i).2) ⟨c0, fun i hi => f0 i (by omega)⟩
    (fun k C ⟨c1, f1⟩ => by
      have hk : k.1 < s.nodes.size := by simpa using k.2
      rw [Fin.getElem_fin, Array.getElem_range]
      have ⟨_, c2, m2, e2⟩ := memoCN_spec true s h (k+1) C k c1 hk (Nat.lt_succ_self _)
      refine ⟨c2, fun i hi => ?_⟩
      by_cases hold : i < 2 ∨ i < k
      · obtain ⟨r, hr⟩ := f1 i hold
        exact ⟨r, m2 i r hr⟩
      · obtain rfl : i = k := by omega
        exact e2 (by omega))
  rw [← Array.foldl_toList, Array.toList_range, Array.size_range] at key
  exact ⟨key.1, fun t ht => key.2 t (Or.inr ht)⟩

/-- `fix_import` on a deserialised store (well-formed node and unique tables, `var_deps` empty
because it is `serde(skip)`, any sound count cache — it is empty) establishes the invariant;
moreover every count entry is then exact, model components included, under every feature set -/
theorem fixImportC_inv (c : Cfg) (fs : FStore) (w : WF fs.base) (hd : fs.deps = #[])
    (hc : CntOK true fs.base fs.cnt) :
    FInv c false (fixImportC c fs) ∧ CntOK true (fixImportC c fs).base (fixImportC c fs).cnt := by
  have hcnt : CntOK true fs.base (fixImportC c fs).cnt := by
    simp only [fixImportC]
    by_cases ha : c.adhoccounting = true
    · simp only [ha, if_true]; exact (fixCounts_ok fs.base w.table fs.cnt hc).1
    · simp only [ha]; exact hc
  refine ⟨⟨w, ?_, ?_, ?_, ?_⟩, hcnt⟩
  · intro hv
    simp only [fixImportC, hv, if_true, hd]
    exact genDeps_ok fs.base w.table
  · exact hcnt.weaken
  · intro ha
    simp only [fixImportC, ha, if_true]
    exact (fixCounts_ok fs.base w.table fs.cnt hc).2
  · intro hz; cases hz

theorem lookup_of_full {c : Cfg} {z : Bool} {fs : FStore} (inv : FInv c z fs) (ha : c.adhoccounting = true)
    (t : Nat) (ht : t < fs.base.nodes.size) :
    CN.agree c.exactModels (lookupCN fs.cnt t) (naive fs.base t) := by
  obtain ⟨r, hr⟩ := inv.tab.full ha t ht
  unfold lookupCN; rw [hr]
  exact (inv.tab.cnt t r hr).2

theorem memo_inv {c : Cfg} {z : Bool} {fs : FStore} (inv : FInv c z fs) (ha : c.adhoccounting = false)
    (t : Nat) (ht : t < fs.base.nodes.size) :
    FInv c z { fs with cnt := (memoCN fs.base (t+1) fs.cnt t).2 } := by
  have ⟨_, c2, _, _⟩ := memoCN_spec c.exactModels fs.base inv.wf.table (t+1) fs.cnt t inv.tab.cnt ht (Nat.lt_succ_self _)
  refine ⟨inv.wf, inv.tab.deps, c2, ?_, ?_⟩
  · intro ha'; rw [ha] at ha'; cases ha'
  · intro _ he; simp [Cfg.exc, ha] at he

/-- `paths`: ad hoc = memoised = naive = the recursive path count -/
theorem pathsC_exact (c : Cfg) (z : Bool) (fs : FStore) (t : Nat) (memo : Bool) (inv : FInv c z fs)
    (ht : t < fs.base.nodes.size) :
    (pathsC c fs t memo).1 = paths fs.base t ∧ (pathsC c fs t memo).2.base = fs.base ∧
    FInv c z (pathsC c fs t memo).2 := by
  have ⟨_, _, p1, p2, _⟩ := naive_proj fs.base t
  fun_cases pathsC c fs t memo with
  | case1 ha =>
    have ⟨a1, a2, _, _⟩ := lookup_of_full inv ha t ht
    exact ⟨by rw [a1, a2, p1, p2], rfl, inv⟩
  | case2 ha =>
    have ⟨⟨a1, a2, _, _⟩, _, _, _⟩ :=
      memoCN_spec c.exactModels fs.base inv.wf.table (t+1) fs.cnt t inv.tab.cnt ht (Nat.lt_succ_self _)
    exact ⟨by rw [a1, a2, p1, p2], rfl, memo_inv inv (by simpa using ha) t ht⟩
  | case3 => exact ⟨by rw [p1, p2], rfl, inv⟩

/-- `models`: ad hoc = naive; memoised = naive unless paths are counted ad hoc and models are not -/
theorem modelsC_exact (c : Cfg) (hv : c.valid) (z : Bool) (fs : FStore) (t : Nat) (memo : Bool) (inv : FInv c z fs)
    (ht : t < fs.base.nodes.size) (hex : c.exc = false ∨ memo = false) :
    (modelsC c fs t memo).1 = ((countF fs.base (t+1) t).1, (countF fs.base (t+1) t).2.1) ∧
    (modelsC c fs t memo).2.base = fs.base ∧ FInv c z (modelsC c fs t memo).2 := by
  have ⟨p1, p2, _, _, _⟩ := naive_proj fs.base t
  fun_cases modelsC c fs t memo with
  | case1 hm =>
    have ha := hv hm
    have hag := lookup_of_full inv ha t ht
    rw [Cfg.exact_of_adhoc ha, hm] at hag
    rw [CN.agree_true hag]
    exact ⟨by rw [p1, p2], rfl, inv⟩
  | case2 hm hmemo =>
    have hexc : c.exc = false := hex.resolve_right (by rw [hmemo]; decide)
    have ha : c.adhoccounting = false := by
      have hm' : c.adhoccountmodels = false := by simpa using hm
      simpa [Cfg.exc, hm'] using hexc
    have hem : c.exactModels = true := by simp [Cfg.exactModels, hexc]
    have ⟨hag, _, _, _⟩ :=
      memoCN_spec c.exactModels fs.base inv.wf.table (t+1) fs.cnt t inv.tab.cnt ht (Nat.lt_succ_self _)
    rw [hem] at hag
    rw [CN.agree_true hag]
    exact ⟨by rw [p1, p2], rfl, memo_inv inv ha t ht⟩
  | case3 => exact ⟨by rw [p1, p2], rfl, inv⟩

theorem modelsC_entry {c : Cfg} (he : c.exc = true) (fs : FStore) {t : Nat} (ht2 : 2 ≤ t) {r : CN}
    (hr : fs.cnt[t]? = some r) : (modelsC c fs t true).1 = (r.cm, r.m) ∧ (modelsC c fs t true).2.cnt = fs.cnt := by
  unfold modelsC
  rw [(Cfg.exc_iff.mp he).2]
  simp only [Bool.false_eq_true, if_false, if_true]
  rw [memoCN, if_neg (by omega), if_neg (by omega), hr]
  exact ⟨rfl, rfl⟩

/-- the documented exception: with `adhoccounting` but without `adhoccountmodels`, on a store
built by operations only, memoised `models` answers (0, 0) for every inner node (the cache
entry `node` wrote has model components 0) and leaves the store alone -/
theorem modelsC_exception (c : Cfg) (fs : FStore) (t : Nat) (inv : FInv c true fs) (he : c.exc = true)
    (ht2 : 2 ≤ t) (ht : t < fs.base.nodes.size) :
    (modelsC c fs t true).1 = (0, 0) ∧ (modelsC c fs t true).2.cnt = fs.cnt := by
  obtain ⟨r, hr, z1, z2⟩ := inv.tab.zero rfl he t ht2 ht
  have := modelsC_entry he fs ht2 hr
  rw [z1, z2] at this
  exact this

/-- `max_depth`: cached = recursive = the depth component of the naive count -/
theorem maxDepthCfg_exact (c : Cfg) (z : Bool) (fs : FStore) (t : Nat) (inv : FInv c z fs)
    (ht : t < fs.base.nodes.size) : maxDepthCfg c fs t = (countF fs.base (t+1) t).2.2 := by
  have ⟨_, _, _, _, p⟩ := naive_proj fs.base t
  fun_cases maxDepthCfg c fs t with
  | case1 ha => rw [(lookup_of_full inv ha t ht).2.2.1, p]
  | case2 => rw [maxDepthC_exact c.exactModels fs.base inv.wf.table fs.cnt inv.tab.cnt (t+1) t ht (Nat.lt_succ_self _), p]

/-- `var_dependencies`: the maintained table = the recursive set -/
theorem varDepsC_exact (c : Cfg) (z : Bool) (fs : FStore) (t : Nat) (inv : FInv c z fs)
    (ht : t < fs.base.nodes.size) (x : Nat) : x ∈ varDepsC c fs t ↔ x ∈ depsOf fs.base t := by
  fun_cases varDepsC c fs t with
  | case1 hv => exact (inv.tab.deps hv).2 t ht x
  | case2 => rfl

#print axioms newC_inv
#print axioms fixImportC_inv
#print axioms pathsC_exact
#print axioms modelsC_exact
#print axioms modelsC_exception
#print axioms maxDepthCfg_exact
#print axioms varDepsC_exact
