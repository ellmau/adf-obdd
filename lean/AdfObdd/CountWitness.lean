import AdfObdd.CountExact
import AdfObdd.AdfPipeline
/-! semantic facts about the three-statement framework
`s(a).s(b).s(c).ac(a,c).ac(b,and(b,a)).ac(c,c).` (a = 0, b = 1, c = 2), computed at the level of
Boolean functions (stores with hash tables do not kernel-reduce), and a small store with a
non-empty cube list — non-vacuity material for C04 -/
namespace CW

/-- the acceptance conditions of the framework, in the order a, b, c -/
def fms : List Fm := [.atom 2, .and (.atom 1) (.atom 0), .atom 2]

def D : List BoolFn := fms.map Fm.sem

def fff : I3 := [some false, some false, some false]
def ttt : I3 := [some true, some true, some true]
def uuu : I3 := [none, none, none]

theorem D_eq : D = [fun σ => σ 2, fun σ => σ 1 && σ 0, fun σ => σ 2] := rfl

theorem constOf_none_of {f : BoolFn} (σ1 σ2 : Asg) (h1 : f σ1 = true) (h2 : f σ2 = false) :
    constOf f = none := by
  cases h : constOf f with
  | none => rfl
  | some b =>
    have := constOf_some.mp h
    rw [this σ1] at h1; rw [this σ2] at h2; rw [h1] at h2; cases h2

theorem Gam_const (b : Bool) : Gam D [some b, some b, some b] = [some b, some b, some b] := by
  simp only [Gam, D_eq, List.map_cons, List.map_nil]
  have h2 : constOf (fun σ => over σ 0 [some b, some b, some b] 2) = some b :=
    constOf_some.mpr (fun σ => by simp [over, upd])
  have h10 : constOf (fun σ => over σ 0 [some b, some b, some b] 1 && over σ 0 [some b, some b, some b] 0) = some b :=
    constOf_some.mpr (fun σ => by simp [over, upd])
  rw [h2, h10]

theorem Gam_fff : Gam D fff = fff := Gam_const false

/-- everything false is a stable model: no statement is true, so nothing needs support -/
theorem fff_stable : CI.IsStable 3 D fff := by
  refine ⟨rfl, (all_isSome_iff_total fff).mp rfl, Gam_fff, ?_⟩
  intro w _ i hi
  exact absurd (List.mem_of_getElem? hi) (by simp [fff])

/-- nothing is decided by the grounded interpretation: the all-undecided vector is a fixpoint of the
characteristic operator, hence its least one — the search starts with three undecided statements and
has to branch -/
theorem Gam_uuu : Gam D uuu = uuu := by
  simp only [Gam, D_eq, uuu, List.map_cons, List.map_nil, over]
  have a : constOf (fun σ : Asg => σ 2) = none :=
    constOf_none_of (fun _ => true) (fun _ => false) rfl rfl
  have b : constOf (fun σ : Asg => σ 1 && σ 0) = none :=
    constOf_none_of (fun _ => true) (fun _ => false) rfl rfl
  rw [a, b]

theorem grounded_uuu : IsLfp D uuu :=
  ⟨Gam_uuu, fun w _ i b h => by simpa [uuu] using List.mem_of_getElem? h⟩

theorem Gam_ttt : Gam D ttt = ttt := Gam_const true

/-- everything true is a two-valued model (`Gam_ttt`) but not a stable one: its reduct is the framework itself, whose
least fixpoint decides nothing -/
theorem ttt_not_stable : ¬ CI.IsStable 3 D ttt := by
  intro ⟨_, _, _, h⟩
  have hr : redu D ttt = D := by
    simp only [redu, D_eq, ttt, falsePart, List.map_cons, List.map_nil]
    simp [over]
  have := h uuu (hr ▸ grounded_uuu) 0 rfl
  simp [uuu] at this

theorem fms_ok : fms.length ≤ VBOT ∧ ∀ f ∈ fms, f.atomsOK := by
  refine ⟨by simp [fms, VBOT], ?_⟩
  intro f hf
  simp only [fms, List.mem_cons, List.mem_nil_iff, or_false] at hf
  rcases hf with h | h | h <;> subst h <;> simp [Fm.atomsOK, VBOT]

/-! ### a store with a non-empty cube list: x0 ∧ x1 -/

def andStore : Store := (mkNode (mkNode Store.init 1 0 1).1 0 0 2).1

theorem andStore_nodes : andStore.nodes = #[⟨VBOT, 0, 0⟩, ⟨VTOP, 1, 1⟩, ⟨1, 0, 1⟩, ⟨0, 0, 2⟩] := by
  simp [andStore, mkNode, Store.init]

theorem andStore_WF : WF andStore := by
  have h1 := mkNode_spec Store.init WF_init 1 0 1 (by simp [Store.init]) (by simp [Store.init])
    (by simp [VBOT]) (by simp [topVar, Store.init, VBOT]) (by simp [topVar, Store.init, VTOP])
  have hn : (mkNode Store.init 1 0 1).1.nodes = #[⟨VBOT, 0, 0⟩, ⟨VTOP, 1, 1⟩, ⟨1, 0, 1⟩] := by
    simp [mkNode, Store.init]
  exact (mkNode_spec _ h1.1 0 0 2 (by simp [hn]) (by simp [hn])
    (by simp [VBOT]) (by simp [topVar, hn, VBOT]) (by simp [topVar, hn])).1

end CW
