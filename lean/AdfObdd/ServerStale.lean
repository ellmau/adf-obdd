import AdfObdd.ServerReach
/-! # C16 / C17 — what is stored in every reachable state of EVERY history (any environment)

`ServerReach.lean` proves "everything stored belongs to the document's own code" for histories
without `DELETE /adf/{name}`, `DELETE /users/delete`, `PUT /users/update`. With these requests the
statement is false (finding D9): a background task's final `update_one` is addressed by the pair
(problem name, user name) the task was spawned with, not by the document id, so a task that is still
unwritten when its document is deleted (or moved away by a rename of its owner) writes into whatever
document carries that pair later.

This file characterises that deviation exactly, for ALL histories (atomic requests of any number of
users and jars, interleaved with the task events):

* `taintStep` / `taintRun`: a ghost set of *tainted* keys (user name, problem name), computed along the
  history from the observable state change of each event. A key becomes tainted exactly in D9's shape -
  a document APPEARS under the key (created by `POST /adf/add`, or moved there by a rename) while an
  unwritten task spawned under that key exists (or while another document already carries the key, or
  the moved document's old key was tainted) - and it is cleared when a document is created under a key
  that carries no document and no unwritten task.
* `GoodT` (invariant, `GoodT.runAll`): every document under an untainted key stores only what belongs to
  its own code (`DocOK`), every unwritten task of an untainted key was spawned for the document that
  carries the key now (if any), and an untainted key is carried by at most one document. Read key by key
  (`GoodAt` on the documents that carry the key, `goodT_iff`) an event touches one key, or the two keys of a
  rename, and every other key keeps its documents; removing documents keeps it at every key (`GoodT.sub`).
* `Prov` (invariant, `Prov.run`, `ServerProv.lean`): whatever the history, every stored framework / result is the
  environment's parse result / answer for SOME (parsing, code) recorded for the key: the codes of the
  documents that ever carried the key, and, after a rename `u → u'`, those recorded for the old key. -/
namespace ServerM
section
variable {T H A R : Type} [DecidableEq T]

theorem countP_updFirst {α : Type} (q q' : α → Bool) (f : α → α) (hf : ∀ x, q' (f x) = q' x) :
    ∀ l : List α, (updFirst q f l).countP q' = l.countP q' := by
  intro l
  fun_induction updFirst q f l with
  | case1 => rfl
  | case2 x xs h => simp [List.countP_cons, hf]
  | case3 x xs h ih => simp [List.countP_cons, ih]

theorem countP_delFirst_le {α : Type} (q q' : α → Bool) (l : List α) : (delFirst q l).countP q' ≤ l.countP q' :=
  delFirst_eq_eraseP q l ▸ List.eraseP_sublist.countP_le

theorem countP_eq_zero_iff_find {α : Type} (q : α → Bool) (l : List α) : l.countP q = 0 ↔ l.find? q = none := by
  rw [List.countP_eq_zero, List.find?_eq_none]

theorem countP_pos_of_find {α : Type} (q : α → Bool) (l : List α) (y : α) (h : l.find? q = some y) : 0 < l.countP q :=
  List.countP_pos_iff.mpr ⟨y, List.mem_of_find?_eq_some h, List.find?_some h⟩

theorem countP_append_one {α : Type} (q : α → Bool) (l : List α) (x : α) :
    (l ++ [x]).countP q = l.countP q + (if q x then 1 else 0) := by
  simp [List.countP_append, List.countP_cons]

/-- number of documents that carry the key (user name, problem name) -/
def docsAt (db : Db T H A R) (u n : T) : Nat := db.problems.countP (isProb u n)

/-- an unwritten task spawned under the key exists (its final `update_one` is still to come) -/
def pendingAt (db : Db T H A R) (u n : T) : Bool :=
  db.tasks.any (fun t => !t.written && decide (t.username = u) && decide (t.name = n))

/-- taint carried along by a rename: the moved document's old key was tainted -/
def srcTaint (st : State T H A R) (e : Event T) (tn : T → T → Bool) (u n : T) : Bool :=
  match renameOf st e with
  | some (v, v') => decide (v' = u) && tn v n
  | none => false

/-- **D9's history shape at key `(u, n)`**: the event makes a document APPEAR under the key (the number
of documents carrying it grows: `POST /adf/add`, or a rename that moves documents there) while an
unwritten task spawned under that key exists, or while another document already carries the key.
`taintStep` does not mention it; where it is absent nothing gets tainted (`taintStep_noD9`, `ServerD9.lean`). -/
def d9Shape (E : Env T H A R) (st : State T H A R) (e : Event T) (u n : T) : Bool :=
  decide (docsAt st.db u n < docsAt (stepEv E st e).1.db u n) && (pendingAt st.db u n || decide (docsAt st.db u n ≠ 0))

/-- the ghost set of tainted keys after one event. A key under which a document appears is tainted iff
D9's shape is present (or the document was moved from a tainted key); otherwise its status is kept. In
particular creating a document under a key without documents and without unwritten tasks CLEARS it. -/
def taintStep (E : Env T H A R) (st : State T H A R) (e : Event T) (tn : T → T → Bool) : T → T → Bool := fun u n =>
  if docsAt st.db u n < docsAt (stepEv E st e).1.db u n then
    (if docsAt st.db u n = 0 then pendingAt st.db u n || srcTaint st e tn u n else true)
  else tn u n

def taintRun (E : Env T H A R) : State T H A R → (T → T → Bool) → List (Event T) → T → T → Bool
  | _, tn, [] => tn
  | st, tn, e :: es => taintRun E (stepEv E st e).1 (taintStep E st e tn) es

theorem taintStep_same (E : Env T H A R) (st : State T H A R) (e : Event T) (tn : T → T → Bool) (u n : T)
    (h : docsAt (stepEv E st e).1.db u n ≤ docsAt st.db u n) : taintStep E st e tn u n = tn u n := by
  unfold taintStep
  rw [if_neg (by omega)]

theorem taintStep_of_le (E : Env T H A R) (st : State T H A R) (e : Event T) (tn : T → T → Bool)
    (h : ∀ u n, docsAt (stepEv E st e).1.db u n ≤ docsAt st.db u n) : taintStep E st e tn = tn :=
  funext fun u => funext fun n => taintStep_same E st e tn u n (h u n)

structure GoodT (E : Env T H A R) (db : Db T H A R) (tn : T → T → Bool) : Prop where
  docs : ∀ p ∈ db.problems, tn p.username p.name = false → DocOK E p
  tasks : ∀ t ∈ db.tasks, t.written = false → tn t.username t.name = false →
    ∀ p, db.problems.find? (isProb t.username t.name) = some p → TaskOK E t.input p
  uniq : ∀ u n, tn u n = false → docsAt db u n ≤ 1

theorem GoodT.init (E : Env T H A R) (tn : T → T → Bool) : GoodT E ({} : Db T H A R) tn :=
  ⟨fun p hp => (by cases hp), fun t ht => (by cases ht), fun _ _ _ => Nat.zero_le _⟩

theorem isProb_key {u n : T} {p : Problem T A R} (h : isProb u n p = true) : p.name = n ∧ p.username = u := by
  simpa [isProb] using h

theorem isProb_self (p : Problem T A R) : isProb p.username p.name p = true := by simp [isProb]

theorem pendingAt_of_mem {db : Db T H A R} {t : TaskRec T A} (ht : t ∈ db.tasks) (hw : t.written = false) :
    pendingAt db t.username t.name = true := by
  unfold pendingAt
  rw [List.any_eq_true]
  exact ⟨t, ht, by simp [hw]⟩

theorem eq_singleton_of_mem {α : Type} {l : List α} {x : α} (hl : l.length ≤ 1) (hx : x ∈ l) : l = [x] := by
  match l, hl, hx with
  | [y], _, hx => rw [List.mem_singleton.mp hx]

/-- the invariant at one key, read off the documents `K` that carry it: at most one, it stores only what
belongs to its code, and the key's unwritten tasks were spawned for it -/
def GoodAt (E : Env T H A R) (K : List (Problem T A R)) (ts : List (TaskRec T A)) (u n : T) : Prop :=
  K.length ≤ 1 ∧ ∀ p ∈ K, DocOK E p ∧
    ∀ t ∈ ts, t.written = false → t.username = u → t.name = n → TaskOK E t.input p

theorem goodT_iff {E : Env T H A R} {db : Db T H A R} {tn : T → T → Bool} :
    GoodT E db tn ↔ ∀ u n, tn u n = false → GoodAt E (db.problems.filter (isProb u n)) db.tasks u n := by
  constructor
  · intro h u n hn
    have hlen : (db.problems.filter (isProb u n)).length ≤ 1 := by
      rw [← List.countP_eq_length_filter]; exact h.uniq u n hn
    refine ⟨hlen, fun p hp => ?_⟩
    obtain ⟨hpm, hq⟩ := List.mem_filter.mp hp
    have hk := isProb_key hq
    refine ⟨h.docs p hpm (by rw [hk.1, hk.2]; exact hn), fun t ht hw h1 h2 => ?_⟩
    refine h.tasks t ht hw (by rw [h1, h2]; exact hn) p ?_
    rw [h1, h2, ← List.head?_filter, eq_singleton_of_mem hlen hp]
    rfl
  · intro h
    refine ⟨fun p hp hn => ?_, fun t ht hw hn p hf => ?_, fun u n hn => ?_⟩
    · exact ((h _ _ hn).2 p (List.mem_filter.mpr ⟨hp, isProb_self p⟩)).1
    · exact ((h _ _ hn).2 p (List.mem_filter.mpr ⟨List.mem_of_find?_eq_some hf, List.find?_some hf⟩)).2 t ht hw rfl rfl
    · unfold docsAt; rw [List.countP_eq_length_filter]; exact (h u n hn).1

/-- removing documents and setting task flags keeps the invariant: at every key the documents left are
among those before -/
theorem GoodT.sub {E : Env T H A R} {db db' : Db T H A R} {tn : T → T → Bool} (h : GoodT E db tn)
    (hp : db'.problems.Sublist db.problems) (ht : TasksFrom db'.tasks db.tasks) : GoodT E db' tn := by
  rw [goodT_iff] at h ⊢
  intro u n hn
  obtain ⟨hlen, hK⟩ := h u n hn
  have hs := hp.filter (isProb u n)
  refine ⟨Nat.le_trans hs.length_le hlen, fun p hp' => ⟨(hK p (hs.subset hp')).1, fun t' ht' hw e1 e2 => ?_⟩⟩
  obtain ⟨t, htm, a, b, c, d⟩ := ht t' ht'
  rw [c]
  exact (hK p (hs.subset hp')).2 t htm (d hw) (a ▸ e1) (b ▸ e2)

theorem GoodT.pset {E : Env T H A R} {db db' : Db T H A R} {tn : T → T → Bool} (h : GoodT E db tn)
    (u n : T) (w : Write A R)
    (hw : tn u n = false → ∀ p, db.problems.find? (isProb u n) = some p → DocOK E (w.apply p))
    (hp : db'.problems = updFirst (isProb u n) w.apply db.problems) (ht : TasksFrom db'.tasks db.tasks) :
    GoodT E db' tn := by
  refine ⟨fun p hp' hn => ?_, fun t' ht' hwr hn p hf => ?_, fun u' n' hn => ?_⟩
  · rw [hp] at hp'
    rcases mem_updFirst_r _ _ _ _ hp' with h1 | ⟨x, hx, rfl⟩
    · exact h.docs p h1 hn
    · have hk := isProb_key (List.find?_some hx)
      rw [Write.apply_username, Write.apply_name, hk.1, hk.2] at hn
      exact hw hn x hx
  · obtain ⟨t, htm, e1, e2, e3, e4⟩ := ht t' ht'
    rw [hp, e1, e2] at hf
    rw [e3]
    have hok := h.tasks t htm (e4 hwr) (by rw [← e1, ← e2]; exact hn)
    rcases find_updFirst (isProb u n) (isProb t.username t.name) w.apply (isProb_apply _ _ w) db.problems with
      h' | ⟨y, hy, _, h'⟩
    · exact hok p (h'.symm.trans hf)
    · obtain rfl : w.apply y = p := Option.some.inj (h'.symm.trans hf)
      exact (TaskOK_apply E t.input w y).mpr (hok y hy)
  · unfold docsAt
    rw [hp, countP_updFirst _ _ _ (fun x => isProb_apply _ _ w x)]
    exact h.uniq u' n' hn

/-- a new document with its parse task under a key that carried no document; the key's taint
becomes "an unwritten task of that key exists" -/
theorem GoodT.add {E : Env T H A R} {db db' : Db T H A R} {tn tn' : T → T → Bool} (h : GoodT E db tn)
    (u n code : T) (parsing : Parsing) (t0 : TaskRec T A)
    (hnone : db.problems.find? (isProb u n) = none)
    (h1 : t0.username = u) (h2 : t0.name = n) (h3 : t0.input = .parse code parsing)
    (hp : db'.problems = db.problems ++ [{ name := n, username := u, code := code, parsing := parsing }])
    (ht : db'.tasks = db.tasks ++ [t0])
    (htn1 : tn' u n = pendingAt db u n) (htn2 : ∀ u' n', ¬ (u' = u ∧ n' = n) → tn' u' n' = tn u' n') :
    GoodT E db' tn' := by
  have hnew : isProb u n ({ name := n, username := u, code := code, parsing := parsing } : Problem T A R) = true := by
    simp [isProb]
  rw [goodT_iff] at h ⊢
  intro v m hn
  rw [hp, ht, List.filter_append]
  by_cases hk : v = u ∧ m = n
  · -- the new document is alone under its key, and an untainted key has no unwritten task of old
    obtain ⟨rfl, rfl⟩ := hk
    rw [List.filter_eq_nil_iff.mpr (List.find?_eq_none.mp hnone), List.filter_cons_of_pos hnew, List.filter_nil]
    refine ⟨Nat.le_refl _, fun p hp' => ?_⟩
    obtain rfl := List.mem_singleton.mp hp'
    refine ⟨DocOK_new E m v code parsing, fun t ht' hw e1 e2 => ?_⟩
    rcases List.mem_append.mp ht' with h' | h'
    · have := pendingAt_of_mem h' hw
      rw [e1, e2, ← htn1, hn] at this; cases this
    · rw [List.mem_singleton.mp h', h3]; exact ⟨rfl, rfl⟩
  · -- any other key keeps its documents, and the new task is not one of its tasks
    rw [List.filter_cons_of_neg (by rw [isProb_other hk _ hnew]; exact Bool.false_ne_true), List.filter_nil, List.append_nil]
    obtain ⟨hlen, hK⟩ := h v m (htn2 v m hk ▸ hn)
    refine ⟨hlen, fun p hp' => ⟨(hK p hp').1, fun t ht' hw e1 e2 => ?_⟩⟩
    rcases List.mem_append.mp ht' with h' | h'
    · exact (hK p hp').2 t h' hw e1 e2
    · rw [List.mem_singleton.mp h'] at e1 e2
      exact absurd ⟨e1.symm.trans h1, e2.symm.trans h2⟩ hk

theorem DocOK_rename (E : Env T H A R) (u u' : T) (p : Problem T A R) : DocOK E (renameDoc u u' p) ↔ DocOK E p := by
  unfold renameDoc
  split <;> exact Iff.rfl

theorem TaskOK_rename (E : Env T H A R) (i : TaskInput T A) (u u' : T) (p : Problem T A R) :
    TaskOK E i (renameDoc u u' p) ↔ TaskOK E i p := by
  unfold renameDoc
  split
  · cases i <;> exact Iff.rfl
  · exact Iff.rfl

theorem renameDoc_fix (u u' : T) (p : Problem T A R) (h : p.username ≠ u) : renameDoc u u' p = p := by
  unfold renameDoc
  rw [if_neg (by simpa [ownedP] using h)]

theorem renameDoc_moved (u u' : T) (p : Problem T A R) (h : p.username = u) :
    renameDoc u u' p = { p with username := u' } := by
  unfold renameDoc
  rw [if_pos (by simpa [ownedP] using h)]

theorem isProb_rename_src (u u' n' : T) (hne : u' ≠ u) (p : Problem T A R) : isProb u n' (renameDoc u u' p) = false := by
  by_cases ho : p.username = u
  · rw [renameDoc_moved u u' p ho]; simp [isProb, hne]
  · rw [renameDoc_fix u u' p ho]; simp [isProb, ho]

theorem isProb_rename_dst (u u' n' : T) (hne : u' ≠ u) (p : Problem T A R) :
    isProb u' n' (renameDoc u u' p) = (isProb u' n' p || isProb u n' p) := by
  by_cases ho : p.username = u
  · have : ¬ u = u' := fun e => hne e.symm
    rw [renameDoc_moved u u' p ho]; simp [isProb, ho, this]
  · rw [renameDoc_fix u u' p ho]; simp [isProb, ho]

theorem isProb_rename_other (u u' v n' : T) (h1 : v ≠ u) (h2 : v ≠ u') (p : Problem T A R) :
    isProb v n' (renameDoc u u' p) = isProb v n' p := by
  by_cases ho : p.username = u
  · have e1 : ¬ u' = v := fun e => h2 e.symm
    have e2 : ¬ u = v := fun e => h1 e.symm
    rw [renameDoc_moved u u' p ho]; simp [isProb, ho, e1, e2]
  · rw [renameDoc_fix u u' p ho]

theorem renameDoc_self (u : T) (p : Problem T A R) : renameDoc u u p = p := by
  by_cases h : p.username = u
  · rw [renameDoc_moved u u p h, ← h]
  · exact renameDoc_fix u u p h

theorem countP_rename_src (u u' n' : T) (hne : u' ≠ u) (l : List (Problem T A R)) :
    (l.map (renameDoc u u')).countP (isProb u n') = 0 := by
  rw [List.countP_map, List.countP_eq_zero]
  intro p _
  simp [isProb_rename_src u u' n' hne p]

theorem countP_rename_dst (u u' n' : T) (hne : u' ≠ u) (l : List (Problem T A R)) :
    (l.map (renameDoc u u')).countP (isProb u' n') = l.countP (isProb u' n') + l.countP (isProb u n') := by
  induction l with
  | nil => rfl
  | cons x xs ih =>
    simp only [List.map_cons, List.countP_cons, ih, isProb_rename_dst u u' n' hne]
    have hex : ¬ (isProb u' n' x = true ∧ isProb u n' x = true) := by
      intro ⟨a, b⟩
      exact hne ((isProb_key a).2.symm.trans (isProb_key b).2)
    cases h1 : isProb u' n' x <;> cases h2 : isProb u n' x
    · simp only [Bool.or_self, Bool.false_eq_true, if_false]; omega
    · simp only [Bool.or_true, if_true, Bool.false_eq_true, if_false]; omega
    · simp only [Bool.or_false, if_true, Bool.false_eq_true, if_false]; omega
    · exact absurd ⟨h1, h2⟩ hex

theorem countP_map_same {α : Type} (q : α → Bool) (f : α → α) (hf : ∀ x, q (f x) = q x) (l : List α) :
    (l.map f).countP q = l.countP q := by
  rw [List.countP_map, show q ∘ f = q from funext hf]

theorem filter_rename_same (u u' v n : T) (hv : v ≠ u) (l : List (Problem T A R))
    (h : v = u' → l.countP (isProb u n) = 0) :
    (l.map (renameDoc u u')).filter (isProb v n) = l.filter (isProb v n) := by
  have hq : ∀ x ∈ l, (isProb v n ∘ renameDoc u u') x = isProb v n x := by
    intro x hx
    by_cases hv' : v = u'
    · have hne : u' ≠ u := hv' ▸ hv
      have hx' : isProb u n x = false := Bool.eq_false_iff.mpr (List.countP_eq_zero.mp (h hv') x hx)
      show isProb v n (renameDoc u u' x) = _
      rw [hv', isProb_rename_dst u u' n hne, hx', Bool.or_false]
    · exact isProb_rename_other u u' v n hv hv' x
  rw [List.filter_map, List.filter_congr hq]
  refine (List.map_congr_left fun x hx => ?_).trans (List.map_id _)
  exact renameDoc_fix u u' x (by rw [(isProb_key (List.mem_filter.mp hx).2).2]; exact hv)

theorem filter_rename_dst (u u' n : T) (hne : u' ≠ u) (l : List (Problem T A R)) (h0 : l.countP (isProb u' n) = 0) :
    (l.map (renameDoc u u')).filter (isProb u' n) = (l.filter (isProb u n)).map (renameDoc u u') := by
  rw [List.filter_map]
  refine congrArg _ (List.filter_congr fun x hx => ?_)
  show isProb u' n (renameDoc u u' x) = _
  rw [isProb_rename_dst u u' n hne, Bool.eq_false_iff.mpr (List.countP_eq_zero.mp h0 x hx), Bool.false_or]

theorem GoodT.rename {E : Env T H A R} {db db' : Db T H A R} {tn tn' : T → T → Bool} (h : GoodT E db tn) (u u' : T)
    (hne : u' ≠ u) (hp : db'.problems = db.problems.map (renameDoc u u')) (ht : db'.tasks = db.tasks)
    (htn1 : ∀ n, 0 < docsAt db u n → tn' u' n = false →
      docsAt db u' n = 0 ∧ pendingAt db u' n = false ∧ tn u n = false)
    (htn2 : ∀ n, docsAt db u n = 0 → tn' u' n = tn u' n)
    (htn3 : ∀ v n, v ≠ u' → tn' v n = tn v n) : GoodT E db' tn' := by
  rw [goodT_iff] at h ⊢
  intro v n hn
  rw [hp, ht]
  by_cases hv : v = u
  · -- nothing is left under the old name
    rw [hv, List.filter_eq_nil_iff.mpr (List.countP_eq_zero.mp (countP_rename_src u u' n hne db.problems))]
    exact ⟨Nat.zero_le _, fun p hp => (by cases hp)⟩
  · by_cases hv' : v = u'
    · subst hv'
      by_cases hz : docsAt db u n = 0
      · rw [filter_rename_same u v v n hv _ (fun _ => hz)]
        exact h v n (htn2 n hz ▸ hn)
      · -- the documents of `(u, n)` arrive under a key that carried none and has no unwritten task
        obtain ⟨h0, hpend, hsrc⟩ := htn1 n (by omega) hn
        obtain ⟨hlen, hK⟩ := h u n hsrc
        rw [filter_rename_dst u v n hne _ h0]
        refine ⟨by rw [List.length_map]; exact hlen, fun p' hp' => ?_⟩
        obtain ⟨p, hpK, rfl⟩ := List.mem_map.mp hp'
        refine ⟨(DocOK_rename E u v p).mpr (hK p hpK).1, fun t htm hw h1 h2 => ?_⟩
        have := pendingAt_of_mem htm hw
        rw [h1, h2, hpend] at this; cases this
    · rw [filter_rename_same u u' v n hv _ (fun e => absurd e hv')]
      exact h v n (htn3 v n hv' ▸ hn)

theorem GoodT.next (E : Env T H A R) {st : State T H A R} {tn : T → T → Bool} (h : GoodT E st.db tn) (e : Event T) :
    GoodT E (stepEv E st e).1.db (taintStep E st e tn) := by
  -- where no document appears the taint stays
  have same := taintStep_same E st e tn
  have stays := taintStep_of_le E st e tn
  -- in particular where documents only go
  have shrink : (stepEv E st e).1.db.problems.Sublist st.db.problems → TasksFrom (stepEv E st e).1.db.tasks st.db.tasks →
      GoodT E (stepEv E st e).1.db (taintStep E st e tn) :=
    fun hp ht => by rw [stays fun _ _ => hp.countP_le]; exact h.sub hp ht
  cases stepEv_effect E st e with
  | same hp ht => exact shrink (hp ▸ .refl _) (ht ▸ TasksFrom.refl _)
  | finish j n _ _ _ _ hp ht => exact shrink (hp ▸ .refl _) (ht ▸ tasksFrom_done j n _)
  | write j n t w htn hwr he hp ht =>
    rw [stays fun u n => by
      unfold docsAt; rw [hp, countP_updFirst _ _ _ (fun x => isProb_apply _ _ w x)]; exact Nat.le_refl _]
    refine h.pset t.username t.name w ?_ hp (ht ▸ tasksFrom_written j n _)
    intro hn p hp'
    have hk := isProb_key (List.find?_some hp')
    exact docOK_write E t.input w (he.imp (·.2.2) (·.2.2)) p
      (h.docs p (List.mem_of_find?_eq_some hp') (by rw [hk.1, hk.2]; exact hn))
      (h.tasks t (nthOf_mem j n _ t htn).1 hwr hn p hp')
  | add u n c pg t0 hren hnone h0 hp ht =>
    subst h0
    have hnew : isProb u n ({ name := n, username := u, code := c, parsing := pg } : Problem T A R) = true := by
      simp [isProb]
    have hz : docsAt st.db u n = 0 := (countP_eq_zero_iff_find _ _).mpr hnone
    refine h.add u n c pg _ hnone rfl rfl rfl hp ht ?_ ?_
    · have h1' : docsAt (stepEv E st e).1.db u n = 1 := by
        unfold docsAt at hz ⊢
        rw [hp, countP_append_one, hnew, hz]; rfl
      unfold taintStep
      rw [h1', hz]
      simp [srcTaint, hren]
    · intro u' n' hk
      apply same
      unfold docsAt
      rw [hp, countP_append_one, isProb_other hk _ hnew]
      simp
  | solve u n p a s t0 hf ha h0 hp ht =>
    rw [stays fun u' n' => by unfold docsAt; rw [hp]; exact Nat.le_refl _]
    subst h0
    refine ⟨fun q hq hn => h.docs q (hp ▸ hq) hn, fun t ht' hw hn q hq => ?_,
      fun u n hn => by unfold docsAt; rw [hp]; exact h.uniq u n hn⟩
    rw [ht, List.mem_append, List.mem_singleton] at ht'
    rw [hp] at hq
    rcases ht' with h' | rfl
    · exact h.tasks t h' hw hn q hq
    · rw [hf] at hq; cases hq
      have hk := isProb_key (List.find?_some hf)
      exact (h.docs p (List.mem_of_find?_eq_some hf) (by rw [hk.1, hk.2]; exact hn)).1 a ha
  | del u n _ hp ht =>
    exact shrink (by rw [hp, delFirst_eq_eraseP]; exact List.eraseP_sublist) (ht ▸ TasksFrom.refl _)
  | delAll u _ hp ht => exact shrink (hp ▸ List.filter_sublist) (ht ▸ TasksFrom.refl _)
  | rename u u' _ hr hp ht =>
    by_cases hne : u' = u
    · subst hne
      have hp' : (stepEv E st e).1.db.problems = st.db.problems := by
        rw [hp]
        exact (List.map_congr_left fun x _ => renameDoc_self u' x).trans (List.map_id _)
      exact shrink (hp' ▸ .refl _) (ht ▸ TasksFrom.refl _)
    · have hc1 : ∀ n, docsAt (stepEv E st e).1.db u' n = docsAt st.db u' n + docsAt st.db u n := by
        intro n; unfold docsAt; rw [hp, countP_rename_dst u u' n hne]
      have hsrc : ∀ n, srcTaint st e tn u' n = tn u n := by
        intro n; simp [srcTaint, hr]
      refine h.rename u u' hne hp ht ?_ ?_ ?_
      · intro n hpos hn
        unfold taintStep at hn
        rw [hc1, if_pos (by omega)] at hn
        by_cases hz : docsAt st.db u' n = 0
        · rw [if_pos hz, hsrc, Bool.or_eq_false_iff] at hn
          exact ⟨hz, hn.1, hn.2⟩
        · rw [if_neg hz] at hn; cases hn
      · intro n hz
        apply same
        rw [hc1, hz]; exact Nat.le_refl _
      · intro v n hv
        apply same
        unfold docsAt
        rw [hp]
        by_cases hvu : v = u
        · rw [hvu, countP_rename_src u u' n hne]
          exact Nat.zero_le _
        · rw [countP_map_same _ _ (fun x => isProb_rename_other u u' v n hvu hv x)]
          exact Nat.le_refl _

theorem GoodT.request (E : Env T H A R) {st : State T H A R} {tn : T → T → Bool} (h : GoodT E st.db tn) (rq : Request T) :
    GoodT E (stepEv E st (.req rq)).1.db (taintStep E st (.req rq) tn) :=
  h.next E (.req rq)

theorem GoodT.runAll (E : Env T H A R) : ∀ (es : List (Event T)) (st : State T H A R) (tn : T → T → Bool),
    GoodT E st.db tn → GoodT E (runAll E st es).1.db (taintRun E st tn es) := by
  intro es
  induction es with
  | nil => intro st tn h; exact h
  | cons e es ih => intro st tn h; exact ih _ _ (h.next E e)

/-- after ANY history from the empty server, every document
whose key (user name, problem name) is not tainted stores only what belongs to its OWN code -/
theorem reachable_untainted_belong_to_the_code (E : Env T H A R) (es : List (Event T)) (p : Problem T A R)
    (hp : p ∈ (runAll E {} es).1.db.problems)
    (hn : taintRun E {} (fun _ _ => false) es p.username p.name = false) : DocOK E p :=
  (GoodT.runAll E es {} _ (GoodT.init E _)).docs p hp hn

end
end ServerM
