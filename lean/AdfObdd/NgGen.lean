import AdfObdd.NgHalt
/-! # The nogood-learning search over an arbitrary vector type (safety half)

An abstract machine for the loop of `nogood_internal` (`adf.rs:816-935`) of which the concrete model `SM.ngIter` is a
*lock-step* image (the machine of `NgSearch.lean` is its instance `V := PA`, `dec := id`, `NgBridge.lean`):

* the current interpretation is a value of an arbitrary type `V` observed through `dec : V → PA`
  (instance: the list of the Boolean functions denoted by the handle vector — two vectors of
  functions are equal iff the handle vectors are, by canonicity, so the machine's test
  "`gam cur ≠ cur`" *is* the code's `update_fp` and one iteration of the code is one iteration of the machine);
* the store of nogoods is an arbitrary type `Sto` with `add` and a membership view `Mem`
  (instance: the size-indexed buckets);
* every law is relativised to shape predicates `Ok` (vectors), `OkG` (nogoods), `OkS` (stores)
  carried by the invariant (instance: width `n`, `NgInv n`, and the uniform semantic invariant
  "every target model extending the decided part evaluates every entry to its own value", `NSem.OkV`); the laws that speak of
  the shapes only are `Shape` (they are fields of `GSound` and of `GLive` as well);
* the heuristic is an oracle indexed by the iteration number (the `k` of `step1`, `iter`, `run`).

The invariant is proved in the form `SInvQ Q` - `SInv` with an arbitrary predicate `Q` on the outputs, of which no
other field takes notice; `SInv` is `Q o := two-valued and well shaped`.

The step numbers are those of the loop body (`adf.rs:841-932`; `ngLoop` in `NgModel.lean` carries the same ones):
1. choice (844-854), 2. `update_ng = true`, 3. backtrack: leave the loop on an empty stack, else pop down to the last
choice (857-875), 4. `conclusion_closure` (876-891), 5. consistency with the acceptance conditions (893-909), 6. one
propagation step (911), 7. classification of an interpretation that no step changed (912-931). -/
namespace NGen

structure GParams (V Sto : Type) where
  dec : V → PA
  Ok : V → Prop
  OkG : PA → Prop
  OkS : Sto → Prop
  Mem : Sto → PA → Prop
  add : Sto → PA → Sto
  gam : V → V
  setV : V → Nat → Bool → V
  updV : V → PA → V
  acIncons : PA → Bool
  isTarget : PA → Bool
  twoVal : PA → Bool
  heu : Nat → V → Option (Nat × Bool)
  closure : Sto → PA → Closure

structure Entry (V : Type) where
  choice : Option (V × Nat × Bool)     -- ghost: vector before the choice, and the choice
  ng : PA

structure St (V Sto : Type) where
  cur : V
  store : Sto
  stack : List (Entry V)
  backtrack : Bool
  choice : Bool
  out : List PA

variable {V Sto : Type}

/-- pop entries (learning each as a nogood) down to and including the first choice entry -/
def popLoop (P : GParams V Sto) : List (Entry V) → Sto → V → (List (Entry V) × Sto × V)
  | [], store, cur => ([], store, cur)
  | e :: rest, store, cur =>
    match e.choice with
    | some (h, _, _) => (rest, P.add store e.ng, h)
    | none => popLoop P rest (P.add store e.ng) cur

inductive Res (V Sto : Type) where
  | cont (s : St V Sto) | done (s : St V Sto)

/-- 1. choice (`k` = iteration number) -/
def step1 (P : GParams V Sto) (k : Nat) (s : St V Sto) : St V Sto :=
  if s.choice then
    match P.heu k s.cur with
    | some (v, b) =>
      { s with choice := false, cur := P.setV s.cur v b,
               stack := { choice := some (s.cur, v, b), ng := P.dec (P.setV s.cur v b) } :: s.stack }
    | none => { s with choice := false, backtrack := true }
  else s

/-- 3. backtrack -/
def step3 (P : GParams V Sto) (s1 : St V Sto) : St V Sto :=
  if s1.backtrack then
    let r := popLoop P s1.stack s1.store s1.cur
    { s1 with backtrack := false, stack := r.1, store := r.2.1, cur := r.2.2 }
  else s1

open Classical in
/-- 5.–7. (`updNg`: the closure of step 4 answered `Update`) -/
noncomputable def stepFinal (P : GParams V Sto) (s3 : St V Sto) (updNg : Bool) : St V Sto :=
  if P.acIncons (P.dec s3.cur) then { s3 with backtrack := true } else
  let cur' := P.gam s3.cur
  let s4 := { s3 with cur := cur' }
  if cur' ≠ s3.cur then s4
  else if updNg then s4
  else if !P.twoVal (P.dec s4.cur) then { s4 with choice := true }
  else if P.isTarget (P.dec s4.cur) then
    { s4 with stack := { choice := none, ng := P.dec s4.cur } :: s4.stack, out := s4.out ++ [P.dec s4.cur],
              backtrack := true }
  else
    { s4 with stack := { choice := none, ng := P.dec s4.cur } :: s4.stack, backtrack := true }

/-- 4.–7. -/
noncomputable def stepTail (P : GParams V Sto) (s2 : St V Sto) : St V Sto :=
  match P.closure s2.store (P.dec s2.cur) with
  | Closure.inconsistent => { s2 with backtrack := true }
  | Closure.update r =>
    stepFinal P { s2 with cur := P.updV s2.cur r, stack := { choice := none, ng := r } :: s2.stack } true
  | Closure.noUpdate => stepFinal P s2 false

noncomputable def iter (P : GParams V Sto) (k : Nat) (s : St V Sto) : Res V Sto :=
  let s1 := step1 P k s
  if s1.backtrack = true ∧ s1.stack = [] then Res.done s1
  else Res.cont (stepTail P (step3 P s1))

/-- run with fuel from iteration number `k`; `none` = fuel exhausted -/
noncomputable def run (P : GParams V Sto) : Nat → Nat → St V Sto → Option (St V Sto)
  | _, 0, _ => none
  | k, f+1, s => match iter P k s with
    | Res.done s' => some s'
    | Res.cont s' => run P (k+1) f s'

/-- the stack from the top: an unreported target model that matches an entry's nogood matches what lies above it. So
when the current interpretation is dead every entry down to the first choice entry is, and popping them learns sound
nogoods (`popLoop_spec`); below a choice entry the chain goes on from the interpretation before the choice. -/
inductive Chain (P : GParams V Sto) (U : Asg → Prop) : PA → List (Entry V) → Prop
  | nil (cur : PA) : Chain P U cur []
  | plain (cur C : PA) (rest : List (Entry V)) :
      (∀ σ, U σ → Matches C σ → Matches cur σ) → Chain P U C rest → Chain P U cur (⟨none, C⟩ :: rest)
  | choice (cur : PA) (H : V) (v : Nat) (b : Bool) (rest : List (Entry V)) :
      (∀ σ, U σ → Matches (setAt (P.dec H) v b) σ → Matches cur σ) → pget (P.dec H) v = none →
      Chain P U (P.dec H) rest →
      Chain P U cur (⟨some (H, v, b), setAt (P.dec H) v b⟩ :: rest)

/-- no unreported target model is lost: it extends the current interpretation, or the interpretation before some
pending choice together with the opposite of that choice -/
def Cover (P : GParams V Sto) (U : Asg → Prop) (cur : PA) (stack : List (Entry V)) : Prop :=
  ∀ σ, U σ → Matches cur σ ∨
    ∃ e ∈ stack, ∃ H v b, e.choice = some (H, v, b) ∧ Matches (P.dec H) σ ∧ σ v = !b

def Avoids (P : GParams V Sto) (store : Sto) (σ : Asg) : Prop := ∀ g, P.Mem store g → ¬ Matches g σ

/-- the shape laws: the operations keep `Ok`, `OkG`, `OkS`; `setV`, `updV`, `add` seen through `dec` and `Mem` -/
structure Shape (P : GParams V Sto) : Prop where
  ok_gam : ∀ X, P.Ok X → P.Ok (P.gam X)
  ok_set : ∀ k X v b, P.Ok X → P.heu k X = some (v, b) → P.Ok (P.setV X v b)
  ok_upd : ∀ st X R, P.OkS st → P.Ok X → P.closure st (P.dec X) = Closure.update R → P.Ok (P.updV X R)
  dec_set : ∀ k X v b, P.Ok X → P.heu k X = some (v, b) → P.dec (P.setV X v b) = setAt (P.dec X) v b
  dec_upd : ∀ st X R, P.OkS st → P.Ok X → P.closure st (P.dec X) = Closure.update R → P.dec (P.updV X R) = R
  okg : ∀ X, P.Ok X → P.OkG (P.dec X)
  oks_add : ∀ st g, P.OkS st → P.OkG g → P.OkS (P.add st g)
  mem_add : ∀ st g x, P.OkS st → P.OkG g → (P.Mem (P.add st g) x ↔ (x = g ∨ P.Mem st x))

structure GSound (T : Asg → Prop) (P : GParams V Sto) : Prop where
  ok_gam : ∀ X, P.Ok X → P.Ok (P.gam X)
  ok_set : ∀ k X v b, P.Ok X → P.heu k X = some (v, b) → P.Ok (P.setV X v b)
  ok_upd : ∀ st X R, P.OkS st → P.Ok X → P.closure st (P.dec X) = Closure.update R → P.Ok (P.updV X R)
  dec_set : ∀ k X v b, P.Ok X → P.heu k X = some (v, b) → P.dec (P.setV X v b) = setAt (P.dec X) v b
  dec_upd : ∀ st X R, P.OkS st → P.Ok X → P.closure st (P.dec X) = Closure.update R → P.dec (P.updV X R) = R
  okg : ∀ X, P.Ok X → P.OkG (P.dec X)
  oks_add : ∀ st g, P.OkS st → P.OkG g → P.OkS (P.add st g)
  mem_add : ∀ st g x, P.OkS st → P.OkG g → (P.Mem (P.add st g) x ↔ (x = g ∨ P.Mem st x))
  gam_sound : ∀ X σ, P.Ok X → T σ → Matches (P.dec X) σ → Matches (P.dec (P.gam X)) σ
  ac_sound : ∀ X, P.Ok X → P.acIncons (P.dec X) = true → ∀ σ, T σ → ¬ Matches (P.dec X) σ
  leaf_pos : ∀ X, P.Ok X → P.twoVal (P.dec X) = true → P.acIncons (P.dec X) = false →
      P.isTarget (P.dec X) = true → ∀ σ, Matches (P.dec X) σ → T σ
  leaf_neg : ∀ X, P.Ok X → P.twoVal (P.dec X) = true → P.acIncons (P.dec X) = false →
      P.isTarget (P.dec X) = false → ∀ σ, Matches (P.dec X) σ → ¬ T σ
  heu_valid : ∀ k X v b, P.Ok X → P.heu k X = some (v, b) → pget (P.dec X) v = none
  heu_total : ∀ k X, P.Ok X → P.twoVal (P.dec X) = false → (P.heu k X).isSome = true
  cl_upd : ∀ st A R, P.OkS st → P.OkG A → P.closure st A = Closure.update R →
      ∀ σ, Matches A σ → Avoids P st σ → Matches R σ
  cl_inc : ∀ st A, P.OkS st → P.OkG A → P.closure st A = Closure.inconsistent →
      ∀ σ, Matches A σ → ¬ Avoids P st σ
  cl_no : ∀ st A, P.OkS st → P.OkG A → P.closure st A = Closure.noUpdate → ∀ g, P.Mem st g → g ≠ A

def OkStack (P : GParams V Sto) (stack : List (Entry V)) : Prop :=
  ∀ e ∈ stack, P.OkG e.ng ∧ ∀ H v b, e.choice = some (H, v, b) → P.Ok H

structure SInv (T : Asg → Prop) (P : GParams V Sto) (s : St V Sto) : Prop where
  chain : Chain P (Unrep T s.out) (P.dec s.cur) s.stack
  cover : Cover P (Unrep T s.out) (P.dec s.cur) s.stack
  storeOK : ∀ σ, Unrep T s.out σ → Avoids P s.store σ
  dead : s.backtrack = true → ∀ σ, Unrep T s.out σ → ¬ Matches (P.dec s.cur) σ
  outT : ∀ o ∈ s.out, ∀ σ, Matches o σ → T σ
  outNodup : s.out.Nodup
  outTV : ∀ o ∈ s.out, P.twoVal o = true ∧ P.OkG o
  /-- an emitted model is a stored nogood, or the entry on top of the stack that the coming backtrack will store: with
  `cl_no` this is what keeps `out` duplicate-free (`inv_emit`) -/
  outStored : ∀ o ∈ s.out, P.Mem s.store o ∨ (s.backtrack = true ∧ ∃ e rest, s.stack = e :: rest ∧ e.ng = o)
  choiceOK : s.choice = true → P.twoVal (P.dec s.cur) = false ∧ s.backtrack = false
  okc : P.Ok s.cur
  oks : P.OkS s.store
  okstk : OkStack P s.stack

structure SInvQ (Q : PA → Prop) (T : Asg → Prop) (P : GParams V Sto) (s : St V Sto) : Prop where
  chain : Chain P (Unrep T s.out) (P.dec s.cur) s.stack
  cover : Cover P (Unrep T s.out) (P.dec s.cur) s.stack
  storeOK : ∀ σ, Unrep T s.out σ → Avoids P s.store σ
  dead : s.backtrack = true → ∀ σ, Unrep T s.out σ → ¬ Matches (P.dec s.cur) σ
  outT : ∀ o ∈ s.out, ∀ σ, Matches o σ → T σ
  outNodup : s.out.Nodup
  outQ : ∀ o ∈ s.out, Q o
  outStored : ∀ o ∈ s.out, P.Mem s.store o ∨ (s.backtrack = true ∧ ∃ e rest, s.stack = e :: rest ∧ e.ng = o)
  choiceOK : s.choice = true → P.twoVal (P.dec s.cur) = false ∧ s.backtrack = false
  okc : P.Ok s.cur
  oks : P.OkS s.store
  okstk : OkStack P s.stack

theorem SInv.toQ {T : Asg → Prop} {P : GParams V Sto} {s : St V Sto} (h : SInv T P s) :
    SInvQ (fun o => P.twoVal o = true ∧ P.OkG o) T P s :=
  { h with outQ := h.outTV }

theorem SInvQ.toSInv {T : Asg → Prop} {P : GParams V Sto} {s : St V Sto}
    (h : SInvQ (fun o => P.twoVal o = true ∧ P.OkG o) T P s) : SInv T P s :=
  { h with outTV := h.outQ }

theorem Chain.mono {P : GParams V Sto} {U U' : Asg → Prop} (h : ∀ σ, U' σ → U σ) {cur : PA}
    {st : List (Entry V)} (c : Chain P U cur st) : Chain P U' cur st := by
  induction c with
  | nil cur => exact Chain.nil cur
  | plain cur C rest f _ ih => exact Chain.plain cur C rest (fun σ u m => f σ (h σ u) m) ih
  | choice cur H v b rest f hn _ ih => exact Chain.choice cur H v b rest (fun σ u m => f σ (h σ u) m) hn ih

theorem Chain.extend {P : GParams V Sto} {U : Asg → Prop} {cur cur' : PA} {st : List (Entry V)}
    (c : Chain P U cur st) (h : ∀ σ, U σ → Matches cur σ → Matches cur' σ) : Chain P U cur' st := by
  cases c with
  | nil => exact Chain.nil cur'
  | plain _ C rest f r => exact Chain.plain cur' C rest (fun σ u m => h σ u (f σ u m)) r
  | choice _ H v b rest f hn r => exact Chain.choice cur' H v b rest (fun σ u m => h σ u (f σ u m)) hn r

theorem Cover.push {P : GParams V Sto} {U : Asg → Prop} {cur : PA} {st : List (Entry V)} (h : Cover P U cur st)
    (e : Entry V) : Cover P U cur (e :: st) :=
  fun σ u => (h σ u).imp id (fun ⟨x, hx, r⟩ => ⟨x, List.mem_cons_of_mem _ hx, r⟩)

theorem Cover.extend {P : GParams V Sto} {U : Asg → Prop} {cur cur' : PA} {st : List (Entry V)} (h : Cover P U cur st)
    (f : ∀ σ, U σ → Matches cur σ → Matches cur' σ) : Cover P U cur' st :=
  fun σ u => (h σ u).imp (f σ u) id

variable {T : Asg → Prop} {P : GParams V Sto} {Q : PA → Prop}

theorem SInvQ.stored {s : St V Sto} (h : SInvQ Q T P s) (hb : s.backtrack = false) : ∀ o ∈ s.out, P.Mem s.store o := by
  intro o ho
  rcases h.outStored o ho with h1 | ⟨h1, _⟩
  · exact h1
  · rw [hb] at h1; cases h1

theorem inv_kill {s : St V Sto} (h : SInvQ Q T P s) (hb : s.backtrack = false) (hc : s.choice = false)
    (hd : ∀ σ, Unrep T s.out σ → ¬ Matches (P.dec s.cur) σ) : SInvQ Q T P { s with backtrack := true } :=
  { h with
    dead := fun _ => hd
    outStored := fun o ho => Or.inl (h.stored hb o ho)
    choiceOK := fun hcc => by cases hc.symm.trans hcc }

theorem inv_extend {s : St V Sto} (h : SInvQ Q T P s) (hb : s.backtrack = false) (hc : s.choice = false) {X : V}
    (hok : P.Ok X) (f : ∀ σ, Unrep T s.out σ → Matches (P.dec s.cur) σ → Matches (P.dec X) σ) :
    SInvQ Q T P { s with cur := X } :=
  { h with
    chain := h.chain.extend f
    cover := h.cover.extend f
    dead := fun hbb => by cases hb.symm.trans hbb
    choiceOK := fun hcc => by cases hc.symm.trans hcc
    okc := hok }

theorem inv_push {s : St V Sto} (hP : GSound T P) (h : SInvQ Q T P s) (hb : s.backtrack = false) :
    SInvQ Q T P { s with stack := { choice := none, ng := P.dec s.cur } :: s.stack } :=
  { h with
    chain := Chain.plain _ _ _ (fun _ _ m => m) h.chain
    cover := h.cover.push _
    outStored := fun o ho => Or.inl (h.stored hb o ho)
    okstk := List.forall_mem_cons.mpr ⟨⟨hP.okg _ h.okc, fun _ _ _ hx => by cases hx⟩, h.okstk⟩ }

theorem inv_step1 (hP : GSound T P) (k : Nat) {s : St V Sto} (h : SInvQ Q T P s) : SInvQ Q T P (step1 P k s) := by
  fun_cases step1 P k s with
  | case1 hc v b hh =>
    have ⟨htv, hbt⟩ := h.choiceOK hc
    have hn := hP.heu_valid k s.cur v b h.okc hh
    have hd := hP.dec_set k s.cur v b h.okc hh
    have hok := hP.ok_set k s.cur v b h.okc hh
    exact
      { h with
        chain := by simp only [hd]; exact Chain.choice _ s.cur v b s.stack (fun _ _ m => m) hn h.chain
        cover := fun σ u => by
          simp only [hd]
          rcases h.cover σ u with hm | hl
          · -- a model of the level splits on the value of the chosen statement
            by_cases hv : σ v = b
            · exact Or.inl (matches_setAt hm hv)
            · exact Or.inr ⟨_, List.mem_cons_self .., s.cur, v, b, rfl, hm, Bool.eq_not_of_ne hv⟩
          · exact Or.inr (let ⟨e, he, r⟩ := hl; ⟨e, List.mem_cons_of_mem _ he, r⟩)
        dead := fun hb => by cases hbt.symm.trans hb
        outStored := fun o ho => Or.inl (h.stored hbt o ho)
        choiceOK := fun hcc => by cases hcc
        okc := hok
        okstk := List.forall_mem_cons.mpr ⟨⟨hP.okg _ hok, fun H v' b' hc' => by cases hc'; exact h.okc⟩, h.okstk⟩ }
  | case2 hc hh =>
    have hs := hP.heu_total k s.cur h.okc (h.choiceOK hc).1
    rw [hh] at hs; cases hs
  | case3 => exact h

/-- invariant of the pop loop: `X` plays the role of the current interpretation for the part
of the stack that is still there; it is dead, so every popped entry is a sound nogood -/
theorem popLoop_spec (hP : GSound T P) {U : Asg → Prop} : ∀ (stack : List (Entry V)) (store : Sto) (X : PA) (cur : V),
    Chain P U X stack → (∀ σ, U σ → ¬ Matches X σ) → (∀ σ, U σ → Avoids P store σ) →
    P.OkS store → OkStack P stack → P.Ok cur →
    let r := popLoop P stack store cur
    (∀ σ, U σ → Avoids P r.2.1 σ) ∧ (∀ g, P.Mem store g → P.Mem r.2.1 g) ∧
    (∀ e rest, stack = e :: rest → P.Mem r.2.1 e.ng) ∧
    Chain P U (P.dec r.2.2) r.1 ∧
    (∀ σ, U σ → (∃ e ∈ stack, ∃ H v b, e.choice = some (H, v, b) ∧ Matches (P.dec H) σ ∧ σ v = !b) →
        Matches (P.dec r.2.2) σ ∨ ∃ e ∈ r.1, ∃ H v b, e.choice = some (H, v, b) ∧ Matches (P.dec H) σ ∧ σ v = !b) ∧
    P.OkS r.2.1 ∧ OkStack P r.1 ∧ P.Ok r.2.2 := by
  intro stack
  induction stack with
  | nil =>
    intro store X cur _ _ hst hoks _ hokc
    simp only [popLoop]
    refine ⟨hst, fun g hg => hg, (fun e rest he => by cases he), Chain.nil _, ?_, hoks, (fun e he => by cases he), hokc⟩
    intro σ _ ⟨e, he, _⟩; cases he
  | cons e rest ih =>
    intro store X cur hch hX hst hoks hokstk hokc
    have ⟨hoke, hokrest⟩ := List.forall_mem_cons.mp hokstk
    cases hch with
    | plain _ C _ f r =>
      simp only [popLoop]
      have hC : ∀ σ, U σ → ¬ Matches C σ := fun σ u m => hX σ u (f σ u m)
      have hmem := hP.mem_add store C
      have hst' : ∀ σ, U σ → Avoids P (P.add store C) σ := by
        intro σ u g hg
        rcases (hmem g hoks hoke.1).mp hg with rfl | hg
        · exact hC σ u
        · exact hst σ u g hg
      have ⟨a, b, c, d, e', f', g', h'⟩ := ih (P.add store C) C cur r hC hst'
        (hP.oks_add _ _ hoks hoke.1) hokrest hokc
      refine ⟨a, fun g hg => b g ((hmem g hoks hoke.1).mpr (Or.inr hg)), ?_, d, ?_, f', g', h'⟩
      · intro x rest' hx
        cases hx
        exact b _ ((hmem _ hoks hoke.1).mpr (Or.inl rfl))
      · intro σ u ⟨x, hx, H, v, b', hc', hm, hv⟩
        rcases List.mem_cons.mp hx with rfl | hx
        · cases hc'
        · exact e' σ u ⟨x, hx, H, v, b', hc', hm, hv⟩
    | choice _ H v b _ f hn r =>
      simp only [popLoop]
      have hC : ∀ σ, U σ → ¬ Matches (setAt (P.dec H) v b) σ := fun σ u m => hX σ u (f σ u m)
      have hmem := hP.mem_add store (setAt (P.dec H) v b)
      refine ⟨?_, fun g hg => (hmem g hoks hoke.1).mpr (Or.inr hg), ?_, r, ?_, hP.oks_add _ _ hoks hoke.1,
        hokrest, hoke.2 H v b rfl⟩
      · intro σ u g hg
        rcases (hmem g hoks hoke.1).mp hg with rfl | hg
        · exact hC σ u
        · exact hst σ u g hg
      · intro x rest' hx
        cases hx
        exact (hmem _ hoks hoke.1).mpr (Or.inl rfl)
      · intro σ _ ⟨x, hx, H', v', b', hc', hm, hv⟩
        rcases List.mem_cons.mp hx with rfl | hx
        · simp only [Option.some.injEq, Prod.mk.injEq] at hc'
          obtain ⟨rfl, rfl, rfl⟩ := hc'
          exact Or.inl hm
        · exact Or.inr ⟨x, hx, H', v', b', hc', hm, hv⟩

theorem step1_choice (k : Nat) (s : St V Sto) : (step1 P k s).choice = false := by
  fun_cases step1 P k s with
  | case1 => rfl
  | case2 => rfl
  | case3 hc => simpa using hc

theorem inv_step3 (hP : GSound T P) {s1 : St V Sto} (h : SInvQ Q T P s1) (hc : s1.choice = false) :
    SInvQ Q T P (step3 P s1) ∧ (step3 P s1).backtrack = false ∧ (step3 P s1).choice = false := by
  fun_cases step3 P s1 with
  | case1 hb r =>
    have ⟨a, b, c, d, e, f, g, i⟩ := popLoop_spec hP (U := Unrep T s1.out) s1.stack s1.store (P.dec s1.cur) s1.cur
      h.chain (h.dead hb) h.storeOK h.oks h.okstk h.okc
    refine ⟨⟨d, ?_, a, ?_, h.outT, h.outNodup, h.outQ, ?_, ?_, i, f, g⟩, rfl, hc⟩
    · intro σ u
      rcases h.cover σ u with hm | hl
      · exact absurd hm (h.dead hb σ u)
      · exact e σ u hl
    · intro hbb; cases hbb
    · intro o ho
      rcases h.outStored o ho with h1 | ⟨_, x, rest, hst, hx⟩
      · left; exact b o h1
      · left; rw [← hx]; exact c x rest hst
    · intro hcc; simp only at hcc; rw [hc] at hcc; cases hcc
  | case2 hb => exact ⟨h, by simpa using hb, hc⟩

theorem inv_emit {s : St V Sto} (hP : GSound T P) (h : SInvQ Q T P s) (hb : s.backtrack = false) (hc : s.choice = false)
    (hnew : ∀ g, P.Mem s.store g → g ≠ P.dec s.cur) (hq : Q (P.dec s.cur))
    (hT : ∀ σ, Matches (P.dec s.cur) σ → T σ) :
    SInvQ Q T P { s with stack := { choice := none, ng := P.dec s.cur } :: s.stack, out := s.out ++ [P.dec s.cur],
                         backtrack := true } := by
  have sub : ∀ σ, Unrep T (s.out ++ [P.dec s.cur]) σ → Unrep T s.out σ :=
    fun _ u => ⟨u.1, fun o ho => u.2 o (List.mem_append_left _ ho)⟩
  have hp := inv_push hP h hb
  exact
    { hp with
      chain := hp.chain.mono sub
      cover := fun σ u => hp.cover σ (sub σ u)
      storeOK := fun σ u => h.storeOK σ (sub σ u)
      dead := fun _ σ u => u.2 _ (List.mem_append_right _ (List.mem_singleton.mpr rfl))
      outT := fun o ho σ m => by
        rcases List.mem_append.mp ho with ho | ho
        · exact h.outT o ho σ m
        · rw [List.mem_singleton.mp ho] at m; exact hT σ m
      outNodup := List.nodup_append.mpr ⟨h.outNodup, by simp, fun a ha b hb' hab => by
        rw [List.mem_singleton.mp hb'] at hab
        exact hnew a (h.stored hb a ha) hab⟩
      outQ := fun o ho => by
        rcases List.mem_append.mp ho with ho | ho
        · exact h.outQ o ho
        · rw [List.mem_singleton.mp ho]; exact hq
      outStored := fun o ho => by
        rcases List.mem_append.mp ho with ho | ho
        · exact Or.inl (h.stored hb o ho)
        · exact Or.inr ⟨rfl, _, _, rfl, (List.mem_singleton.mp ho).symm⟩
      choiceOK := fun hcc => by cases hc.symm.trans hcc }

theorem inv_final (hP : GSound T P) (hQ : ∀ X, P.Ok X → P.twoVal (P.dec X) = true → Q (P.dec X)) {s3 : St V Sto} (h : SInvQ Q T P s3) (hb : s3.backtrack = false)
    (hc : s3.choice = false) (updNg : Bool) (hno : updNg = false → ∀ g, P.Mem s3.store g → g ≠ P.dec s3.cur) :
    SInvQ Q T P (stepFinal P s3 updNg) := by
  have base : SInvQ Q T P { s3 with cur := P.gam s3.cur } :=
    inv_extend h hb hc (hP.ok_gam _ h.okc) (fun σ u m => hP.gam_sound _ σ h.okc u.1 m)
  fun_cases stepFinal P s3 updNg with
  | case1 hac => exact inv_kill h hb hc (fun σ u => hP.ac_sound _ h.okc hac σ u.1)
  | case2 => exact base
  | case3 => exact base
  | case4 hac cur' s4 hfp hun htv => exact { base with choiceOK := fun _ => ⟨by simpa using htv, hb⟩ }
  | case5 hac cur' s4 hfp hun htv hit =>
    have e : P.gam s3.cur = s3.cur := Classical.not_not.mp hfp
    simp only [s4, cur', e] at htv hit ⊢
    rw [e] at base
    have htv' : P.twoVal (P.dec s3.cur) = true := by simpa using htv
    exact inv_emit hP base hb hc (hno (by simpa using hun)) (hQ _ h.okc htv')
      (hP.leaf_pos _ h.okc htv' (by simpa using hac) hit)
  | case6 hac cur' s4 hfp hun htv hit =>
    have e : P.gam s3.cur = s3.cur := Classical.not_not.mp hfp
    simp only [s4, cur', e] at htv hit ⊢
    rw [e] at base
    have htv' : P.twoVal (P.dec s3.cur) = true := by simpa using htv
    exact inv_kill (inv_push hP base hb) hb hc
      (fun σ u m => hP.leaf_neg _ h.okc htv' (by simpa using hac) (by simpa using hit) σ m u.1)

theorem inv_tail (hP : GSound T P) (hQ : ∀ X, P.Ok X → P.twoVal (P.dec X) = true → Q (P.dec X)) {s2 : St V Sto} (h : SInvQ Q T P s2) (hb : s2.backtrack = false)
    (hc : s2.choice = false) : SInvQ Q T P (stepTail P s2) := by
  have hokg : P.OkG (P.dec s2.cur) := hP.okg _ h.okc
  unfold stepTail
  cases hcl : P.closure s2.store (P.dec s2.cur) with
  | inconsistent =>
    exact inv_kill h hb hc (fun σ u m => hP.cl_inc _ _ h.oks hokg hcl σ m (h.storeOK σ u))
  | update r =>
    have hd := hP.dec_upd _ _ r h.oks h.okc hcl
    have base := inv_push hP (inv_extend h hb hc (hP.ok_upd _ _ r h.oks h.okc hcl)
      (fun σ u m => by rw [hd]; exact hP.cl_upd _ _ r h.oks hokg hcl σ m (h.storeOK σ u))) hb
    simp only [hd] at base
    exact inv_final hP hQ base hb hc true (fun hh => by cases hh)
  | noUpdate =>
    exact inv_final hP hQ h hb hc false (fun _ g hg => hP.cl_no _ _ h.oks hokg hcl g hg)

theorem iter_invQ (hP : GSound T P) (hQ : ∀ X, P.Ok X → P.twoVal (P.dec X) = true → Q (P.dec X)) (k : Nat) {s s' : St V Sto} (h : SInvQ Q T P s) (hi : iter P k s = Res.cont s') :
    SInvQ Q T P s' := by
  unfold iter at hi
  simp only at hi
  by_cases hd : (step1 P k s).backtrack = true ∧ (step1 P k s).stack = []
  · rw [if_pos hd] at hi; cases hi
  · rw [if_neg hd] at hi
    cases hi
    have ⟨h3, hb, hc⟩ := inv_step3 hP (inv_step1 hP k h) (step1_choice k s)
    exact inv_tail hP hQ h3 hb hc

/-- a dead state with no choice left on its stack has reported every target model (`cover` has no alternative left) -/
theorem SInvQ.all_reported {s : St V Sto} (h : SInvQ Q T P s) (hb : s.backtrack = true)
    (hn : ∀ e ∈ s.stack, e.choice = none) (σ : Asg) (hT : T σ) : ∃ o ∈ s.out, Matches o σ := by
  false_or_by_contra
  rename_i hne
  have u : Unrep T s.out σ := ⟨hT, fun o ho m => hne ⟨o, ho, m⟩⟩
  rcases h.cover σ u with hm | ⟨e, he, _, _, _, hc, _⟩
  · exact h.dead hb σ u hm
  · rw [hn e he] at hc; cases hc

theorem iter_done (hP : GSound T P) (k : Nat) {s s' : St V Sto} (h : SInvQ Q T P s) (hi : iter P k s = Res.done s') :
    (∀ σ, T σ → ∃ o ∈ s'.out, Matches o σ) ∧ (∀ o ∈ s'.out, ∀ σ, Matches o σ → T σ) ∧ s'.out.Nodup ∧
    (∀ o ∈ s'.out, Q o) := by
  unfold iter at hi
  simp only at hi
  by_cases hd : (step1 P k s).backtrack = true ∧ (step1 P k s).stack = []
  · rw [if_pos hd] at hi; cases hi
    have h1 := inv_step1 hP k h
    exact ⟨h1.all_reported hd.1 (fun e he => by rw [hd.2] at he; cases he), h1.outT, h1.outNodup, h1.outQ⟩
  · rw [if_neg hd] at hi; cases hi

theorem run_exactQ (hP : GSound T P) (hQ : ∀ X, P.Ok X → P.twoVal (P.dec X) = true → Q (P.dec X)) :
    ∀ (fuel k : Nat) (s s' : St V Sto), SInvQ Q T P s → run P k fuel s = some s' →
    (∀ σ, T σ → ∃ o ∈ s'.out, Matches o σ) ∧ (∀ o ∈ s'.out, ∀ σ, Matches o σ → T σ) ∧ s'.out.Nodup ∧
    (∀ o ∈ s'.out, Q o) := by
  intro fuel
  induction fuel with
  | zero => intro k s s' _ hr; cases hr
  | succ f ih =>
    intro k s s' h hr
    unfold run at hr
    cases hi : iter P k s with
    | done s1 => rw [hi] at hr; cases hr; exact iter_done hP k h hi
    | cont s1 => rw [hi] at hr; exact ih (k+1) s1 s' (iter_invQ hP hQ k h hi) hr

theorem iter_inv (hP : GSound T P) (k : Nat) {s s' : St V Sto} (h : SInv T P s) (hi : iter P k s = Res.cont s') :
    SInv T P s' :=
  (iter_invQ hP (fun X hok htv => ⟨htv, hP.okg X hok⟩) k h.toQ hi).toSInv

/-- safety: if the search halts (with any fuel), it has emitted exactly the target models, each
once. Holds for every heuristic oracle that proposes undecided statements. -/
theorem run_exact (hP : GSound T P) : ∀ (fuel k : Nat) (s s' : St V Sto), SInv T P s → run P k fuel s = some s' →
    (∀ σ, T σ → ∃ o ∈ s'.out, Matches o σ) ∧ (∀ o ∈ s'.out, ∀ σ, Matches o σ → T σ) ∧ s'.out.Nodup ∧
    (∀ o ∈ s'.out, P.twoVal o = true ∧ P.OkG o) :=
  fun fuel k s s' h hr => run_exactQ hP (fun X hok htv => ⟨htv, hP.okg X hok⟩) fuel k s s' h.toQ hr

theorem inv_init (g : V) (st : Sto) (hg : ∀ σ, T σ → Matches (P.dec g) σ) (hok : P.Ok g) (hoks : P.OkS st)
    (hemp : ∀ x, ¬ P.Mem st x) :
    SInv T P { cur := g, store := st, stack := [], backtrack := false, choice := false, out := [] } := by
  refine ⟨Chain.nil _, fun σ u => Or.inl (hg σ u.1), (fun _ _ g' hx => absurd hx (hemp g')), (fun hb => by cases hb),
    (fun _ ho => by cases ho), List.nodup_nil, (fun _ ho => by cases ho), (fun _ ho => by cases ho), (fun hc => by cases hc), hok, hoks,
    (fun _ he => by cases he)⟩

end NGen
#print axioms NGen.run_exact
#print axioms NGen.inv_init
