import AdfObdd.Deps
/-! the counting queries of `obdd.rs` (`modelcount_naive`, path counts, variable impact) as executable definitions,
    their defining equations, and the memoised twins the compiled driver runs (no Mathlib in the import closure) -/

/-- `modelcount_naive`: (counter-models, models, depth) -/
def countF (s : Store) : Nat → Nat → Nat × Nat × Nat
  | 0, _ => (0, 0, 0)
  | fuel+1, t =>
    if t = 1 then (0, 1, 0) else if t = 0 then (1, 0, 0) else
    match s.nodes[t]? with
    | none => (0, 0, 0)
    | some n =>
      let l := countF s fuel n.lo
      let h := countF s fuel n.hi
      let D := max l.2.2 h.2.2
      (l.1 * 2 ^ (D - l.2.2) + h.1 * 2 ^ (D - h.2.2), l.2.1 * 2 ^ (D - l.2.2) + h.2.1 * 2 ^ (D - h.2.2), D + 1)

/-- path counts (counter-model paths, model paths) -/
def pathsF (s : Store) : Nat → Nat → Nat × Nat
  | 0, _ => (0, 0)
  | fuel+1, t =>
    if t = 1 then (0, 1) else if t = 0 then (1, 0) else
    match s.nodes[t]? with
    | none => (0, 0)
    | some n =>
      let l := pathsF s fuel n.lo; let h := pathsF s fuel n.hi
      (l.1 + h.1, l.2 + h.2)

/-! ### memoised twins (one cache entry per node, as `count_cache` of the code)

`countF`/`pathsF` recompute shared sub-diagrams; the compiled driver runs `countFM`/`pathsFM`
(`Memo.Meas.go`: a per-call `Std.HashMap` keyed by the node), proved equal on every table and
substituted by the compiler (`@[csimp]`); all theorems keep speaking about `countF`/`pathsF`. -/
namespace Memo

def cntG : Meas (Nat × Nat × Nat) where
  z := (0, 0, 0)
  l0 := (1, 0, 0)
  l1 := (0, 1, 0)
  nn := (0, 0, 0)
  node := fun _ l h =>
    let D := max l.2.2 h.2.2
    (l.1 * 2 ^ (D - l.2.2) + h.1 * 2 ^ (D - h.2.2), l.2.1 * 2 ^ (D - l.2.2) + h.2.1 * 2 ^ (D - h.2.2), D + 1)

def pathG : Meas (Nat × Nat) where
  z := (0, 0)
  l0 := (1, 0)
  l1 := (0, 1)
  nn := (0, 0)
  node := fun _ l h => (l.1 + h.1, l.2 + h.2)

theorem countF_eq_F (s : Store) : ∀ (fuel t : Nat), countF s fuel t = cntG.F s fuel t :=
  F_unique cntG s (countF s) (fun _ => rfl) (fun _ _ => rfl)

theorem pathsF_eq_F (s : Store) : ∀ (fuel t : Nat), pathsF s fuel t = pathG.F s fuel t :=
  F_unique pathG s (pathsF s) (fun _ => rfl) (fun _ _ => rfl)

end Memo

theorem pathsF_one (s : Store) (f : Nat) : pathsF s (f+1) 1 = (0, 1) := by simp [pathsF]
theorem pathsF_zero (s : Store) (f : Nat) : pathsF s (f+1) 0 = (1, 0) := by simp [pathsF]
theorem pathsF_node (s : Store) (f t : Nat) (n : Node) (ht : 2 ≤ t) (hn : s.nodes[t]? = some n) :
    pathsF s (f+1) t = ((pathsF s f n.lo).1 + (pathsF s f n.hi).1, (pathsF s f n.lo).2 + (pathsF s f n.hi).2) := by
  conv => lhs; unfold pathsF
  rw [if_neg (Nat.ne_of_gt ht), if_neg (Nat.ne_of_gt (Nat.lt_of_lt_of_le Nat.zero_lt_two ht))]; simp only [hn]

theorem countF_one (s : Store) (f : Nat) : countF s (f+1) 1 = (0, 1, 0) := by simp [countF]
theorem countF_zero (s : Store) (f : Nat) : countF s (f+1) 0 = (1, 0, 0) := by simp [countF]
theorem countF_node (s : Store) (f t : Nat) (n : Node) (ht : 2 ≤ t) (hn : s.nodes[t]? = some n) :
    countF s (f+1) t =
      ((countF s f n.lo).1 * 2 ^ (max (countF s f n.lo).2.2 (countF s f n.hi).2.2 - (countF s f n.lo).2.2) +
         (countF s f n.hi).1 * 2 ^ (max (countF s f n.lo).2.2 (countF s f n.hi).2.2 - (countF s f n.hi).2.2),
       (countF s f n.lo).2.1 * 2 ^ (max (countF s f n.lo).2.2 (countF s f n.hi).2.2 - (countF s f n.lo).2.2) +
         (countF s f n.hi).2.1 * 2 ^ (max (countF s f n.lo).2.2 (countF s f n.hi).2.2 - (countF s f n.hi).2.2),
       max (countF s f n.lo).2.2 (countF s f n.hi).2.2 + 1) := by
  conv => lhs; unfold countF
  rw [if_neg (Nat.ne_of_gt ht), if_neg (Nat.ne_of_gt (Nat.lt_of_lt_of_le Nat.zero_lt_two ht))]; simp only [hn]

theorem depth_node (s : Store) (f : Nat) {t : Nat} {n : Node} (ht : 2 ≤ t) (hn : s.nodes[t]? = some n) :
    (countF s (f+1) t).2.2 = max (countF s f n.lo).2.2 (countF s f n.hi).2.2 + 1 := by
  rw [countF_node s f t n ht hn]

theorem depth_child_lt (s : Store) (f : Nat) {t : Nat} {n : Node} (ht : 2 ≤ t) (hn : s.nodes[t]? = some n)
    (b : Bool) : (countF s f (n.child b)).2.2 < (countF s (f+1) t).2.2 := by
  rw [depth_node s f ht hn]
  cases b
  · exact Nat.lt_succ_of_le (Nat.le_max_left _ _)
  · exact Nat.lt_succ_of_le (Nat.le_max_right _ _)

theorem countF_congr {s s' : Store} (hn : s'.nodes = s.nodes) (f t : Nat) : countF s' f t = countF s f t := by
  rw [Memo.countF_eq_F, Memo.countF_eq_F]; exact Memo.F_congr _ hn f t

theorem pathsF_congr {s s' : Store} (hn : s'.nodes = s.nodes) (f t : Nat) : pathsF s' f t = pathsF s f t := by
  rw [Memo.pathsF_eq_F, Memo.pathsF_eq_F]; exact Memo.F_congr _ hn f t

theorem depsF_congr {s s' : Store} (hn : s'.nodes = s.nodes) (f t : Nat) : depsF s' f t = depsF s f t := by
  rw [Memo.depsF_eq_F, Memo.depsF_eq_F]; exact Memo.F_congr _ hn f t

theorem countF_fuel (s : Store) (h : TableWF s.nodes) :
    ∀ (t fuel : Nat), t < fuel → countF s fuel t = countF s (t+1) t := by
  intro t fuel hlt
  rw [Memo.countF_eq_F, Memo.countF_eq_F]; exact Memo.F_fuel _ s h t fuel hlt

theorem pathsF_fuel (s : Store) (h : TableWF s.nodes) :
    ∀ (t fuel : Nat), t < fuel → pathsF s fuel t = pathsF s (t+1) t := by
  intro t fuel hlt
  rw [Memo.pathsF_eq_F, Memo.pathsF_eq_F]; exact Memo.F_fuel _ s h t fuel hlt

theorem count_node (s : Store) (h : TableWF s.nodes) {t : Nat} {n : Node} (ht : 2 ≤ t) (hn : s.nodes[t]? = some n) :
    countF s (t+1) t = Memo.cntG.node n (countF s (n.lo+1) n.lo) (countF s (n.hi+1) n.hi) := by
  rw [Memo.countF_eq_F, Memo.countF_eq_F, Memo.countF_eq_F]; exact Memo.val_node _ s h ht hn

theorem paths_node (s : Store) (h : TableWF s.nodes) {t : Nat} {n : Node} (ht : 2 ≤ t) (hn : s.nodes[t]? = some n) :
    pathsF s (t+1) t = Memo.pathG.node n (pathsF s (n.lo+1) n.lo) (pathsF s (n.hi+1) n.hi) := by
  rw [Memo.pathsF_eq_F, Memo.pathsF_eq_F, Memo.pathsF_eq_F]; exact Memo.val_node _ s h ht hn

def countFM (s : Store) (fuel t : Nat) : Nat × Nat × Nat := Memo.cntG.FM s fuel t
def pathsFM (s : Store) (fuel t : Nat) : Nat × Nat := Memo.pathG.FM s fuel t

@[csimp] theorem countF_eq_countFM : @countF = @countFM := by
  funext s fuel t; rw [countFM, Memo.FM_eq, Memo.countF_eq_F]
@[csimp] theorem pathsF_eq_pathsFM : @pathsF = @pathsFM := by
  funext s fuel t; rw [pathsFM, Memo.FM_eq, Memo.pathsF_eq_F]

def paths (s : Store) (t : Nat) : Nat × Nat := pathsF s (t+1) t                   -- `Bdd::paths`
def minPaths (s : Store) (t : Nat) : Nat := min (paths s t).1 (paths s t).2     -- `.minimum()` of it
def moreModels (p : Nat × Nat) : Bool := p.2 ≥ p.1          -- `ModelCounts::more_models`: `models >= cmodels`

def depsOf (s : Store) (t : Nat) : List Nat := depsF s (t+1) t
-- `passive_var_impact`, `active_var_impact`: the latter looks at `termlist[var]` (outside the list the Rust panics;
-- here handle 0, so the count is 0) and counts the indices `i < termlist.len()` among ITS variables
def passive (s : Store) (v : Nat) (interp : List Nat) : Nat := (interp.filter (fun t => (depsOf s t).contains v)).length
def active (s : Store) (v : Nat) (interp : List Nat) : Nat :=
  ((List.range interp.length).filter (fun i => (depsOf s (interp.getD v 0)).contains i)).length

/-! ### dependency sets as increasing lists

`depsF` lists a variable once per PATH through it (an exponentially long list on a parity diagram);
its callers in the searches only ask `contains`. `setG` is the same recursion with the list replaced
by the set of its members, kept as a strictly increasing duplicate-free list (`umerge`, `MeasMemo.lean`);
`passive`/`active` are compiled to twins that evaluate it with one cache entry per node (`var_deps` of
the code). -/
namespace Memo

def setG : Meas (List Nat) where
  z := []
  l0 := []
  l1 := []
  nn := []
  node := fun n l h => umerge [n.var] (umerge l h)

theorem mem_depsF (s : Store) : ∀ (fuel t v : Nat), v ∈ depsF s fuel t ↔ v ∈ setG.F s fuel t := by
  intro fuel t v
  rw [depsF_eq_F]
  refine F_rel depsG setG s (fun _ l l' => v ∈ l ↔ v ∈ l') (fun _ => Iff.rfl) Iff.rfl Iff.rfl (fun _ => Iff.rfl)
    ?_ fuel t
  intro _ n a b a' b' _ _ ha hb
  show v ∈ n.var :: (a ++ b) ↔ v ∈ umerge [n.var] (umerge a' b')
  rw [mem_umerge, mem_umerge, List.mem_cons, List.mem_append, ha, hb, List.mem_singleton]

theorem setF_sorted (s : Store) : ∀ (fuel t : Nat), (setG.F s fuel t).Pairwise (· < ·) :=
  F_ind setG s (fun _ l => l.Pairwise (· < ·)) (fun _ => .nil) .nil .nil (fun _ => .nil)
    fun _ _ _ _ _ _ hl hh => umerge_sorted _ _ (List.pairwise_singleton _ _) (umerge_sorted _ _ hl hh)

def setOf (s : Store) (t : Nat) : List Nat := setG.F s (t+1) t

theorem depsOf_contains (s : Store) (t v : Nat) : (depsOf s t).contains v = (setOf s t).contains v := by
  rw [Bool.eq_iff_iff, List.contains_iff_mem, List.contains_iff_mem]
  exact mem_depsF s (t+1) t v

/-- `passive` from the dependency sets of all handles of the interpretation -/
def passiveB (bl : List (List Nat)) (v : Nat) : Nat := (bl.filter (fun b => b.contains v)).length
/-- `active` from the dependency sets of all handles of the interpretation -/
def activeB (bl : List (List Nat)) (v : Nat) : Nat :=
  ((List.range bl.length).filter (fun i => (bl.getD v []).contains i)).length

theorem passive_eq_B (s : Store) (v : Nat) (interp : List Nat) :
    passive s v interp = passiveB (setG.mapL s interp) v := by
  unfold passive passiveB Meas.mapL
  rw [List.filter_map, List.length_map]
  congr 1
  apply List.filter_congr
  intro t _
  exact depsOf_contains s t v

theorem mapL_getD (s : Store) (interp : List Nat) (v : Nat) :
    (setG.mapL s interp).getD v [] = setOf s (interp.getD v 0) := by
  unfold Meas.mapL
  rw [List.getD_eq_getElem?_getD, List.getD_eq_getElem?_getD, List.getElem?_map]
  cases interp[v]? with
  | none => rfl
  | some t => rfl

theorem active_eq_set (s : Store) (v : Nat) (interp : List Nat) :
    active s v interp =
      ((List.range interp.length).filter (fun i => (setOf s (interp.getD v 0)).contains i)).length := by
  unfold active
  congr 1
  exact List.filter_congr fun i _ => depsOf_contains s _ i

theorem active_eq_B (s : Store) (v : Nat) (interp : List Nat) :
    active s v interp = activeB (setG.mapL s interp) v := by
  rw [active_eq_set, activeB, mapL_getD, Meas.mapL, List.length_map]

end Memo

def passiveM (s : Store) (v : Nat) (interp : List Nat) : Nat := Memo.passiveB (Memo.setG.mapL s interp) v
def activeM (s : Store) (v : Nat) (interp : List Nat) : Nat :=
  let b := Memo.setG.FM s (interp.getD v 0 + 1) (interp.getD v 0)
  ((List.range interp.length).filter (fun i => b.contains i)).length

@[csimp] theorem passive_eq_passiveM : @passive = @passiveM := by
  funext s v interp; exact Memo.passive_eq_B s v interp
@[csimp] theorem active_eq_activeM : @active = @activeM := by
  funext s v interp
  rw [Memo.active_eq_set, activeM, Memo.FM_eq]
  rfl
