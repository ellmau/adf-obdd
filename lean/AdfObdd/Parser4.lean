import AdfObdd.Parser2

/-! the fact level of the parser — `all_consuming(many1(alt(statement, ac)))` — accepts every
file of the documented format (alphanumeric or quoted labels) and returns the facts in file
order -/
namespace ParserM

inductive Fact where
  | stmt (l : List Char)
  | ac (l : List Char) (f : Fml)
deriving DecidableEq

/-- `terminated(statement, terminated(tag("."), multispace0))` -/
def stmtP : Prs Fact := fun cs =>
  (tagL ['s'] cs).bind fun a => (tagL ['('] a.2).bind fun b => (atomic b.2).bind fun l =>
  (tagL [')'] l.2).bind fun c => (tagL ['.'] c.2).bind fun d => (ws0 d.2).bind fun e =>
  some (Fact.stmt l.1, e.2)

/-- `terminated(ac, terminated(tag("."), multispace0))` -/
def acP (fuel : Nat) : Prs Fact := fun cs =>
  (tagL ['a','c'] cs).bind fun a => (tagL ['('] a.2).bind fun b => (atomic b.2).bind fun l =>
  (commaP l.2).bind fun c => (formulaF fuel c.2).bind fun f => (tagL [')'] f.2).bind fun d =>
  (tagL ['.'] d.2).bind fun e => (ws0 e.2).bind fun g => some (Fact.ac l.1 f.1, g.2)

def factP (fuel : Nat) : Prs Fact := orElse stmtP (acP fuel)

/-- `many1` (the fuel only bounds the number of facts) -/
def many (p : Prs Fact) : Nat → Inp → List Fact × Inp
  | 0, cs => ([], cs)
  | k+1, cs => match p cs with
    | none => ([], cs)
    | some (x, r) => let m := many p k r; (x :: m.1, m.2)

/-- `all_consuming(many1(..))`: at least one fact, nothing left over. (`many1`'s guard against a
parser that succeeds without consuming can never fire: every fact starts with the tag `s` or `ac`.) -/
def parseFile (fuel : Nat) (cs : Inp) : Option (List Fact) :=
  match many (factP fuel) fuel cs with
  | ([], _) => none
  | (fs, []) => some fs
  | (_, _ :: _) => none

/-- the parser on a text, as the list of facts in file order. The fuel (recursion depth of
`formula`, number of facts) is the length of the text plus one; `parseFacts_complete` and
`parseFacts_sound` show that this is enough: the accepted language does not depend on it. -/
def parseFacts (cs : Inp) : Option (List Fact) := parseFile (cs.length + 1) cs

/-- the documented file format: facts, each followed by optional blanks -/
inductive DerFact : Fact → List Char → Prop
  | stmt (l sl w : List Char) : DerL l sl → AllWs w →
      DerFact (Fact.stmt l) (['s','('] ++ sl ++ [')','.'] ++ w)
  | ac (l sl : List Char) (f : Fml) (s w1 w2 w : List Char) : DerL l sl → DerF f s →
      AllWs w1 → AllWs w2 → AllWs w →
      DerFact (Fact.ac l f) (['a','c','('] ++ sl ++ w1 ++ [','] ++ w2 ++ s ++ [')','.'] ++ w)

inductive DerFile : List Fact → List Char → Prop
  | nil : DerFile [] []
  | cons (x : Fact) (xs : List Fact) (s t : List Char) : DerFact x s → DerFile xs t → DerFile (x :: xs) (s ++ t)

def Fact.size : Fact → Nat
  | .stmt _ => 1
  | .ac _ f => f.size + 1

theorem stmt_text (sl w t : List Char) :
    ['s','('] ++ sl ++ [')','.'] ++ w ++ t = ['s'] ++ '(' :: (sl ++ ')' :: '.' :: (w ++ t)) := by
  simp

theorem ac_text (sl w1 w2 s w t : List Char) :
    ['a','c','('] ++ sl ++ w1 ++ [','] ++ w2 ++ s ++ [')','.'] ++ w ++ t =
      ['a','c'] ++ '(' :: (sl ++ (w1 ++ ',' :: (w2 ++ (s ++ ')' :: '.' :: (w ++ t))))) := by
  simp

theorem DerFile.head_not_ws {fs : List Fact} {t : List Char} (h : DerFile fs t) :
    ∀ c, t.head? = some c → isWs c = false := by
  intro c hc
  cases h with
  | nil => cases hc
  | cons x xs s t' hx _ =>
    cases hx with
    | stmt l sl w _ _ => rw [stmt_text] at hc; cases hc; decide
    | ac l sl f s' w1 w2 w _ _ _ _ _ => rw [ac_text] at hc; cases hc; decide

theorem goodRest_close2 (rest : List Char) : GoodRest ([')','.'] ++ rest) :=
  goodRest_cons (by decide) (by decide) _

theorem stmtP_ok (l sl w t : List Char) (hl : DerL l sl) (hw : AllWs w)
    (ht : ∀ c, t.head? = some c → isWs c = false) :
    stmtP (['s'] ++ '(' :: (sl ++ ')' :: '.' :: (w ++ t))) = some (Fact.stmt l, t) := by
  simp only [stmtP, ws0, tagL_append, tagL, if_true, Option.bind_some,
    atomic_ok l sl (')' :: '.' :: (w ++ t)) hl (goodRest_close2 _), dropWhile_ws w t hw ht]

theorem acP_ok (fuel : Nat) (l sl : List Char) (f : Fml) (s w1 w2 w t : List Char) (hl : DerL l sl)
    (hf : DerF f s) (h1 : AllWs w1) (h2 : AllWs w2) (hw : AllWs w) (hfuel : f.size < fuel)
    (ht : ∀ c, t.head? = some c → isWs c = false) :
    acP fuel (['a','c'] ++ '(' :: (sl ++ (w1 ++ ',' :: (w2 ++ (s ++ ')' :: '.' :: (w ++ t)))))) =
      some (Fact.ac l f, t) := by
  simp only [acP, ws0, tagL_append, tagL, if_true, Option.bind_some,
    atomic_ok l sl (w1 ++ ',' :: (w2 ++ (s ++ ')' :: '.' :: (w ++ t)))) hl (goodRest_ws_comma w1 _ h1),
    commaP_spec w1 w2 (s ++ ')' :: '.' :: (w ++ t)) h1 h2 (hf.head_not_ws _),
    formula_complete f s hf fuel (')' :: '.' :: (w ++ t)) hfuel (goodRest_close2 _), dropWhile_ws w t hw ht]

theorem factP_ok (fuel : Nat) (x : Fact) (s t : List Char) (hx : DerFact x s) (hfuel : x.size < fuel + 1)
    (ht : ∀ c, t.head? = some c → isWs c = false) : factP fuel (s ++ t) = some (x, t) := by
  unfold factP
  rw [orElse_eq_some]
  cases hx with
  | stmt l sl w hl hw => rw [stmt_text]; exact .inl (stmtP_ok l sl w t hl hw ht)
  | ac l sl f s' w1 w2 w hl hf h1 h2 hw =>
    rw [ac_text]
    exact .inr ⟨by simp [stmtP, tagL],
      acP_ok fuel l sl f s' w1 w2 w t hl hf h1 h2 hw (by simp [Fact.size] at hfuel; omega) ht⟩

theorem factP_nil (fuel : Nat) : factP fuel [] = none := by
  simp [factP, orElse, stmtP, acP, tagL]

theorem many_ok (fuel : Nat) : ∀ (fs : List Fact) (t : List Char), DerFile fs t → ∀ k, fs.length < k →
    (∀ x ∈ fs, x.size < fuel + 1) → many (factP fuel) k t = (fs, []) := by
  intro fs t h
  induction h with
  | nil =>
    intro k hk _
    cases k with
    | zero => omega
    | succ k => simp [many, factP_nil]
  | cons x xs s t' hx hxs ih =>
    intro k hk hsz
    cases k with
    | zero => omega
    | succ k =>
      unfold many
      rw [factP_ok fuel x s t' hx (hsz x (List.mem_cons_self ..)) hxs.head_not_ws]
      simp only
      rw [ih k (by simp at hk; omega) (fun y hy => hsz y (List.mem_cons_of_mem _ hy))]

theorem parseFile_complete (fuel : Nat) (fs : List Fact) (t : List Char) (h : DerFile fs t) (hne : fs ≠ [])
    (hlen : fs.length < fuel) (hsz : ∀ x ∈ fs, x.size < fuel + 1) : parseFile fuel t = some fs := by
  unfold parseFile
  rw [many_ok fuel fs t h fuel hlen hsz]
  cases fs with
  | nil => exact absurd rfl hne
  | cons _ _ => rfl

theorem DerF.size_le {f : Fml} {s : List Char} (h : DerF f s) : f.size ≤ s.length := by
  induction h using DerF.binInduction with
  | top => decide
  | bot => decide
  | atom l s hl =>
    cases hl with
    | alnum hne _ =>
      cases l with
      | nil => exact absurd rfl hne
      | cons _ _ => simp [Fml.size]
    | quoted _ => simp [Fml.size]
  | not f s _ ih => simp [Fml.size]; omega
  | bin kw mk hk a b s1 s2 w1 w2 _ _ _ _ iha ihb => simp [hk.size]; omega

theorem DerFact.size_le {x : Fact} {s : List Char} (h : DerFact x s) : x.size < s.length := by
  cases h with
  | stmt l sl w _ _ => simp [Fact.size]
  | ac l sl f s' w1 w2 w _ hf _ _ _ => have := hf.size_le; simp [Fact.size]; omega

theorem DerFile.bounds {fs : List Fact} {t : List Char} (h : DerFile fs t) :
    fs.length ≤ t.length ∧ ∀ x ∈ fs, x.size < t.length := by
  induction h with
  | nil => simp
  | cons x xs s t' hx _ ih =>
    have hs := hx.size_le
    refine ⟨by simp; omega, ?_⟩
    intro y hy
    rcases List.mem_cons.mp hy with rfl | hy
    · simp; omega
    · have := ih.2 y hy; simp; omega

/-- file level completeness: every non-empty file of the documented format — facts in any order,
any blanks after facts and around commas, labels alphanumeric (keyword-like ones included) or
quoted — is accepted and yields exactly the written facts, in file order, labels verbatim -/
theorem parseFacts_complete (fs : List Fact) (t : List Char) (h : DerFile fs t) (hne : fs ≠ []) :
    parseFacts t = some fs := by
  have b := h.bounds
  exact parseFile_complete _ fs t h hne (by omega) (fun x hx => by have := b.2 x hx; omega)
#print axioms parseFacts_complete

end ParserM
