import AdfObdd.Parser3
import AdfObdd.Parser4

/-! file level soundness of the parser model: whatever `all_consuming(many1(alt(statement, ac)))`
accepts is a text of the documented file format, with exactly the returned facts -/
namespace ParserM

theorem stmtP_some (cs : Inp) (x : Fact) (r : Inp) (h : stmtP cs = some (x, r)) :
    ∃ l sl w, x = Fact.stmt l ∧ cs = ['s','('] ++ sl ++ [')','.'] ++ w ++ r ∧ DerL l sl ∧ AllWs w := by
  simp only [stmtP, ws0, Option.bind_some, Option.bind_eq_some_iff, tagL_eq_some, Option.some.injEq,
    Prod.mk.injEq] at h
  obtain ⟨a, e0, b, e1, l, h2, c, e3, d, e4, rfl, rfl⟩ := h
  obtain ⟨sl, e2, hl⟩ := atomic_some b.2 l.1 l.2 h2
  refine ⟨l.1, sl, d.2.takeWhile isWs, rfl, ?_, hl, (dropWhile_split isWs d.2).2⟩
  rw [e0, e1, e2, e3, e4]; simp

theorem acP_some (fuel : Nat) (cs : Inp) (x : Fact) (r : Inp) (h : acP fuel cs = some (x, r)) :
    ∃ l sl f s w1 w2 w, x = Fact.ac l f ∧
      cs = ['a','c','('] ++ sl ++ w1 ++ [','] ++ w2 ++ s ++ [')','.'] ++ w ++ r ∧
      DerL l sl ∧ DerF f s ∧ AllWs w1 ∧ AllWs w2 ∧ AllWs w := by
  simp only [acP, ws0, Option.bind_some, Option.bind_eq_some_iff, tagL_eq_some, Option.some.injEq,
    Prod.mk.injEq] at h
  obtain ⟨a, e0, b, e1, l, h2, c, h3, f, h4, d, e5, e, e6, rfl, rfl⟩ := h
  obtain ⟨sl, e2, hl⟩ := atomic_some b.2 l.1 l.2 h2
  obtain ⟨w1, w2, e3, hw1, hw2⟩ := commaP_some l.2 c.2 h3
  obtain ⟨s, e4, hf⟩ := formula_sound fuel c.2 f.1 f.2 h4
  refine ⟨l.1, sl, f.1, s, w1, w2, e.2.takeWhile isWs, rfl, ?_, hl, hf, hw1, hw2, (dropWhile_split isWs e.2).2⟩
  rw [e0, e1, e2, e3, e4, e5, e6]; simp

theorem factP_some (fuel : Nat) (cs : Inp) (x : Fact) (r : Inp) (h : factP fuel cs = some (x, r)) :
    ∃ s, cs = s ++ r ∧ DerFact x s := by
  rcases (orElse_eq_some _ _ _ _).mp h with hs | ⟨_, ha⟩
  · obtain ⟨l, sl, w, rfl, e, hl, hw⟩ := stmtP_some cs x r hs
    exact ⟨['s','('] ++ sl ++ [')','.'] ++ w, e, DerFact.stmt l sl w hl hw⟩
  · obtain ⟨l, sl, f, s, w1, w2, w, rfl, e, hl, hf, h1, h2, hw⟩ := acP_some fuel cs x r ha
    exact ⟨['a','c','('] ++ sl ++ w1 ++ [','] ++ w2 ++ s ++ [')','.'] ++ w, e,
      DerFact.ac l sl f s w1 w2 w hl hf h1 h2 hw⟩

theorem many_sound (fuel : Nat) : ∀ (k : Nat) (cs : Inp) (fs : List Fact) (r : Inp),
    many (factP fuel) k cs = (fs, r) → ∃ s, cs = s ++ r ∧ DerFile fs s := by
  intro k cs fs r h
  fun_induction many (factP fuel) k cs generalizing fs with
  | case1 | case2 => cases h; exact ⟨[], rfl, DerFile.nil⟩
  | case3 k cs x r1 hp m ih =>
    cases h
    obtain ⟨s1, e1, d1⟩ := factP_some fuel cs x r1 hp
    obtain ⟨s2, e2, d2⟩ := ih _ rfl
    exact ⟨s1 ++ s2, by rw [e1, List.append_assoc, ← e2], DerFile.cons x _ s1 s2 d1 d2⟩

theorem parseFile_sound (fuel : Nat) (cs : Inp) (fs : List Fact) (h : parseFile fuel cs = some fs) :
    fs ≠ [] ∧ DerFile fs cs := by
  unfold parseFile at h
  cases hm : many (factP fuel) fuel cs with
  | mk gs r =>
    rw [hm] at h
    obtain ⟨s, e, d⟩ := many_sound fuel fuel cs gs r hm
    cases gs with
    | nil => simp at h
    | cons g gs' =>
      cases r with
      | nil =>
        simp only [Option.some.injEq] at h
        subst h
        refine ⟨by simp, ?_⟩
        rw [e, List.append_nil]; exact d
      | cons _ _ => simp at h

/-- file level soundness: an accepted text is a non-empty file of the documented format with
exactly the returned facts (so nothing outside the grammar is accepted) -/
theorem parseFacts_sound (cs : Inp) (fs : List Fact) (h : parseFacts cs = some fs) :
    fs ≠ [] ∧ DerFile fs cs := parseFile_sound _ cs fs h
#print axioms parseFacts_sound

/-- the accepted language and the result do not depend on the fuel -/
theorem parseFile_fuel_irrelevant (fuel : Nat) (cs : Inp) (fs : List Fact)
    (h : parseFile fuel cs = some fs) : parseFacts cs = some fs :=
  let ⟨a, b⟩ := parseFile_sound fuel cs fs h
  parseFacts_complete fs cs b a

/-- the grammar is unambiguous: a text denotes at most one list of facts -/
theorem DerFile.unique {fs gs : List Fact} {t : List Char} (h1 : DerFile fs t) (h2 : DerFile gs t) : fs = gs := by
  by_cases hf : fs = []
  · subst hf; cases h1
    exact (List.length_eq_zero_iff.mp (Nat.le_zero.mp h2.bounds.1)).symm
  by_cases hg : gs = []
  · subst hg; cases h2
    exact List.length_eq_zero_iff.mp (Nat.le_zero.mp h1.bounds.1)
  · exact Option.some.inj ((parseFacts_complete fs t h1 hf).symm.trans (parseFacts_complete gs t h2 hg))

end ParserM
