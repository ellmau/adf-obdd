import AdfObdd.ServerNonint
/-! # C17 — noninterference for a user with SEVERAL cookie jars (sessions)

A user is any SET `J` of cookie jars (`J : Nat → Bool`): all the browsers / sessions of one person,
logged in to the same account or to several accounts of his. What belongs to the user is the VIEW of the
state (`State.view S J`): the accounts in the name space `S`, the tasks spawned by jars in `J` and the
sessions of the jars in `J` - the state the user would be in alone. The observation is the sequence of
(jar, response) pairs of the jars in `J`. Under the name-space discipline `NsInvJ` the view obeys three
equations: an event of the user commutes with it, with the same response (`stepEv_view_mine`); an event
of anybody else does not show in it (`stepEv_view_other`); it does not change when the name space moves
at names of which nothing exists (`view_rebase`). An authenticated `add` never looks at its name proposal
(`stepEv_deghost`), so both laws hold for it whatever the proposal is (`Event.onSide`). The discipline is symmetric
(`NsInvJ.compl`): for the other jars, with the complement of the name space, their events are events of their own. The one-jar
statements of `ServerNonint.lean` are the instance `J = fun k => decide (k = j)`. -/
namespace ServerM
section
variable {T H A R : Type} [DecidableEq T]

/-- the name-space discipline: sessions and live tasks of the jars in `J` lie inside `S`, everybody else's outside -/
structure NsInvJ (S : T → Bool) (J : Nat → Bool) (s : State T H A R) : Prop where
  mine : ∀ k, J k = true → ∀ u, s.sess k = some u → S u = true
  others : ∀ k, J k = false → ∀ u, s.sess k = some u → S u = false
  tasks : ∀ t ∈ s.db.tasks, live t = true → S t.username = J t.jar

/-- the field `tasks` of `NsInvJ`, of the database alone: a task event keeps it whatever the sessions are -/
def TasksTaggedJ (S : T → Bool) (J : Nat → Bool) (db : Db T H A R) : Prop :=
  ∀ t ∈ db.tasks, live t = true → S t.username = J t.jar

omit [DecidableEq T] in
theorem NsInvJ.compl {S : T → Bool} {J : Nat → Bool} {s : State T H A R} (is : NsInvJ S J s) :
    NsInvJ (fun x => !S x) (fun k => !J k) s :=
  ⟨fun k hk u hu => by rw [is.others k ((Bool.not_eq_true' _).mp hk) u hu]; rfl,
   fun k hk u hu => by rw [is.mine k (by simpa using hk) u hu]; rfl,
   fun t ht hl => congrArg (!·) (is.tasks t ht hl)⟩

omit [DecidableEq T] in
theorem live_of_not_done {t : TaskRec T A} (h : t.blockingDone = false) : live t = true := by
  simp [live, h]

omit [DecidableEq T] in
theorem live_of_not_written {t : TaskRec T A} (h : t.written = false) : live t = true := by
  simp [live, h]

omit [DecidableEq T] in
theorem live_flag_done (t : TaskRec T A) : live ({ t with blockingDone := true } : TaskRec T A) = true → live t = true := by
  cases hb : t.blockingDone <;> cases hw : t.written <;> simp [live, hb, hw]

omit [DecidableEq T] in
theorem live_flag_written (t : TaskRec T A) : live ({ t with written := true } : TaskRec T A) = true → live t = true := by
  cases hb : t.blockingDone <;> cases hw : t.written <;> simp [live, hb, hw]

/-- only `spawn` adds a task; the tags stay if the new task carries a matching pair of user and jar -/
theorem exec_tagged {S : T → Bool} {J : Nat → Bool} (db : Db T H A R) (c : Cmd T H A R)
    (hc : ∀ t, c = .spawn t → S t.username = J t.jar) (h : TasksTaggedJ S J db) :
    TasksTaggedJ S J (exec db c).1 := by
  cases c with
  | spawn t =>
    intro x hx hl
    rcases List.mem_append.mp hx with hx | hx
    · exact h x hx hl
    · rw [List.mem_singleton.mp hx]; exact hc t rfl
  | uInsert u => simp only [exec]; split <;> exact h
  | uReplace n u => simp only [exec]; split <;> exact h
  | _ => exact h

/-- a task event sets flags of tasks only: the tags stay, whoever the task belongs to -/
theorem dbEv_tagged (E : Env T H A R) {S : T → Bool} {J : Nat → Bool} (d : Db T H A R) (e : Event T)
    (h : TasksTaggedJ S J d) : TasksTaggedJ S J (dbEv E d e) := by
  rcases dbEv_task E d d e rfl with h0 | ⟨t, _, ⟨_, h1, _⟩ | ⟨_, w, h1, _⟩⟩
  · rw [h0.1]; exact h
  · rw [h1]
    exact forall_updNth e.jar e.num (fun t => { t with blockingDone := true }) (fun t ht hl => ht (live_flag_done t hl)) h
  · rw [h1]
    exact forall_updNth e.jar e.num (fun t => { t with written := true }) (fun t ht hl => ht (live_flag_written t hl)) h

/-- the alone state holds nothing but what belongs to the jars in `J` -/
structure WithinJ (S : T → Bool) (J : Nat → Bool) (a : State T H A R) : Prop where
  users : ∀ u ∈ a.db.users, S u.username = true
  probs : ∀ p ∈ a.db.problems, S p.username = true
  running : ∀ i ∈ a.db.running, S i.username = true
  sess : ∀ k, J k = false → a.sess k = none
  tasks : ∀ t ∈ a.db.tasks, J t.jar = true

theorem NsInvJ.handler_in (E : Env T H A R) {S : T → Bool} {J : Nat → Bool} {s : State T H A R} (is : NsInvJ S J s)
    (rq : Request T) (hj : J rq.jar = true) (hn : ∀ n ∈ reqNames rq.req, S n = true) :
    AllCmds (CmdIn S J) (RetShape (s.sess rq.jar) rq.req) (handler E rq.jar (s.sess rq.jar) rq.req) :=
  (handler_owned E rq.jar _ rq.req).mono (Owned.cmdIn (actor_in (is.mine _ hj) hn) hn hj) (fun _ h => h)

theorem NsInvJ.step_mine (E : Env T H A R) {S : T → Bool} {J : Nat → Bool} {s : State T H A R} (is : NsInvJ S J s)
    (rq : Request T) (hj : J rq.jar = true) (hn : ∀ n ∈ reqNames rq.req, S n = true) :
    NsInvJ S J (step E s rq).1 := by
  have hin := is.handler_in E rq hj hn
  refine ⟨?_, ?_, run_inv (TasksTaggedJ S J)
    (fun db c hc => exec_tagged db c (fun t ht => by subst ht; rw [hc.1, hc.2])) hin s.db is.tasks⟩
  · intro k hk u hu
    rw [step_sess] at hu
    split at hu
    · exact applyCookie_in _ _ _ (is.mine _ hj) hn (run_ret hin s.db).2 u hu
    · exact is.mine k hk u hu
  · intro k hk u hu
    rw [step_sess, if_neg (fun h => by rw [h, hj] at hk; cases hk)] at hu
    exact is.others k hk u hu

theorem dbEv_sim_other (E : Env T H A R) {S : T → Bool} {J : Nat → Bool} (d : Db T H A R)
    (td : TasksTaggedJ S J d) (e : Event T) (hj : J e.jar = false) : DbSim S J (dbEv E d e) d := by
  rcases dbEv_task E d d e rfl with h0 | ⟨t, ht, ⟨hb, h1, _⟩ | ⟨hw, w, h1, _⟩⟩
  · rw [h0.1]; exact DbSim.refl ..
  · rw [h1]
    have hm := nthOf_mem _ _ _ t ht
    exact taskDone_out d hj _ (by rw [td t hm.1 (live_of_not_done hb), hm.2]; exact hj)
  · rw [h1]
    have hm := nthOf_mem _ _ _ t ht
    exact taskSet_out d hj _ (by rw [td t hm.1 (live_of_not_written hw), hm.2]; exact hj) w

omit [DecidableEq T] in
theorem namesIn_of_evNames (S : T → Bool) (e : Event T) (h : ∀ n ∈ evNames e, S n = true) : e.namesIn S := by
  cases e with
  | req rq => exact h
  | _ => trivial

theorem NsInvJ.stepEv_mine (E : Env T H A R) {S : T → Bool} {J : Nat → Bool} {s : State T H A R} (is : NsInvJ S J s)
    (e : Event T) (hj : J e.jar = true) (hn : e.namesIn S) : NsInvJ S J (stepEv E s e).1 := by
  cases e with
  | req rq => exact is.step_mine E rq hj hn
  | _ => exact ⟨is.mine, is.others, dbEv_tagged E _ _ is.tasks⟩

theorem stepEv_sess_other (E : Env T H A R) (st : State T H A R) (e : Event T) (k : Nat) (hk : e.jar ≠ k) :
    (stepEv E st e).1.sess k = st.sess k := by
  cases e with
  | req rq => exact (step_sess E st rq k).trans (if_neg (fun h => hk h.symm))
  | _ => rfl

theorem runAll_sess_untouched (E : Env T H A R) (k : Nat) : ∀ (es : List (Event T)) (st : State T H A R),
    (∀ e ∈ es, e.jar ≠ k) → (runAll E st es).1.sess k = st.sess k := by
  intro es
  induction es with
  | nil => intro st _; rfl
  | cons e es ih =>
    intro st h
    show (runAll E (stepEv E st e).1 es).1.sess k = _
    rw [ih _ (fun e' he' => h e' (List.mem_cons_of_mem _ he')), stepEv_sess_other E st e k (h e (List.mem_cons_self ..))]

/-- `e` is an `add` of a logged-in jar: its name proposal `fu` is never looked at (a ghost mention) -/
def ghostAdd (st : State T H A R) : Event T → Bool
  | .req ⟨jar, .add _ _ _ _ _ _⟩ => (st.sess jar).isSome
  | _ => false

/-- the same event with the unused proposal of an authenticated `add` replaced by the session's own name -/
def deghost (st : State T H A R) : Event T → Event T
  | .req ⟨jar, .add name code file parsing fu fp⟩ =>
    match st.sess jar with
    | some u => .req ⟨jar, .add name code file parsing u fp⟩
    | none => .req ⟨jar, .add name code file parsing fu fp⟩
  | e => e

omit [DecidableEq T] in
theorem deghost_jar (st : State T H A R) (e : Event T) : (deghost st e).jar = e.jar := by
  cases e with
  | req rq =>
    obtain ⟨jar, r⟩ := rq
    cases r <;> try rfl
    simp only [deghost]; split <;> rfl
  | _ => rfl

theorem stepEv_deghost (E : Env T H A R) (st : State T H A R) (e : Event T) :
    stepEv E st (deghost st e) = stepEv E st e := by
  cases e with
  | req rq =>
    obtain ⟨jar, r⟩ := rq
    cases r <;> try rfl
    rename_i name code file parsing fu fp
    simp only [deghost]
    cases hs : st.sess jar with
    | none => rfl
    | some u =>
      have h : handler E jar (some u) (.add name code file parsing u fp) =
          handler E jar (some u) (.add name code file parsing fu fp) := rfl
      simp only [stepEv, step, stepT, hs, h]
  | _ => rfl

omit [DecidableEq T] in
theorem deghost_congr (st st' : State T H A R) (e : Event T) (h : st.sess e.jar = st'.sess e.jar) :
    deghost st e = deghost st' e := by
  cases e with
  | req rq =>
    obtain ⟨jar, r⟩ := rq
    cases r <;> try rfl
    simp only [Event.jar] at h
    simp only [deghost, h]
  | _ => rfl

omit [DecidableEq T] in
theorem ghost_names (st : State T H A R) (e : Event T) (h : ghostAdd st e = true) :
    ∃ u, st.sess e.jar = some u ∧ evNames (deghost st e) = [u] := by
  cases e with
  | req rq =>
    obtain ⟨jar, r⟩ := rq
    cases r <;> try (simp [ghostAdd] at h)
    rename_i name code file parsing fu fp
    cases hs : st.sess jar with
    | none => simp [hs] at h
    | some u => exact ⟨u, hs, by simp [deghost, hs, evNames, reqNames]⟩
  | _ => simp [ghostAdd] at h

theorem NsInvJ.ghost_mine {S : T → Bool} {J : Nat → Bool} {s : State T H A R} (is : NsInvJ S J s) {e : Event T}
    (hgh : ghostAdd s e = true) (hj : J e.jar = true) : (deghost s e).namesIn S := by
  obtain ⟨u, hu, hnm⟩ := ghost_names s e hgh
  apply namesIn_of_evNames
  intro n hn; rw [hnm, List.mem_singleton] at hn; rw [hn]
  exact is.mine _ hj _ hu

omit [DecidableEq T] in
theorem ghostAdd_congr {s s' : State T H A R} {e : Event T} (h : s.sess e.jar = s'.sess e.jar) :
    ghostAdd s e = ghostAdd s' e := by
  cases e with
  | req rq =>
    obtain ⟨jar, r⟩ := rq
    cases r <;> first | rfl | exact congrArg Option.isSome h
  | _ => rfl

/-- the state the user with the jars `J` and the name space `S` would be in alone: the view of the database,
and the sessions of the jars in `J` -/
def State.view (S : T → Bool) (J : Nat → Bool) (s : State T H A R) : State T H A R :=
  { db := s.db.view S J, sess := fun k => if J k then s.sess k else none }

omit [DecidableEq T] in
theorem State.view_sess_in {S : T → Bool} {J : Nat → Bool} (s : State T H A R) {k : Nat} (hk : J k = true) :
    (s.view S J).sess k = s.sess k := if_pos hk

omit [DecidableEq T] in
theorem WithinJ.view (S : T → Bool) (J : Nat → Bool) (s : State T H A R) : WithinJ S J (s.view S J) :=
  ⟨fun _ h => (List.mem_filter.mp h).2, fun _ h => (List.mem_filter.mp h).2, fun _ h => (List.mem_filter.mp h).2,
   fun _ hk => if_neg (by rw [hk]; exact Bool.false_ne_true), fun _ h => (List.mem_filter.mp h).2⟩

omit [DecidableEq T] in
theorem NsInvJ.view {S : T → Bool} {J : Nat → Bool} {s : State T H A R} (is : NsInvJ S J s) : NsInvJ S J (s.view S J) := by
  refine ⟨fun k hk u hu => is.mine k hk u ((s.view_sess_in hk) ▸ hu), fun k hk u hu => ?_,
    fun t ht hl => is.tasks t (List.mem_filter.mp ht).1 hl⟩
  simp only [State.view, hk, Bool.false_eq_true, if_false] at hu
  cases hu

theorem dbEv_view_in (E : Env T H A R) {S : T → Bool} {J : Nat → Bool} (d : Db T H A R) (td : TasksTaggedJ S J d)
    (e : Event T) (hj : J e.jar = true) : dbEv E (d.view S J) e = (dbEv E d e).view S J := by
  rcases dbEv_task E d (d.view S J) e (nthOf_filter J _ hj _ d.tasks).symm with h0 | ⟨t, ht, ⟨_, h1, h2, _⟩ | ⟨hw, w, h1, h2, _⟩⟩
  · rw [h0.1, h0.2]
  · rw [h1, h2]; exact taskDone_view d hj _ t
  · rw [h1, h2]
    have hm := nthOf_mem _ _ _ t ht
    exact taskSet_view d hj _ (by rw [td t hm.1 (live_of_not_written hw), hm.2]; exact hj) w

omit [DecidableEq T] in
theorem Event.namesIn.mono {S S' : T → Bool} {e : Event T} (h : e.namesIn S) (hS : ∀ x, S x = true → S' x = true) :
    e.namesIn S' := by
  cases e with
  | req rq => exact fun n hn => hS n (h n hn)
  | _ => trivial

/-- the account names `e` looks at lie on `e`'s own side of the name space: in `S` for a jar of `J`, outside for
the others; an authenticated `add` looks at none -/
def Event.onSide (S : T → Bool) (J : Nat → Bool) (s : State T H A R) (e : Event T) : Prop :=
  e.namesIn (fun x => S x == J e.jar) ∨ ghostAdd s e = true

omit [DecidableEq T] in
theorem Event.onSide_of_sides {S : T → Bool} {J : Nat → Bool} (s : State T H A R) {e : Event T}
    (h : (J e.jar = true → e.namesIn S) ∧ (J e.jar = false → e.namesIn (fun x => !S x))) : e.onSide S J s := by
  cases hj : J e.jar with
  | true => exact Or.inl ((h.1 hj).mono fun x hx => by rw [hx, hj]; rfl)
  | false => exact Or.inl ((h.2 hj).mono fun x hx => by rw [(Bool.not_eq_true' _).mp hx, hj]; rfl)

omit [DecidableEq T] in
theorem Event.onSide.mine {S : T → Bool} {J : Nat → Bool} {s : State T H A R} {e : Event T} (h : e.onSide S J s)
    (hj : J e.jar = true) : e.namesIn S ∨ ghostAdd s e = true :=
  h.imp_left fun h => h.mono fun x hx => by rw [hj] at hx; exact eq_of_beq hx

omit [DecidableEq T] in
theorem Event.onSide.compl {S : T → Bool} {J : Nat → Bool} {s : State T H A R} {e : Event T} (h : e.onSide S J s) :
    e.onSide (fun x => !S x) (fun k => !J k) s :=
  h.imp_left fun h => h.mono fun x hx => by show ((!S x) == (!J e.jar)) = true; rw [eq_of_beq hx]; exact beq_self_eq_true _

theorem stepEv_view_mine (E : Env T H A R) {S : T → Bool} {J : Nat → Bool} {s : State T H A R} (is : NsInvJ S J s)
    (e : Event T) (hj : J e.jar = true) (hn : e.onSide S J s) :
    NsInvJ S J (stepEv E s e).1 ∧ stepEv E (s.view S J) e = ((stepEv E s e).1.view S J, (stepEv E s e).2) := by
  have reg : ∀ e : Event T, J e.jar = true → e.namesIn S →
      NsInvJ S J (stepEv E s e).1 ∧ stepEv E (s.view S J) e = ((stepEv E s e).1.view S J, (stepEv E s e).2) := by
    intro e hj hn
    refine ⟨is.stepEv_mine E e hj hn, ?_⟩
    cases e with
    | req rq =>
      have hs : (s.view S J).sess rq.jar = s.sess rq.jar := s.view_sess_in hj
      have hrun := run_view (is.handler_in E rq hj hn) s.db
      have hresp : (step E (s.view S J) rq).2 = (step E s rq).2 := by
        rw [step_resp, step_resp, hs]; exact hrun.2
      refine Prod.ext (state_ext ?_ (funext fun k => ?_)) (congrArg some hresp)
      · show (step E (s.view S J) rq).1.db = _
        rw [step_db, hs]; exact hrun.1
      · show (step E (s.view S J) rq).1.sess k = if J k then (step E s rq).1.sess k else none
        rw [step_sess, step_sess, hresp, hs]
        by_cases hk : k = rq.jar
        · rw [if_pos hk, if_pos hk, hk]; exact (if_pos hj).symm
        · rw [if_neg hk, if_neg hk]; rfl
    | _ => exact Prod.ext (state_ext (dbEv_view_in E s.db is.tasks _ hj) rfl) rfl
  rcases hn.mine hj with hn | hgh
  · exact reg e hj hn
  · -- executed as the same request with the session's own name as proposal
    have h := reg (deghost s e) (by rw [deghost_jar]; exact hj) (is.ghost_mine hgh hj)
    rwa [stepEv_deghost, deghost_congr s (s.view S J) e (s.view_sess_in hj).symm, stepEv_deghost] at h

theorem stepEv_view_other (E : Env T H A R) {S : T → Bool} {J : Nat → Bool} {s : State T H A R} (is : NsInvJ S J s)
    (e : Event T) (hj : J e.jar = false) (hn : e.onSide S J s) :
    NsInvJ S J (stepEv E s e).1 ∧ (stepEv E s e).1.view S J = s.view S J := by
  -- for the others `e` is an event of their own
  have hj' : (!J e.jar) = true := by rw [hj]; rfl
  have reg : ∀ e : Event T, J e.jar = false → e.namesIn (fun x => !S x) →
      NsInvJ S J (stepEv E s e).1 ∧ (stepEv E s e).1.view S J = s.view S J := by
    intro e hj hn
    have hj' : (!J e.jar) = true := by rw [hj]; rfl
    refine ⟨by simpa only [Bool.not_not] using (is.compl.stepEv_mine E e hj' hn).compl,
      state_ext (dbSim_iff_view.mp ?_) (funext fun k => ?_)⟩
    · cases e with
      | req rq => exact run_out (is.compl.handler_in E rq hj' hn) s.db
      | _ => exact dbEv_sim_other E _ is.tasks _ hj
    · show (if J k then (stepEv E s e).1.sess k else none) = if J k then s.sess k else none
      by_cases hk : J k = true
      · rw [if_pos hk, if_pos hk, stepEv_sess_other E s e k (fun h => by rw [h, hk] at hj; cases hj)]
      · rw [if_neg hk, if_neg hk]
  rcases hn.compl.mine hj' with hn | hgh
  · exact reg e hj hn
  · have h := reg (deghost s e) (by rw [deghost_jar]; exact hj) (is.compl.ghost_mine hgh hj')
    rwa [stepEv_deghost] at h

omit [DecidableEq T] in
theorem view_rebase {S S' : T → Bool} {J : Nat → Bool} {s : State T H A R} (is : NsInvJ S J s)
    (hfree : ∀ n, S n ≠ S' n → Free n s) : s.view S J = s.view S' J ∧ NsInvJ S' J s := by
  have eqS : ∀ n, (¬ Free n s) → S n = S' n := fun n hn => Decidable.byContradiction fun h => hn (hfree n h)
  refine ⟨state_ext ?_ rfl, ?_, ?_, ?_⟩
  · simp only [State.view, Db.view, Db.mk.injEq, and_true]
    exact ⟨List.filter_congr fun u hu => eqS _ (fun hf => hf.users u hu rfl),
      List.filter_congr fun p hp => eqS _ (fun hf => hf.probs p hp rfl),
      List.filter_congr fun i hi => eqS _ (fun hf => hf.running i hi rfl)⟩
  · intro k hk u hu; rw [← eqS u (fun hf => hf.sess k hu)]; exact is.mine k hk u hu
  · intro k hk u hu; rw [← eqS u (fun hf => hf.sess k hu)]; exact is.others k hk u hu
  · intro t ht hl; rw [← eqS _ (fun hf => hf.tasks t ht hl rfl)]; exact is.tasks t ht hl

/-- what the user with the jars `J` observes: the responses to the requests of these jars, in order,
each with the jar it went to -/
def obsJ (J : Nat → Bool) (out : List (Nat × Resp T R)) : List (Nat × Resp T R) := out.filter (fun x => J x.1)

omit [DecidableEq T] in
theorem obsJ_append (J : Nat → Bool) (x y : List (Nat × Resp T R)) : obsJ J (x ++ y) = obsJ J x ++ obsJ J y := by
  simp [obsJ, List.filter_append]

def evOut (j : Nat) : Option (Resp T R) → List (Nat × Resp T R)
  | some r => [(j, r)]
  | none => []

theorem runAll_cons (E : Env T H A R) (st : State T H A R) (e : Event T) (es : List (Event T)) :
    (runAll E st (e :: es)).2 = evOut e.jar (stepEv E st e).2 ++ (runAll E (stepEv E st e).1 es).2 := by
  cases h : (stepEv E st e).2 <;> simp [runAll, evOut, h]

omit [DecidableEq T] in
theorem obsJ_evOut_in {J : Nat → Bool} {j : Nat} (hj : J j = true) (o : Option (Resp T R)) : obsJ J (evOut j o) = evOut j o := by
  cases o <;> simp [obsJ, evOut, hj]

omit [DecidableEq T] in
theorem obsJ_evOut_out {J : Nat → Bool} {j : Nat} (hj : J j = false) (o : Option (Resp T R)) : obsJ J (evOut j o) = [] := by
  cases o <;> simp [obsJ, evOut, hj]

theorem obsJ_cons_other (E : Env T H A R) {J : Nat → Bool} {s a : State T H A R} {e : Event T} {es : List (Event T)}
    (hj : J e.jar = false)
    (ih : obsJ J (runAll E (stepEv E s e).1 es).2 = obsJ J (runAll E a (es.filter (fun e => J e.jar))).2) :
    obsJ J (runAll E s (e :: es)).2 = obsJ J (runAll E a ((e :: es).filter (fun e => J e.jar))).2 := by
  rw [List.filter_cons_of_neg (p := fun e : Event T => J e.jar) (by rw [hj]; exact Bool.false_ne_true), runAll_cons, obsJ_append,
    obsJ_evOut_out hj, List.nil_append, ih]

theorem obsJ_view_cons (E : Env T H A R) {S : T → Bool} {J : Nat → Bool} {s : State T H A R} (is : NsInvJ S J s)
    {e : Event T} {es : List (Event T)} (hn : e.onSide S J s)
    (ih : NsInvJ S J (stepEv E s e).1 → obsJ J (runAll E (stepEv E s e).1 es).2 =
      obsJ J (runAll E ((stepEv E s e).1.view S J) (es.filter (fun e => J e.jar))).2) :
    obsJ J (runAll E s (e :: es)).2 = obsJ J (runAll E (s.view S J) ((e :: es).filter (fun e => J e.jar))).2 := by
  cases hj : J e.jar with
  | true =>
    have h := stepEv_view_mine E is e hj hn
    rw [List.filter_cons_of_pos (p := fun e : Event T => J e.jar) hj, runAll_cons, runAll_cons, obsJ_append, obsJ_append,
      h.2, ih h.1]
  | false =>
    have h := stepEv_view_other E is e hj hn
    exact obsJ_cons_other E hj (by rw [← h.2]; exact ih h.1)

omit [DecidableEq T] in
theorem view_init (S : T → Bool) (J : Nat → Bool) : ({} : State T H A R).view S J = {} :=
  state_ext rfl (funext fun _ => ite_self _)

omit [DecidableEq T] in
theorem NsInvJ.init (S : T → Bool) (J : Nat → Bool) : NsInvJ S J ({} : State T H A R) :=
  ⟨(by intro k _ u hu; cases hu), (by intro k _ u hu; cases hu), (by intro t ht; cases ht)⟩

/-- **static name spaces**: from any state that obeys the discipline, what the user observes is what he
observes from the view of that state when only his events happen -/
theorem nonint_runJ (E : Env T H A R) (S : T → Bool) (J : Nat → Bool) : ∀ (es : List (Event T)) (s : State T H A R),
    NsInvJ S J s →
    (∀ e ∈ es, (J e.jar = true → e.namesIn S) ∧ (J e.jar = false → e.namesIn (fun x => !S x))) →
    obsJ J (runAll E s es).2 = obsJ J (runAll E (s.view S J) (es.filter (fun e => J e.jar))).2 := by
  intro es
  induction es with
  | nil => intro s _ _; rfl
  | cons e es ih =>
    intro s is h
    exact obsJ_view_cons E is (Event.onSide_of_sides s (h e (List.mem_cons_self ..)))
      (fun is' => ih _ is' fun e' he' => h e' (List.mem_cons_of_mem _ he'))

/-- a jar of the user claimed the name last -/
def ownedByJ (J : Nat → Bool) (o : Option Nat) : Bool := match o with | some k => J k | none => false

/-- **the discipline of account names, as far as the user with the jars `J` is concerned**: mentioning a
name claims it for the mentioning jar. A jar of `J` may mention a name only if a jar of `J` claimed it
last, or nothing of that name exists any more; a jar outside `J` may mention a name that a jar of `J`
claimed last only if nothing of that name exists any more. Among the jars of `J` - e.g. two browsers
logged in to the same account - and among the other jars nothing is restricted. -/
def DisciplinedJ (E : Env T H A R) (J : Nat → Bool) : (T → Option Nat) → State T H A R → List (Event T) → Prop
  | _, _, [] => True
  | own, st, e :: es =>
    (∀ n ∈ evNames e, (ownedByJ J (own n) = J e.jar) ∨ Free n st) ∧
    DisciplinedJ E J (fun n => if n ∈ evNames e then some e.jar else own n) (stepEv E st e).1 es

/-- the name space of the user under the ghost record `own` of who claimed which name last -/
def spaceOfJ (own : T → Option Nat) (J : Nat → Bool) : T → Bool := fun n => ownedByJ J (own n)

/-- the ghost record after `e` has claimed the names it mentions; `DisciplinedJ`, `DisciplinedJ'` and the checkers
write this body out -/
def claim (own : T → Option Nat) (e : Event T) : T → Option Nat :=
  fun n => if n ∈ evNames e then some e.jar else own n

theorem spaceOfJ_claim (own : T → Option Nat) (J : Nat → Bool) (e : Event T) {n : T} (hn : n ∈ evNames e) :
    spaceOfJ (claim own e) J n = J e.jar := by
  show ownedByJ J (if n ∈ evNames e then some e.jar else own n) = _
  rw [if_pos hn]; rfl

theorem spaceOfJ_claim_other (own : T → Option Nat) (J : Nat → Bool) (e : Event T) {n : T} (hn : n ∉ evNames e) :
    spaceOfJ (claim own e) J n = spaceOfJ own J n := by
  show ownedByJ J (if n ∈ evNames e then some e.jar else own n) = _
  rw [if_neg hn]; rfl

theorem view_claim {J : Nat → Bool} {own : T → Option Nat} {s : State T H A R} (is : NsInvJ (spaceOfJ own J) J s)
    (e : Event T) (hreg : ∀ n ∈ evNames e, (ownedByJ J (own n) = J e.jar) ∨ Free n s) :
    s.view (spaceOfJ own J) J = s.view (spaceOfJ (claim own e) J) J ∧ NsInvJ (spaceOfJ (claim own e) J) J s := by
  apply view_rebase is
  intro n hne
  by_cases hmem : n ∈ evNames e
  · exact (hreg n hmem).elim (fun h => absurd (h.trans (spaceOfJ_claim own J e hmem).symm) hne) id
  · exact absurd (spaceOfJ_claim_other own J e hmem).symm hne

theorem onSide_claim (own : T → Option Nat) (J : Nat → Bool) (s : State T H A R) (e : Event T) :
    e.onSide (spaceOfJ (claim own e) J) J s :=
  Or.inl (namesIn_of_evNames _ e fun _ hn => by rw [spaceOfJ_claim own J e hn]; exact beq_self_eq_true _)

end
end ServerM
