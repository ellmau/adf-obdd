import AdfObdd.RA
/-! the semantic grounded loop computes the least fixpoint of Γ -/

abbrev I3 := List (Option Bool)

theorem lt_length_of_get? {α : Type} {l : List α} {i : Nat} {a : α} (h : l[i]? = some a) :
    i < l.length := (List.getElem?_eq_some_iff.mp h).1

theorem over_apply : ∀ (w : I3) (σ : Asg) (k x : Nat),
    over σ k w x = (if k ≤ x then (match w[x-k]? with | some (some b) => b | _ => σ x) else σ x) := by
  intro w
  induction w with
  | nil => intro σ k x; simp [over]
  | cons a w ih =>
    intro σ k x
    rcases Nat.lt_trichotomy x k with h | h | h
    · rw [if_neg (Nat.not_le_of_gt h)]
      cases a <;> rw [over, ih, if_neg (Nat.not_le_of_gt (Nat.lt_succ_of_lt h))]
      exact if_neg (Nat.ne_of_lt h)
    · subst h
      rw [if_pos (Nat.le_refl x), Nat.sub_self, List.getElem?_cons_zero]
      cases a <;> rw [over, ih, if_neg (Nat.not_succ_le_self x)]
      exact if_pos rfl
    · have e : x - k = (x - (k + 1)) + 1 := by omega
      rw [if_pos (Nat.le_of_lt h), e, List.getElem?_cons_succ]
      cases a <;> rw [over, ih, if_pos (Nat.succ_le_of_lt h)]
      rw [show upd σ k _ x = σ x from if_neg (Nat.ne_of_gt h)]

theorem over_zero_apply (σ : Asg) (w : I3) (x : Nat) :
    over σ 0 w x = match w[x]? with | some (some b) => b | _ => σ x := by
  rw [over_apply, if_pos (Nat.zero_le x), Nat.sub_zero]

theorem map_eq_map_get {α β γ : Type} {f : α → γ} {g : β → γ} {l : List α} {l' : List β} (h : l.map f = l'.map g)
    {i : Nat} {a : α} {b : β} (ha : l[i]? = some a) (hb : l'[i]? = some b) : f a = g b := by
  have := congrArg (·[i]?) h
  simpa only [List.getElem?_map, ha, hb, Option.map_some, Option.some.injEq] using this

def Agree (σ : Asg) (w : I3) : Prop := ∀ (i : Nat) (b : Bool), w[i]? = some (some b) → σ i = b
def Le3 (w w' : I3) : Prop := ∀ (i : Nat) (b : Bool), w[i]? = some (some b) → w'[i]? = some (some b)

theorem Le3.refl (w : I3) : Le3 w w := fun _ _ h => h

theorem Le3.nil (w : I3) : Le3 [] w := fun _ _ h => nomatch h

theorem Le3.of_eq {a b : I3} (h : a = b) : Le3 a b := h ▸ Le3.refl a

theorem Le3.trans {a b c : I3} (h1 : Le3 a b) (h2 : Le3 b c) : Le3 a c :=
  fun i x h => h2 i x (h1 i x h)

theorem Le3_antisymm {w w' : I3} (hl : w.length = w'.length) (h1 : Le3 w w') (h2 : Le3 w' w) : w = w' := by
  apply List.ext_getElem hl
  intro i hi hi'
  have e : w[i]? = some w[i] := List.getElem?_eq_getElem hi
  have e' : w'[i]? = some w'[i] := List.getElem?_eq_getElem hi'
  refine Option.ext fun b => ⟨fun hb => ?_, fun hb => ?_⟩
  · have := h1 i b (by rw [e, hb])
    rw [e'] at this
    exact Option.some.inj this
  · have := h2 i b (by rw [e', hb])
    rw [e] at this
    exact Option.some.inj this

theorem agree_over (σ : Asg) (w : I3) : Agree (over σ 0 w) w := by
  intro i b h
  rw [over_zero_apply, h]

theorem over_of_agree {σ : Asg} {w : I3} (h : Agree σ w) : over σ 0 w = σ := by
  funext x
  rw [over_zero_apply]
  cases hx : w[x]? with
  | none => rfl
  | some o => cases o with
    | none => rfl
    | some b => exact (h x b hx).symm

theorem Agree.mono {σ : Asg} {w w' : I3} (h : Agree σ w') (l : Le3 w w') : Agree σ w :=
  fun i b hi => h i b (l i b hi)

noncomputable def Gam (D : List BoolFn) (w : I3) : I3 :=
  D.map (fun f => constOf (fun σ => f (over σ 0 w)))

theorem Gam_length (D : List BoolFn) (w : I3) : (Gam D w).length = D.length := by simp [Gam]

theorem fix_length {D : List BoolFn} {w : I3} (h : Gam D w = w) : w.length = D.length := by
  rw [← h, Gam_length]

theorem Gam_get (D : List BoolFn) (w : I3) (i : Nat) (f : BoolFn) (h : D[i]? = some f) :
    (Gam D w)[i]? = some (constOf (fun σ => f (over σ 0 w))) := by
  simp [Gam, h]

theorem Gam_decided {D : List BoolFn} {w : I3} {i : Nat} {b : Bool} :
    (Gam D w)[i]? = some (some b) ↔ ∃ f, D[i]? = some f ∧ ∀ σ, f (over σ 0 w) = b := by
  simp only [Gam, List.getElem?_map, Option.map_eq_some_iff, constOf_some]

theorem Gam_value {D : List BoolFn} {w : I3} {i : Nat} {b : Bool} (h : (Gam D w)[i]? = some (some b)) {σ : Asg}
    (ha : Agree σ w) {f : BoolFn} (hf : D[i]? = some f) : f σ = b := by
  obtain ⟨f', hf', hc⟩ := Gam_decided.mp h
  rw [hf] at hf'; cases hf'
  have := hc σ
  rwa [over_of_agree ha] at this

/-- the operator only sees its argument through the substitution, so it does not notice a
substitution already made by something below the argument (`pre`, `redu`) -/
theorem Gam_subst_above (D : List BoolFn) {u w : I3} (l : Le3 u w) :
    Gam (D.map (fun f σ => f (over σ 0 u))) w = Gam D w := by
  simp only [Gam, List.map_map]
  apply List.map_congr_left
  intro f _
  simp only [Function.comp]
  congr 1
  funext σ
  rw [over_of_agree ((agree_over σ w).mono l)]

theorem Gam_mono (D : List BoolFn) {w w' : I3} (l : Le3 w w') : Le3 (Gam D w) (Gam D w') := by
  intro i b h
  obtain ⟨f, hf, hc⟩ := Gam_decided.mp h
  refine Gam_decided.mpr ⟨f, hf, fun σ => ?_⟩
  have := hc (over σ 0 w')
  rwa [over_of_agree ((agree_over σ w').mono l)] at this

noncomputable abbrev cv (V : List BoolFn) : I3 := V.map constOf

theorem cv_decided {V : List BoolFn} {i : Nat} {b : Bool} :
    (cv V)[i]? = some (some b) ↔ ∃ f, V[i]? = some f ∧ ∀ σ, f σ = b := by
  simp only [cv, List.getElem?_map, Option.map_eq_some_iff, constOf_some]

theorem cv_le_Gam (D : List BoolFn) (w : I3) : Le3 (cv D) (Gam D w) := by
  intro i b h
  obtain ⟨f, hf, hc⟩ := cv_decided.mp h
  exact Gam_decided.mpr ⟨f, hf, fun σ => hc _⟩

/-- The invariant of the loop (not a reachability relation): `V` is `D` after some rounds. `res`: each entry of `V` is
the entry of `D` restricted, i.e. they agree on every assignment that respects the constants of `V`; `snd` (soundness):
these constants lie below every pre-fixpoint of Γ, so below the least fixpoint once they are a fixpoint themselves. -/
structure Reach (D V : List BoolFn) : Prop where
  len : V.length = D.length
  res : ∀ (i : Nat) (f g : BoolFn), V[i]? = some f → D[i]? = some g → ∀ σ, Agree σ (cv V) → f σ = g σ
  snd : ∀ w', Le3 (Gam D w') w' → Le3 (cv V) w'

theorem semRound_get (V : List BoolFn) (i : Nat) :
    (semRound V)[i]? = (V[i]?).map (fun f σ => f (over σ 0 (cv V))) := by
  simp [semRound]

theorem cv_semRound (V : List BoolFn) : cv (semRound V) = Gam V (cv V) := by
  simp only [cv, semRound, Gam, List.map_map, Function.comp_def]

theorem cv_le_round (V : List BoolFn) : Le3 (cv V) (cv (semRound V)) := by
  rw [cv_semRound]; exact cv_le_Gam V (cv V)

/-- `V` agrees with `D` wherever `V`'s own constants hold (`Reach.res`), and a round substitutes exactly those:
the right side is `pre D (cv V)` of PreGround.lean -/
theorem Reach.round_eq_pre {D V : List BoolFn} (r : Reach D V) :
    semRound V = D.map fun f σ => f (over σ 0 (cv V)) := by
  refine List.ext_getElem (by rw [semRound, List.length_map, List.length_map, r.len]) fun i _ _ => ?_
  simp only [semRound, List.getElem_map]
  funext σ
  exact r.res i _ _ (List.getElem?_eq_getElem _) (List.getElem?_eq_getElem _) _ (agree_over σ (cv V))

theorem Reach.cv_round {D V : List BoolFn} (r : Reach D V) : cv (semRound V) = Gam D (cv V) := by
  rw [r.round_eq_pre, cv, Gam, List.map_map]; rfl

theorem reach_self (D : List BoolFn) : Reach D D :=
  ⟨rfl, fun i f g hf hg σ _ => by rw [hf] at hg; cases hg; rfl, fun w' hw' => (cv_le_Gam D w').trans hw'⟩

theorem reach_round {D V : List BoolFn} (r : Reach D V) : Reach D (semRound V) := by
  refine ⟨by simp [semRound, r.len], ?_, ?_⟩
  · intro i f g hf hg σ ha
    rw [semRound_get] at hf
    obtain ⟨f0, hv, rfl⟩ := Option.map_eq_some_iff.mp hf
    have ha' : Agree σ (cv V) := ha.mono (cv_le_round V)
    simp only [over_of_agree ha']
    exact r.res i f0 g hv hg σ ha'
  · intro w' hw'
    rw [r.cv_round]
    exact (Gam_mono D (r.snd w' hw')).trans hw'

theorem countSome_cons (a : Option Bool) (w : I3) :
    countSome (a :: w) = (if a.isSome then 1 else 0) + countSome w := by
  cases a <;> simp [countSome] <;> omega

theorem Le3_tail {a a' : Option Bool} {w w' : I3} (l : Le3 (a :: w) (a' :: w')) : Le3 w w' :=
  fun i b h => l (i + 1) b h

theorem countSome_le3 : ∀ (w w' : I3), w.length = w'.length → Le3 w w' →
    countSome w ≤ countSome w' ∧ (countSome w' = countSome w → w' = w)
  | [], [], _, _ => ⟨Nat.le_refl _, fun _ => rfl⟩
  | [], _ :: _, hl, _ => nomatch hl
  | _ :: _, [], hl, _ => nomatch hl
  | a :: w, a' :: w', hl, l => by
    have ⟨hm, he⟩ := countSome_le3 w w' (Nat.succ.inj hl) (Le3_tail l)
    rw [countSome_cons, countSome_cons]
    by_cases e : a' = a
    · subst e
      exact ⟨Nat.add_le_add_left hm _, fun hc => by rw [he (Nat.add_left_cancel hc)]⟩
    · -- the head gains information: `none` becomes `some`
      cases a with
      | some b => exact absurd (Option.some.inj (l 0 b rfl)) e
      | none =>
        cases a' with
        | none => exact absurd rfl e
        | some b' => exact ⟨by simp; omega, fun hc => by simp at hc; omega⟩

theorem countSome_mono (w w' : I3) (hl : w.length = w'.length) (l : Le3 w w') : countSome w ≤ countSome w' :=
  (countSome_le3 w w' hl l).1

theorem eq_of_le_count (w w' : I3) (hl : w.length = w'.length) (l : Le3 w w')
    (hc : countSome w' = countSome w) : w' = w :=
  (countSome_le3 w w' hl l).2 hc

theorem countSome_lt_of_ne {w w' : I3} (hl : w.length = w'.length) (l : Le3 w w') (hne : w' ≠ w) :
    countSome w < countSome w' :=
  Nat.lt_of_le_of_ne (countSome_mono w w' hl l) fun e => hne (eq_of_le_count w w' hl l e.symm)

theorem countSome_le_length (w : I3) : countSome w ≤ w.length := by
  simp [countSome]; exact List.length_filter_le _ _

/-- the measure of every grounding loop: a step that decides one more entry leaves fewer undecided ones -/
theorem undecided_drop {w w' : I3} {n f : Nat} (hl : w'.length = n) (hlt : countSome w < countSome w')
    (hf : n - countSome w < f + 1) : n - countSome w' < f := by
  have := countSome_le_length w'
  omega

/-- the loop in one step: with enough fuel it returns `semRound U` for a `U` reached by rounds (so `U` has every
property that rounds preserve) at which the round decides nothing new -/
theorem semLoop_stop {P : List BoolFn → Prop} (hstep : ∀ V, P V → P (semRound V)) :
    ∀ (fuel : Nat) (V : List BoolFn), P V → V.length - countSome (cv V) < fuel →
      ∃ U, P U ∧ semLoop fuel V = semRound U ∧ cv (semRound U) = cv U := by
  intro fuel V
  have h3 (V : List BoolFn) : (semRound V).length = V.length := List.length_map _
  have hlen (V : List BoolFn) : (cv V).length = (cv (semRound V)).length := by
    rw [cv, cv, List.length_map, List.length_map, h3]
  fun_induction semLoop fuel V with
  | case1 V => intro _ h; exact absurd h (Nat.not_lt_zero _)
  | case2 f V hc => exact fun p _ => ⟨V, p, rfl, eq_of_le_count _ _ (hlen V) (cv_le_round V) hc⟩
  | case3 f V hc ih =>
    intro p hf
    have hlt := Nat.lt_of_le_of_ne (countSome_mono _ _ (hlen V) (cv_le_round V)) (fun e => hc e.symm)
    apply ih (hstep V p)
    rw [h3]
    exact undecided_drop ((hlen V).symm.trans (List.length_map _)) hlt hf

theorem semLoop_spec (D : List BoolFn) (fuel : Nat) (V : List BoolFn) (r : Reach D V)
    (hf : V.length - countSome (cv V) < fuel) :
    Reach D (semLoop fuel V) ∧ Gam D (cv (semLoop fuel V)) = cv (semLoop fuel V) := by
  obtain ⟨U, ru, e, hst⟩ := semLoop_stop (P := Reach D) (fun _ => reach_round) fuel V r hf
  rw [e]
  exact ⟨reach_round ru, by rw [hst, ← ru.cv_round, hst]⟩

theorem reach_semLoop (D : List BoolFn) (fuel : Nat) (hf : D.length < fuel) : Reach D (semLoop fuel D) :=
  (semLoop_spec D fuel D (reach_self D) (by omega)).1

/-- C01 core (semantic layer): the loop started from the conditions themselves yields the
least fixpoint of the consequence operator. -/
theorem grounded_sem (D : List BoolFn) (fuel : Nat) (hf : D.length < fuel) :
    Gam D (cv (semLoop fuel D)) = cv (semLoop fuel D) ∧
    ∀ w', Gam D w' = w' → Le3 (cv (semLoop fuel D)) w' := by
  have ⟨r, fx⟩ := semLoop_spec D fuel D (reach_self D) (by omega)
  exact ⟨fx, fun w' hw' => r.snd w' (Le3.of_eq hw')⟩
#print axioms grounded_sem
