import AdfObdd.ServerConcreteProofs
import AdfObdd.HybridParser
import AdfObdd.ServerD9
import AdfObdd.CliModes
import AdfObdd.CliWorldProofs
import AdfObdd.ServerFuel
/-! # C16 — hybrid parsing in the service

Two ways of discharging the assumption `SrvA.Denotes` for tables stored by hybrid parsing:

* **the check** (`storedAdfChk`, the Boolean the driver's run-time check `storedAdfOK'` reports as `ok`):
  well-formed table, names as parsed, one root per statement, every root an index of the table, every
  inner node tests a declared statement, and every root evaluates like its condition under the `2^n`
  assignments of the declared statements. `storedAdfChk_denotes`: the check IMPLIES `SrvA.Denotes`
  (`storedAdfOK` alone does not: it bounds neither the roots nor the variables of the table).
* **the model** of the `Parsing::Hybrid` arm of the parse task (`server/src/adf.rs`:
  `BdAdf::from_parser(&parser)` then `hybrid_step_opt(false)`): `parseHybrid` runs the parser model,
  `Bio.acOf` (every `ac` fact in file order, later facts overwrite, `mk_false` without a fact) over a
  biodivine library `Lf n` for the `n` declared statements, and `Bio.hybridStep … false`.
  `parseHybrid_denotes`: over a lawful library whose dump satisfies `Bio.DumpSpec` the stored table
  denotes the conditions of the submitted text. `hybEnv` is the service environment with this arm in
  place of the adopted tables; `served_answer_for_code_any_parsing` is the final corollary for BOTH
  parsing strategies, with no `Denotes` hypothesis.
* **biodivine's limits** (`bioVarsOK`): `BdAdf::from_parser` creates the variable set with
  `BddVariableSetBuilder::make_variables(namelist)`, which PANICS on a name containing one of
  `! & | ^ = < > ( ) ? :` (`CliM.bioNameOK`, the check the CLI model has) and on the 65 535-th variable.
  The panic is inside the blocking task: the server stores `Error` for VALID code (finding D6 seen through
  the web service). `parseHybrid` answers `.error .panic` in exactly those cases
  (`parseHybrid_rejects_of_bad_names`); the theorems about a successful hybrid parse get the name condition
  for free (`parseHybrid_names_ok`), the ones that promise success carry it as a hypothesis.
* **the dump hypothesis**: `Bio.DumpSpec (W n) (dumpf n)` is demanded for `n ≤ VBOT` only
  (for `n = VBOT + 1` NO dump satisfies it: the variable `VBOT` is not a legal dump entry); instance:
  `tt_hyps` (`Bio.ttLib`, `Bio.ttDump`, `Bio.ttDump_spec`). -/
namespace ServerAdf
open ServerM

theorem evalF_supp (ns : Array Node) (n : Nat) (hv : varsBelow ns n = true) (fuel t : Nat) (σ τ : Asg)
    (h : ∀ x, x < n → σ x = τ x) : evalF ns fuel t σ = evalF ns fuel t τ := by
  rw [Memo.evalF_eq_F ⟨ns, {}, {}, {}⟩]
  refine Memo.F_ind Memo.evalG ⟨ns, {}, {}, {}⟩ (fun _ e => e σ = e τ) (fun _ => rfl) rfl rfl (fun _ => rfl) ?_ fuel t
  intro t nd l r ht hn hl hr
  have := List.all_eq_true.mp hv t (List.mem_range.mpr (lt_of_get hn))
  simp only [Bool.or_eq_true, decide_eq_true_eq, hn] at this
  show (if σ nd.var then r σ else l σ) = if τ nd.var then r τ else l τ
  rw [h nd.var (this.resolve_left (Nat.not_lt_of_le ht)), hl, hr]

theorem asgOf_numOf (n : Nat) (σ : Asg) : ∀ x, x < n → WebSem.asgOf (TT.numOf n σ) x = σ x := by
  intro x hx
  unfold WebSem.asgOf
  rw [TT.numOf_testBit]
  simp [hx]

theorem conditions_facts (code : String) (names : List String) (fms : List Fm) (h : conditions code = .ok (names, fms)) :
    fms.length = names.length ∧ ∀ φ ∈ fms, NConc.atomsLt names.length φ := by
  obtain ⟨p, l, hr, e⟩ := SrvA.conditions_ok h
  cases e
  exact ⟨by simp [SrvA.condsOf], SrvA.condsOf_atomsLt p.names.length l (SrvA.resolve_atomsLt p l (SrvA.resolved_ok hr).2)⟩

theorem storedAdfChk_denotes (names : List String) (fms : List Fm) (a : SAdf)
    (hat : ∀ φ ∈ fms, NConc.atomsLt fms.length φ)
    (h : storedAdfChk (.ok (names, fms)) a = true) :
    a.names = names ∧ SrvA.Denotes a fms.length fms := by
  unfold storedAdfChk at h
  simp only [Bool.and_eq_true, beq_iff_eq] at h
  obtain ⟨⟨⟨⟨⟨hwf, hnames⟩, hlen⟩, hroots⟩, hvars⟩, hsem⟩ := h
  have w := wfCheck_sound a.nodes hwf
  refine ⟨hnames, w, hlen, rfl, hat, ?_⟩
  intro i t f hti hfi
  have hi : i < fms.length := (List.getElem?_eq_some_iff.mp hfi).1
  have htm : t ∈ a.ac := List.mem_of_getElem? hti
  have hts : t < a.nodes.size := by
    have := List.all_eq_true.mp hroots t htm
    simpa using this
  refine ⟨hts, fun σ => ?_⟩
  have hrow := List.all_eq_true.mp hsem i (List.mem_range.mpr hi)
  have hcell := List.all_eq_true.mp hrow (TT.numOf fms.length σ) (List.mem_range.mpr (TT.numOf_lt _ σ))
  have hgt : a.ac.getD i 0 = t := by simp [List.getD, hti]
  have hgf : fms.getD i Fm.bot = f := by simp [List.getD, hfi]
  rw [hgt, hgf, beq_iff_eq] at hcell
  have hag := asgOf_numOf fms.length σ
  have e1 : eval ⟨a.nodes, {}, {}, {}⟩ t σ = evalF a.nodes (a.nodes.size + 1) t σ := by
    unfold eval
    exact (Tab.evalF_fuel ⟨a.nodes, {}, {}, {}⟩ w t (a.nodes.size + 1) σ (by omega)).symm
  rw [e1, evalF_supp a.nodes fms.length hvars _ t σ (WebSem.asgOf (TT.numOf fms.length σ)) (fun x hx => (hag x hx).symm),
    hcell]
  exact NConc.sem_supp f (hat f (List.mem_of_getElem? hfi)) _ _ hag

/-- `storedAdfChk_denotes` from the submitted text: a stored ADF that passes the check for `code` denotes the
conditions `conditions code` reads off the text -/
theorem storedAdfChk_denotes_code (code : String) (a : SAdf) (h : storedAdfChk (conditions code) a = true) :
    ∃ fms, conditions code = .ok (a.names, fms) ∧ SrvA.Denotes a a.names.length fms := by
  cases hc : conditions code with
  | error e => rw [hc] at h; cases h
  | ok x =>
    obtain ⟨names, fms⟩ := x
    rw [hc] at h
    have ⟨hl, hat⟩ := conditions_facts code names fms hc
    have ⟨hn, hd⟩ := storedAdfChk_denotes names fms a (by rw [hl]; exact hat) h
    refine ⟨fms, by rw [hn], ?_⟩
    rw [hn, ← hl]; exact hd

theorem storedAdfOK'_ok_iff (code : String) (a : SAdf) :
    storedAdfOK' code a = "ok" ↔ storedAdfChk (conditions code) a = true := by
  fun_cases storedAdfOK' code a with
  | case1 hc => exact ⟨fun _ => hc, fun _ => rfl⟩
  | case2 hc ho =>
    simp only [bne_iff_ne, ne_eq] at ho
    exact ⟨fun h => absurd h ho, fun h => absurd h hc⟩
  | case3 hc ho => exact ⟨fun h => absurd h (by decide), fun h => absurd h hc⟩

/-- where `storedAdfOK` objects, `storedAdfOK'` reports its message (the two differ only where
`storedAdfOK` says `ok` and the table has an out-of-range root or variable) -/
theorem storedAdfOK'_old_message (code : String) (a : SAdf) (h : storedAdfOK code a ≠ "ok")
    (hc : storedAdfChk (conditions code) a = false) : storedAdfOK' code a = storedAdfOK code a := by
  unfold storedAdfOK'
  rw [hc]
  have : (storedAdfOK code a != "ok") = true := by simpa using h
  simp [this]

theorem storedAdfOK'_denotes (code : String) (a : SAdf) (h : storedAdfOK' code a = "ok") :
    ∃ fms, conditions code = .ok (a.names, fms) ∧ SrvA.Denotes a a.names.length fms :=
  storedAdfChk_denotes_code code a ((storedAdfOK'_ok_iff code a).mp h)

section model
variable {T : Type}

/-- `BdAdf::from_parser`: `ac = vec![mk_false; n]`, then every `ac` fact in file order
`ac[formula_order[k]] = eval_expression(ac_at(k).to_boolean_expr())` -/
def bioAc (L : Bio.Lib T) (n : Nat) (l : List (Nat × Fm)) : List T :=
  Bio.acOf L n (l.map (·.1)) (l.map (fun x => x.2.toBExpr))

/-- what `BddVariableSetBuilder::make_variables(namelist)` (biodivine_lib_bdd 0.5.23,
`_impl_bdd_variable_set_builder.rs:21-37`) accepts without panicking: no name contains one of
`! & | ^ = < > ( ) ? :` (`CliM.bioNameOK`), and `new_variable_id < u16::MAX - 1` for every variable, i.e. at
most 65 534 names (the third panic, a repeated name, cannot occur: the parser's `namelist` is duplicate-free) -/
def bioVarsOK (names : List String) : Bool :=
  names.all (fun n => CliM.bioNameOK n.toList) && decide (names.length ≤ 65534)

/-- the blocking part of the parse task for `Parsing::Hybrid`: parser, `BdAdf::from_parser`,
`hybrid_step_opt(false)`, `SimplifiedAdf::from` and the parse-only graph. `Lf n` / `dumpf n`: the
biodivine library and its dump for a variable set of `n` declared statements. `.error .panic`: a panic
inside `spawn_blocking` (the `JoinError` is what the continuation stores): an `ac` for an undeclared
statement / an undeclared atom (`resolve`), or a statement name / count biodivine refuses (`bioVarsOK`;
`make_variables` runs first in the Rust, but both panics give the same stored error) -/
def parseHybrid (Lf : Nat → Bio.Lib T) (dumpf : Nat → T → List Node) (key code : String) : Except Err (SAdf × SRes) :=
  match parseText code with
  | none => .error .parseError
  | some p =>
    match resolve p with
    | .error e => .error e
    | .ok l =>
      if bioVarsOK p.names then
        let n := p.names.length
        let r := Bio.hybridStep (Lf n) (dumpf n) false (bioAc (Lf n) n l)
        let a : SAdf := { key := key, names := p.names, nodes := r.1.nodes, ac := r.2 }
        .ok (a, [⟨r.2, graphOf p.names r.1.nodes r.2⟩])
      else .error .panic

/-- **`BdAdf::from_parser` as the parse task runs it**: `n` valid diagrams, the `i`-th denoting the
condition that counts for statement `i` (the last `ac` fact for it, falsum without one) -/
theorem bioAc_spec {L : Bio.Lib T} {n : Nat} (W : Bio.Lawful L n) (l : List (Nat × Fm))
    (ha : ∀ x ∈ l, NConc.atomsLt n x.2) :
    (bioAc L n l).length = n ∧ (∀ t ∈ bioAc L n l, W.Valid t) ∧
    (bioAc L n l).map W.den = (SrvA.condsOf n l).map Fm.sem := by
  have := CliMP.acOf_items W l ha
  simp only [CliMP.fmToBExpr_eq] at this
  rw [SrvA.condsOf_eq]
  exact this

theorem parseHybrid_eq (Lf : Nat → Bio.Lib T) (dumpf : Nat → T → List Node) (key code : String) :
    parseHybrid Lf dumpf key code =
      match SrvA.resolved code with
      | .error e => .error e
      | .ok (p, l) =>
        if bioVarsOK p.names then
          let r := Bio.hybridStep (Lf p.names.length) (dumpf p.names.length) false
            (bioAc (Lf p.names.length) p.names.length l)
          .ok ({ key := key, names := p.names, nodes := r.1.nodes, ac := r.2 }, [⟨r.2, graphOf p.names r.1.nodes r.2⟩])
        else .error .panic := by
  unfold parseHybrid SrvA.resolved
  cases parseText code with
  | none => rfl
  | some p =>
    simp only
    cases resolve p <;> rfl

theorem parseHybrid_ok {Lf : Nat → Bio.Lib T} {dumpf : Nat → T → List Node} {key code : String} {a : SAdf} {r : SRes}
    (h : parseHybrid Lf dumpf key code = .ok (a, r)) :
    ∃ p l, SrvA.resolved code = .ok (p, l) ∧ bioVarsOK p.names = true ∧
      (a, r) =
        (let R := Bio.hybridStep (Lf p.names.length) (dumpf p.names.length) false
            (bioAc (Lf p.names.length) p.names.length l)
         ({ key := key, names := p.names, nodes := R.1.nodes, ac := R.2 }, [⟨R.2, graphOf p.names R.1.nodes R.2⟩])) := by
  rw [parseHybrid_eq] at h
  cases hr : SrvA.resolved code with
  | error e => rw [hr] at h; cases h
  | ok x =>
    obtain ⟨p, l⟩ := x
    rw [hr] at h
    by_cases hv : bioVarsOK p.names = true
    · simp only [hv, if_true, Except.ok.injEq] at h
      exact ⟨p, l, rfl, hv, h.symm⟩
    · simp only [hv, if_false] at h
      cases h

/-- **the hybrid arm stores a table that denotes the code**: over a library that is lawful for the
`n` declared statements and whose dump satisfies `DumpSpec`, whatever `parseHybrid` stores denotes the
conditions `ServerAdf.conditions` reads off the submitted text (no bound on `n` is needed: the hybrid
arm creates no variable nodes of its own) -/
theorem parseHybrid_denotes (Lf : Nat → Bio.Lib T) (dumpf : Nat → T → List Node) (key code : String) (a : SAdf) (r : SRes)
    (h : parseHybrid Lf dumpf key code = .ok (a, r))
    (W : Bio.Lawful (Lf a.names.length) a.names.length) (hd : Bio.DumpSpec W (dumpf a.names.length)) :
    ∃ fms, conditions code = .ok (a.names, fms) ∧ SrvA.Denotes a a.names.length fms ∧
      r = [⟨a.ac, graphOf a.names a.nodes a.ac⟩] := by
  obtain ⟨p, l, hr, _, har⟩ := parseHybrid_ok h
  simp only [Prod.mk.injEq] at har
  obtain ⟨rfl, rfl⟩ := har
  simp only at W hd ⊢
  have hat := SrvA.resolve_atomsLt p l (SrvA.resolved_ok hr).2
  have ⟨bl, bv, bd⟩ := bioAc_spec W l hat
  have ⟨hl, ⟨w, hlt, e⟩⟩ := Bio.hybridStep_denotes W hd false (bioAc (Lf p.names.length) p.names.length l) bv bl
  simp only [Bool.false_eq_true, if_false] at e
  generalize Bio.hybridStep (Lf p.names.length) (dumpf p.names.length) false
    (bioAc (Lf p.names.length) p.names.length l) = R at w hl hlt e ⊢
  refine ⟨SrvA.condsOf p.names.length l, by rw [SrvA.conditions_eq, hr],
    ⟨w.table, hl, by simp [SrvA.condsOf], SrvA.condsOf_atomsLt _ l hat, ?_⟩, trivial⟩
  intro i t f ht hf
  have ht' : R.2[i]? = some t := ht
  refine ⟨hlt t (List.mem_of_getElem? ht'), fun σ => ?_⟩
  have h1 : (R.2.map (eval R.1))[i]? = some (eval R.1 t) := by
    simp only [List.getElem?_map, ht', Option.map_some]
  rw [e, bd] at h1
  simp only [List.getElem?_map, hf, Option.map_some, Option.some.injEq] at h1
  rw [h1]; exact eval_congr rfl t σ

theorem parseHybrid_of_conditions_error (Lf : Nat → Bio.Lib T) (dumpf : Nat → T → List Node) (key code : String) (e : Err)
    (h : conditions code = .error e) : parseHybrid Lf dumpf key code = .error e := by
  rw [parseHybrid_eq, SrvA.conditions_error h]

theorem parseHybrid_names_ok (Lf : Nat → Bio.Lib T) (dumpf : Nat → T → List Node) (key code : String) (a : SAdf) (r : SRes)
    (h : parseHybrid Lf dumpf key code = .ok (a, r)) : bioVarsOK a.names = true := by
  obtain ⟨p, l, _, hv, har⟩ := parseHybrid_ok h
  simp only [Prod.mk.injEq] at har
  rw [har.1]
  exact hv

theorem bioVarsOK_length {names : List String} (h : bioVarsOK names = true) : names.length ≤ 65534 := by
  unfold bioVarsOK at h
  simp only [Bool.and_eq_true, decide_eq_true_eq] at h
  exact h.2

theorem bioVarsOK_le_vbot {names : List String} (h : bioVarsOK names = true) : names.length ≤ VBOT := by
  have := bioVarsOK_length h
  unfold VBOT; omega

theorem parseHybrid_of_conditions (Lf : Nat → Bio.Lib T) (dumpf : Nat → T → List Node) (key code : String)
    (x : List String × List Fm) (h : conditions code = .ok x) :
    if bioVarsOK x.1 then
      ∃ a, parseHybrid Lf dumpf key code = .ok (a, [⟨a.ac, graphOf a.names a.nodes a.ac⟩]) ∧ a.names = x.1
    else parseHybrid Lf dumpf key code = .error .panic := by
  obtain ⟨p, l, hr, rfl⟩ := SrvA.conditions_ok h
  rw [parseHybrid_eq, hr]
  simp only
  split
  · exact ⟨_, rfl, rfl⟩
  · rfl

/-- **finding D6 through the web service, model level**: valid code (`conditions code = .ok …`, so naive
parsing succeeds) with a statement name biodivine refuses - or more than 65 534 statements - makes the
hybrid arm panic: the stored outcome is `Error` -/
theorem parseHybrid_rejects_of_bad_names (Lf : Nat → Bio.Lib T) (dumpf : Nat → T → List Node) (key code : String)
    (x : List String × List Fm) (h : conditions code = .ok x) (hbad : bioVarsOK x.1 = false) :
    parseHybrid Lf dumpf key code = .error .panic := by
  have := parseHybrid_of_conditions Lf dumpf key code x h
  rwa [hbad] at this

theorem parseHybrid_of_conditions_ok (Lf : Nat → Bio.Lib T) (dumpf : Nat → T → List Node) (key code : String)
    (x : List String × List Fm) (h : conditions code = .ok x) (hv : bioVarsOK x.1 = true) :
    ∃ a, parseHybrid Lf dumpf key code = .ok (a, [⟨a.ac, graphOf a.names a.nodes a.ac⟩]) ∧ a.names = x.1 := by
  have := parseHybrid_of_conditions Lf dumpf key code x h
  rwa [hv] at this

end model
end ServerAdf

namespace SrvC
open ServerM ServerAdf
section
variable {T : Type}

/-- **the concrete service with the MODEL of the hybrid arm** in place of the adopted tables: naive
parsing and solving as in `libEnv`, hybrid parsing by `parseHybrid` over the biodivine library `Lf` -/
def hybEnv (Lf : Nat → Bio.Lib T) (dumpf : Nat → T → List Node) : Env String SHash SAdf SRes where
  emp := ""
  hash := fun salt pw => (salt, pw)
  verify := fun h pw => h.2 == pw
  parse := fun p code =>
    match p with
    | .naive => parseNaive (parseKey p code) code
    | .hybrid => parseHybrid Lf dumpf (parseKey p code) code
  solve := solveAdf

theorem hybEnv_solve (Lf : Nat → Bio.Lib T) (dumpf : Nat → T → List Node) (a : SAdf) (s : Strategy) :
    (hybEnv Lf dumpf).solve a s = solveAdf a s := rfl

theorem hybEnv_parse_naive (Lf : Nat → Bio.Lib T) (dumpf : Nat → T → List Node) (code : String) :
    (hybEnv Lf dumpf).parse .naive code = parseNaive (parseKey .naive code) code := by
  simp only [hybEnv]

theorem hybEnv_parse_hybrid (Lf : Nat → Bio.Lib T) (dumpf : Nat → T → List Node) (code : String) :
    (hybEnv Lf dumpf).parse .hybrid code = parseHybrid Lf dumpf (parseKey .hybrid code) code := by
  simp only [hybEnv]

/-- what the driver's service does for valid code the implementation stored no table for (the only
way the real server gets there is a panic of the blocking task: finding D6's labels, or D12's stack
overflow): `parseOutcome` says `ok`, the lookup in the adopted tables fails, the model stores
`Error:panic` - the same stored error as the server's `JoinError` arm; the run-time monitor `parseSpec`
(`Drv/Http.lean`) prints `violated valid-code-not-stored` for such a task, which is how D6 would show in a
web run -/
theorem libEnv_parse_hybrid_unadopted (o : Oracle) (code : String) (x : List String × List Fm)
    (hacc : conditions code = .ok x) (hl : lookupS (parseKey .hybrid code) o.hyb = none) :
    (libEnv o).parse .hybrid code = .error .panic := by
  rw [libEnv_parse_hybrid_eq, hacc]
  simp only [hl]

/-- PER SUBMITTED CODE: the driver's service (`libEnv o`: hybrid tables adopted from the implementation) answers the
parse of `code` as this service does whenever the adopted table for `code` is the model's: the model's table if the
model parses `code` successfully (`h`), NO table if the model's hybrid arm panics on biodivine's name / size check
(`hbad`: the server stored an error, the harness adopted nothing).  Non-vacuity: `C16.adopted_service_example` -/
theorem libEnv_eq_hybEnv_at (Lf : Nat → Bio.Lib T) (dumpf : Nat → T → List Node) (o : Oracle) (code : String)
    (h : ∀ a r, parseHybrid Lf dumpf (parseKey .hybrid code) code = .ok (a, r) →
      lookupS (parseKey .hybrid code) o.hyb = some a)
    (hbad : ∀ x, conditions code = .ok x → bioVarsOK x.1 = false →
      lookupS (parseKey .hybrid code) o.hyb = none) :
    ∀ p, (libEnv o).parse p code = (hybEnv Lf dumpf).parse p code := by
  intro p
  cases p with
  | naive => rw [libEnv_parse_naive, hybEnv_parse_naive]
  | hybrid =>
    rw [hybEnv_parse_hybrid]
    cases hc : conditions code with
    | error e =>
      rw [libEnv_parse_error_iff o code e hc, parseHybrid_of_conditions_error Lf dumpf _ code e hc]
    | ok x =>
      cases hv : bioVarsOK x.1 with
      | true =>
        obtain ⟨a, ha, _⟩ := parseHybrid_of_conditions_ok Lf dumpf (parseKey .hybrid code) code x hc hv
        rw [libEnv_parse_hybrid_ok o code x a hc (h a _ ha), ha]
      | false =>
        rw [libEnv_parse_hybrid_unadopted o code x hc (hbad x hc hv),
          parseHybrid_rejects_of_bad_names Lf dumpf _ code x hc hv]

/-- the form for ALL codes at once.  VACUOUS: `o.hyb` is a finite association list and `parseKey` is
injective, but infinitely many codes parse successfully, so no oracle satisfies `h`; a corollary of
`libEnv_eq_hybEnv_at`, which is the usable statement -/
theorem libEnv_eq_hybEnv (Lf : Nat → Bio.Lib T) (dumpf : Nat → T → List Node) (o : Oracle)
    (h : ∀ code a r, parseHybrid Lf dumpf (parseKey .hybrid code) code = .ok (a, r) →
      lookupS (parseKey .hybrid code) o.hyb = some a)
    (hbad : ∀ code x, conditions code = .ok x → bioVarsOK x.1 = false →
      lookupS (parseKey .hybrid code) o.hyb = none) :
    ∀ p code, (libEnv o).parse p code = (hybEnv Lf dumpf).parse p code :=
  fun p code => libEnv_eq_hybEnv_at Lf dumpf o code (h code) (hbad code) p

/-- **whatever the service's parse function returns denotes the submitted text - BOTH parsing
strategies**. Naive parsing: fewer than 2^64 − 2 statements (`hn`); hybrid parsing: the biodivine
library is lawful for the declared statements and its dump satisfies `DumpSpec` - demanded only for at
most `VBOT` statements (a successful hybrid parse has at most 65 534: `parseHybrid_names_ok`) -/
theorem parse_denotes_any (Lf : Nat → Bio.Lib T) (dumpf : Nat → T → List Node) (pg : Parsing) (code : String)
    (a : SAdf) (r : SRes) (h : (hybEnv Lf dumpf).parse pg code = .ok (a, r))
    (hn : pg = .naive → a.names.length ≤ VBOT)
    (W : Bio.Lawful (Lf a.names.length) a.names.length)
    (hd : a.names.length ≤ VBOT → Bio.DumpSpec W (dumpf a.names.length)) :
    ∃ fms, conditions code = .ok (a.names, fms) ∧ SrvA.Denotes a a.names.length fms := by
  cases pg with
  | naive =>
    rw [hybEnv_parse_naive] at h
    exact SrvA.parseNaive_denotes _ code a r h (hn rfl)
  | hybrid =>
    rw [hybEnv_parse_hybrid] at h
    have hv := bioVarsOK_le_vbot (parseHybrid_names_ok Lf dumpf _ code a r h)
    obtain ⟨fms, h1, h2, _⟩ := parseHybrid_denotes Lf dumpf _ code a r h W (hd hv)
    exact ⟨fms, h1, h2⟩

/-- **the answer a user retrieves, for the submitted code, BOTH parsing strategies, no `Denotes`
hypothesis**: if the framework `a` the solve task was spawned with is what the service's parse function
(naive: parser + `Adf::from_parser`; hybrid: parser + `BdAdf::from_parser` + `hybrid_step_opt(false)`
over a lawful biodivine library) returns for `code`, then after the task's write `GET /adf/{name}` shows
under strategy `s` exactly the grounded / complete / stable models of the framework DENOTED BY THE TEXT -/
theorem served_answer_for_code_any_parsing (Lf : Nat → Bio.Lib T) (dumpf : Nat → T → List Node)
    (st : State String SHash SAdf SRes) (j n jar : Nat)
    (t : TaskRec String SAdf) (pg : Parsing) (code : String) (a : SAdf) (r : SRes) (s : Strategy)
    (ht : nthOf j n st.db.tasks = some t) (hin : t.input = .solve a s)
    (hlive : t.blockingDone = true ∧ t.written = false)
    (hparse : (hybEnv Lf dumpf).parse pg code = .ok (a, r)) (hn : pg = .naive → a.names.length ≤ VBOT)
    (W : Bio.Lawful (Lf a.names.length) a.names.length) (hdump : Bio.DumpSpec W (dumpf a.names.length))
    (hh : SrvA.strategyHalts 1000000 a s = true)
    (p : Problem String SAdf SRes) (hp : st.db.problems.find? (isProb t.username t.name) = some p)
    (hs : st.sess jar = some t.username) :
    ∃ (fms : List Fm) (res : SRes) (i : Info String SRes),
      conditions code = .ok (a.names, fms) ∧
      (step (hybEnv Lf dumpf) (ServerM.stepEv (hybEnv Lf dumpf) st (.write j n)).1 ⟨jar, .get t.name⟩).2 =
        ⟨200, .keep, .problem i⟩ ∧
      i.res.get s = .some res ∧ (∀ s', s' ≠ s → i.res.get s' = p.res.get s') ∧
      SrvA.PropAnswer a.names.length (fms.map Fm.sem) s (SrvA.storedI3 res) := by
  exact served_answer_for_code_env (hybEnv Lf dumpf) (hybEnv_solve Lf dumpf) st j n jar t code a s ht hin hlive
    (parse_denotes_any Lf dumpf pg code a r hparse hn W (fun _ => hdump)) (.inl hh) p hp hs

/-! ### the search bound

`solveAdf` runs `StableNogood` through `SM.ngSearch .simple 1000000`; the Rust `loop` has NO bound. The
history-level theorems below are stated for the service `hybEnvF F` whose solve task runs the search with
the bound `F`, for EVERY `F ≥ F0` where `F0` is a bound within which the search halts
(`SrvA.strategyHalts F0 a s`; `rfl` for the five strategies without a search, and some `F0` always exists:
`SrvA.stored_answers_exact_every_large_bound`). By fuel monotonicity (`ServerFuel.lean`) the stored result
does not depend on `F`. The service the driver runs is the instance `F = 10^6` (`hybEnvF_bound`). -/

/-- the service with the modelled hybrid arm whose solve task bounds the nogood search by `F` -/
def hybEnvF (F : Nat) (Lf : Nat → Bio.Lib T) (dumpf : Nat → T → List Node) : Env String SHash SAdf SRes where
  emp := ""
  hash := fun salt pw => (salt, pw)
  verify := fun h pw => h.2 == pw
  parse := (hybEnv Lf dumpf).parse
  solve := SrvA.solveAdfF F

theorem hybEnvF_bound (Lf : Nat → Bio.Lib T) (dumpf : Nat → T → List Node) : hybEnvF 1000000 Lf dumpf = hybEnv Lf dumpf := by
  have : SrvA.solveAdfF 1000000 = solveAdf := by funext a s; exact SrvA.solveAdfF_million a s
  unfold hybEnvF hybEnv
  rw [this]

/-- whatever the DRIVER's service (`libEnv o`, hybrid tables adopted) parses denotes the text, provided
every adopted table passed the printed check `storedAdfOK'` -/
theorem parse_denotes_checked (o : Oracle)
    (hchk : ∀ code a, lookupS (parseKey .hybrid code) o.hyb = some a → storedAdfOK' code a = "ok")
    (pg : Parsing) (code : String) (a : SAdf) (r : SRes) (h : (libEnv o).parse pg code = .ok (a, r))
    (hn : pg = .naive → a.names.length ≤ VBOT) :
    ∃ fms, conditions code = .ok (a.names, fms) ∧ SrvA.Denotes a a.names.length fms := by
  cases pg with
  | naive =>
    rw [libEnv_parse_naive] at h
    exact SrvA.parseNaive_denotes _ code a r h (hn rfl)
  | hybrid =>
    obtain ⟨_, hl, _⟩ := libEnv_parse_hybrid o code a r h
    exact storedAdfOK'_denotes code a (hchk code a hl)

/-- **every reachable state of EVERY history, untainted key, BOTH parsing strategies, the driver's
service**: after any history from the empty server, if the key of the document `GET` finds is not
tainted (`taintRun`: D9's shape did not occur for it since it was last cleared), the result shown under
`s` is the definitional answer for the framework the document's OWN code denotes. Hypotheses: every
adopted hybrid table passed the printed check; fewer than 2^64 − 2 statements for naive parsing; the
halting hypothesis of `StableNogood`'s search (`rfl` for the other strategies) -/
theorem reachable_served_answer_checked (o : Oracle)
    (hchk : ∀ code a, lookupS (parseKey .hybrid code) o.hyb = some a → storedAdfOK' code a = "ok")
    (es : List (Event String)) (jar : Nat) (u name : String) (p : Problem String SAdf SRes) (s : Strategy) (res : SRes)
    (hs : (runAll (libEnv o) {} es).1.sess jar = some u)
    (hf : (runAll (libEnv o) {} es).1.db.problems.find? (isProb u name) = some p)
    (hclean : taintRun (libEnv o) {} (fun _ _ => false) es u name = false)
    (hres : p.res.get s = .some res)
    (hb : ∀ a r, (libEnv o).parse p.parsing p.code = .ok (a, r) →
      (p.parsing = .naive → a.names.length ≤ VBOT) ∧ SrvA.strategyHalts 1000000 a s = true) :
    ∃ (i : Info String SRes) (names : List String) (fms : List Fm),
      (step (libEnv o) (runAll (libEnv o) {} es).1 ⟨jar, .get name⟩).2 = ⟨200, .keep, .problem i⟩ ∧
      i.code = p.code ∧ i.res.get s = .some res ∧
      conditions p.code = .ok (names, fms) ∧
      SrvA.PropAnswer names.length (fms.map Fm.sem) s (SrvA.storedI3 res) := by
  have hk := isProb_key (List.find?_some hf)
  have hdoc := reachable_untainted_belong_to_the_code (libEnv o) es p (List.mem_of_find?_eq_some hf)
    (by rw [hk.1, hk.2]; exact hclean)
  exact answer_of_belongs_bound 1000000 1000000 (Nat.le_refl _) (libEnv o) (libEnv_solve_million o) _ jar u name p s res
    hs hf hres hdoc
    (fun a r hpar => ⟨parse_denotes_checked o hchk p.parsing p.code a r hpar (hb a r hpar).1, (hb a r hpar).2⟩)

/-- **every reachable state of EVERY history, untainted key, BOTH parsing strategies, the service with the
MODEL of the hybrid arm (no check needed), every search bound `F ≥ F0`**. Hypotheses about the biodivine
library: lawful for every variable count, and its dump satisfies `DumpSpec` for every count `n ≤ VBOT`
(NOT for all `n`: that is unsatisfiable; instance `tt_hyps`). `hb`: fewer than 2^64 − 2 statements for naive
parsing; the nogood search of `StableNogood` halts within `F0` iterations on the document's framework -/
theorem reachable_served_answer_untainted_bound (F0 F : Nat) (hF : F0 ≤ F)
    (Lf : Nat → Bio.Lib T) (dumpf : Nat → T → List Node)
    (W : ∀ n, Bio.Lawful (Lf n) n) (hdump : ∀ n, n ≤ VBOT → Bio.DumpSpec (W n) (dumpf n))
    (es : List (Event String)) (jar : Nat) (u name : String) (p : Problem String SAdf SRes) (s : Strategy) (res : SRes)
    (hs : (runAll (hybEnvF F Lf dumpf) {} es).1.sess jar = some u)
    (hf : (runAll (hybEnvF F Lf dumpf) {} es).1.db.problems.find? (isProb u name) = some p)
    (hclean : taintRun (hybEnvF F Lf dumpf) {} (fun _ _ => false) es u name = false)
    (hres : p.res.get s = .some res)
    (hb : ∀ a r, (hybEnvF F Lf dumpf).parse p.parsing p.code = .ok (a, r) →
      (p.parsing = .naive → a.names.length ≤ VBOT) ∧ SrvA.strategyHalts F0 a s = true) :
    ∃ (i : Info String SRes) (names : List String) (fms : List Fm),
      (step (hybEnvF F Lf dumpf) (runAll (hybEnvF F Lf dumpf) {} es).1 ⟨jar, .get name⟩).2 = ⟨200, .keep, .problem i⟩ ∧
      i.code = p.code ∧ i.res.get s = .some res ∧
      conditions p.code = .ok (names, fms) ∧
      SrvA.PropAnswer names.length (fms.map Fm.sem) s (SrvA.storedI3 res) := by
  have hk := isProb_key (List.find?_some hf)
  have hdoc := reachable_untainted_belong_to_the_code (hybEnvF F Lf dumpf) es p (List.mem_of_find?_eq_some hf)
    (by rw [hk.1, hk.2]; exact hclean)
  exact answer_of_belongs_bound F0 F hF (hybEnvF F Lf dumpf) (fun _ _ => rfl) _ jar u name p s res hs hf hres hdoc
    (fun a r hpar => ⟨parse_denotes_any Lf dumpf p.parsing p.code a r hpar (hb a r hpar).1 (W _) (hdump _), (hb a r hpar).2⟩)

/-- the instance at the driver's bound 10^6 (`hybEnv = hybEnvF 1000000`) -/
theorem reachable_served_answer_untainted (Lf : Nat → Bio.Lib T) (dumpf : Nat → T → List Node)
    (W : ∀ n, Bio.Lawful (Lf n) n) (hdump : ∀ n, n ≤ VBOT → Bio.DumpSpec (W n) (dumpf n))
    (es : List (Event String)) (jar : Nat) (u name : String) (p : Problem String SAdf SRes) (s : Strategy) (res : SRes)
    (hs : (runAll (hybEnv Lf dumpf) {} es).1.sess jar = some u)
    (hf : (runAll (hybEnv Lf dumpf) {} es).1.db.problems.find? (isProb u name) = some p)
    (hclean : taintRun (hybEnv Lf dumpf) {} (fun _ _ => false) es u name = false)
    (hres : p.res.get s = .some res)
    (hb : ∀ a r, (hybEnv Lf dumpf).parse p.parsing p.code = .ok (a, r) →
      (p.parsing = .naive → a.names.length ≤ VBOT) ∧ SrvA.strategyHalts 1000000 a s = true) :
    ∃ (i : Info String SRes) (names : List String) (fms : List Fm),
      (step (hybEnv Lf dumpf) (runAll (hybEnv Lf dumpf) {} es).1 ⟨jar, .get name⟩).2 = ⟨200, .keep, .problem i⟩ ∧
      i.code = p.code ∧ i.res.get s = .some res ∧
      conditions p.code = .ok (names, fms) ∧
      SrvA.PropAnswer names.length (fms.map Fm.sem) s (SrvA.storedI3 res) := by
  have h := reachable_served_answer_untainted_bound 1000000 1000000 (Nat.le_refl _) Lf dumpf W hdump es jar u name p s res
  rw [hybEnvF_bound] at h
  exact h hs hf hclean hres hb

end

/-- `Bio.ttLib n` (truth tables over `n` variables) is lawful for every `n`, and the decision-tree dump
`Bio.ttDump n` satisfies `DumpSpec` for every `n ≤ VBOT` (`Bio.ttDump_spec`, HybridExample.lean) -/
theorem tt_hyps : ∃ W : ∀ n, Bio.Lawful (Bio.ttLib n) n, ∀ n, n ≤ VBOT → Bio.DumpSpec (W n) (Bio.ttDump n) :=
  ⟨Bio.ttLawful, Bio.ttDump_spec⟩

/-- **the history theorem on an executable arm, no hypothesis about an external library left**: the service
`hybEnvF F Bio.ttLib Bio.ttDump` (naive parsing, the modelled hybrid arm over truth tables, the solve task
with search bound `F`), every history, untainted key, every `F ≥ F0` -/
theorem reachable_served_answer_tt (F0 F : Nat) (hF : F0 ≤ F)
    (es : List (Event String)) (jar : Nat) (u name : String) (p : Problem String SAdf SRes) (s : Strategy) (res : SRes)
    (hs : (runAll (hybEnvF F Bio.ttLib Bio.ttDump) {} es).1.sess jar = some u)
    (hf : (runAll (hybEnvF F Bio.ttLib Bio.ttDump) {} es).1.db.problems.find? (isProb u name) = some p)
    (hclean : taintRun (hybEnvF F Bio.ttLib Bio.ttDump) {} (fun _ _ => false) es u name = false)
    (hres : p.res.get s = .some res)
    (hb : ∀ a r, (hybEnvF F Bio.ttLib Bio.ttDump).parse p.parsing p.code = .ok (a, r) →
      (p.parsing = .naive → a.names.length ≤ VBOT) ∧ SrvA.strategyHalts F0 a s = true) :
    ∃ (i : Info String SRes) (names : List String) (fms : List Fm),
      (step (hybEnvF F Bio.ttLib Bio.ttDump) (runAll (hybEnvF F Bio.ttLib Bio.ttDump) {} es).1 ⟨jar, .get name⟩).2 =
        ⟨200, .keep, .problem i⟩ ∧
      i.code = p.code ∧ i.res.get s = .some res ∧
      conditions p.code = .ok (names, fms) ∧
      SrvA.PropAnswer names.length (fms.map Fm.sem) s (SrvA.storedI3 res) :=
  reachable_served_answer_untainted_bound F0 F hF Bio.ttLib Bio.ttDump Bio.ttLawful Bio.ttDump_spec es jar u name p s res
    hs hf hclean hres hb

end SrvC
