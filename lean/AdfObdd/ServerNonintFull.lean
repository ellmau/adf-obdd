import AdfObdd.ServerNonintJ
import AdfObdd.ServerMention
import AdfObdd.ServerD9
/-! # C17 — noninterference with name conflicts as PERMITTED DIFFERENCES

`ServerNonintJ.lean` relates what the jars `J` observe to what they observe alone under `DisciplinedJ`,
which EXCLUDES every mention of a name of the other side while something of that name exists. Here:

* an event that leaves the server state as it is can be removed from ANY position of a history; only
  its own jar sees a difference (`C17.noop_event_unobservable_anywhere`, from `obsJ_evOut_out`);
* the three kinds of foreign mentions of an EXISTING account name (`register v`, `update → v`, failed
  `login v`) are such events (`mentionNoopB_sound`); an authenticated `add` never looks at its name
  proposal (`stepEv_deghost`, ServerNonintJ.lean);
* `DisciplinedJ'` allows both, and `nonint_dynJ'` is the induction over the history under it: regular events by
  the laws of the view (`stepEv_view_mine` / `stepEv_view_other` after `view_claim`), the others' no-ops skipped;
* `discB` / `discB'` / `discF`: Bool checkers for the disciplines, with soundness proofs;
* the vocabulary of the FULL statement (`Props/C17.noninterference_statement`): `DisciplinedF`
  (conflicts allowed on both sides), the alone run with reserved names `runRsv`. -/
namespace ServerM
section
variable {T H A R : Type} [DecidableEq T]

/-- the three kinds of requests by which somebody who is not `v` can name the account `v`: -/
def mentionNoopB (E : Env T H A R) (st : State T H A R) : Event T → Bool
  | .req ⟨jar, .register v _ _⟩ => st.db.users.any (isUser v) && decide (st.sess jar ≠ some v)
  | .req ⟨jar, .update v _ _⟩ => st.db.users.any (isUser v) && decide (st.sess jar ≠ some v)
  | .req ⟨jar, .login v p⟩ => decide ((step E st ⟨jar, .login v p⟩).2.status ≠ 200)
  | _ => false

/-- `register v` / `update → v` against an existing account `v` by a jar whose session is not `v`
(answered `409 name taken`), and a failed `login v` (400 / 404), leave the WHOLE state as it is -/
theorem mentionNoopB_sound (E : Env T H A R) (st : State T H A R) (e : Event T) (h : mentionNoopB E st e = true) :
    (stepEv E st e).1 = st := by
  cases e with
  | req rq =>
    obtain ⟨jar, r⟩ := rq
    cases r with
    | register v p salt =>
      simp only [mentionNoopB, Bool.and_eq_true, decide_eq_true_eq] at h
      exact (register_taken E st jar v p salt h.1).1
    | update v p salt =>
      simp only [mentionNoopB, Bool.and_eq_true, decide_eq_true_eq] at h
      exact (update_taken E st jar v p salt h.1 h.2).1
    | login v p =>
      simp only [mentionNoopB, decide_eq_true_eq] at h
      exact (login_harmless E st jar v p).2.1 h
    | _ => simp [mentionNoopB] at h
  | _ => simp [mentionNoopB] at h

/-- **`DisciplinedJ` with the name-uniqueness conflicts of the OTHERS permitted.** As `DisciplinedJ`,
except that an event of a jar outside `J` that leaves the server state as it is - by
`mentionNoopB_sound`: `register v` / `update → v` against an existing account (409), a failed
`login v` - is always allowed, whatever name it mentions, and claims nothing; and that an `add` of a
logged-in jar (of either side), whose name proposal is never looked at, is always allowed and claims nothing. -/
def DisciplinedJ' (E : Env T H A R) (J : Nat → Bool) : (T → Option Nat) → State T H A R → List (Event T) → Prop
  | _, _, [] => True
  | own, st, e :: es =>
    (J e.jar = false ∧ (stepEv E st e).1 = st ∧ DisciplinedJ' E J own st es) ∨
    (ghostAdd st e = true ∧ DisciplinedJ' E J own (stepEv E st e).1 es) ∨
    ((∀ n ∈ evNames e, (ownedByJ J (own n) = J e.jar) ∨ Free n st) ∧
      DisciplinedJ' E J (fun n => if n ∈ evNames e then some e.jar else own n) (stepEv E st e).1 es)

theorem disciplinedJ'_of_disciplinedJ (E : Env T H A R) (J : Nat → Bool) : ∀ (es : List (Event T)) (own : T → Option Nat)
    (st : State T H A R), DisciplinedJ E J own st es → DisciplinedJ' E J own st es := by
  intro es
  induction es with
  | nil => intro _ _ _; trivial
  | cons e es ih => intro own st h; exact Or.inr (Or.inr ⟨h.1, ih _ _ h.2⟩)

theorem nonint_dynJ' (E : Env T H A R) (J : Nat → Bool) : ∀ (es : List (Event T)) (own : T → Option Nat) (s : State T H A R),
    NsInvJ (spaceOfJ own J) J s → DisciplinedJ' E J own s es →
    obsJ J (runAll E s es).2 = obsJ J (runAll E (s.view (spaceOfJ own J) J) (es.filter (fun e => J e.jar))).2 := by
  intro es
  induction es with
  | nil => intro _ s _ _; rfl
  | cons e es ih =>
    intro own s is hd
    rcases hd with ⟨hj, hno, hrest⟩ | ⟨hgh, hrest⟩ | ⟨hnames, hrest⟩
    · exact obsJ_cons_other E hj (by rw [hno]; exact ih own s is hrest)
    · exact obsJ_view_cons E is (Or.inr hgh) (fun is' => ih _ _ is' hrest)
    · obtain ⟨hv, is'⟩ := view_claim is e hnames
      rw [hv]
      exact obsJ_view_cons E is' (onSide_claim own J s e) (fun is'' => ih _ _ is'' hrest)

/-! Bool checkers (all sessions outside the finite list `jars` are empty) -/

def freeB (n : T) (st : State T H A R) (jars : List Nat) : Bool :=
  st.db.users.all (fun u => decide (u.username ≠ n)) && st.db.problems.all (fun p => decide (p.username ≠ n)) &&
  st.db.running.all (fun i => decide (i.username ≠ n)) && jars.all (fun k => decide (st.sess k ≠ some n)) &&
  st.db.tasks.all (fun t => !(live t) || decide (t.username ≠ n))

theorem freeB_iff (n : T) (st : State T H A R) (jars : List Nat) (hs : ∀ k, k ∉ jars → st.sess k = none) :
    freeB n st jars = true ↔ Free n st := by
  simp only [freeB, Bool.and_eq_true, List.all_eq_true, decide_eq_true_eq, Bool.or_eq_true, Bool.not_eq_true']
  constructor
  · rintro ⟨⟨⟨⟨h1, h2⟩, h3⟩, h4⟩, h5⟩
    refine ⟨h1, h2, h3, ?_, ?_⟩
    · intro k
      by_cases hk : k ∈ jars
      · exact h4 k hk
      · rw [hs k hk]; nofun
    · intro t ht hl
      exact (h5 t ht).resolve_left (by rw [hl]; nofun)
  · intro h
    refine ⟨⟨⟨⟨h.users, h.probs⟩, h.running⟩, fun k _ => h.sess k⟩, ?_⟩
    intro t ht
    cases hl : live t
    · exact Or.inl rfl
    · exact Or.inr (h.tasks t ht hl)

theorem regularB_iff (J : Nat → Bool) (own : T → Option Nat) (st : State T H A R) (jars : List Nat)
    (hs : ∀ k, k ∉ jars → st.sess k = none) (j : Nat) (n : T) :
    ((ownedByJ J (own n) == J j) || freeB n st jars) = true ↔ (ownedByJ J (own n) = J j) ∨ Free n st := by
  rw [Bool.or_eq_true, beq_iff_eq, freeB_iff n st jars hs]

theorem stepEv_sess_none (E : Env T H A R) {jars : List Nat} {st : State T H A R} {e : Event T}
    (hs : ∀ k, k ∉ jars → st.sess k = none) (he : e.jar ∈ jars) : ∀ k, k ∉ jars → (stepEv E st e).1.sess k = none := by
  intro k hk
  rw [stepEv_sess_other E st e k (fun h => hk (h ▸ he))]
  exact hs k hk

theorem runAll_sess_none (E : Env T H A R) {jars : List Nat} (es : List (Event T)) {st : State T H A R}
    (hs : ∀ k, k ∉ jars → st.sess k = none) (hj : ∀ e ∈ es, e.jar ∈ jars) :
    ∀ k, k ∉ jars → (runAll E st es).1.sess k = none := by
  intro k hk
  rw [runAll_sess_untouched E k es st (fun e he h => hk (h ▸ hj e he))]
  exact hs k hk

def discB (E : Env T H A R) (J : Nat → Bool) (jars : List Nat) : (T → Option Nat) → State T H A R → List (Event T) → Bool
  | _, _, [] => true
  | own, st, e :: es =>
    (evNames e).all (fun n => (ownedByJ J (own n) == J e.jar) || freeB n st jars) &&
    discB E J jars (fun n => if n ∈ evNames e then some e.jar else own n) (stepEv E st e).1 es

theorem discB_sound (E : Env T H A R) (J : Nat → Bool) (jars : List Nat) : ∀ (es : List (Event T)) (own : T → Option Nat)
    (st : State T H A R),
    (∀ k, k ∉ jars → st.sess k = none) → (∀ e ∈ es, e.jar ∈ jars) → discB E J jars own st es = true →
    DisciplinedJ E J own st es := by
  intro es
  induction es with
  | nil => intro _ _ _ _ _; trivial
  | cons e es ih =>
    intro own st hs hj h
    simp only [discB, Bool.and_eq_true, List.all_eq_true] at h
    exact ⟨fun n hn => (regularB_iff J own st jars hs e.jar n).mp (h.1 n hn),
      ih _ _ (stepEv_sess_none E hs (hj e (List.mem_cons_self ..))) (fun e' he' => hj e' (List.mem_cons_of_mem _ he')) h.2⟩

/-- checker for `DisciplinedJ'`: a foreign `register v` / `update → v` against an existing account and a
foreign failed `login v` are skipped -/
def discB' (E : Env T H A R) (J : Nat → Bool) (jars : List Nat) : (T → Option Nat) → State T H A R → List (Event T) → Bool
  | _, _, [] => true
  | own, st, e :: es =>
    if !J e.jar && mentionNoopB E st e then discB' E J jars own st es
    else if ghostAdd st e then discB' E J jars own (stepEv E st e).1 es
    else
      (evNames e).all (fun n => (ownedByJ J (own n) == J e.jar) || freeB n st jars) &&
      discB' E J jars (fun n => if n ∈ evNames e then some e.jar else own n) (stepEv E st e).1 es

theorem discB'_sound (E : Env T H A R) (J : Nat → Bool) (jars : List Nat) : ∀ (es : List (Event T)) (own : T → Option Nat)
    (st : State T H A R),
    (∀ k, k ∉ jars → st.sess k = none) → (∀ e ∈ es, e.jar ∈ jars) → discB' E J jars own st es = true →
    DisciplinedJ' E J own st es := by
  intro es
  induction es with
  | nil => intro _ _ _ _ _; trivial
  | cons e es ih =>
    intro own st hs hj h
    have hj' : ∀ e' ∈ es, e'.jar ∈ jars := fun e' he' => hj e' (List.mem_cons_of_mem _ he')
    simp only [discB'] at h
    split at h
    · rename_i hc
      simp only [Bool.and_eq_true, Bool.not_eq_true'] at hc
      exact Or.inl ⟨hc.1, mentionNoopB_sound E st e hc.2, ih own st hs hj' h⟩
    · have hs' := stepEv_sess_none E hs (hj e (List.mem_cons_self ..))
      split at h
      · rename_i hg
        exact Or.inr (Or.inl ⟨hg, ih _ _ hs' hj' h⟩)
      · simp only [Bool.and_eq_true, List.all_eq_true] at h
        exact Or.inr (Or.inr ⟨fun n hn => (regularB_iff J own st jars hs e.jar n).mp (h.1 n hn), ih _ _ hs' hj' h.2⟩)

def loginOk (E : Env T H A R) (st : State T H A R) : Event T → Bool
  | .req ⟨jar, .login u p⟩ => (step E st ⟨jar, .login u p⟩).2.status == 200
  | _ => false

/-- the mention of `n` by `e` is a NAME-UNIQUENESS CONFLICT: an account `n` exists, the requesting
jar's session is not `n`, and the request is not a login that succeeds (whoever passes the
credential check of an account IS that user) -/
def Conflict (E : Env T H A R) (st : State T H A R) (e : Event T) (n : T) : Prop :=
  hasAccount n st.db ∧ st.sess e.jar ≠ some n ∧ loginOk E st e = false

open Classical in
/-- the ghost record after `e`: a regular mention (by the side that claimed the name last, or of a name of
which nothing exists) claims the name for `e.jar`; a conflicting mention claims nothing -/
noncomputable def claimF (J : Nat → Bool) (own : T → Option Nat) (st : State T H A R) (e : Event T) : T → Option Nat :=
  fun n => if n ∈ evNames e ∧ ((ownedByJ J (own n) = J e.jar) ∨ Free n st) then some e.jar else own n

theorem claimF_regular (J : Nat → Bool) (own : T → Option Nat) (st : State T H A R) (e : Event T)
    (hreg : ∀ n ∈ evNames e, (ownedByJ J (own n) = J e.jar) ∨ Free n st) :
    claimF J own st e = (fun n => if n ∈ evNames e then some e.jar else own n) := by
  funext n
  unfold claimF
  by_cases hm : n ∈ evNames e
  · rw [if_pos ⟨hm, hreg n hm⟩, if_pos hm]
  · rw [if_neg (fun h => hm h.1), if_neg hm]

theorem claimF_conflict (J : Nat → Bool) (own : T → Option Nat) (st : State T H A R) (e : Event T)
    (h : ∀ n ∈ evNames e, ¬ ((ownedByJ J (own n) = J e.jar) ∨ Free n st)) : claimF J own st e = own := by
  funext n
  unfold claimF
  by_cases hm : n ∈ evNames e
  · rw [if_neg (fun h' => h n hm h'.2)]
  · rw [if_neg (fun h' => hm h'.1)]

omit [DecidableEq T] in
theorem evNames_le_one (e : Event T) : ∀ m ∈ evNames e, ∀ n ∈ evNames e, m = n := by
  have single : ∀ u : T, ∀ m ∈ [u], ∀ n ∈ [u], m = n := fun u m hm n hn =>
    (List.mem_singleton.mp hm).trans (List.mem_singleton.mp hn).symm
  cases e with
  | req rq =>
    obtain ⟨jar, r⟩ := rq
    cases r <;> first | exact single _ | (intro m hm; cases hm)
  | _ => intro m hm; cases hm

/-- the mentions of an event are all regular, and then it claims its names; or one of them is not, and
then - an event mentions at most one name - nothing is claimed -/
theorem claimF_cases (J : Nat → Bool) (own : T → Option Nat) (st : State T H A R) (e : Event T) {C : T → Prop}
    (hn : ∀ n ∈ evNames e, (ownedByJ J (own n) = J e.jar) ∨ Free n st ∨ C n) :
    ((∀ n ∈ evNames e, (ownedByJ J (own n) = J e.jar) ∨ Free n st) ∧ claimF J own st e = claim own e) ∨
    ∃ n ∈ evNames e, ¬ ((ownedByJ J (own n) = J e.jar) ∨ Free n st) ∧ C n ∧ claimF J own st e = own := by
  by_cases hreg : ∀ n ∈ evNames e, (ownedByJ J (own n) = J e.jar) ∨ Free n st
  · exact Or.inl ⟨hreg, claimF_regular J own st e hreg⟩
  · obtain ⟨n, hmem, hnot⟩ : ∃ n, n ∈ evNames e ∧ ¬ ((ownedByJ J (own n) = J e.jar) ∨ Free n st) :=
      Classical.byContradiction fun hne =>
        hreg fun n hn' => Classical.byContradiction fun h' => hne ⟨n, hn', h'⟩
    refine Or.inr ⟨n, hmem, hnot, ?_, claimF_conflict J own st e ?_⟩
    · rcases hn n hmem with h | h | h
      · exact absurd (Or.inl h) hnot
      · exact absurd (Or.inr h) hnot
      · exact h
    · intro m hm
      rw [evNames_le_one e m hm n hmem]
      exact hnot

/-- **the discipline of the FULL statement.** `own` records which side (jar) claimed a name last. Every
mention of a name `n` by an event `e` is one of
* regular: `e`'s side claimed `n` last (`J`: some jar of `J`; others: not a jar of `J`), or nothing of
  `n` exists (`Free`) - the mention claims `n` for `e.jar`;
* a conflict (`Conflict`): `n` is an existing account of the other side - the mention claims nothing.
  With `ownConfl = false` conflicts are permitted to the jars outside `J` only; with `ghost = false` the
  unused name proposal of an authenticated `add` must not be in conflict.
What stays excluded is exactly the property's "no account name is re-used while sessions / tasks of its
previous owner exist" (`stale_cookie_interferes`, `late_write_interferes`), and logging in to the other
side's account with the right password. -/
def DisciplinedF (E : Env T H A R) (J : Nat → Bool) (ownConfl ghost : Bool) :
    (T → Option Nat) → State T H A R → List (Event T) → Prop
  | _, _, [] => True
  | own, st, e :: es =>
    (∀ n ∈ evNames e, (ownedByJ J (own n) = J e.jar) ∨ Free n st ∨
      ((ownConfl = true ∨ J e.jar = false) ∧ (ghost = true ∨ ghostAdd st e = false) ∧ Conflict E st e n)) ∧
    DisciplinedF E J ownConfl ghost (claimF J own st e) (stepEv E st e).1 es

theorem DisciplinedF.mono (E : Env T H A R) (J : Nat → Bool) {oc oc' g g' : Bool} (hoc : oc = true → oc' = true)
    (hg : g = true → g' = true) : ∀ (es : List (Event T)) (own : T → Option Nat) (st : State T H A R),
    DisciplinedF E J oc g own st es → DisciplinedF E J oc' g' own st es := by
  intro es
  induction es with
  | nil => intro _ _ _; trivial
  | cons e es ih =>
    intro own st h
    exact ⟨fun n hn => (h.1 n hn).imp_right (Or.imp_right fun hc => ⟨hc.1.imp_left hoc, hc.2.1.imp_left hg, hc.2.2⟩),
      ih _ _ h.2⟩

theorem conflict_noop (E : Env T H A R) (st : State T H A R) (e : Event T) (n : T) (hn : n ∈ evNames e)
    (hc : Conflict E st e n) (hg : ghostAdd st e = false) : (stepEv E st e).1 = st := by
  obtain ⟨hacc, hsess, hlog⟩ := hc
  cases e with
  | req rq =>
    obtain ⟨jar, r⟩ := rq
    cases r with
    | register v p salt =>
      rw [List.mem_singleton.mp hn] at hacc
      exact (register_taken E st jar v p salt hacc).1
    | update v p salt =>
      rw [List.mem_singleton.mp hn] at hacc hsess
      exact (update_taken E st jar v p salt hacc hsess).1
    | login v p =>
      simp only [loginOk, beq_eq_false_iff_ne, ne_eq] at hlog
      exact (login_harmless E st jar v p).2.1 hlog
    | add name code file parsing fu fp =>
      rw [List.mem_singleton.mp hn] at hacc
      simp only [ghostAdd, Option.isSome_eq_false_iff, Option.isNone_iff_eq_none] at hg
      exact add_taken E st jar name code file parsing fu fp hg hacc
    | _ => cases hn
  | _ => cases hn

theorem disciplinedJ'_of_disciplinedF (E : Env T H A R) (J : Nat → Bool) (ghost : Bool) : ∀ (es : List (Event T)) (own : T → Option Nat)
    (st : State T H A R), DisciplinedF E J false ghost own st es → DisciplinedJ' E J own st es := by
  intro es
  induction es with
  | nil => intro _ _ _; trivial
  | cons e es ih =>
    intro own st h
    obtain ⟨hn, hrest⟩ := h
    rcases claimF_cases J own st e hn with ⟨hreg, hcl⟩ | ⟨n, hmem, _, hc, hcl⟩
    · rw [hcl] at hrest
      exact Or.inr (Or.inr ⟨hreg, ih _ _ hrest⟩)
    · rw [hcl] at hrest
      cases hg : ghostAdd st e with
      | true => exact Or.inr (Or.inl ⟨hg, ih _ _ hrest⟩)
      | false =>
        have hnoop := conflict_noop E st e n hmem hc.2.2 hg
        rw [hnoop] at hrest
        exact Or.inl ⟨hc.1.resolve_left Bool.false_ne_true, hnoop, ih _ _ hrest⟩

def conflictB (E : Env T H A R) (st : State T H A R) (e : Event T) (n : T) : Bool :=
  st.db.users.any (isUser n) && decide (st.sess e.jar ≠ some n) && !loginOk E st e

theorem conflictB_iff (E : Env T H A R) (st : State T H A R) (e : Event T) (n : T) :
    conflictB E st e n = true ↔ Conflict E st e n := by
  simp only [conflictB, Conflict, hasAccount, Bool.and_eq_true, decide_eq_true_eq, Bool.not_eq_true', and_assoc]

def discF (E : Env T H A R) (J : Nat → Bool) (jars : List Nat) (ownConfl ghost : Bool) :
    (T → Option Nat) → State T H A R → List (Event T) → Bool
  | _, _, [] => true
  | own, st, e :: es =>
    (evNames e).all (fun n => (ownedByJ J (own n) == J e.jar) || freeB n st jars ||
      ((ownConfl || !J e.jar) && (ghost || !ghostAdd st e) && conflictB E st e n)) &&
    discF E J jars ownConfl ghost
      (fun n => if n ∈ evNames e ∧ ((ownedByJ J (own n) == J e.jar) || freeB n st jars) = true then some e.jar else own n)
      (stepEv E st e).1 es

theorem discF_sound (E : Env T H A R) (J : Nat → Bool) (jars : List Nat) (ownConfl ghost : Bool) :
    ∀ (es : List (Event T)) (own : T → Option Nat) (st : State T H A R),
    (∀ k, k ∉ jars → st.sess k = none) → (∀ e ∈ es, e.jar ∈ jars) → discF E J jars ownConfl ghost own st es = true →
    DisciplinedF E J ownConfl ghost own st es := by
  intro es
  induction es with
  | nil => intro _ _ _ _ _; trivial
  | cons e es ih =>
    intro own st hs hj h
    simp only [discF, Bool.and_eq_true, List.all_eq_true] at h
    have hreg := regularB_iff J own st jars hs e.jar
    have hfun : claimF J own st e =
        (fun n => if n ∈ evNames e ∧ ((ownedByJ J (own n) == J e.jar) || freeB n st jars) = true then some e.jar else own n) := by
      funext n
      unfold claimF
      by_cases hc : n ∈ evNames e ∧ ((ownedByJ J (own n) = J e.jar) ∨ Free n st)
      · rw [if_pos hc, if_pos ⟨hc.1, (hreg n).mpr hc.2⟩]
      · rw [if_neg hc, if_neg (fun h' => hc ⟨h'.1, (hreg n).mp h'.2⟩)]
    refine ⟨fun n hn => ?_, ?_⟩
    · have h1 := h.1 n hn
      rw [Bool.or_eq_true] at h1
      rcases h1 with h1 | h1
      · exact ((hreg n).mp h1).imp_right Or.inl
      · simp only [Bool.and_eq_true, Bool.or_eq_true, Bool.not_eq_true'] at h1
        exact Or.inr (Or.inr ⟨h1.1.1, h1.1.2, (conflictB_iff E st e n).mp h1.2⟩)
    · rw [hfun]
      exact ih _ _ (stepEv_sess_none E hs (hj e (List.mem_cons_self ..))) (fun e' he' => hj e' (List.mem_cons_of_mem _ he')) h.2

/-- the user records of the full state `s` under names the alone state `a` does not hold: the names
that are RESERVED as far as the jars in `J` are concerned -/
def foreignUsers (s a : State T H A R) : List (User T H) :=
  s.db.users.filter (fun u => !(a.db.users.any (isUser u.username)))

def reserve (rs : List (User T H)) (a : State T H A R) : State T H A R :=
  { a with db := { a.db with users := a.db.users ++ rs } }

def unreserve (rs : List (User T H)) (a : State T H A R) : State T H A R :=
  { a with db := { a.db with users := a.db.users.filter (fun u => !(rs.any (isUser u.username))) } }

/-- **the alone run with reserved names**: the reference behaviour "the user with the jars `J` is alone,
apart from account names being unique". `s` is the full state, `a` the alone state. Events of other
jars move `s` only. An event of a jar of `J` is executed on the alone state to which the user records
the others hold at that moment are added for the duration of the event (so that `register` / `update`
to such a name is refused, a `login` under such a name is checked against that record, a generated
temporary name that is taken is refused) - nothing else of the others is visible. -/
def runRsv (E : Env T H A R) (J : Nat → Bool) : State T H A R → State T H A R → List (Event T) → List (Nat × Resp T R)
  | _, _, [] => []
  | s, a, e :: es =>
    if J e.jar then
      let rs := foreignUsers s a
      let o := stepEv E (reserve rs a) e
      (match o.2 with | some r => [(e.jar, r)] | none => []) ++ runRsv E J (stepEv E s e).1 (unreserve rs o.1) es
    else runRsv E J (stepEv E s e).1 a es

end
end ServerM
