import AdfObdd.NoGood
/-! the nogood-learning search as an abstract machine on partial assignments (with ghost annotations): parameters,
    state, one iteration, the laws `Sound` of the parameters and the invariant `SInv`. That a halting run has emitted
    exactly the target models, each once (`run_exact`), is proved in `NgBridge.lean`: the machine is an instance of
    the generic machine of `NgGen.lean`, whose header lists the steps of the loop body the numbers below refer to. -/

inductive Closure where
  | update (r : PA) | noUpdate | inconsistent

/-- everything the search uses but does not define -/
structure Params where
  gam : PA → PA                         -- one propagation step (`update_interpretation`)
  acIncons : PA → Bool                  -- decided value contradicts its restricted condition
  isTarget : PA → Bool                  -- `stability_check` (or `true` in two-valued mode)
  twoVal : PA → Bool
  heu : Nat → PA → Option (Nat × Bool)   -- indexed by the number of choices made so far (an oracle)
  closure : List PA → PA → Closure      -- `conclusion_closure` on the (flattened) store

structure Entry where
  choice : Option (PA × Nat × Bool)     -- ghost: interpretation before the choice, and the choice
  ng : PA

structure St where
  cur : PA
  store : List PA
  stack : List Entry
  backtrack : Bool
  choice : Bool
  out : List PA
  time : Nat := 0

/-- pop entries (learning each as a nogood) down to and including the first choice entry -/
def popLoop : List Entry → List PA → PA → (List Entry × List PA × PA)
  | [], store, cur => ([], store, cur)
  | e :: rest, store, cur =>
    match e.choice with
    | some (h, _, _) => (rest, e.ng :: store, h)
    | none => popLoop rest (e.ng :: store) cur

inductive Res where
  | cont (s : St) | done (s : St)

/-- 1. choice -/
def step1 (P : Params) (s : St) : St :=
  if s.choice then
    match P.heu s.time s.cur with
    | some (v, b) =>
      { s with choice := false, time := s.time + 1, cur := setAt s.cur v b,
               stack := { choice := some (s.cur, v, b), ng := setAt s.cur v b } :: s.stack }
    | none => { s with choice := false, backtrack := true }
  else s

/-- 3. backtrack -/
def step3 (s1 : St) : St :=
  if s1.backtrack then
    let r := popLoop s1.stack s1.store s1.cur
    { s1 with backtrack := false, stack := r.1, store := r.2.1, cur := r.2.2 }
  else s1

/-- 5.–7. (`updNg`: the closure of step 4 answered `Update`) -/
def stepFinal (P : Params) (s3 : St) (updNg : Bool) : St :=
  if P.acIncons s3.cur then { s3 with backtrack := true } else
  let cur' := P.gam s3.cur
  let s4 := { s3 with cur := cur' }
  if cur' != s3.cur then s4
  else if updNg then s4
  else if !P.twoVal s4.cur then { s4 with choice := true }
  else if P.isTarget s4.cur then
    { s4 with stack := { choice := none, ng := s4.cur } :: s4.stack, out := s4.cur :: s4.out, backtrack := true }
  else
    { s4 with stack := { choice := none, ng := s4.cur } :: s4.stack, backtrack := true }

/-- 4.–7. -/
def stepTail (P : Params) (s2 : St) : St :=
  match P.closure s2.store s2.cur with
  | Closure.inconsistent => { s2 with backtrack := true }
  | Closure.update r =>
    stepFinal P { s2 with cur := r, stack := { choice := none, ng := r } :: s2.stack } true
  | Closure.noUpdate => stepFinal P s2 false

def iter (P : Params) (s : St) : Res :=
  let s1 := step1 P s
  if s1.backtrack = true ∧ s1.stack = [] then Res.done s1
  else Res.cont (stepTail P (step3 s1))

/-- run with fuel; `none` = fuel exhausted -/
def run (P : Params) : Nat → St → Option St
  | 0, _ => none
  | f+1, s => match iter P s with
    | Res.done s' => some s'
    | Res.cont s' => run P f s'

def Unrep (T : Asg → Prop) (out : List PA) (σ : Asg) : Prop := T σ ∧ ∀ o ∈ out, ¬ Matches o σ

inductive Chain (U : Asg → Prop) : PA → List Entry → Prop
  | nil (cur : PA) : Chain U cur []
  | plain (cur C : PA) (rest : List Entry) :
      (∀ σ, U σ → Matches C σ → Matches cur σ) → Chain U C rest → Chain U cur (⟨none, C⟩ :: rest)
  | choice (cur H : PA) (v : Nat) (b : Bool) (rest : List Entry) :
      (∀ σ, U σ → Matches (setAt H v b) σ → Matches cur σ) → pget H v = none → Chain U H rest →
      Chain U cur (⟨some (H, v, b), setAt H v b⟩ :: rest)

def Cover (U : Asg → Prop) (cur : PA) (stack : List Entry) : Prop :=
  ∀ σ, U σ → Matches cur σ ∨
    ∃ e ∈ stack, ∃ H v b, e.choice = some (H, v, b) ∧ Matches H σ ∧ σ v = !b

def AvoidsL (store : List PA) (σ : Asg) : Prop := ∀ g ∈ store, ¬ Matches g σ

structure Sound (T : Asg → Prop) (P : Params) : Prop where
  gam_sound : ∀ A σ, T σ → Matches A σ → Matches (P.gam A) σ
  ac_sound : ∀ A, P.acIncons A = true → ∀ σ, T σ → ¬ Matches A σ
  leaf_pos : ∀ A, P.twoVal A = true → P.acIncons A = false → P.isTarget A = true → ∀ σ, Matches A σ → T σ
  leaf_neg : ∀ A, P.twoVal A = true → P.acIncons A = false → P.isTarget A = false → ∀ σ, Matches A σ → ¬ T σ
  heu_valid : ∀ t A v b, P.heu t A = some (v, b) → pget A v = none
  heu_total : ∀ t A, P.twoVal A = false → (P.heu t A).isSome = true
  cl_upd : ∀ st A R, P.closure st A = Closure.update R → ∀ σ, Matches A σ → AvoidsL st σ → Matches R σ
  cl_inc : ∀ st A, P.closure st A = Closure.inconsistent → ∀ σ, Matches A σ → ¬ AvoidsL st σ
  cl_no : ∀ st A, P.closure st A = Closure.noUpdate → ∀ g ∈ st, g ≠ A

structure SInv (T : Asg → Prop) (P : Params) (s : St) : Prop where
  chain : Chain (Unrep T s.out) s.cur s.stack
  cover : Cover (Unrep T s.out) s.cur s.stack
  storeOK : ∀ σ, Unrep T s.out σ → AvoidsL s.store σ
  dead : s.backtrack = true → ∀ σ, Unrep T s.out σ → ¬ Matches s.cur σ
  outT : ∀ o ∈ s.out, ∀ σ, Matches o σ → T σ
  outNodup : s.out.Nodup
  outStored : ∀ o ∈ s.out, o ∈ s.store ∨ (s.backtrack = true ∧ ∃ e rest, s.stack = e :: rest ∧ e.ng = o)
  choiceOK : s.choice = true → P.twoVal s.cur = false ∧ s.backtrack = false
