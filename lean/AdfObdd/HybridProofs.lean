import AdfObdd.HybridModel
import AdfObdd.BioProofs
import AdfObdd.PreGround3
import AdfObdd.CompleteExact
import AdfObdd.StableExact
/-! # The hybrid back-end: residual vector, bridge, `hybridStep`

The vector returned by biodivine's `grounded_internal` denotes `pre D g`, every condition with the
grounded interpretation `g` substituted (`Bio.groundedInternal_pre`); `from_biodivine_vector` over a dump
satisfying `Bio.DumpSpec` builds a well-formed native store whose handles denote the diagrams' functions,
position by position (`Bio.bridgeAll_spec`); `Bio.hybridStep_denotes` is both together, for both values
of the flag. -/

theorem pre_nil (D : List BoolFn) : pre D [] = D := by
  simp [pre, over]

theorem pre_pre (D : List BoolFn) (h w : I3) (l : Le3 h w) : pre (pre D h) w = pre D w := by
  unfold pre
  rw [List.map_map]
  apply List.map_congr_left
  intro f _
  funext σ
  show f (over (over σ 0 w) 0 h) = f (over σ 0 w)
  rw [over_of_agree ((agree_over σ w).mono l)]

/-- with enough rounds the loop ends in the conditions restricted by ITS OWN constants (the last round found
nothing new, so its snapshot is the final interpretation), and they are the least fixpoint -/
theorem semLoop_pre_lfp (D : List BoolFn) (fuel : Nat) (hf : D.length < fuel) :
    semLoop fuel D = pre D (cv (semLoop fuel D)) ∧ IsLfp D (cv (semLoop fuel D)) := by
  obtain ⟨U, ru, e, hst⟩ := semLoop_stop (P := Reach D) (fun _ => reach_round) fuel D (reach_self D)
    (Nat.lt_of_le_of_lt (Nat.sub_le _ _) hf)
  exact ⟨by rw [e, hst]; exact ru.round_eq_pre, grounded_sem D fuel hf⟩

/-- the functions `hybrid_step_opt(opt)` hands to the native store - `D` itself or `D` with its grounded
interpretation substituted - answer like `D` in every semantics -/
theorem SameSem.hyb {D : List BoolFn} {g : I3} (opt : Bool) (hg : IsLfp D g) :
    SameSem D (if opt then _root_.pre D g else D) := by
  cases opt
  · exact SameSem.refl D
  · exact SameSem.pre hg

namespace Bio

section residual
variable {T : Type} {L : Lib T} {nv : Nat} (W : Lawful L nv)

/-- **`grounded_internal` returns the conditions restricted by the grounded interpretation**: the
diagrams are valid, denote `pre D g` position by position, where `g` - their information values,
what `Adf::grounded` reports - is the least fixpoint of Γ for the original conditions `D` -/
theorem groundedInternal_pre (ac : List T) (hv : ∀ x ∈ ac, W.Valid x) (hl : ac.length ≤ nv) :
    (∀ y ∈ groundedInternal L ac, W.Valid y) ∧ (groundedInternal L ac).length = ac.length ∧
    IsLfp (ac.map W.den) ((groundedInternal L ac).map L.isConst) ∧
    (groundedInternal L ac).map W.den = pre (ac.map W.den) ((groundedInternal L ac).map L.isConst) := by
  have ⟨a, b, lfp⟩ := groundedInternal_lfp W ac hv hl
  refine ⟨a, b, lfp, ?_⟩
  rw [map_isConst W _ a, groundedInternal, (groundedLoopB_sem W (ac.length + 1) ac hv hl).2.2]
  exact (semLoop_pre_lfp _ _ (by rw [List.length_map]; exact Nat.lt_succ_self _)).1

end residual

theorem termVec_eq (d : List Node) (s : Store) (hlen : 2 ≤ d.length) :
    termVec d s = replayL (d.drop 2) s [0, 1] := by
  match d, hlen with
  | _ :: _ :: rest, _ => rfl

section bridge
variable {T : Type} {L : Lib T} {nv : Nat} (W : Lawful L nv) {dump : T → List Node} (hd : DumpSpec W dump)
include hd

theorem bridgeOne_spec (s : Store) (w : WF s) (t : T) (ht : W.Valid t) :
    Good s (bridgeOne L dump s t).1 (bridgeOne L dump s t).2 (W.den t) := by
  fun_cases bridgeOne L dump s t with
  | case1 h1 => exact ⟨w, Ext.refl s, one_lt s w, fun σ => by rw [eval_one, (W.isTrue_spec t ht).mp h1 σ]⟩
  | case2 h1 h0 => exact ⟨w, Ext.refl s, zero_lt s w, fun σ => by rw [eval_zero, (W.isFalse_spec t ht).mp h0 σ]⟩
  | case3 h1 h0 r =>
    have ⟨ok, len, den⟩ := hd.ok t ht (Bool.eq_false_iff.mpr h1) (Bool.eq_false_iff.mpr h0)
    have ⟨a, b, c, e⟩ := bridge_correct (dump t) ok len s w
    rw [← termVec_eq (dump t) s len, show termVec (dump t) s = r from rfl] at a b c e
    clear_value r
    -- the root is the last entry of the dump, and `term_vec` has one handle per entry
    have hsome := List.getElem?_eq_getElem (l := r.2) (i := (dump t).length - 1)
      (by rw [c]; exact Nat.sub_lt (Nat.lt_of_lt_of_le Nat.zero_lt_two len) Nat.one_pos)
    have := e _ _ _ hsome den
    show Good s r.1 (r.2.getLast?.getD 0) (W.den t)
    rw [List.getLast?_eq_getElem?, c, hsome]
    exact ⟨a, b, this.1, this.2⟩

omit hd in
theorem bridgeAll_eq : ∀ (ts : List T) (s : Store), bridgeAll L dump ts s = mapS (bridgeOne L dump) s ts
  | [], _ => rfl
  | t :: ts, s => by simp only [bridgeAll, mapS, bridgeAll_eq ts]

theorem bridgeAll_spec (ts : List T) (s : Store) (w : WF s) (hv : ∀ t ∈ ts, W.Valid t) :
    Ext s (bridgeAll L dump ts s).1 ∧ (bridgeAll L dump ts s).2.length = ts.length ∧
    Denotes (bridgeAll L dump ts s).1 (bridgeAll L dump ts s).2 (ts.map W.den) := by
  rw [bridgeAll_eq]
  have ⟨a, b, c, d⟩ := mapS_yields StoreRA (f := bridgeOne L dump) (P := fun _ t => W.Valid t) (d := fun _ t => W.den t)
    (fun _ _ _ _ _ h => ⟨h, rfl⟩)
    (fun s t w h => have g := bridgeOne_spec W hd s w t h; ⟨g.wf, g.ext, g.lt, funext g.ev⟩) ts s w hv
  exact ⟨b, mapS_length _ ts s, a, c, d⟩

end bridge

section hybrid
variable {T : Type} {L : Lib T} {n : Nat} (W : Lawful L n) {dump : T → List Node} (hd : DumpSpec W dump)
include hd

/-- **the native object built by `hybrid_step_opt(opt)`**: a well-formed store and `n` valid handles that
denote the acceptance conditions themselves (`opt = false`) resp. the acceptance conditions with the
grounded interpretation (`Bio.bioGrounded_lfp`: the least fixpoint of Γ) substituted (`opt = true`) -/
theorem hybridStep_denotes (opt : Bool) (ac : List T) (hv : ∀ a ∈ ac, W.Valid a) (hn : ac.length = n) :
    (hybridStep L dump opt ac).2.length = n ∧
    Denotes (hybridStep L dump opt ac).1 (hybridStep L dump opt ac).2
      (if opt then pre (ac.map W.den) ((bioGrounded L ac).map storeIsConst) else ac.map W.den) := by
  have ⟨gv, gl, _, gpre⟩ := groundedInternal_pre W ac hv (Nat.le_of_eq hn)
  rw [← bioGrounded_info] at gpre
  unfold hybridStep fromBiodivineVector
  cases opt
  · have ⟨_, l, h⟩ := bridgeAll_spec W hd ac Store.init WF_init hv
    exact ⟨l.trans hn, h⟩
  · have ⟨_, l, h⟩ := bridgeAll_spec W hd _ Store.init WF_init gv
    exact ⟨l.trans (gl.trans hn), gpre ▸ h⟩

end hybrid
end Bio
