import AdfObdd.HybridEndToEnd
/-! # One written framework, both `from_parser`s

`Formula::to_boolean_expr` (`Fm.toBExpr`, constructor for constructor) and the biodivine object built from
a list of written conditions - one per statement, in declaration order, the shape `buildNative` (the
native `from_parser` model of C09) takes. `Bio.fromFormulas_spec`: its diagrams are valid and denote the
written formulas, hence the SAME functions as the native object's handles (`native_bio_same_functions`). -/

/-- `Formula::to_boolean_expr` with the names resolved to statement numbers -/
def Fm.toBExpr : Fm → Bio.BExpr
  | .top => .const true
  | .bot => .const false
  | .atom v => .var v
  | .not f => .not f.toBExpr
  | .and a b => .and a.toBExpr b.toBExpr
  | .or a b => .or a.toBExpr b.toBExpr
  | .imp a b => .imp a.toBExpr b.toBExpr
  | .xor a b => .xor a.toBExpr b.toBExpr
  | .iff a b => .iff a.toBExpr b.toBExpr

theorem Fm.toBExpr_sem : ∀ f : Fm, f.toBExpr.sem = f.sem := by
  intro f
  induction f with
  | top => rfl
  | bot => rfl
  | atom v => rfl
  | not f ih => funext σ; simp only [Fm.toBExpr, Bio.BExpr.sem, Fm.sem, ih]
  | _ a b iha ihb => funext σ; simp only [Fm.toBExpr, Bio.BExpr.sem, Fm.sem, iha, ihb]

theorem Fm.toBExpr_closed {n : Nat} : ∀ f : Fm, NConc.atomsLt n f → f.toBExpr.closed n = true := by
  intro f
  induction f with
  | top => intro _; rfl
  | bot => intro _; rfl
  | atom v => intro h; exact decide_eq_true h
  | not f ih => intro h; exact ih h
  | _ a b iha ihb => intro h; exact Bool.and_eq_true_iff.mpr ⟨iha h.1, ihb h.2⟩

namespace Bio
section
variable {T : Type} (L : Lib T)

/-- `adfbiodivine::Adf::from_parser` on a file `s(x0). … ac(x0, φ0). …` with exactly one condition per
statement, written in declaration order (`formula_order = [0, …, n-1]`) -/
def fromFormulas (fms : List Fm) : List T :=
  acOf L fms.length (List.range fms.length) (fms.map Fm.toBExpr)

/-- the rewriting `from_parser_with_stm_rewrite` prepares for the file of `fromFormulas` -/
def rewritingOfFormulas (fms : List Fm) : T :=
  stmRewriting L (List.range fms.length) (fms.map Fm.toBExpr)

variable {L}

theorem toBExpr_closed_all (fms : List Fm) (hv : ∀ f ∈ fms, NConc.atomsLt fms.length f) :
    ∀ φ ∈ fms.map Fm.toBExpr, φ.closed fms.length = true := by
  intro φ hφ
  obtain ⟨f, hf, rfl⟩ := List.mem_map.mp hφ
  exact Fm.toBExpr_closed f (hv f hf)

theorem fromFormulas_spec (fms : List Fm) (W : Lawful L fms.length)
    (hv : ∀ f ∈ fms, NConc.atomsLt fms.length f) :
    (fromFormulas L fms).length = fms.length ∧ (∀ x ∈ fromFormulas L fms, W.Valid x) ∧
    (fromFormulas L fms).map W.den = fms.map Fm.sem ∧
    (∀ x ∈ fromFormulas L fms, TT.DetBy fms.length (W.den x)) := by
  have hcl := toBExpr_closed_all fms hv
  have ⟨(a : (fromFormulas L fms).length = fms.length), b, _⟩ :=
    acOf_spec W fms.length (List.range fms.length) (fms.map Fm.toBExpr) hcl
  have hmap : (fromFormulas L fms).map W.den = fms.map Fm.sem := by
    apply List.ext_getElem (by rw [List.length_map, a, List.length_map])
    intro i h1 h2
    have hi : i < fms.length := by rwa [List.length_map] at h2
    -- statement `i` is the `i`-th entry of `formula_order`, its condition the `i`-th formula
    have hz : i < ((List.range fms.length).zip (fms.map Fm.toBExpr)).length := by simp [hi]
    have hp := List.getElem_mem hz
    rw [List.getElem_zip, List.getElem_range, List.getElem_map] at hp
    have : ((fromFormulas L fms).map W.den)[i]? = some fms[i].toBExpr.sem :=
      acOf_den_get W _ _ _ hcl List.nodup_range (by simp) _ hp hi
    rw [List.getElem?_eq_getElem h1] at this
    rw [Option.some.inj this, Fm.toBExpr_sem, List.getElem_map]
  refine ⟨a, b, hmap, fun x hx => ?_⟩
  have : W.den x ∈ (fromFormulas L fms).map W.den := List.mem_map_of_mem hx
  rw [hmap] at this
  obtain ⟨f, hf, he⟩ := List.mem_map.mp this
  rw [← he]; exact NConc.sem_supp f (hv f hf)

/-- **both back-ends instantiated from one written framework denote the same functions**, position by
position: the hypothesis `hsame` of `C03.native_rewriting_exact`, derived -/
theorem native_bio_same_functions (fms : List Fm) (W : Lawful L fms.length) (hn : fms.length ≤ VBOT)
    (hv : ∀ f ∈ fms, NConc.atomsLt fms.length f) :
    (fromFormulas L fms).map W.den =
      (buildNative fms.length fms).2.map (eval (buildNative fms.length fms).1) := by
  rw [(fromFormulas_spec fms W hv).2.2.1,
    (buildNative_fns _ fms hn (fun f hf => NConc.atomsOK_of_lt hn f (hv f hf))).2.2.2]

theorem rewritingOfFormulas_good (fms : List Fm) (W : Lawful L fms.length)
    (hv : ∀ f ∈ fms, NConc.atomsLt fms.length f) :
    GoodRewrite W (fromFormulas L fms) (some (rewritingOfFormulas L fms)) :=
  stmRewriting_good W (List.range fms.length) (fms.map Fm.toBExpr) (toBExpr_closed_all fms hv)
    (fun o ho => List.mem_range.mp ho) List.nodup_range (by simp)

end
end Bio
