import AdfObdd.NgBridge
import AdfObdd.ClosureSound
import AdfObdd.Stutter
/-! # The abstract machine of the nogood search on decided parts only: its headline statements

An abstract machine on partial assignments (`NgSearch.lean` / `NgHalt.lean`; it is the instance `V := PA` of the
generic machine `NGen`, and its theorems are the generic ones read through that instance, `NgBridge.lean`) and a
generic stuttering-simulation lemma (`Stutter.lean`).  The proof of C05 for the concrete loop (`Props/C05.lean`:
`ng_search_exact`) does NOT go through them: it uses the generic machine `NGen` (safety `NGen.run_exact`,
liveness `NGen.halts_within`), its semantic instance `NSem` and the lock-step simulation `NConc.sim_iter`, in which
no stuttering occurs.  These statements document the proof idea; no proof module imports this one. -/
namespace NgProto

/-- safety: if the run halts, the emitted list is exactly the target models (stable models, or
two-valued models in two-valued mode), each once — for every valid heuristic -/
theorem exact_if_halts {T : Asg → Prop} {P : Params} (hP : Sound T P) (fuel : Nat) (s s' : St)
    (hinv : SInv T P s) (hr : run P fuel s = some s') :
    (∀ σ, T σ → ∃ o ∈ s'.out, Matches o σ) ∧ (∀ o ∈ s'.out, ∀ σ, Matches o σ → T σ) ∧ s'.out.Nodup :=
  run_exact hP fuel s s' hinv hr

/-- the initial state (the grounded interpretation, empty store and stack) satisfies the invariant -/
theorem init_invariant {T : Asg → Prop} {P : Params} (g : PA) (hg : ∀ σ, T σ → Matches g σ) :
    SInv T P { cur := g, store := [], stack := [], backtrack := false, choice := false, out := [] } := by
  refine ⟨Chain.nil _, fun σ u => Or.inl (hg σ u.1), (fun _ _ _ hx => by cases hx), (fun hb => by cases hb),
    (fun _ ho => by cases ho), List.nodup_nil, (fun _ ho => by cases ho), (fun hc => by cases hc)⟩

/-- liveness: the run from the initial state halts — for every heuristic oracle satisfying the
liveness laws (it proposes an undecided statement), given the closure laws -/
theorem terminates {P : Params} {n : Nat} {mu : PA → Nat} (hL : Live P n mu)
    (cl_direct : ∀ st A, (∃ g ∈ st, PSub g A) → P.closure st A = Closure.inconsistent) (g : PA) :
    ∃ fuel s', run P fuel { cur := g, store := [], stack := [], backtrack := false, choice := false, out := [] } = some s' := by
  have hG : NGen.GLive (NgBridge.toG P fun i => NgBridge.timeAt P i
      { cur := g, store := [], stack := [], backtrack := false, choice := false, out := [] }) n mu :=
    { NgBridge.glive0 P _ hL with cl_direct := fun st A _ _ ⟨x, hx, hp⟩ => cl_direct st A ⟨x, hx, hp⟩ }
  obtain ⟨fuel, a, -, hr⟩ := NGen.halts_within hG g [] trivial trivial (fun _ h => nomatch h) 0
  have hr' := (NgBridge.run_emb P _ fuel 0
    { cur := g, store := [], stack := [], backtrack := false, choice := false, out := [] }
    (fun i => by rw [Nat.zero_add])).symm.trans hr
  obtain ⟨s', h, _⟩ := Option.map_eq_some_iff.mp hr'
  exact ⟨fuel, s', h⟩

/-- generic stuttering-simulation lemma that carries halting and the final abstract state (hence
the emitted list) from the abstract to the concrete loop -/
theorem stutter_transfer {C A : Type} {cstep : C → StutterM.SRes C} {astep : A → StutterM.SRes A} {abs : C → A}
    {settled : C → Prop} (h : StutterM.StutterSim cstep astep abs settled)
    (fuel : Nat) (c : C) (a' : A) (hr : StutterM.srun astep fuel (abs c) = some a') :
    ∃ fuel' c', fuel' ≤ 2 * fuel ∧ StutterM.srun cstep fuel' c = some c' ∧ abs c' = a' :=
  StutterM.stutter_halts h fuel c a' hr

end NgProto
