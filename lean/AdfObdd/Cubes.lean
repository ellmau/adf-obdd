import AdfObdd.StoreCanon
/-! `Bdd::interpretations` — the path cubes towards a goal value are sound,
    pairwise disjoint and, where the goal variable has the goal value, cover the (counter-)models -/

abbrev PCube := List Nat × List Nat      -- (negative, positive)

def InPC (c : PCube) (σ : Asg) : Prop := (∀ x ∈ c.1, σ x = false) ∧ (∀ x ∈ c.2, σ x = true)

def cubesF (s : Store) : Nat → Nat → Bool → Nat → List Nat → List Nat → List PCube
  | 0, _, _, _, _, _ => []
  | fuel+1, tree, goal, gv, neg, pos =>
    if tree < 2 then [] else
    match s.nodes[tree]? with
    | none => []
    | some n =>
      (if gv ≠ n.var ∨ goal = true then
         (if n.hi < 2 then (if (n.hi == 1) == goal then [(neg, pos ++ [n.var])] else [])
          else cubesF s fuel n.hi goal gv neg (pos ++ [n.var]))
       else [])
      ++
      (if gv ≠ n.var ∨ goal = false then
         (if n.lo < 2 then (if (n.lo == 1) == goal then [(neg ++ [n.var], pos)] else [])
          else cubesF s fuel n.lo goal gv (neg ++ [n.var]) pos)
       else [])

theorem cubesF_congr {s s' : Store} (hn : s'.nodes = s.nodes) : ∀ f t goal gv neg pos,
    cubesF s' f t goal gv neg pos = cubesF s f t goal gv neg pos := by
  intro f
  induction f with
  | zero => intros; rfl
  | succ f ih => intro t goal gv neg pos; unfold cubesF; simp only [hn, ih]

theorem cubesF_lt2 (s : Store) (f : Nat) {t : Nat} (ht : t < 2) (goal : Bool) (gv : Nat) (neg pos : List Nat) :
    cubesF s f t goal gv neg pos = [] := by
  cases f with
  | zero => rfl
  | succ f => unfold cubesF; rw [if_pos ht]

/-! Both branches of an inner node contribute in the same way; `cubeSide` is the contribution of the
branch `b` (child `c`), and `cubesF_node` says that `cubesF` is the high side followed by the low side. -/

def PCube.extend (c : PCube) (b : Bool) (v : Nat) : PCube :=
  match b with
  | true => (c.1, c.2 ++ [v])
  | false => (c.1 ++ [v], c.2)

def cubeSide (s : Store) (f : Nat) (goal : Bool) (gv : Nat) (acc : PCube) (v c : Nat) (b : Bool) : List PCube :=
  if gv ≠ v ∨ goal = b then
    (if c < 2 then (if (c == 1) == goal then [acc.extend b v] else [])
     else cubesF s f c goal gv (acc.extend b v).1 (acc.extend b v).2)
  else []

section
variable {s : Store} {f : Nat} {goal : Bool} {gv : Nat} {acc : PCube} {v c : Nat} {b : Bool}

theorem cubeSide_excluded (h : ¬ (gv ≠ v ∨ goal = b)) : cubeSide s f goal gv acc v c b = [] := if_neg h

theorem cubeSide_terminal (h : gv ≠ v ∨ goal = b) (hc : c < 2) :
    cubeSide s f goal gv acc v c b = if (c == 1) == goal then [acc.extend b v] else [] := by
  rw [cubeSide, if_pos h, if_pos hc]

theorem cubeSide_inner (h : gv ≠ v ∨ goal = b) (hc : 2 ≤ c) :
    cubeSide s f goal gv acc v c b = cubesF s f c goal gv (acc.extend b v).1 (acc.extend b v).2 := by
  rw [cubeSide, if_pos h, if_neg (Nat.not_lt_of_le hc)]

theorem mem_cubeSide {x : PCube} (h : x ∈ cubeSide s f goal gv acc v c b) :
    (gv ≠ v ∨ goal = b) ∧
    ((c < 2 ∧ (c == 1) = goal ∧ x = acc.extend b v) ∨
     (2 ≤ c ∧ x ∈ cubesF s f c goal gv (acc.extend b v).1 (acc.extend b v).2)) := by
  revert h
  fun_cases cubeSide s f goal gv acc v c b with
  | case1 hcond hc hg => exact fun h => ⟨hcond, Or.inl ⟨hc, beq_iff_eq.mp hg, List.mem_singleton.mp h⟩⟩
  | case3 hcond hc => exact fun h => ⟨hcond, Or.inr ⟨Nat.le_of_not_lt hc, h⟩⟩
  | _ => intro h; cases h

end

theorem cubesF_node (s : Store) (f : Nat) {t : Nat} {n : Node} (ht : 2 ≤ t) (hn : s.nodes[t]? = some n)
    (goal : Bool) (gv : Nat) (neg pos : List Nat) :
    cubesF s (f+1) t goal gv neg pos =
      cubeSide s f goal gv (neg, pos) n.var n.hi true ++ cubeSide s f goal gv (neg, pos) n.var n.lo false := by
  conv => lhs; unfold cubesF
  rw [if_neg (Nat.not_lt_of_le ht), hn]
  rfl

theorem mem_cubesF_node (s : Store) (f : Nat) {t : Nat} {n : Node} (ht : 2 ≤ t) (hn : s.nodes[t]? = some n)
    (goal : Bool) (gv : Nat) (neg pos : List Nat) (c : PCube) :
    c ∈ cubesF s (f+1) t goal gv neg pos ↔ ∃ b, c ∈ cubeSide s f goal gv (neg, pos) n.var (n.child b) b := by
  rw [cubesF_node s f ht hn, List.mem_append]
  constructor
  · rintro (h | h)
    · exact ⟨true, h⟩
    · exact ⟨false, h⟩
  · rintro ⟨b, h⟩
    cases b
    · exact Or.inr h
    · exact Or.inl h

theorem InPC_extend {acc : PCube} {b : Bool} {v : Nat} {σ : Asg} :
    InPC (acc.extend b v) σ ↔ InPC acc σ ∧ σ v = b := by
  cases b
  · show InPC (acc.1 ++ [v], acc.2) σ ↔ _
    simp only [InPC, List.forall_mem_append, List.forall_mem_singleton]
    exact and_right_comm
  · show InPC (acc.1, acc.2 ++ [v]) σ ↔ _
    simp only [InPC, List.forall_mem_append, List.forall_mem_singleton]
    exact and_assoc.symm

theorem cubes_sound (s : Store) (w : WF s) : ∀ (fuel t : Nat) (goal : Bool) (gv : Nat) (neg pos : List Nat)
    (c : PCube) (σ : Asg), t < s.nodes.size → t < fuel → c ∈ cubesF s fuel t goal gv neg pos → InPC c σ →
    InPC (neg, pos) σ ∧ eval s t σ = goal := by
  intro fuel
  induction fuel with
  | zero => intro t _ _ _ _ _ _ _ h; exact absurd h (Nat.not_lt_zero _)
  | succ f ih =>
    intro t goal gv neg pos c σ ht hf hc hin
    rcases Nat.lt_or_ge t 2 with h2 | h2
    · rw [cubesF_lt2 s _ h2] at hc; cases hc
    obtain ⟨n, hn⟩ := get_of_lt ht
    obtain ⟨b, hb⟩ := (mem_cubesF_node s f h2 hn goal gv neg pos c).mp hc
    have hlt := Tab.child_lt s w.table h2 hn b
    -- either way the cube refines the accumulator extended by `n.var := b`, and the child has the goal value
    have key : InPC (PCube.extend (neg, pos) b n.var) σ ∧ eval s (n.child b) σ = goal := by
      rcases (mem_cubeSide hb).2 with ⟨hc2, hg, rfl⟩ | ⟨_, hrec⟩
      · exact ⟨hin, by rw [eval_lt2 s _ hc2, ← Bool.beq_eq_decide_eq]; exact hg⟩
      · exact ih (n.child b) goal gv _ _ c σ (Nat.lt_trans hlt ht) (Nat.lt_of_lt_of_le hlt (Nat.le_of_lt_succ hf))
          hrec hin
    have ⟨hacc, hσ⟩ := InPC_extend.mp key.1
    exact ⟨hacc, by rw [Tab.eval_eq_child s w.table t n h2 hn hσ]; exact key.2⟩

/-- coverage: where the goal variable has the goal value, every assignment with the goal
value of the function lies in some cube -/
theorem cubes_cover (s : Store) (w : WF s) : ∀ (fuel t : Nat) (goal : Bool) (gv : Nat) (neg pos : List Nat)
    (σ : Asg), t < s.nodes.size → t < fuel → 2 ≤ t → InPC (neg, pos) σ → σ gv = goal → eval s t σ = goal →
    ∃ c ∈ cubesF s fuel t goal gv neg pos, InPC c σ := by
  intro fuel
  induction fuel with
  | zero => intro t _ _ _ _ _ _ h; exact absurd h (Nat.not_lt_zero _)
  | succ f ih =>
    intro t goal gv neg pos σ ht hf ht2 hin hgv hev
    obtain ⟨n, hn⟩ := get_of_lt ht
    -- follow the branch the assignment takes
    generalize hb : σ n.var = b
    have hlt := Tab.child_lt s w.table ht2 hn b
    have hevc : eval s (n.child b) σ = goal := by rw [← Tab.eval_eq_child s w.table t n ht2 hn hb]; exact hev
    have hin' : InPC (PCube.extend (neg, pos) b n.var) σ := InPC_extend.mpr ⟨hin, hb⟩
    have hcond : gv ≠ n.var ∨ goal = b := by
      by_cases e : gv = n.var
      · right; rw [← hgv, e, hb]
      · left; exact e
    suffices h : ∃ c ∈ cubeSide s f goal gv (neg, pos) n.var (n.child b) b, InPC c σ from
      let ⟨c, hc, hcin⟩ := h
      ⟨c, (mem_cubesF_node s f ht2 hn goal gv neg pos c).mpr ⟨b, hc⟩, hcin⟩
    by_cases hl : n.child b < 2
    · rw [cubeSide_terminal hcond hl,
        if_pos (beq_iff_eq.mpr (by rw [Bool.beq_eq_decide_eq, ← eval_lt2 s _ hl σ]; exact hevc))]
      exact ⟨_, List.mem_singleton.mpr rfl, hin'⟩
    · rw [cubeSide_inner hcond (Nat.le_of_not_lt hl)]
      exact ih (n.child b) goal gv _ _ σ (Nat.lt_trans hlt ht) (Nat.lt_of_lt_of_le hlt (Nat.le_of_lt_succ hf))
        (Nat.le_of_not_lt hl) hin' hgv hevc
#print axioms cubes_sound
#print axioms cubes_cover

def DisjPC (c c' : PCube) : Prop := ∀ σ, ¬ (InPC c σ ∧ InPC c' σ)

theorem cubes_disjoint (s : Store) (w : WF s) : ∀ (fuel t : Nat) (goal : Bool) (gv : Nat) (neg pos : List Nat),
    t < s.nodes.size → t < fuel → (cubesF s fuel t goal gv neg pos).Pairwise DisjPC := by
  intro fuel
  induction fuel with
  | zero => intro t _ _ _ _ _ h; exact absurd h (Nat.not_lt_zero _)
  | succ f ih =>
    intro t goal gv neg pos ht hf
    rcases Nat.lt_or_ge t 2 with h2 | h2
    · rw [cubesF_lt2 s _ h2]; exact List.Pairwise.nil
    obtain ⟨n, hn⟩ := get_of_lt ht
    -- each side is pairwise disjoint, and all its cubes fix the node's variable to the side's branch
    have side : ∀ b, (cubeSide s f goal gv (neg, pos) n.var (n.child b) b).Pairwise DisjPC ∧
        ∀ c ∈ cubeSide s f goal gv (neg, pos) n.var (n.child b) b, ∀ σ, InPC c σ → σ n.var = b := by
      intro b
      have hlt := Tab.child_lt s w.table h2 hn b
      have hcs := Nat.lt_trans hlt ht
      have hcf := Nat.lt_of_lt_of_le hlt (Nat.le_of_lt_succ hf)
      constructor
      · by_cases hcond : gv ≠ n.var ∨ goal = b
        · rcases Nat.lt_or_ge (n.child b) 2 with hc | hc
          · rw [cubeSide_terminal hcond hc]
            split
            · exact List.pairwise_singleton _ _
            · exact List.Pairwise.nil
          · rw [cubeSide_inner hcond hc]
            exact ih (n.child b) goal gv _ _ hcs hcf
        · rw [cubeSide_excluded hcond]
          exact List.Pairwise.nil
      · intro c hc σ hin
        rcases (mem_cubeSide hc).2 with ⟨_, _, rfl⟩ | ⟨_, hrec⟩
        · exact (InPC_extend.mp hin).2
        · exact (InPC_extend.mp (cubes_sound s w f (n.child b) goal gv _ _ c σ hcs hcf hrec hin).1).2
    rw [cubesF_node s f h2 hn, List.pairwise_append]
    refine ⟨(side true).1, (side false).1, fun c hc c' hc' σ ⟨m, m'⟩ => ?_⟩
    have h1 := (side true).2 c hc σ m
    rw [(side false).2 c' hc' σ m'] at h1
    cases h1
#print axioms cubes_disjoint

/-- the goal variable never occurs in an enumerated cube with the non-goal value -/
theorem cubes_goal_consistent (s : Store) : ∀ (fuel t : Nat) (goal : Bool) (gv : Nat) (neg pos : List Nat)
    (c : PCube), c ∈ cubesF s fuel t goal gv neg pos →
    (goal = true → gv ∉ neg → gv ∉ c.1) ∧ (goal = false → gv ∉ pos → gv ∉ c.2) := by
  intro fuel
  induction fuel with
  | zero => intro t goal gv neg pos c h; cases h
  | succ f ih =>
    intro t goal gv neg pos c hc
    rcases Nat.lt_or_ge t 2 with h2 | h2
    · rw [cubesF_lt2 s _ h2] at hc; cases hc
    cases hn : s.nodes[t]? with
    | none => unfold cubesF at hc; rw [if_neg (Nat.not_lt_of_le h2), hn] at hc; cases hc
    | some n =>
      obtain ⟨b, hb⟩ := (mem_cubesF_node s f h2 hn goal gv neg pos c).mp hc
      have ⟨hcond, hmem⟩ := mem_cubeSide hb
      -- the extended accumulator has the property: `n.var` goes to the side `b`, which the goal admits
      have hext : (goal = true → gv ∉ neg → gv ∉ (PCube.extend (neg, pos) b n.var).1) ∧
          (goal = false → gv ∉ pos → gv ∉ (PCube.extend (neg, pos) b n.var).2) := by
        have hne : goal ≠ b → gv ≠ n.var := fun hgb => hcond.resolve_right hgb
        cases b
        · exact ⟨fun hg hp => by
            show gv ∉ neg ++ [n.var]
            rw [List.mem_append, List.mem_singleton]
            exact fun h => h.elim hp (hne (by rw [hg]; decide)), fun _ hp => hp⟩
        · exact ⟨fun _ hp => hp, fun hg hp => by
            show gv ∉ pos ++ [n.var]
            rw [List.mem_append, List.mem_singleton]
            exact fun h => h.elim hp (hne (by rw [hg]; decide))⟩
      rcases hmem with ⟨_, _, rfl⟩ | ⟨_, hrec⟩
      · exact hext
      · have ⟨a, b'⟩ := ih (n.child b) goal gv _ _ c hrec
        exact ⟨fun hg hp => a hg (hext.1 hg hp), fun hg hp => b' hg (hext.2 hg hp)⟩
