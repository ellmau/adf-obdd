import AdfObdd.FromParser
import AdfObdd.Parser7
import AdfObdd.Stable
import AdfObdd.CompleteExact
import AdfObdd.StableExact
/-! `Adf::from_parser` for ANY order of the facts: where it panics, what every position of `ac`
    denotes (last condition wins, no condition = ⊥), independence of the fact order, and the
    semantics end to end from the text. -/
namespace FromParser
open ParserM

/-- the placement loop of `from_parser` at the level of formulas -/
def placeFm (D : List Fm) : List (Nat × Fm) → List Fm
  | [] => D
  | pf :: r => placeFm (D.set pf.1 pf.2) r

def lastAt {α : Type} : List (Nat × α) → Nat → Option α
  | [], _ => none
  | (q, f) :: r, p => match lastAt r p with
    | some g => some g
    | none => if q = p then some f else none

theorem placeFm_length : ∀ (items : List (Nat × Fm)) (D : List Fm), (placeFm D items).length = D.length := by
  intro items D
  fun_induction placeFm D items with
  | case1 => rfl
  | case2 D pf r ih => simp [ih]

theorem placeFm_get : ∀ (items : List (Nat × Fm)) (D : List Fm) (p : Nat) (d : Fm), D[p]? = some d →
    (placeFm D items)[p]? = some ((lastAt items p).getD d) := by
  intro items D p d h
  fun_induction placeFm D items generalizing d with
  | case1 => simpa [lastAt] using h
  | case2 D pf r ih =>
    obtain ⟨q, f⟩ := pf
    have hp : p < D.length := (List.getElem?_eq_some_iff.mp h).1
    simp only [lastAt]
    by_cases e : q = p
    · subst e
      rw [ih f (List.getElem?_set_self hp)]
      cases lastAt r q <;> simp
    · rw [ih d (by rw [List.getElem?_set_ne e]; exact h)]
      cases lastAt r p <;> simp [e]

theorem placeCompile_spec : ∀ (items : List (Nat × Fm)) (s : Store) (acc : List Nat) (D : List Fm),
    WF s → (∀ t ∈ acc, t < s.nodes.size) → acc.map (eval s) = D.map Fm.sem →
    (∀ pf ∈ items, pf.2.atomsOK) →
    WF (placeCompile s acc items).1 ∧ Ext s (placeCompile s acc items).1 ∧
    (placeCompile s acc items).2.length = acc.length ∧
    (∀ t ∈ (placeCompile s acc items).2, t < (placeCompile s acc items).1.nodes.size) ∧
    (placeCompile s acc items).2.map (eval (placeCompile s acc items).1) = (placeFm D items).map Fm.sem := by
  intro items s acc D w hv hD hok
  fun_induction placeCompile s acc items generalizing D with
  | case1 => exact ⟨w, Ext.refl _, rfl, hv, hD⟩
  | case2 s acc pf r c ih =>
    have g := compile_correct pf.2 s w (hok pf (by simp))
    have hv' : ∀ t ∈ acc.set pf.1 c.2, t < c.1.nodes.size := by
      intro t ht
      rcases List.mem_or_eq_of_mem_set ht with h | h
      · exact Nat.lt_of_lt_of_le (hv t h) g.ext.1
      · rw [h]; exact g.lt
    have hD' : (acc.set pf.1 c.2).map (eval c.1) = (D.set pf.1 pf.2).map Fm.sem := by
      rw [List.map_set, List.map_set, ← hD]
      congr 1
      · apply List.map_congr_left
        intro t ht
        funext σ
        exact eval_ext w g.ext t σ (hv t ht)
      · funext σ; exact g.ev σ
    have ⟨a, b, c, d, e⟩ := ih (D.set pf.1 pf.2) g.wf hv' hD' (fun x hx => hok x (by simp [hx]))
    exact ⟨a, g.ext.trans b, by rw [List.length_set] at c; exact c, d, e⟩

theorem placeCompile_untouched : ∀ (items : List (Nat × Fm)) (s : Store) (acc : List Nat) (p : Nat),
    (∀ pf ∈ items, pf.1 ≠ p) → (placeCompile s acc items).2[p]? = acc[p]? := by
  intro items s acc p h
  fun_induction placeCompile s acc items with
  | case1 => rfl
  | case2 s acc pf r c ih => rw [ih (fun x hx => h x (by simp [hx])), List.getElem?_set_ne (h pf (by simp))]

def omap {α β : Type} (f : α → Option β) : List α → Option (List β)
  | [] => some []
  | a :: l => match f a, omap f l with
    | some b, some bs => some (b :: bs)
    | _, _ => none

theorem mapM_eq_omap {α β : Type} (f : α → Option β) (l : List α) : l.mapM f = omap f l := by
  induction l with
  | nil => simp [omap]
  | cons a l ih =>
    rw [List.mapM_cons, ih]
    simp only [omap]
    cases f a <;> cases omap f l <;> rfl

theorem omap_isSome {α β : Type} (f : α → Option β) (l : List α) :
    (omap f l).isSome = true ↔ ∀ a ∈ l, (f a).isSome = true := by
  induction l with
  | nil => simp [omap]
  | cons a l ih =>
    simp only [omap, List.mem_cons, forall_eq_or_imp, ← ih]
    cases f a <;> cases omap f l <;> simp

theorem omap_cons_some {α β : Type} {f : α → Option β} {a : α} {l : List α} {bs : List β}
    (h : omap f (a :: l) = some bs) : ∃ b bs', f a = some b ∧ omap f l = some bs' ∧ bs = b :: bs' := by
  simp only [omap] at h
  split at h
  · rename_i b bs' hb hl
    exact ⟨b, bs', hb, hl, (Option.some.inj h).symm⟩
  · cases h

theorem omap_eq_some_iff {α β : Type} {f : α → Option β} : ∀ {l : List α} {bs : List β},
    omap f l = some bs ↔ l.map f = bs.map some
  | [], bs => by cases bs <;> simp [omap]
  | a :: l, [] => by simp only [omap]; cases f a <;> cases omap f l <;> simp
  | a :: l, b :: bs => by
    simp only [omap, List.map_cons, List.cons.injEq, ← omap_eq_some_iff (l := l)]
    cases f a <;> cases omap f l <;> simp

theorem omap_length {α β : Type} (f : α → Option β) (l : List α) (bs : List β)
    (h : omap f l = some bs) : bs.length = l.length := by
  simpa using (congrArg List.length (omap_eq_some_iff.mp h)).symm

theorem omap_mem {α β : Type} (f : α → Option β) (l : List α) (bs : List β)
    (h : omap f l = some bs) (b : β) (hb : b ∈ bs) : ∃ a ∈ l, f a = some b :=
  List.mem_map.mp (omap_eq_some_iff.mp h ▸ List.mem_map_of_mem hb)
theorem omap_map {α β γ : Type} (f : β → Option γ) (g : α → β) (l : List α) :
    omap f (l.map g) = omap (fun a => f (g a)) l := by
  induction l with
  | nil => rfl
  | cons a l ih => simp [omap, ih]

theorem indexOf_get (xs : List Label) (l : Label) (p : Nat) (h : indexOf xs l = some p) : xs[p]? = some l := by
  rw [indexOf_eq_idxOf?, List.idxOf?_eq_some_iff] at h
  obtain ⟨hp, e, _⟩ := h
  rw [List.getElem?_eq_getElem hp, e]

theorem indexOf_lt (xs : List Label) (l : Label) (p : Nat) (h : indexOf xs l = some p) : p < xs.length :=
  (List.getElem?_eq_some_iff.mp (indexOf_get xs l p h)).1

theorem indexOf_of_get (xs : List Label) (nd : xs.Nodup) (l : Label) (p : Nat) (h : xs[p]? = some l) :
    indexOf xs l = some p := by
  obtain ⟨hp, e⟩ := List.getElem?_eq_some_iff.mp h
  rw [indexOf_eq_idxOf?, List.idxOf?_eq_some_iff]
  exact ⟨hp, e, fun j hj ej => by
    have := (List.getElem_inj (h₀ := by omega) (h₁ := hp) nd).mp (ej.trans e.symm); omega⟩

/-- position and index-level formula of one written condition -/
def itemOf (names : List Label) (lf : Label × Fml) : Option (Nat × Fm) :=
  match indexOf names lf.1, resolveFml (indexOf names) lf.2 with
  | some p, some φ => some (p, φ)
  | _, _ => none

theorem itemOf_eq_some {names : List Label} {lf : Label × Fml} {p : Nat} {φ : Fm} :
    itemOf names lf = some (p, φ) ↔
      indexOf names lf.1 = some p ∧ resolveFml (indexOf names) lf.2 = some φ := by
  unfold itemOf
  cases indexOf names lf.1 <;> cases resolveFml (indexOf names) lf.2 <;> simp

theorem itemOf_isSome (names : List Label) (lf : Label × Fml) :
    (itemOf names lf).isSome = true ↔
      (indexOf names lf.1).isSome = true ∧ (resolveFml (indexOf names) lf.2).isSome = true := by
  unfold itemOf
  cases indexOf names lf.1 <;> cases resolveFml (indexOf names) lf.2 <;> simp

theorem omap_itemOf (names : List Label) (acs : List (Label × Fml)) :
    omap (itemOf names) acs =
      match omap (indexOf names) (acs.map (·.1)), omap (resolveFml (indexOf names)) (acs.map (·.2)) with
      | some ord, some fms => some (ord.zip fms)
      | _, _ => none := by
  induction acs with
  | nil => rfl
  | cons lf acs ih =>
    simp only [omap, List.map_cons, itemOf, ih]
    cases indexOf names lf.1 <;> cases resolveFml (indexOf names) lf.2 <;>
      cases omap (indexOf names) (acs.map (·.1)) <;>
      cases omap (resolveFml (indexOf names)) (acs.map (·.2)) <;> rfl

def atomsOf : Fml → List Label
  | .top => [] | .bot => []
  | .atom l => [l]
  | .not f => atomsOf f
  | .and a b => atomsOf a ++ atomsOf b | .or a b => atomsOf a ++ atomsOf b
  | .imp a b => atomsOf a ++ atomsOf b | .xor a b => atomsOf a ++ atomsOf b
  | .iff a b => atomsOf a ++ atomsOf b

theorem resolve_isSome (d : Label → Option Nat) (f : Fml) :
    (resolveFml d f).isSome = true ↔ ∀ a ∈ atomsOf f, (d a).isSome = true := by
  induction f with
  | top => simp [resolveFml, atomsOf]
  | bot => simp [resolveFml, atomsOf]
  | atom l => simp [resolveFml, atomsOf]
  | not f ih => simpa [resolveFml, atomsOf] using ih
  | and a b iha ihb | or a b iha ihb | imp a b iha ihb | xor a b iha ihb | iff a b iha ihb =>
    simp only [resolveFml, atomsOf, List.mem_append, or_imp, forall_and, ← iha, ← ihb]
    cases resolveFml d a <;> cases resolveFml d b <;> simp

def labelAsg (d : Label → Option Nat) (σ : Asg) : Label → Bool :=
  fun l => match d l with | some i => σ i | none => false

theorem resolve_sem (d : Label → Option Nat) (f : Fml) : ∀ (φ : Fm), resolveFml d f = some φ →
    ∀ σ, φ.sem σ = f.eval (labelAsg d σ) := by
  induction f with
  | top | bot => intro φ h σ; cases h; rfl
  | atom l =>
    intro φ h σ
    obtain ⟨i, hi, rfl⟩ := Option.map_eq_some_iff.mp h
    simp [Fm.sem, Fml.eval, labelAsg, hi]
  | not f ih =>
    intro φ h σ
    obtain ⟨x, hx, rfl⟩ := Option.map_eq_some_iff.mp h
    simp [Fm.sem, Fml.eval, ih x hx σ]
  | and a b iha ihb | or a b iha ihb | imp a b iha ihb | xor a b iha ihb | iff a b iha ihb =>
    intro φ h σ
    simp only [resolveFml] at h
    split at h
    · rename_i x y ha hb
      cases h
      simp [Fm.sem, Fml.eval, iha x ha σ, ihb y hb σ]
    · cases h

theorem resolve_atomsOK (d : Label → Option Nat) (hd : ∀ l p, d l = some p → p < VBOT) (f : Fml) :
    ∀ (φ : Fm), resolveFml d f = some φ → φ.atomsOK := by
  induction f with
  | top | bot => intro φ h; cases h; trivial
  | atom l =>
    intro φ h
    obtain ⟨i, hi, rfl⟩ := Option.map_eq_some_iff.mp h
    exact hd l i hi
  | not f ih =>
    intro φ h
    obtain ⟨x, hx, rfl⟩ := Option.map_eq_some_iff.mp h
    exact ih x hx
  | and a b iha ihb | or a b iha ihb | imp a b iha ihb | xor a b iha ihb | iff a b iha ihb =>
    intro φ h
    simp only [resolveFml] at h
    split at h
    · rename_i x y ha hb
      cases h
      exact ⟨iha x ha, ihb y hb⟩
    · cases h

def lastCond : List (Label × Fml) → Label → Option Fml
  | [], _ => none
  | (k, f) :: r, l => match lastCond r l with
    | some g => some g
    | none => if k = l then some f else none

theorem lastCond_mem : ∀ (acs : List (Label × Fml)) (l : Label) (f : Fml), lastCond acs l = some f → (l, f) ∈ acs := by
  intro acs l f h
  fun_induction lastCond acs l with
  | case1 => cases h
  | case2 k g r l g' hl ih => cases h; exact List.mem_cons_of_mem _ (ih hl)
  | case3 => cases h; exact List.mem_cons_self
  | case4 => cases h

theorem lastCond_none_iff (acs : List (Label × Fml)) (l : Label) :
    lastCond acs l = none ↔ ∀ f, (l, f) ∉ acs := by
  fun_induction lastCond acs l with
  | case1 => simp
  | case2 k g r l g' hl =>
    simp only [reduceCtorEq, false_iff]
    exact fun h => h g' (List.mem_cons_of_mem _ (lastCond_mem r l g' hl))
  | case3 g =>
    simp only [reduceCtorEq, false_iff]
    exact fun h => h g List.mem_cons_self
  | case4 k g r l hl e ih =>
    simp only [true_iff]
    intro f hm
    rcases List.mem_cons.mp hm with h | h
    · exact e (Prod.mk.inj h).1.symm
    · exact ih.mp hl f h

/-- the entry the loop leaves at position `p` is the (resolved) last condition of the `p`-th label -/
theorem lastAt_items (names : List Label) (nd : names.Nodup) (p : Nat) (l : Label) (hp : names[p]? = some l) :
    ∀ (acs : List (Label × Fml)) (items : List (Nat × Fm)), omap (itemOf names) acs = some items →
    match lastCond acs l with
    | none => lastAt items p = none
    | some f => ∃ φ, resolveFml (indexOf names) f = some φ ∧ lastAt items p = some φ := by
  intro acs
  induction acs with
  | nil => intro items h; simp [omap] at h; subst h; simp [lastCond, lastAt]
  | cons kf acs ih =>
    intro items h
    obtain ⟨k, f⟩ := kf
    obtain ⟨⟨q, φ⟩, items', h1, h2, rfl⟩ := omap_cons_some h
    have hk := itemOf_eq_some.mp h1
    have := ih items' h2
    simp only [lastCond, lastAt]
    cases hl : lastCond acs l with
    | some g =>
      rw [hl] at this
      obtain ⟨φ', r1, r2⟩ := this
      simp only [r2]
      exact ⟨φ', r1, rfl⟩
    | none =>
      rw [hl] at this
      simp only [this]
      by_cases e : k = l
      · subst e
        have : q = p := by
          have := indexOf_of_get names nd k p hp
          rw [hk.1] at this; exact Option.some.inj this
        simp [this, hk.2]
      · have : ¬ q = p := by
          intro e'
          have := indexOf_get names k q hk.1
          rw [e', hp] at this
          exact e (Option.some.inj this).symm
        simp [e, this]

theorem dictSize_apply (st : PState) (x : Fact) (h : dictSize st.dict = st.namelist.length) :
    dictSize (st.apply x).dict = (st.apply x).namelist.length := by
  cases x with
  | ac l f => exact h
  | stmt l =>
    rw [apply_stmt]
    by_cases hs : (dictGet st.dict l).isSome = true
    · rw [if_pos hs]; exact h
    · rw [if_neg hs]
      simp only [dictSize, hs, List.length_append, List.length_cons, List.length_nil]
      simp [h]

theorem dictSize_foldl (fs : List Fact) : ∀ st : PState, dictSize st.dict = st.namelist.length →
    dictSize (fs.foldl PState.apply st).dict = (fs.foldl PState.apply st).namelist.length := by
  induction fs with
  | nil => intro st h; exact h
  | cons x fs ih => intro st h; exact ih _ (dictSize_apply st x h)

theorem dictSizeOf_ofFacts (fs : List Fact) : dictSizeOf (PState.ofFacts fs) = (namesOf fs).length := by
  have := dictSize_foldl fs {} rfl
  unfold dictSizeOf
  rw [show PState.ofFacts fs = fs.foldl PState.apply {} from rfl, this]
  exact congrArg List.length (ofFacts_spec fs).1

theorem buildVars_WF (n : Nat) (hn : n ≤ VBOT) : WF (buildVars n Store.init) :=
  (buildVars_wf (List.range n) Store.init WF_init (by intro v hv; simp at hv; omega)).1

end FromParser

/-! ### parser objects that present a name list and a list of conditions

`from_parser` reads a parser object only through its dictionary, `dict_size()`, `formulaname` and
`formulae`. Everything about it is proved for any object that `Presents` names and conditions; the
object the parser leaves (`presents_ofFacts`) and the re-sorted objects (`SortProofs`) are instances. -/
namespace SortModel
open ParserM FromParser

/-- what `from_parser` reads off a parser object: the dictionary is the position map of `names`,
which are pairwise different; the conditions are `acs` in file order -/
structure Presents (st : PState) (names : List Label) (acs : List (Label × Fml)) : Prop where
  dict : ∀ l, dictGet st.dict l = indexOf names l
  size : dictSizeOf st = names.length
  fname : st.formulaname = acs.map (·.1)
  fml : st.formulae = acs.map (·.2)
  nodup : names.Nodup

theorem presents_ofFacts (fs : List Fact) : Presents (PState.ofFacts fs) (namesOf fs) (acsOf fs) := by
  obtain ⟨_, hd, hfn, hfm, _⟩ := ofFacts_spec fs
  exact ⟨hd, dictSizeOf_ofFacts fs, hfn, hfm, namesOf_nodup fs⟩

theorem workList_presents {st : PState} {names : List Label} {acs : List (Label × Fml)}
    (h : Presents st names acs) : workList st = omap (itemOf names) acs := by
  unfold workList PState.formulaOrder
  rw [h.fname, mapM_eq_omap, funext h.dict, h.fml, omap_itemOf]
  cases ho : omap (indexOf names) (acs.map (·.1)) with
  | none => rfl
  | some ord =>
    have hlen : ord.length = acs.length := by simpa using omap_length _ _ _ ho
    have c1 : ¬ (acs.map (·.2)).length < ord.length := by simp [hlen]
    have c2 : ¬ (ord.any (fun p => decide (dictSizeOf st ≤ p)) = true) := by
      rw [List.any_eq_true, h.size]
      rintro ⟨p, hp, hle⟩
      obtain ⟨l, _, hl⟩ := omap_mem _ _ _ ho p hp
      have := indexOf_lt _ _ _ hl
      simp at hle
      omega
    simp only [if_neg c1, if_neg c2]
    rw [List.take_of_length_le (by simp [hlen]), mapM_eq_omap]
    cases omap (resolveFml (indexOf names)) (acs.map (·.2)) <;> rfl

/-- `from_parser` panics exactly when a condition is given for a name that is not presented
(`formula_order`) or mentions one (`term`) -/
theorem fromParser_presents_isSome_iff {st : PState} {names : List Label} {acs : List (Label × Fml)}
    (h : Presents st names acs) :
    (fromParser st).isSome = true ↔ ∀ lf ∈ acs, lf.1 ∈ names ∧ ∀ a ∈ atomsOf lf.2, a ∈ names := by
  unfold fromParser
  rw [Option.isSome_map, workList_presents h, omap_isSome]
  simp only [itemOf_isSome, resolve_isSome, indexOf_isSome, decide_eq_true_eq]

/-- the index-level Boolean functions of the conditions `c` (label ↦ condition) when the statements
are numbered by their position in `names` -/
def condFnsOn (names : List Label) (c : Label → Fml) : List BoolFn :=
  names.map fun l σ => (c l).eval (labelAsg (indexOf names) σ)

theorem placeFm_items {names : List Label} (nd : names.Nodup) {acs : List (Label × Fml)} {items : List (Nat × Fm)}
    (hi : omap (itemOf names) acs = some items) :
    (placeFm (List.replicate names.length Fm.bot) items).map Fm.sem =
      condFnsOn names (fun l => (lastCond acs l).getD .bot) := by
  apply List.ext_getElem?
  intro p
  unfold condFnsOn
  simp only [List.getElem?_map]
  cases hp : names[p]? with
  | none =>
    have : (placeFm (List.replicate names.length Fm.bot) items)[p]? = none := by
      rw [List.getElem?_eq_none_iff] at hp ⊢
      rw [placeFm_length]; simpa using hp
    rw [this]; rfl
  | some l =>
    have hlt : p < names.length := (List.getElem?_eq_some_iff.mp hp).1
    rw [placeFm_get items _ p Fm.bot (by rw [List.getElem?_replicate, if_pos hlt])]
    simp only [Option.map_some, Option.some.injEq]
    funext σ
    have := lastAt_items names nd p l hp acs items hi
    cases hl : lastCond acs l with
    | none => rw [hl] at this; simp [this, Fm.sem, Fml.eval]
    | some f =>
      rw [hl] at this
      obtain ⟨φ, r1, r2⟩ := this
      simp [r2, resolve_sem _ f φ r1 σ]

/-- **`from_parser`, any order of the conditions.** Whenever it does not panic: the store is well
formed, `ac` has one valid handle per presented name, and the handle at position `p` denotes the
index-level function of the condition of the `p`-th name: the last condition written for it, ⊥ if
there is none. Conditions may come in any order. -/
theorem fromParser_presents_correct {st : PState} {names : List Label} {acs : List (Label × Fml)}
    (hP : Presents st names acs) (s : Store) (ac : List Nat)
    (h : fromParser st = some (s, ac)) (hn : names.length ≤ VBOT) :
    WF s ∧ ac.length = names.length ∧ (∀ t ∈ ac, t < s.nodes.size) ∧
    ac.map (eval s) = condFnsOn names (fun l => (lastCond acs l).getD .bot) := by
  unfold fromParser at h
  rw [workList_presents hP, hP.size] at h
  obtain ⟨items, hi, h⟩ := Option.map_eq_some_iff.mp h
  have w0 := buildVars_WF _ hn
  have hok : ∀ pf ∈ items, pf.2.atomsOK := by
    intro ⟨p, φ⟩ hpf
    obtain ⟨lf, _, hlf⟩ := omap_mem _ _ _ hi _ hpf
    exact resolve_atomsOK _ (fun l p hl => Nat.lt_of_lt_of_le (indexOf_lt _ _ _ hl) hn) _ _
      (itemOf_eq_some.mp hlf).2
  have spec := placeCompile_spec items (buildVars names.length Store.init)
    (List.replicate names.length 0) (List.replicate names.length Fm.bot) w0
    (by intro t ht; rw [List.mem_replicate] at ht; rw [ht.2]; exact zero_lt _ w0)
    (by rw [List.map_replicate, List.map_replicate]; congr 1 <;> (funext σ; exact eval_zero _ σ))
    hok
  rw [h] at spec
  obtain ⟨a, _, c, d, e⟩ := spec
  exact ⟨a, by simpa using c, d, e.trans (placeFm_items hP.nodup hi)⟩

end SortModel

namespace FromParser
open ParserM

theorem workList_ofFacts (fs : List Fact) :
    workList (PState.ofFacts fs) = omap (itemOf (namesOf fs)) (acsOf fs) :=
  SortModel.workList_presents (SortModel.presents_ofFacts fs)

/-- the file describes an ADF `from_parser` can build: every condition is given for a declared
label and mentions declared labels only (declared anywhere in the file, before or after the
condition). Nothing is required about HOW MANY conditions a statement has — see `condOf`. -/
def WellFormedAdf (fs : List Fact) : Prop :=
  ∀ lf ∈ acsOf fs, lf.1 ∈ namesOf fs ∧ ∀ a ∈ atomsOf lf.2, a ∈ namesOf fs

instance (fs : List Fact) : Decidable (WellFormedAdf fs) := by
  unfold WellFormedAdf; infer_instance

/-- **`from_parser` panics exactly on the files that are not well-formed ADFs**: a condition for an
undeclared label (`formula_order`) or with an undeclared atom (`term`) -/
theorem fromParser_isSome_iff (fs : List Fact) :
    (fromParser (PState.ofFacts fs)).isSome = true ↔ WellFormedAdf fs :=
  SortModel.fromParser_presents_isSome_iff (SortModel.presents_ofFacts fs)

theorem fromParser_isSome (fs : List Fact) (h : WellFormedAdf fs) :
    (fromParser (PState.ofFacts fs)).isSome = true := (fromParser_isSome_iff fs).mpr h

theorem acsOf_eq_filterMap (fs : List Fact) :
    acsOf fs = fs.filterMap (fun x => match x with | .ac l f => some (l, f) | .stmt _ => none) := by
  induction fs with
  | nil => rfl
  | cons x fs ih => cases x <;> simp [acsOf, ih]

theorem acsOf_append (a b : List Fact) : acsOf (a ++ b) = acsOf a ++ acsOf b := by
  simp only [acsOf_eq_filterMap, List.filterMap_append]

theorem acsOf_mem (fs : List Fact) (l : Label) (f : Fml) : (l, f) ∈ acsOf fs ↔ Fact.ac l f ∈ fs := by
  rw [acsOf_eq_filterMap, List.mem_filterMap]
  constructor
  · rintro ⟨x, hx, e⟩
    cases x <;> simp only [Option.some.injEq, Prod.mk.injEq, reduceCtorEq] at e
    obtain ⟨rfl, rfl⟩ := e
    exact hx
  · exact fun h => ⟨_, h, rfl⟩

theorem fromParser_panics (fs : List Fact)
    (h : (∃ l f, Fact.ac l f ∈ fs ∧ Fact.stmt l ∉ fs) ∨
         (∃ l f a, Fact.ac l f ∈ fs ∧ a ∈ atomsOf f ∧ Fact.stmt a ∉ fs)) :
    fromParser (PState.ofFacts fs) = none := by
  have acs_mem : ∀ l f, Fact.ac l f ∈ fs → (l, f) ∈ acsOf fs := fun l f => (acsOf_mem fs l f).mpr
  cases hr : fromParser (PState.ofFacts fs) with
  | none => rfl
  | some r =>
    have wf := (fromParser_isSome_iff fs).mp (by rw [hr]; rfl)
    rcases h with ⟨l, f, h1, h2⟩ | ⟨l, f, a, h1, h2, h3⟩
    · exact absurd ((namesOf_mem fs l).mp (wf (l, f) (acs_mem l f h1)).1) h2
    · exact absurd ((namesOf_mem fs a).mp ((wf (l, f) (acs_mem l f h1)).2 a h2)) h3

/-- the condition `from_parser` gives the statement with label `l`: the LAST one written for it,
and ⊥ if there is none -/
def condOf (fs : List Fact) (l : Label) : Fml := (lastCond (acsOf fs) l).getD .bot

/-- the index-level Boolean functions of the framework the file describes: position `p` carries the
function of the condition of the `p`-th declared statement, atoms read at their statements' indices -/
def condFns (fs : List Fact) : List BoolFn :=
  (namesOf fs).map fun l σ => (condOf fs l).eval (labelAsg (indexOf (namesOf fs)) σ)

/-- **`from_parser`, any order of the facts.** Whenever it does not panic: the store is well formed,
`ac` has one valid handle per declared statement, and the handle at position `p` denotes the
index-level function of the condition of the `p`-th declared statement (`condFns`: last condition
written for its label, ⊥ if none). Conditions may come before the declarations and in any order. -/
theorem fromParser_correct (fs : List Fact) (s : Store) (ac : List Nat)
    (h : fromParser (PState.ofFacts fs) = some (s, ac)) (hn : (namesOf fs).length ≤ VBOT) :
    WF s ∧ ac.length = (namesOf fs).length ∧ (∀ t ∈ ac, t < s.nodes.size) ∧
    ac.map (eval s) = condFns fs :=
  SortModel.fromParser_presents_correct (SortModel.presents_ofFacts fs) s ac h hn

theorem condOf_resolves (fs : List Fact) (hwf : WellFormedAdf fs) (l : Label) :
    (resolveFml (indexOf (namesOf fs)) (condOf fs l)).isSome = true := by
  rw [resolve_isSome]
  intro a ha
  rw [indexOf_isSome]
  unfold condOf at ha
  cases hc : lastCond (acsOf fs) l with
  | none => rw [hc] at ha; simp [atomsOf] at ha
  | some f => rw [hc] at ha; simpa using (hwf _ (lastCond_mem _ _ _ hc)).2 a ha

/-- position by position: the handle of the `p`-th declared statement is valid and denotes the
function of its condition, given as the resolved formula `φ` and as the written formula on labels -/
theorem fromParser_handle (fs : List Fact) (s : Store) (ac : List Nat)
    (h : fromParser (PState.ofFacts fs) = some (s, ac)) (hn : (namesOf fs).length ≤ VBOT)
    (p : Nat) (l : Label) (hp : (namesOf fs)[p]? = some l) :
    ∃ t φ, ac[p]? = some t ∧ t < s.nodes.size ∧ resolveFml (indexOf (namesOf fs)) (condOf fs l) = some φ ∧
      ∀ σ, eval s t σ = φ.sem σ ∧ eval s t σ = (condOf fs l).eval (labelAsg (indexOf (namesOf fs)) σ) := by
  obtain ⟨_, hl, hv, hD⟩ := fromParser_correct fs s ac h hn
  have hlt : p < ac.length := by rw [hl]; exact (List.getElem?_eq_some_iff.mp hp).1
  have hev : ∀ σ, eval s ac[p] σ = (condOf fs l).eval (labelAsg (indexOf (namesOf fs)) σ) := by
    intro σ
    have := congrArg (fun D => D[p]?) hD
    simp only [condFns, List.getElem?_map, List.getElem?_eq_getElem hlt, hp, Option.map_some,
      Option.some.injEq] at this
    exact congrFun this σ
  have hwf : WellFormedAdf fs := (fromParser_isSome_iff fs).mp (by rw [h]; rfl)
  obtain ⟨φ, hφ⟩ := Option.isSome_iff_exists.mp (condOf_resolves fs hwf l)
  exact ⟨ac[p], φ, List.getElem?_eq_getElem hlt, hv _ (List.getElem_mem hlt), hφ,
    fun σ => ⟨by rw [hev σ, resolve_sem _ _ φ hφ σ], hev σ⟩⟩

theorem lastCond_append_last (pre post : List (Label × Fml)) (l : Label) (f : Fml) (h : ∀ g, (l, g) ∉ post) :
    lastCond (pre ++ (l, f) :: post) l = some f := by
  induction pre with
  | nil => simp [lastCond, (lastCond_none_iff post l).mpr h]
  | cons kf pre ih => obtain ⟨k, g⟩ := kf; simp [lastCond, ih]

/-- **no condition ⇒ ⊥**: a declared statement for which the file gives no condition has the
condition ⊥ -/
theorem condOf_no_condition (fs : List Fact) (l : Label) (h : ∀ f, Fact.ac l f ∉ fs) : condOf fs l = .bot := by
  unfold condOf
  rw [(lastCond_none_iff _ l).mpr (fun f hf => h f ((acsOf_mem fs l f).mp hf))]
  rfl

/-- the entry of `ac` of a declared statement without condition is literally the initial `Term(0)` -/
theorem fromParser_no_condition (fs : List Fact) (s : Store) (ac : List Nat)
    (h : fromParser (PState.ofFacts fs) = some (s, ac))
    (p : Nat) (l : Label) (hp : (namesOf fs)[p]? = some l) (hno : ∀ f, Fact.ac l f ∉ fs) :
    ac[p]? = some 0 := by
  unfold fromParser at h
  rw [workList_ofFacts, dictSizeOf_ofFacts] at h
  obtain ⟨items, hi, h⟩ := Option.map_eq_some_iff.mp h
  have hlt : p < (namesOf fs).length := (List.getElem?_eq_some_iff.mp hp).1
  have hne : ∀ pf ∈ items, pf.1 ≠ p := by
    intro ⟨q, φ⟩ hpf e
    obtain ⟨lf, hm, hlf⟩ := omap_mem _ _ _ hi _ hpf
    have := indexOf_get _ _ _ (itemOf_eq_some.mp hlf).1
    rw [show q = p from e, hp] at this
    obtain rfl : l = lf.1 := Option.some.inj this
    exact hno lf.2 ((acsOf_mem fs _ lf.2).mp hm)
  have := placeCompile_untouched items (buildVars (namesOf fs).length Store.init)
    (List.replicate (namesOf fs).length 0) p hne
  rw [h] at this
  rw [this, List.getElem?_replicate, if_pos hlt]

/-- **last condition wins**: if `ac(l, f)` is the last condition written for `l`, then `f` is the
condition of `l`, whatever was written for `l` before -/
theorem condOf_last_wins (pre post : List Fact) (l : Label) (f : Fml) (h : ∀ g, Fact.ac l g ∉ post) :
    condOf (pre ++ Fact.ac l f :: post) l = f := by
  unfold condOf
  rw [acsOf_append, show acsOf (Fact.ac l f :: post) = (l, f) :: acsOf post from rfl,
    lastCond_append_last _ _ l f (fun g hg => h g ((acsOf_mem post l g).mp hg))]
  rfl

theorem condOf_unique (fs : List Fact) (l : Label) (f : Fml) (h : Fact.ac l f ∈ fs)
    (hu : ∀ g, Fact.ac l g ∈ fs → g = f) : condOf fs l = f := by
  unfold condOf
  cases hl : lastCond (acsOf fs) l with
  | none => exact absurd ((acsOf_mem fs l f).mpr h) ((lastCond_none_iff _ l).mp hl f)
  | some g => simp [hu g ((acsOf_mem fs l g).mp (lastCond_mem _ l g hl))]

theorem acsOf_perm {fs gs : List Fact} (hp : fs.Perm gs) : (acsOf fs).Perm (acsOf gs) := by
  rw [acsOf_eq_filterMap, acsOf_eq_filterMap]; exact hp.filterMap _

theorem namesOf_perm {fs gs : List Fact} (hp : fs.Perm gs) : (namesOf fs).Perm (namesOf gs) :=
  (List.perm_ext_iff_of_nodup (namesOf_nodup fs) (namesOf_nodup gs)).mpr fun l => by
    rw [namesOf_mem, namesOf_mem]; exact hp.mem_iff

theorem wellFormed_perm {fs gs : List Fact} (hp : fs.Perm gs) (h : WellFormedAdf fs) : WellFormedAdf gs := by
  intro lf hlf
  have hm := (acsOf_perm hp).mem_iff.mpr hlf
  have hn := namesOf_perm hp
  exact ⟨hn.mem_iff.mp (h lf hm).1, fun a ha => hn.mem_iff.mp ((h lf hm).2 a ha)⟩

theorem wfOn_perm {names names' : List Label} {acs : List (Label × Fml)} (hp : names'.Perm names)
    (h : ∀ lf ∈ acs, lf.1 ∈ names ∧ ∀ a ∈ atomsOf lf.2, a ∈ names) :
    ∀ lf ∈ acs, lf.1 ∈ names' ∧ ∀ a ∈ atomsOf lf.2, a ∈ names' :=
  fun lf hlf => ⟨hp.mem_iff.mpr (h lf hlf).1, fun a ha => hp.mem_iff.mpr ((h lf hlf).2 a ha)⟩

theorem lastCond_eq_some_iff_of_nodup : ∀ (acs : List (Label × Fml)), (acs.map (·.1)).Nodup →
    ∀ (l : Label) (f : Fml), lastCond acs l = some f ↔ (l, f) ∈ acs := by
  intro acs nd l f
  refine ⟨lastCond_mem acs l f, ?_⟩
  induction acs with
  | nil => intro h; simp at h
  | cons kg acs ih =>
    intro h
    obtain ⟨k, g⟩ := kg
    have nd0 : (k :: acs.map (·.1)).Nodup := nd
    have ⟨hk, nd'⟩ := List.nodup_cons.mp nd0
    simp only [lastCond]
    rcases List.mem_cons.mp h with e | e
    · cases e
      have : lastCond acs l = none := (lastCond_none_iff acs l).mpr (fun g' hg' => hk (List.mem_map.mpr ⟨(l, g'), hg', rfl⟩))
      simp [this]
    · simp [ih nd' e]

theorem condOf_perm {fs gs : List Fact} (hp : fs.Perm gs) (hone : ((acsOf fs).map (·.1)).Nodup) :
    condOf fs = condOf gs := by
  have hperm := acsOf_perm hp
  have hone' : ((acsOf gs).map (·.1)).Nodup := (hperm.map _).nodup_iff.mp hone
  funext l
  unfold condOf
  congr 1
  apply Option.ext
  intro f
  rw [lastCond_eq_some_iff_of_nodup _ hone, lastCond_eq_some_iff_of_nodup _ hone']
  exact hperm.mem_iff

theorem namesOf_filter (fs : List Fact) :
    namesOf fs = namesOf (fs.filter (fun x => match x with | .stmt _ => true | .ac _ _ => false)) := by
  induction fs with
  | nil => rfl
  | cons x fs ih => cases x <;> simp [namesOf, ih]

theorem complete_stable_from_text (t : List Char) (st : PState) (h : parse t = some st)
    (s : Store) (ac : List Nat) (hb : fromParser st = some (s, ac)) (hn : dictSizeOf st ≤ VBOT) :
    ∃ fs, fs ≠ [] ∧ DerFile fs t ∧ st = PState.ofFacts fs ∧
      (let n := dictSizeOf st
       ((completeAll s n ac).2.2.map (fun v => v.map storeIsConst)).Nodup ∧
       (∀ w : I3, w ∈ (completeAll s n ac).2.2.map (fun v => v.map storeIsConst) ↔
         (w.length = n ∧ Gam (condFns fs) w = w)) ∧
       (completeAll s n ac).2.2.head? = some (completeAll s n ac).2.1) ∧
      (let n := dictSizeOf st
       let out := (stableAll s n ac).2.map (fun v => v.map storeIsConst)
       out.Nodup ∧ ∀ v : I3, v ∈ out ↔ (v.length = n ∧ StableExact.StableI (condFns fs) v)) := by
  obtain ⟨fs, hne, hder, rfl⟩ := parse_some_der t st h
  rw [dictSizeOf_ofFacts] at hn ⊢
  obtain ⟨w, hl, hv, hD⟩ := fromParser_correct fs s ac hb hn
  have hc := CompleteExact.completeAll_exact s _ ac w hl hv; rw [hD] at hc
  have hs := StableExact.stableAll_exact s _ ac w hl hv; rw [hD] at hs
  exact ⟨fs, hne, hder, rfl, hc, hs⟩

theorem built_of_text (fs : List Fact) (t : List Char) (hd : DerFile fs t) (hne : fs ≠ []) (hwf : WellFormedAdf fs) :
    ∃ s ac, (parse t).bind fromParser = some (s, ac) := by
  obtain ⟨⟨s, ac⟩, hb⟩ := Option.isSome_iff_exists.mp (fromParser_isSome fs hwf)
  exact ⟨s, ac, by rw [parse_of_der fs t hd hne, Option.bind_some, hb]⟩

/-! ### `buildNative` (`AdfPipeline`) is the special case "conditions in declaration order" -/

theorem placeCompile_in_order : ∀ (fms : List Fm) (s : Store) (pre : List Nat),
    placeCompile s (pre ++ List.replicate fms.length 0) ((List.range' pre.length fms.length).zip fms) =
      compileAll fms s pre := by
  intro fms
  induction fms with
  | nil => intro s pre; simp [placeCompile, compileAll]
  | cons f fms ih =>
    intro s pre
    have := ih (compile s f).1 (pre ++ [(compile s f).2])
    simp only [List.length_append, List.length_cons, List.length_nil, Nat.zero_add] at this
    simp only [List.length_cons, List.range'_succ, List.zip_cons_cons, placeCompile, compileAll,
      List.replicate_succ]
    rw [← this]
    congr 1
    simp

theorem buildNative_eq_placeCompile (fms : List Fm) :
    buildNative fms.length fms =
      placeCompile (buildVars fms.length Store.init) (List.replicate fms.length 0) ((List.range fms.length).zip fms) := by
  have := placeCompile_in_order fms (buildVars fms.length Store.init) []
  simp only [List.nil_append, List.length_nil] at this
  rw [List.range_eq_range', this]; rfl

#print axioms fromParser_isSome_iff
#print axioms fromParser_panics
#print axioms fromParser_correct
#print axioms fromParser_handle
#print axioms fromParser_no_condition
#print axioms condOf_last_wins
#print axioms complete_stable_from_text
#print axioms built_of_text

end FromParser
