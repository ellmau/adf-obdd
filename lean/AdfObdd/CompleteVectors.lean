import AdfObdd.CompleteExact
/-! what the vectors emitted by `Adf::complete` look like (for the graphs the web service stores with
them, C16): every emitted vector is a refinement of the grounded vector — a decided entry of the
grounded vector is kept, an undecided one is kept (the handle of the grounded residual) or replaced
by a constant — and the final store extends the store after grounding. -/
open IterFull

namespace CompleteExact

theorem completeAll_vectors (s : Store) (n : Nat) (ac : List Nat) (hw : WF s) (hn : ac.length = n)
    (hv : ∀ t ∈ ac, t < s.nodes.size) :
    WF (completeAll s n ac).1 ∧ Ext (groundedLoop StoreRA (n + 1) s ac).1 (completeAll s n ac).1 ∧
    ∀ v ∈ (completeAll s n ac).2.2, isRefinement v (groundedLoop StoreRA (n + 1) s ac).2 := by
  have ⟨cw, cle, _, e⟩ := completeAll_spec s n ac hw hn hv
  refine ⟨cw, cle, fun v hm => ?_⟩
  rw [e] at hm
  exact (mem_threeValAll _ v).mp (List.mem_filter.mp hm).1

end CompleteExact
