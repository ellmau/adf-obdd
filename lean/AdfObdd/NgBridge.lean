import AdfObdd.NgBound
/-! # The machine on partial assignments is an instance of the generic machine

`toG P τ` instantiates `NGen` with `V := PA`, `dec := id`, the plain list as store and every shape predicate `True`;
`emb` embeds the states, and one iteration of `NgSearch.lean`'s machine is one iteration of the instance (`iter_emb`).
`run_exact`, `bigstep` and `NgProto.terminates` for that machine are `NGen.run_exactQ`, `NGen.bigstepN` and
`NGen.halts_within` read through `emb`. Four things differ between the two machines:

* `NGen.SInv` records that every output is two-valued, `SInv` does not: no other field of the invariant takes notice
  of the outputs' shape, so the generic invariant is proved as `SInvQ Q` and is used here at `Q := True` (`sinv_emb`);
* `GLive` contains `cl_direct`, `Live` does not (`NgProto.terminates` takes it as a hypothesis of its own): it is only used in the
  last step from the initial state, so the big-step lemma takes `GLive0` (`glive0`);
* the oracle of `Params` is indexed by the number of choices made, that of `GParams` by the iteration: the instance
  reads the former at `τ k`; the laws hold for every `τ`, and for the run from `s` one takes `τ i := timeAt P i s`;
* the outputs are consed here and appended there: `emb` reverses them. -/
namespace NgBridge
open NGen

def toG (P : Params) (τ : Nat → Nat) : GParams PA (List PA) where
  dec := id
  Ok := fun _ => True
  OkG := fun _ => True
  OkS := fun _ => True
  Mem := fun st g => g ∈ st
  add := fun st g => g :: st
  gam := P.gam
  setV := setAt
  updV := fun _ R => R
  acIncons := P.acIncons
  isTarget := P.isTarget
  twoVal := P.twoVal
  heu := fun k A => P.heu (τ k) A
  closure := P.closure

def embE (e : _root_.Entry) : NGen.Entry PA := ⟨e.choice, e.ng⟩

def emb (s : _root_.St) : NGen.St PA (List PA) :=
  { cur := s.cur, store := s.store, stack := s.stack.map embE, backtrack := s.backtrack, choice := s.choice,
    out := s.out.reverse }

def embR : _root_.Res → NGen.Res PA (List PA)
  | .cont s => .cont (emb s)
  | .done s => .done (emb s)

variable (P : Params) (τ : Nat → Nat)

theorem popLoop_emb : ∀ (stk : List _root_.Entry) (store : List PA) (cur : PA),
    NGen.popLoop (toG P τ) (stk.map embE) store cur =
      ((_root_.popLoop stk store cur).1.map embE, (_root_.popLoop stk store cur).2.1, (_root_.popLoop stk store cur).2.2)
  | [], _, _ => rfl
  | e :: rest, store, cur => by
    obtain ⟨c, g⟩ := e
    cases c with
    | none => exact popLoop_emb rest (g :: store) cur
    | some x => rfl

theorem step1_emb (k : Nat) (s : _root_.St) (hk : τ k = s.time) :
    NGen.step1 (toG P τ) k (emb s) = emb (_root_.step1 P s) := by
  unfold NGen.step1 _root_.step1
  show (if s.choice = true then _ else _) = _
  split
  · show (match P.heu (τ k) s.cur with | some (v, b) => _ | none => _) = _
    rw [hk]
    cases P.heu s.time s.cur with
    | none => rfl
    | some vb => rfl
  · rfl

theorem step3_emb (s : _root_.St) : NGen.step3 (toG P τ) (emb s) = emb (_root_.step3 s) := by
  unfold NGen.step3
  fun_cases _root_.step3 s with
  | case1 hb => exact (if_pos hb).trans (by simp only [emb, popLoop_emb]; rfl)
  | case2 hb => exact if_neg hb

theorem stepFinal_emb (s : _root_.St) (u : Bool) :
    NGen.stepFinal (toG P τ) (emb s) u = emb (_root_.stepFinal P s u) := by
  unfold NGen.stepFinal
  fun_cases _root_.stepFinal P s u with
  | case1 h1 => exact if_pos h1
  | case2 h1 _ _ h2 => exact (if_neg h1).trans (if_pos (bne_iff_ne.mp h2))
  | case3 h1 _ _ h2 h3 => exact (if_neg h1).trans <| (if_neg (mt bne_iff_ne.mpr h2)).trans (if_pos h3)
  | case4 h1 _ _ h2 h3 h4 =>
    exact (if_neg h1).trans <| (if_neg (mt bne_iff_ne.mpr h2)).trans <| (if_neg h3).trans (if_pos h4)
  | case5 h1 _ _ h2 h3 h4 h5 =>
    refine (if_neg h1).trans <| (if_neg (mt bne_iff_ne.mpr h2)).trans <| (if_neg h3).trans <| (if_neg h4).trans <|
      (if_pos h5).trans ?_
    simp only [emb, embE, List.map_cons, List.reverse_cons]; rfl
  | case6 h1 _ _ h2 h3 h4 h5 =>
    exact (if_neg h1).trans <| (if_neg (mt bne_iff_ne.mpr h2)).trans <| (if_neg h3).trans <| (if_neg h4).trans (if_neg h5)

theorem stepTail_emb (s : _root_.St) : NGen.stepTail (toG P τ) (emb s) = emb (_root_.stepTail P s) := by
  unfold NGen.stepTail _root_.stepTail
  show (match P.closure s.store s.cur with | Closure.inconsistent => _ | Closure.update r => _ | Closure.noUpdate => _) = _
  cases P.closure s.store s.cur with
  | inconsistent => rfl
  | update r => exact stepFinal_emb P τ { s with cur := r, stack := { choice := none, ng := r } :: s.stack } true
  | noUpdate => exact stepFinal_emb P τ s false

theorem iter_emb (k : Nat) (s : _root_.St) (hk : τ k = s.time) :
    NGen.iter (toG P τ) k (emb s) = embR (_root_.iter P s) := by
  unfold NGen.iter _root_.iter
  simp only [step1_emb P τ k s hk]
  have hst : (emb (_root_.step1 P s)).stack = [] ↔ (_root_.step1 P s).stack = [] := by
    simp [emb]
  by_cases hd : (_root_.step1 P s).backtrack = true ∧ (_root_.step1 P s).stack = []
  · rw [if_pos hd, if_pos ⟨hd.1, hst.mpr hd.2⟩]; rfl
  · rw [if_neg hd, if_neg (fun h => hd ⟨h.1, hst.mp h.2⟩), step3_emb, stepTail_emb]; rfl

theorem shape : Shape (toG P τ) where
  ok_gam := fun _ _ => trivial
  ok_set := fun _ _ _ _ _ _ => trivial
  ok_upd := fun _ _ _ _ _ _ => trivial
  dec_set := fun _ _ _ _ _ _ => rfl
  dec_upd := fun _ _ _ _ _ _ => rfl
  okg := fun _ _ => trivial
  oks_add := fun _ _ _ _ => trivial
  mem_add := fun _ _ _ _ _ => List.mem_cons

section safety
variable {T : Asg → Prop}

theorem gsound (hP : Sound T P) : GSound T (toG P τ) :=
  { shape P τ with
    gam_sound := fun X σ _ hT hm => hP.gam_sound X σ hT hm
    ac_sound := fun X _ h => hP.ac_sound X h
    leaf_pos := fun X _ => hP.leaf_pos X
    leaf_neg := fun X _ => hP.leaf_neg X
    heu_valid := fun k X v b _ h => hP.heu_valid (τ k) X v b h
    heu_total := fun k X _ h => hP.heu_total (τ k) X h
    cl_upd := fun st A R _ _ h σ hm ha => hP.cl_upd st A R h σ hm ha
    cl_inc := fun st A _ _ h σ hm => hP.cl_inc st A h σ hm
    cl_no := fun st A _ _ h => hP.cl_no st A h }

theorem chain_emb {U : Asg → Prop} {cur : PA} {stk : List _root_.Entry} (h : _root_.Chain U cur stk) :
    NGen.Chain (toG P τ) U cur (stk.map embE) := by
  induction h with
  | nil cur => exact NGen.Chain.nil cur
  | plain cur C rest f _ ih => exact NGen.Chain.plain cur C _ f ih
  | choice cur H v b rest f hn _ ih => exact NGen.Chain.choice cur H v b _ f hn ih

theorem nodup_rev {l : List PA} : l.reverse.Nodup ↔ l.Nodup := by
  simp only [List.Nodup, List.pairwise_reverse, ne_comm]

theorem unrep_rev {out : List PA} {σ : Asg} : Unrep T out.reverse σ ↔ Unrep T out σ := by
  simp only [Unrep, List.mem_reverse]

theorem sinv_emb {s : _root_.St} (h : _root_.SInv T P s) : NGen.SInvQ (fun _ => True) T (toG P τ) (emb s) where
  chain := (chain_emb P τ h.chain).mono fun _ u => unrep_rev.mp u
  cover := fun σ u => (h.cover σ (unrep_rev.mp u)).imp id
    fun ⟨e, he, H, v, b, hc, r⟩ => ⟨embE e, List.mem_map_of_mem he, H, v, b, hc, r⟩
  storeOK := fun σ u => h.storeOK σ (unrep_rev.mp u)
  dead := fun hb σ u => h.dead hb σ (unrep_rev.mp u)
  outT := fun o ho => h.outT o (List.mem_reverse.mp ho)
  outNodup := nodup_rev.mpr h.outNodup
  outQ := fun _ _ => trivial
  outStored := fun o ho => (h.outStored o (List.mem_reverse.mp ho)).imp id
    fun ⟨hb, e, rest, hs, he⟩ => ⟨hb, embE e, rest.map embE, by simp [emb, hs], he⟩
  choiceOK := h.choiceOK
  okc := trivial
  oks := trivial
  okstk := fun _ _ => ⟨trivial, fun _ _ _ _ => trivial⟩

end safety

/-- the choice counter after `i` iterations from `s` -/
def timeAt (P : Params) : Nat → _root_.St → Nat
  | 0, s => s.time
  | i+1, s => match _root_.iter P s with
    | .cont s' => timeAt P i s'
    | .done s' => s'.time

theorem run_emb : ∀ (fuel k : Nat) (s : _root_.St), (∀ i, τ (k + i) = timeAt P i s) →
    NGen.run (toG P τ) k fuel (emb s) = (_root_.run P fuel s).map emb := by
  intro fuel
  induction fuel with
  | zero => intro k s _; rfl
  | succ f ih =>
    intro k s hτ
    unfold NGen.run _root_.run
    rw [iter_emb P τ k s (hτ 0)]
    cases hi : _root_.iter P s with
    | done s1 => rfl
    | cont s1 =>
      refine ih (k+1) s1 fun i => ?_
      have := hτ (i+1)
      rw [timeAt, hi] at this
      simp only at this
      rw [← this]; congr 1; omega

section liveness
variable {n : Nat} {mu : PA → Nat}

theorem glive0 (hL : Live P n mu) : GLive0 (toG P τ) n mu :=
  { shape P τ with
    heu_valid := fun k X v b _ h => hL.heu_valid (τ k) X v b h
    heu_total := fun k X _ h => hL.heu_total (τ k) X h
    gam_sub := fun X _ => hL.gam_sub X
    gam_grow := fun X _ h => hL.gam_grow X h
    gam_idem := fun _ _ h => congrArg P.gam h
    upd_sub := fun st A R _ _ h => hL.upd_sub st A R h
    mu_le := fun A _ => hL.mu_le A
    cl_flip := fun st H v b _ _ _ hn hm hc => hL.cl_flip st H v b hn hm hc }

theorem iterN_emb : ∀ (j k : Nat) (s : _root_.St), (∀ i, τ (k + i) = timeAt P i s) →
    NGen.iterN (toG P τ) k j (emb s) = (_root_.iterN P j s).map emb := by
  intro j
  induction j with
  | zero => intro k s _; rfl
  | succ j ih =>
    intro k s hτ
    unfold NGen.iterN _root_.iterN
    rw [iter_emb P τ k s (hτ 0)]
    cases hi : _root_.iter P s with
    | done s1 => rfl
    | cont s1 =>
      refine ih (k+1) s1 fun i => ?_
      have := hτ (i+1)
      rw [timeAt, hi] at this
      simp only at this
      rw [← this]; congr 1; omega

theorem embE_inj : ∀ x y, embE x = embE y → x = y := by
  intro ⟨c, g⟩ ⟨c', g'⟩ h
  cases h; rfl

end liveness

end NgBridge

section
variable {T : Asg → Prop} {P : Params}

/-- C05, safety half: if the search halts (with any fuel), it has emitted exactly the target
models, each once. Holds for every heuristic that proposes undecided statements. -/
theorem run_exact (hP : Sound T P) : ∀ (fuel : Nat) (s s' : St), SInv T P s → run P fuel s = some s' →
    (∀ σ, T σ → ∃ o ∈ s'.out, Matches o σ) ∧ (∀ o ∈ s'.out, ∀ σ, Matches o σ → T σ) ∧ s'.out.Nodup := by
  intro fuel s s' h hr
  have hrun : NGen.run (NgBridge.toG P fun i => NgBridge.timeAt P i s) 0 fuel (NgBridge.emb s) = some (NgBridge.emb s') := by
    rw [NgBridge.run_emb P _ fuel 0 s (fun i => by rw [Nat.zero_add]), hr]; rfl
  have ⟨a, b, c, _⟩ := NGen.run_exactQ (NgBridge.gsound P _ hP) (fun _ _ _ => trivial) fuel 0 _ _
    (NgBridge.sinv_emb P _ h) hrun
  exact ⟨fun σ hT => let ⟨o, ho, m⟩ := a σ hT; ⟨o, List.mem_reverse.mp ho, m⟩,
    fun o ho => b o (List.mem_reverse.mpr ho), NgBridge.nodup_rev.mp c⟩
end
#print axioms run_exact

section
variable {P : Params} {n : Nat} {mu : PA → Nat}

/-- the big-step lemma: exploring the subtree below any live state comes back -/
theorem bigstep (hL : Live P n mu) : ∀ (d : Nat) (s : St), LInv P s → n - mu s.cur ≤ d →
    ReachB P s s.cur s.stack s.store := by
  intro d s li hd
  obtain ⟨j, a, -, hk, b1, b2, ⟨extra, hst, hpl⟩, hs, hc, -, -⟩ :=
    NGen.bigstepN (NgBridge.glive0 P (fun i => NgBridge.timeAt P i s) hL) d 0 (NgBridge.emb s)
      ⟨li.nb, li.w, li.ch, trivial, trivial⟩ (show n ≤ mu s.cur + d by omega)
  rw [NgBridge.iterN_emb P _ j 0 s (fun i => by rw [Nat.zero_add])] at hk
  obtain ⟨s', hk', rfl⟩ := Option.map_eq_some_iff.mp hk
  -- the stack of the state reached is `extra ++ s.stack` under `map embE`, hence before it
  obtain ⟨l1, l2, e, rfl, e2⟩ := List.map_eq_append_iff.mp hst
  rw [(List.map_inj_right NgBridge.embE_inj).mp e2] at e
  exact ⟨j, s', hk', b1, b2,
    ⟨l1, e, fun x hx => have h := hpl (NgBridge.embE x) (List.mem_map_of_mem hx); ⟨h.1, h.2.1, h.2.2.1⟩⟩, hs, hc⟩
#print axioms bigstep
end
