import AdfObdd.Spec.Adf
import AdfObdd.TTSpec
import AdfObdd.Stable
import AdfObdd.PreGround2
/-! The executable specification of the ADF semantics (`Spec/Adf.lean`, the test oracle the
    driver runs) coincides with the `Prop`-level definitions the theorems are stated in
    (`Gam`, `IsLfp`, `TotalI`, `redu` of `Lfp.lean` / `Stable.lean`).

    Setting: the acceptance conditions `D : List BoolFn` are given to the oracle as truth tables
    `tts : List Nat` over `n` variables; `Reps n tts D` says that the two lists have the same
    length, that table `i` represents function `i` (`TT.Rep`) and that every function looks at the
    variables `< n` only (`TT.DetBy`). Under that hypothesis

    * `Spec.gamma n tts w = Gam D w` for every `w` (no length condition needed),
    * `Spec.completeAll` lists exactly the fixpoints of length `n`, each once,
    * `Spec.grounded` is the least fixpoint (`D.length = n`),
    * `Spec.models2` lists exactly the total fixpoints of length `n`, each once,
    * `Spec.reduct` represents `redu`, and `Spec.stableAll` lists exactly the stable models,
      each once.

    (This file imports `TTSpec`, hence `Mathlib.Tactic.Ring` transitively; the driver does not
    import it.) -/
namespace SpecSound
open TT (Rep DetBy bitsAsg numOf)

structure Reps (n : Nat) (tts : List Nat) (D : List BoolFn) : Prop where
  len : tts.length = D.length
  rep : ∀ (i tt : Nat) (f : BoolFn), tts[i]? = some tt → D[i]? = some f → Rep n tt f
  det : ∀ (i : Nat) (f : BoolFn), D[i]? = some f → DetBy n f

theorem Reps.nil (n : Nat) : Reps n [] [] :=
  ⟨rfl, fun i tt f h _ => by simp at h, fun i f h => by simp at h⟩

theorem Reps.cons {n tt : Nat} {f : BoolFn} {tts : List Nat} {D : List BoolFn}
    (hr : Rep n tt f) (hd : DetBy n f) (h : Reps n tts D) : Reps n (tt :: tts) (f :: D) := by
  refine ⟨congrArg (· + 1) h.len, fun i tt' f' ht hf => ?_, fun i f' hf => ?_⟩
  · cases i with
    | zero => cases ht; cases hf; exact hr
    | succ i => exact h.rep i tt' f' ht hf
  · cases i with
    | zero => cases hf; exact hd
    | succ i => exact h.det i f' hf

theorem reps_ofFn (n : Nat) (D : List BoolFn) (hd : ∀ f, f ∈ D → DetBy n f) :
    Reps n (D.map (fun f => TT.ofFn n (fun a => f (bitsAsg a)))) D := by
  refine ⟨by simp, ?_, ?_⟩
  · intro i tt f ht hf
    simp only [List.getElem?_map, hf, Option.map_some, Option.some.injEq] at ht
    subst ht
    exact TT.rep_ofFn n f
  · intro i f hf
    exact hd f (List.mem_of_getElem? hf)

theorem getD_eq_some (w : I3) (i : Nat) (b : Bool) :
    w.getD i none = some b ↔ w[i]? = some (some b) := by
  rw [List.getD_eq_getElem?_getD]
  cases h : w[i]? with
  | none => simp
  | some x => simp

theorem mem_completions (n : Nat) (w : I3) (a : Nat) :
    a ∈ Spec.completions n w ↔
      a < 2 ^ n ∧ ∀ i, i < n → ∀ b, w[i]? = some (some b) → a.testBit i = b := by
  unfold Spec.completions
  rw [List.mem_filter, List.mem_range, List.all_eq_true]
  apply and_congr_right
  intro _
  constructor
  · intro h i hi b hb
    have := h i (List.mem_range.mpr hi)
    rw [(getD_eq_some w i b).mpr hb] at this
    simpa using this
  · intro h i hi
    have hi' := List.mem_range.mp hi
    cases hg : w.getD i none with
    | none => rfl
    | some b =>
      have := h i hi' b ((getD_eq_some w i b).mp hg)
      simp [this]

theorem all_completions_iff {n tt : Nat} {f : BoolFn} (hr : Rep n tt f) (hd : DetBy n f)
    (w : I3) (b : Bool) :
    (∀ a, a ∈ Spec.completions n w → tt.testBit a = b) ↔ ∀ σ, f (over σ 0 w) = b := by
  constructor
  · intro h σ
    have ha : numOf n (over σ 0 w) ∈ Spec.completions n w := by
      rw [mem_completions]
      refine ⟨TT.numOf_lt _ _, ?_⟩
      intro i hi c hc
      rw [TT.numOf_testBit]
      simp [hi, agree_over σ w i c hc]
    have := h _ ha
    rw [hr] at this
    simp only [TT.numOf_lt, decide_true, Bool.true_and] at this
    rw [← this]
    apply hd
    intro x hx
    exact (TT.bitsAsg_numOf n _ x hx).symm
  · intro h a ha
    rw [mem_completions] at ha
    rw [hr a]
    simp only [ha.1, decide_true, Bool.true_and]
    rw [← h (bitsAsg a)]
    apply hd
    intro x hx
    rw [over_zero_apply]
    cases hx' : w[x]? with
    | none => rfl
    | some o =>
      cases o with
      | none => rfl
      | some c => exact ha.2 x hx c hx'

theorem mem_allI3 : ∀ (n : Nat) (w : I3), w ∈ Spec.allI3 n ↔ w.length = n
  | 0, w => by simp [Spec.allI3]
  | n+1, w => by
    simp only [Spec.allI3, List.mem_flatMap, List.mem_cons, List.not_mem_nil, or_false]
    constructor
    · rintro ⟨w', hw', h | h | h⟩ <;> (subst h; simp [(mem_allI3 n w').mp hw'])
    · intro hl
      rcases List.eq_nil_or_concat w with h | ⟨w', x, h⟩
      · subst h; simp at hl
      · subst h
        rw [List.concat_eq_append] at *
        have hl' : w'.length = n := by simpa using hl
        refine ⟨w', (mem_allI3 n w').mpr hl', ?_⟩
        cases x with
        | none => left; rfl
        | some b =>
          cases b with
          | true => right; left; rfl
          | false => right; right; rfl

theorem nodup_allI3 : ∀ n, (Spec.allI3 n).Nodup
  | 0 => by simp [Spec.allI3]
  | n+1 => by
    unfold Spec.allI3 List.Nodup
    rw [List.pairwise_flatMap]
    refine ⟨?_, ?_⟩
    · intro w _
      simp
    · apply List.Pairwise.imp _ (nodup_allI3 n)
      intro a b hab x hx y hy hxy
      apply hab
      simp only [List.mem_cons, List.not_mem_nil, or_false] at hx hy
      subst hxy
      rcases hx with h | h | h <;> rcases hy with h' | h' | h' <;>
        exact (List.append_inj' (h.symm.trans h') rfl).1

theorem Le3_bot (n : Nat) (w : I3) : Le3 (List.replicate n none) w := by
  intro i b h
  rw [List.getElem?_replicate] at h
  split at h <;> simp at h

theorem isTotal_iff (w : I3) : Spec.isTotal w = true ↔ TotalI w := all_isSome_iff_total w

theorem foldl_clear_testBit (P : Nat → Bool) : ∀ (l : List Nat) (a j : Nat),
    (l.foldl (fun acc i => if P i then (if acc.testBit i then acc - (1 <<< i) else acc) else acc) a).testBit j
      = (if j ∈ l ∧ P j = true then false else a.testBit j) := by
  intro l
  induction l with
  | nil => intro a j; simp
  | cons x l ih =>
    intro a j
    rw [List.foldl_cons, ih]
    have hstep : (if P x then (if a.testBit x then a - (1 <<< x) else a) else a).testBit j =
        (if j = x ∧ P x = true then false else a.testBit j) := by
      by_cases hp : P x = true
      · rw [if_pos hp]
        have := TT.forceBit_testBit a x false j
        unfold TT.forceBit at this
        simp only [Bool.false_eq_true, if_false] at this
        rw [this]
        by_cases hj : j = x <;> simp [hj, hp]
      · rw [if_neg hp]; simp [hp]
    rw [hstep]
    by_cases hj : j = x
    · subst hj; by_cases hp : P j = true <;> simp [hp]
    · by_cases hm : j ∈ l <;> by_cases hp : P j = true <;> simp [hj, hm, hp]

/-- the index `Spec.reduct` reads: `a` with the bits of `v`'s false statements cleared -/
def clr (n : Nat) (v : I3) (a : Nat) : Nat :=
  (List.range n).foldl (fun acc i =>
    if v.getD i none == some false then (if acc.testBit i then acc - (1 <<< i) else acc) else acc) a

theorem reduct_eq (n : Nat) (tts : List Nat) (v : I3) :
    Spec.reduct n tts v = tts.map (fun tt => TT.ofFn n (fun a => tt.testBit (clr n v a))) := rfl

theorem clr_testBit (n : Nat) (v : I3) (a j : Nat) :
    (clr n v a).testBit j = (if j < n ∧ v[j]? = some (some false) then false else a.testBit j) := by
  unfold clr
  rw [foldl_clear_testBit (fun i => v.getD i none == some false)]
  simp only [List.mem_range, beq_iff_eq, getD_eq_some]

theorem clr_lt {n : Nat} (v : I3) {a : Nat} (ha : a < 2 ^ n) : clr n v a < 2 ^ n := by
  apply Nat.lt_pow_two_of_testBit
  intro i hi
  rw [clr_testBit, if_neg (by omega)]
  exact Nat.testBit_lt_two_pow (Nat.lt_of_lt_of_le ha (Nat.pow_le_pow_right (by decide) hi))

theorem over_falsePart (σ : Asg) (v : I3) (x : Nat) :
    over σ 0 (falsePart v) x = (if v[x]? = some (some false) then false else σ x) := by
  rw [over_zero_apply, falsePart_get]
  cases hv : v[x]? with
  | none => simp
  | some o =>
    cases o with
    | none => simp
    | some b => cases b <;> simp

theorem rep_reduct_entry {n tt : Nat} {f : BoolFn} (hr : Rep n tt f) (hd : DetBy n f) (v : I3) :
    Rep n (TT.ofFn n (fun a => tt.testBit (clr n v a))) (fun σ => f (over σ 0 (falsePart v))) := by
  intro a
  rw [TT.ofFn_testBit]
  by_cases ha : a < 2 ^ n
  · simp only [ha, decide_true, Bool.true_and]
    rw [hr (clr n v a)]
    simp only [clr_lt v ha, decide_true, Bool.true_and]
    apply hd
    intro x hx
    rw [over_falsePart]
    simp only [bitsAsg, clr_testBit, hx, true_and]
  · simp [ha]

theorem detBy_redu {n : Nat} {f : BoolFn} (hd : DetBy n f) (v : I3) :
    DetBy n (fun σ => f (over σ 0 (falsePart v))) := by
  intro σ σ' hag
  apply hd
  intro x hx
  rw [over_falsePart, over_falsePart, hag x hx]

theorem reps_reduct {n : Nat} {tts : List Nat} {D : List BoolFn} (h : Reps n tts D) (v : I3) :
    Reps n (Spec.reduct n tts v) (redu D v) := by
  refine ⟨by simp [Spec.reduct, redu, h.len], ?_, ?_⟩
  · intro i tt f ht hf
    rw [reduct_eq, List.getElem?_map] at ht
    rw [redu_get] at hf
    obtain ⟨tt0, ht0, rfl⟩ := Option.map_eq_some_iff.mp ht
    obtain ⟨f0, hf0, rfl⟩ := Option.map_eq_some_iff.mp hf
    exact rep_reduct_entry (h.rep i tt0 f0 ht0 hf0) (h.det i f0 hf0) v
  · intro i f hf
    rw [redu_get] at hf
    obtain ⟨f0, hf0, rfl⟩ := Option.map_eq_some_iff.mp hf
    exact detBy_redu (h.det i f0 hf0) v

variable {n : Nat} {tts : List Nat} {D : List BoolFn}

theorem gamma_eq_Gam (h : Reps n tts D) (w : I3) : Spec.gamma n tts w = Gam D w := by
  apply List.ext_getElem (by rw [Spec.gamma, Gam, List.length_map, List.length_map, h.len])
  intro i h1 h2
  rw [Spec.gamma, List.length_map] at h1
  rw [Gam_length] at h2
  simp only [Spec.gamma, Gam, List.getElem_map]
  have hr := h.rep i _ _ (List.getElem?_eq_getElem h1) (List.getElem?_eq_getElem h2)
  have hd := h.det i _ (List.getElem?_eq_getElem h2)
  refine ite_eq_constOf ?_ ?_
  · rw [List.all_eq_true]; exact all_completions_iff hr hd w true
  · rw [List.all_eq_true, ← all_completions_iff hr hd w false]; simp

theorem completeAll_spec (h : Reps n tts D) (w : I3) :
    w ∈ Spec.completeAll n tts ↔ w.length = n ∧ Gam D w = w := by
  unfold Spec.completeAll Spec.isComplete
  rw [List.mem_filter, mem_allI3, beq_iff_eq, gamma_eq_Gam h]

theorem completeAll_nodup (n : Nat) (tts : List Nat) : (Spec.completeAll n tts).Nodup :=
  List.Pairwise.filter _ (nodup_allI3 n)

theorem groundedFrom_spec (h : Reps n tts D) (hn : D.length = n) : ∀ (fuel : Nat) (w : I3),
    w.length = n → Le3 w (Gam D w) → (∀ w', Gam D w' = w' → Le3 w w') → n - countSome w < fuel →
    IsLfp D (Spec.groundedFrom n tts fuel w) := by
  intro fuel
  induction fuel with
  | zero => intro w _ _ _ hf; omega
  | succ fuel ih =>
    intro w hl hle hleast hf
    simp only [Spec.groundedFrom, gamma_eq_Gam h]
    by_cases e : Gam D w = w
    · rw [if_pos (beq_iff_eq.mpr e)]
      exact ⟨e, hleast⟩
    · rw [if_neg (fun hc => e (beq_iff_eq.mp hc))]
      have hlen : w.length = (Gam D w).length := by rw [Gam_length, hn, hl]
      apply ih (Gam D w) (by rw [Gam_length, hn]) (Gam_mono D hle)
      · intro w' hw'
        have := Gam_mono D (hleast w' hw')
        rwa [hw'] at this
      · exact undecided_drop (by rw [Gam_length, hn]) (countSome_lt_of_ne hlen hle e) hf

theorem grounded_spec (h : Reps n tts D) (hn : D.length = n) : IsLfp D (Spec.grounded n tts) := by
  unfold Spec.grounded
  apply groundedFrom_spec h hn
  · simp
  · exact Le3_bot n _
  · intro w' _; exact Le3_bot n _
  · omega

theorem grounded_length (h : Reps n tts D) (hn : D.length = n) : (Spec.grounded n tts).length = n := by
  rw [fix_length (grounded_spec h hn).1, hn]

theorem models2_spec (h : Reps n tts D) (v : I3) :
    v ∈ Spec.models2 n tts ↔ v.length = n ∧ TotalI v ∧ Gam D v = v := by
  unfold Spec.models2
  rw [List.mem_filter, completeAll_spec h, isTotal_iff]
  constructor
  · rintro ⟨⟨a, b⟩, c⟩; exact ⟨a, c, b⟩
  · rintro ⟨a, c, b⟩; exact ⟨⟨a, b⟩, c⟩

theorem models2_nodup (n : Nat) (tts : List Nat) : (Spec.models2 n tts).Nodup :=
  List.Pairwise.filter _ (completeAll_nodup n tts)

/-- the last conjunct of `Spec.isStable` on a two-valued model: the true statements are re-derived in
the least fixpoint of the reduct, which `Spec.grounded` computes -/
theorem isStable_iff (h : Reps n tts D) {v : I3} (hl : v.length = n) (ht : TotalI v) (hfx : Gam D v = v) :
    Spec.isStable n tts v = true ↔
      ∀ w : I3, IsLfp (redu D v) w → ∀ i : Nat, v[i]? = some (some true) → w[i]? = some (some true) := by
  have hn : D.length = n := by rw [← fix_length hfx, hl]
  have hg : IsLfp (redu D v) (Spec.grounded n (Spec.reduct n tts v)) :=
    grounded_spec (reps_reduct h v) (by simp [redu, hn])
  have hc : Spec.isComplete n tts v = true := by
    unfold Spec.isComplete
    rw [beq_iff_eq, gamma_eq_Gam h]; exact hfx
  simp only [Spec.isStable, (isTotal_iff v).mpr ht, hc, Bool.and_self, Bool.true_and, List.all_eq_true,
    List.mem_range, Bool.or_eq_true, bne_iff_ne, beq_iff_eq, ne_eq, getD_eq_some]
  constructor
  · intro hs w hw i hi
    rw [hw.unique hg]
    exact (hs i (hl ▸ lt_length_of_get? hi)).resolve_left fun hne => hne hi
  · intro hall i _
    exact (Decidable.em (v[i]? = some (some true))).symm.imp_right (hall _ hg i)

theorem stable_spec (h : Reps n tts D) (v : I3) :
    v ∈ Spec.stableAll n tts ↔ v.length = n ∧ TotalI v ∧ Gam D v = v ∧
      ∀ w : I3, IsLfp (redu D v) w → ∀ i : Nat, v[i]? = some (some true) → w[i]? = some (some true) := by
  unfold Spec.stableAll
  rw [List.mem_filter, models2_spec h]
  constructor
  · rintro ⟨⟨hl, ht, hfx⟩, hs⟩
    exact ⟨hl, ht, hfx, (isStable_iff h hl ht hfx).mp hs⟩
  · rintro ⟨hl, ht, hfx, hall⟩
    exact ⟨⟨hl, ht, hfx⟩, (isStable_iff h hl ht hfx).mpr hall⟩

theorem stableAll_nodup (n : Nat) (tts : List Nat) : (Spec.stableAll n tts).Nodup :=
  List.Pairwise.filter _ (models2_nodup n tts)

/-! ### non-vacuity: mutual support `a ↔ b`, i.e. `ac(a) = b`, `ac(b) = a` -/

def exD : List BoolFn := [fun σ => σ 1, fun σ => σ 0]
def exT : List Nat := [TT.var 2 1, TT.var 2 0]

theorem exReps : Reps 2 exT exD :=
  Reps.cons (TT.rep_var 2 1) (fun _ _ h => h 1 (by decide))
    (Reps.cons (TT.rep_var 2 0) (fun _ _ h => h 0 (by decide)) (Reps.nil 2))

example : Gam exD [some true, none] = [none, some true] := by
  rw [← gamma_eq_Gam exReps]; decide

/-- the two executable enumerations on the example, evaluated once -/
theorem exT_complete :
    Spec.completeAll 2 exT = [[none, none], [some true, some true], [some false, some false]] := by decide
theorem exT_stable : Spec.stableAll 2 exT = [[some false, some false]] := by decide

example : Spec.completeAll 2 exT = [[none, none], [some true, some true], [some false, some false]] :=
  exT_complete
example : Gam exD [some true, some true] = [some true, some true] :=
  ((completeAll_spec exReps _).mp (by rw [exT_complete]; decide)).2
example : Gam exD [some true, some false] ≠ [some true, some false] :=
  fun hc => absurd ((completeAll_spec exReps _).mpr ⟨rfl, hc⟩) (by rw [exT_complete]; decide)

example : IsLfp exD [none, none] := by
  have := grounded_spec exReps rfl
  rwa [show Spec.grounded 2 exT = [none, none] by decide] at this

example : Spec.models2 2 exT = [[some true, some true], [some false, some false]] := by
  rw [Spec.models2, exT_complete]; decide
example : Spec.stableAll 2 exT = [[some false, some false]] := exT_stable
/-- `[F, F]` meets the `Prop`-level stability condition, `[T, T]` (a two-valued model) does not -/
example : ∀ w : I3, IsLfp (redu exD [some false, some false]) w →
    ∀ i : Nat, [some false, some false][i]? = some (some true) → w[i]? = some (some true) :=
  ((stable_spec exReps _).mp (by rw [exT_stable]; decide)).2.2.2
example : ¬ ∀ w : I3, IsLfp (redu exD [some true, some true]) w →
    ∀ i : Nat, [some true, some true][i]? = some (some true) → w[i]? = some (some true) := by
  intro hall
  have : [some true, some true] ∈ Spec.stableAll 2 exT :=
    (stable_spec exReps _).mpr ⟨rfl, (isTotal_iff _).mp (by decide),
      ((completeAll_spec exReps _).mp (by rw [exT_complete]; decide)).2, hall⟩
  rw [exT_stable] at this
  revert this
  decide

end SpecSound

#print axioms SpecSound.gamma_eq_Gam
#print axioms SpecSound.completeAll_spec
#print axioms SpecSound.completeAll_nodup
#print axioms SpecSound.grounded_spec
#print axioms SpecSound.models2_spec
#print axioms SpecSound.models2_nodup
#print axioms SpecSound.reps_reduct
#print axioms SpecSound.stable_spec
#print axioms SpecSound.stableAll_nodup
