import AdfObdd.SortModel
import AdfObdd.FromParserProofs
import AdfObdd.EquivarMore
/-! proofs about the sorting functions of the parser object (`SortModel`): the regenerated
    dictionary, the renumbering between two name lists as a `Renamed` re-presentation, `from_parser`
    on two parser objects that present one labelled framework (`same_framework_renamed`: re-sorting,
    permutation of the facts), label maps, consistent renaming, byte order. -/
namespace SortModel
open ParserM FromParser

theorem dictGet_regenFrom : ∀ (ls : List Label) (k : Nat) (d : List (Label × Nat)) (l : Label), ls.Nodup →
    dictGet (regenFrom k ls d) l =
      match indexOf ls l with
      | some i => some (k + i)
      | none => dictGet d l := by
  intro ls k d l nd
  fun_induction regenFrom k ls d with
  | case1 => simp [indexOf]
  | case2 k x xs d ih =>
    have ⟨hx, nd'⟩ := List.nodup_cons.mp nd
    rw [ih nd']
    simp only [indexOf, dictGet]
    by_cases e : x = l
    · subst e
      rw [(indexOf_eq_none_iff xs x).mpr hx]
      simp
    · simp only [if_neg e]
      cases indexOf xs l with
      | none => simp
      | some i => simp only [Option.map_some, Option.some.injEq]; omega

theorem dictSize_regenFrom : ∀ (ls : List Label) (k : Nat) (d : List (Label × Nat)),
    (∀ l ∈ ls, (dictGet d l).isSome = true) → dictSize (regenFrom k ls d) = dictSize d := by
  intro ls k d h
  fun_induction regenFrom k ls d with
  | case1 => rfl
  | case2 k x xs d ih =>
    rw [ih]
    · simp [dictSize, h x (by simp)]
    · intro l hl
      simp only [dictGet]
      by_cases e : x = l
      · simp [e]
      · simp [e, h l (by simp [hl])]

/-- `dict` after the two sorting functions: the position map of the new name list, and `dict_size()`
is unchanged -/
theorem presents_resort {st : PState} {names : List Label} {acs : List (Label × Fml)}
    (h : Presents st names acs) (ns' : List Label) (hp : ns'.Perm names) :
    Presents (st.resort ns') ns' acs := by
  have nd' : ns'.Nodup := hp.nodup_iff.mpr h.nodup
  refine ⟨?_, ?_, h.fname, h.fml, nd'⟩
  · intro l
    show dictGet (regenFrom 0 ns' st.dict) l = indexOf ns' l
    rw [dictGet_regenFrom ns' 0 st.dict l nd']
    cases hi : indexOf ns' l with
    | some i => simp
    | none => simp only []; rw [h.dict l, indexOf_none_of_perm hp hi]
  · show dictSize (regenFrom 0 ns' st.dict) = ns'.length
    rw [dictSize_regenFrom, hp.length_eq]
    · exact h.size
    · intro l hl
      rw [h.dict l, indexOf_isSome]
      simpa using hp.mem_iff.mp hl

theorem dictGet_resort (fs : List Fact) (ns' : List Label) (hp : ns'.Perm (namesOf fs)) (l : Label) :
    dictGet ((PState.ofFacts fs).resort ns').dict l = indexOf ns' l :=
  (presents_resort (presents_ofFacts fs) ns' hp).dict l

section reindex
variable {xs ys : List Label}

theorem reindex_of_get (hp : xs.Perm ys) {i : Nat} {l : Label} (h : xs[i]? = some l) :
    indexOf ys l = some (reindex xs ys i) := by
  cases hj : indexOf ys l with
  | none => exact absurd (hp.mem_iff.mp (List.mem_of_getElem? h)) ((indexOf_eq_none_iff ys l).mp hj)
  | some j => simp [reindex, h, hj]

theorem reindex_outside {i : Nat} (h : xs.length ≤ i) : reindex xs ys i = i := by
  simp [reindex, List.getElem?_eq_none h]

theorem reindex_get (hp : xs.Perm ys) {i : Nat} {l : Label} (h : xs[i]? = some l) :
    ys[reindex xs ys i]? = some l := indexOf_get ys l _ (reindex_of_get hp h)

theorem reindex_lt (hp : xs.Perm ys) {i : Nat} (h : i < xs.length) :
    reindex xs ys i < xs.length := by
  have := reindex_of_get hp (List.getElem?_eq_getElem h)
  rw [hp.length_eq]
  exact indexOf_lt _ _ _ this

theorem reindex_lt' (hp : xs.Perm ys) {j : Nat} (h : j < xs.length) :
    reindex ys xs j < xs.length := by
  rw [hp.length_eq] at h ⊢
  exact reindex_lt hp.symm h

theorem reindex_inv (nd : xs.Nodup) (hp : xs.Perm ys) (k : Nat) : reindex ys xs (reindex xs ys k) = k := by
  rcases Nat.lt_or_ge k xs.length with hk | hk
  · have h1 := reindex_get hp (List.getElem?_eq_getElem hk)
    have h2 := reindex_of_get hp.symm h1
    have h3 := indexOf_of_get xs nd _ k (List.getElem?_eq_getElem hk)
    rw [h3] at h2
    exact (Option.some.inj h2).symm
  · rw [reindex_outside hk, reindex_outside (by rw [← hp.length_eq]; exact hk)]

theorem reindex_indexOf (hp : xs.Perm ys) {a : Label} {k : Nat} (h : indexOf xs a = some k) :
    indexOf ys a = some (reindex xs ys k) := reindex_of_get hp (indexOf_get xs a k h)

/-- **the renumbering is a re-presentation**: the conditions `c`, numbered by `xs` and numbered by any
permutation `ys` of `xs`, are `Renamed` through `reindex xs ys` (old index ↦ new index) with inverse
`reindex ys xs` -/
theorem renamed_condFnsOn (nd : xs.Nodup) (hp : xs.Perm ys) (c : Label → Fml) :
    Renamed (reindex xs ys) (reindex ys xs) (condFnsOn xs c) (condFnsOn ys c) := by
  have nd' : ys.Nodup := hp.nodup_iff.mp nd
  have hl : (condFnsOn xs c).length = xs.length := by simp [condFnsOn]
  refine ⟨reindex_inv nd hp, reindex_inv nd' hp.symm, by simp [condFnsOn, hp.length_eq], ?_, ?_, ?_⟩
  · intro i hi; rw [hl] at hi ⊢; exact reindex_lt hp hi
  · intro j hj; rw [hl] at hj ⊢; exact reindex_lt' hp hj
  · intro i f hf
    unfold condFnsOn at hf ⊢
    rw [List.getElem?_map] at hf ⊢
    obtain ⟨l, hx, rfl⟩ := Option.map_eq_some_iff.mp hf
    rw [reindex_get hp hx]
    simp only [Option.map_some, Option.some.injEq]
    funext σ'
    congr 1
    funext a
    unfold labelAsg
    cases ha : indexOf xs a with
    | some k => rw [reindex_indexOf hp ha]
    | none => rw [indexOf_none_of_perm hp ha]

end reindex

/-- **two presentations of one labelled framework**: any two parser objects whose name lists are
permutations of each other and in which the same condition counts for every label (the last one
written, ⊥ without one) are both built, and their conditions are re-presentations of each other
under the renumbering between the name lists. Sorting and reordering of the facts are instances. -/
theorem same_framework_renamed {st st' : PState} {ns ns' : List Label} {acs acs' : List (Label × Fml)}
    (hP : Presents st ns acs) (hP' : Presents st' ns' acs') (hp : ns.Perm ns')
    (hc : ∀ l, (lastCond acs l).getD .bot = (lastCond acs' l).getD .bot)
    (hwf : ∀ lf ∈ acs, lf.1 ∈ ns ∧ ∀ a ∈ atomsOf lf.2, a ∈ ns)
    (hwf' : ∀ lf ∈ acs', lf.1 ∈ ns' ∧ ∀ a ∈ atomsOf lf.2, a ∈ ns') (hn : ns.length ≤ VBOT) :
    ∃ s ac s' ac', fromParser st = some (s, ac) ∧ fromParser st' = some (s', ac') ∧
      (WF s ∧ ac.length = ns.length ∧ ∀ t ∈ ac, t < s.nodes.size) ∧
      (WF s' ∧ ac'.length = ns.length ∧ ∀ t ∈ ac', t < s'.nodes.size) ∧
      ac.map (eval s) = condFnsOn ns (fun l => (lastCond acs l).getD .bot) ∧
      ac'.map (eval s') = condFnsOn ns' (fun l => (lastCond acs l).getD .bot) ∧
      Renamed (reindex ns ns') (reindex ns' ns) (ac.map (eval s)) (ac'.map (eval s')) := by
  obtain ⟨⟨s, ac⟩, h⟩ := Option.isSome_iff_exists.mp ((fromParser_presents_isSome_iff hP).mpr hwf)
  obtain ⟨⟨s', ac'⟩, h'⟩ := Option.isSome_iff_exists.mp ((fromParser_presents_isSome_iff hP').mpr hwf')
  obtain ⟨w, l, v, d⟩ := fromParser_presents_correct hP s ac h hn
  obtain ⟨w', l', v', d'⟩ := fromParser_presents_correct hP' s' ac' h' (by rw [← hp.length_eq]; exact hn)
  rw [← funext hc] at d'
  refine ⟨s, ac, s', ac', h, h', ⟨w, l, v⟩, ⟨w', by rw [l', hp.length_eq], v'⟩, d, d', ?_⟩
  rw [d, d']
  exact renamed_condFnsOn hP.nodup hp _

theorem labelled_of_renamedI {xs ys : List Label} (hp : xs.Perm ys) {v v' : I3}
    (h : RenamedI (reindex xs ys) xs.length v v') : labelled xs v = labelled ys v' := by
  funext l
  unfold labelled
  cases hi : indexOf xs l with
  | some i =>
    rw [reindex_indexOf hp hi]
    simp only [Option.bind_some]
    exact (h.2.2 i (indexOf_lt _ _ _ hi)).symm
  | none => rw [indexOf_none_of_perm hp hi]; rfl

theorem label_maps_of_corr {xs ys : List Label} (nd : xs.Nodup) (hp : xs.Perm ys) (P P' : I3 → Prop)
    (hl : ∀ v, P v → v.length = xs.length) (hl' : ∀ v', P' v' → v'.length = xs.length)
    (hc : ∀ v v', RenamedI (reindex xs ys) xs.length v v' → (P v ↔ P' v'))
    (m : Label → Option (Option Bool)) :
    (∃ v, P v ∧ labelled xs v = m) ↔ (∃ v', P' v' ∧ labelled ys v' = m) := by
  constructor
  · rintro ⟨v, hv, rfl⟩
    have hr := RenamedI.symm (reindex_inv nd hp) (fun _ hj => reindex_lt hp hj)
      (EquivarMore.pull_spec (reindex ys xs) xs.length v (hl v hv) (fun _ hi => reindex_lt' hp hi))
    exact ⟨_, (hc v _ hr).mp hv, (labelled_of_renamedI hp hr).symm⟩
  · rintro ⟨v', hv', rfl⟩
    have hr := EquivarMore.pull_spec (reindex xs ys) xs.length v' (hl' v' hv') (fun _ hi => reindex_lt hp hi)
    exact ⟨_, (hc _ v' hr).mpr hv', labelled_of_renamedI hp hr⟩

theorem insertBy_perm (le : Label → Label → Bool) (x : Label) : ∀ ys, (insertBy le x ys).Perm (x :: ys) := by
  intro ys
  fun_induction insertBy le x ys with
  | case1 | case2 => exact .refl _
  | case3 y ys _ ih => exact (ih.cons y).trans (.swap x y ys)

theorem isort_perm (le : Label → Label → Bool) : ∀ xs, (isort le xs).Perm xs := by
  intro xs
  induction xs with
  | nil => exact .refl _
  | cons x xs ih => exact (insertBy_perm le x _).trans (ih.cons x)

theorem insertBy_sorted_on (le : Label → Label → Bool) (P : Label → Prop)
    (total : ∀ a b, P a → P b → le a b = true ∨ le b a = true)
    (trans : ∀ a b c, P a → P b → P c → le a b = true → le b c = true → le a c = true)
    (x : Label) (hx : P x) :
    ∀ ys, (∀ y ∈ ys, P y) → ys.Pairwise (fun a b => le a b = true) →
      (insertBy le x ys).Pairwise (fun a b => le a b = true) := by
  intro ys
  fun_induction insertBy le x ys with
  | case1 => intro _ _; simp
  | case2 y ys e =>
    intro hP h
    refine List.pairwise_cons.mpr ⟨?_, h⟩
    intro z hz
    rcases List.mem_cons.mp hz with rfl | hz
    · exact e
    · exact trans _ _ _ hx (hP y (List.mem_cons_self ..)) (hP z (List.mem_cons_of_mem _ hz)) e
        ((List.pairwise_cons.mp h).1 z hz)
  | case3 y ys e ih =>
    intro hP h
    have ⟨h1, h2⟩ := List.pairwise_cons.mp h
    refine List.pairwise_cons.mpr ⟨?_, ih (fun z hz => hP z (List.mem_cons_of_mem _ hz)) h2⟩
    intro z hz
    rcases List.mem_cons.mp ((insertBy_perm le x ys).mem_iff.mp hz) with rfl | hz
    · exact (total z y hx (hP y (List.mem_cons_self ..))).resolve_left e
    · exact h1 z hz

theorem isort_sorted_on (le : Label → Label → Bool) (P : Label → Prop)
    (total : ∀ a b, P a → P b → le a b = true ∨ le b a = true)
    (trans : ∀ a b c, P a → P b → P c → le a b = true → le b c = true → le a c = true) :
    ∀ xs, (∀ x ∈ xs, P x) → (isort le xs).Pairwise (fun a b => le a b = true) := by
  intro xs
  induction xs with
  | nil => intro _; simp [isort]
  | cons x xs ih =>
    intro h
    exact insertBy_sorted_on le P total trans x (h x (List.mem_cons_self ..)) _
      (fun y hy => h y (List.mem_cons_of_mem _ ((isort_perm le xs).mem_iff.mp hy)))
      (ih fun y hy => h y (List.mem_cons_of_mem _ hy))

theorem isort_sorted (le : Label → Label → Bool) (total : ∀ a b, le a b = true ∨ le b a = true)
    (trans : ∀ a b c, le a b = true → le b c = true → le a c = true) :
    ∀ xs, (isort le xs).Pairwise (fun a b => le a b = true) := fun xs =>
  isort_sorted_on le (fun _ => True) (fun a b _ _ => total a b) (fun a b c _ _ _ => trans a b c) xs
    (fun _ _ => trivial)

/-- the sorting function of the model is an instance of the re-sorting of `same_framework_renamed` -/
theorem sortBy_eq_resort (le : Label → Label → Bool) (st : PState) :
    st.sortBy le = st.resort (isort le st.namelist) ∧ (isort le st.namelist).Perm st.namelist :=
  ⟨rfl, isort_perm le _⟩

theorem lexLt_nil_right (x : List Nat) : lexLt x [] = false := by cases x <;> rfl

theorem lexLt_iff : ∀ (x y : List Nat), lexLt x y = true ↔ x < y := by
  intro x y
  fun_induction lexLt x y with
  | case1 | case2 => simp
  | case3 a as b bs ih => simp [List.cons_lt_cons_iff, ih]

theorem lexLt_asymm (x y : List Nat) (h : lexLt x y = true) : lexLt y x = false :=
  Bool.eq_false_iff.mpr fun h' => List.lt_asymm ((lexLt_iff _ _).mp h) ((lexLt_iff _ _).mp h')

theorem lexLt_irrefl (x : List Nat) : lexLt x x = false :=
  Bool.eq_false_iff.mpr fun h => List.lt_irrefl x ((lexLt_iff _ _).mp h)

theorem lexLt_trichotomy (x y : List Nat) (h1 : lexLt x y = false) (h2 : lexLt y x = false) : x = y :=
  Std.le_antisymm (fun h => by rw [(lexLt_iff _ _).mpr h] at h2; cases h2)
    (fun h => by rw [(lexLt_iff _ _).mpr h] at h1; cases h1)

theorem lexLt_trans (x y z : List Nat) (h1 : lexLt x y = true) (h2 : lexLt y z = true) : lexLt x z = true :=
  (lexLt_iff _ _).mpr (List.lt_trans ((lexLt_iff _ _).mp h1) ((lexLt_iff _ _).mp h2))

theorem lexLt_append_same : ∀ (p A B : List Nat), lexLt (p ++ A) (p ++ B) = lexLt A B := by
  intro p
  induction p with
  | nil => intro A B; rfl
  | cons a p ih => intro A B; simp [lexLt, ih]

/-- smaller at a position inside both sequences (not merely a proper prefix) -/
def diffLt : List Nat → List Nat → Bool
  | a :: as, b :: bs => decide (a < b) || (decide (a = b) && diffLt as bs)
  | _, _ => false

theorem lexLt_append_of_diffLt : ∀ (x y A B : List Nat), diffLt x y = true → lexLt (x ++ A) (y ++ B) = true := by
  intro x y A B h
  fun_induction diffLt x y with
  | case1 a as b bs ih =>
    simp only [Bool.or_eq_true, Bool.and_eq_true, decide_eq_true_eq] at h
    simp only [List.cons_append, lexLt, Bool.or_eq_true, Bool.and_eq_true, decide_eq_true_eq]
    rcases h with h | ⟨rfl, h⟩
    · left; exact h
    · right; exact ⟨rfl, ih h⟩
  | case2 => cases h

/-! ### UTF-8 preserves the order of code points

The encoding of `v` is a lead byte that tells the length class, followed by the base-64 digits of
`v`, most significant first. The lead bytes of the four classes lie in ascending ranges, so between
classes the lead byte decides and within a class the digits do. -/

theorem utf8Nat_one {v : Nat} (h : v ≤ 0x7f) : utf8Nat v = [v] := if_pos h

theorem utf8Nat_two {v : Nat} (h1 : ¬ v ≤ 0x7f) (h2 : v ≤ 0x7ff) :
    utf8Nat v = [v / 64 + 0xc0, v % 64 + 0x80] := by
  unfold utf8Nat
  rw [if_neg h1, if_pos h2, Nat.mod_eq_of_lt (show v / 64 < 0x20 by omega)]

theorem utf8Nat_three {v : Nat} (h2 : ¬ v ≤ 0x7ff) (h3 : v ≤ 0xffff) :
    utf8Nat v = [v / 64 / 64 + 0xe0, v / 64 % 64 + 0x80, v % 64 + 0x80] := by
  unfold utf8Nat
  rw [if_neg (by omega), if_neg h2, if_pos h3, Nat.mod_eq_of_lt (show v / 4096 < 0x10 by omega),
    Nat.div_div_eq_div_mul]

theorem utf8Nat_four {v : Nat} (h3 : ¬ v ≤ 0xffff) (h4 : v < 0x110000) :
    utf8Nat v = [v / 64 / 64 / 64 + 0xf0, v / 64 / 64 % 64 + 0x80, v / 64 % 64 + 0x80, v % 64 + 0x80] := by
  unfold utf8Nat
  rw [if_neg (by omega), if_neg (by omega), if_neg h3, Nat.mod_eq_of_lt (show v / 262144 < 0x08 by omega),
    Nat.div_div_eq_div_mul, Nat.div_div_eq_div_mul, Nat.div_div_eq_div_mul]

theorem utf8Nat_lead (v : Nat) : ∃ b r, utf8Nat v = b :: r ∧
    (v ≤ 0x7f → b ≤ 0x7f) ∧ (v ≤ 0x7ff → b ≤ 0xdf) ∧ (v ≤ 0xffff → b ≤ 0xef) := by
  fun_cases utf8Nat v <;> exact ⟨_, _, rfl, by omega⟩

theorem diffLt_of_head_lt {a b : Nat} (h : a < b) (as bs : List Nat) : diffLt (a :: as) (b :: bs) = true := by
  simp [diffLt, h]

theorem utf8Nat_mono (n m : Nat) (h : n < m) (hm : m < 0x110000) : diffLt (utf8Nat n) (utf8Nat m) = true := by
  obtain ⟨b, r, en, l1, l2, l3⟩ := utf8Nat_lead n
  by_cases m1 : m ≤ 0x7f
  · rw [utf8Nat_one m1, utf8Nat_one (by omega : n ≤ 0x7f)]
    exact diffLt_of_head_lt h _ _
  by_cases m2 : m ≤ 0x7ff
  · rw [utf8Nat_two m1 m2]
    by_cases n1 : n ≤ 0x7f
    · rw [en]; exact diffLt_of_head_lt (by have := l1 n1; omega) _ _
    · rw [utf8Nat_two n1 (by omega)]; simp [diffLt]; omega
  by_cases m3 : m ≤ 0xffff
  · rw [utf8Nat_three m2 m3]
    by_cases n2 : n ≤ 0x7ff
    · rw [en]; exact diffLt_of_head_lt (by have := l2 n2; omega) _ _
    · rw [utf8Nat_three n2 (by omega)]; simp [diffLt]; omega
  · rw [utf8Nat_four m3 hm]
    by_cases n3 : n ≤ 0xffff
    · rw [en]; exact diffLt_of_head_lt (by have := l3 n3; omega) _ _
    · rw [utf8Nat_four n3 (by omega)]; simp [diffLt]; omega

theorem char_toNat_lt (c : Char) : c.toNat < 0x110000 := by
  have := c.valid
  simp only [UInt32.isValidChar, Nat.isValidChar] at this
  unfold Char.toNat
  omega

theorem toNat_ofNat_mod_add (k b : Nat) (h : 0 < k ∧ k + b ≤ 256) (a : Nat) :
    (UInt8.ofNat (a % k + b)).toNat = a % k + b := by
  rw [UInt8.toNat_ofNat']
  exact Nat.mod_eq_of_lt (by have := Nat.mod_lt a h.1; omega)

/-- `utf8Nat` is Lean's UTF-8 encoder (`String.utf8EncodeChar`, the encoder behind `String`) -/
theorem utf8Nat_eq_core (c : Char) : (String.utf8EncodeChar c).map UInt8.toNat = utf8Nat c.toNat := by
  unfold String.utf8EncodeChar utf8Nat Char.toNat
  simp only [List.map_cons, List.map_nil, apply_ite (List.map UInt8.toNat),
    toNat_ofNat_mod_add 0x20 0xc0 (by decide), toNat_ofNat_mod_add 0x40 0x80 (by decide),
    toNat_ofNat_mod_add 0x10 0xe0 (by decide), toNat_ofNat_mod_add 0x08 0xf0 (by decide)]
  split
  · next h => rw [UInt8.toNat_ofNat', Nat.mod_eq_of_lt (by omega)]
  · rfl

/-- **byte order = code-point order**: comparing two labels byte-wise on their UTF-8 encodings (what
`Ord for String` does) is comparing their sequences of code points lexicographically -/
theorem byteLt_eq_cpLt : ∀ (a b : Label), byteLt a b = cpLt a b := by
  intro a
  induction a with
  | nil =>
    intro b
    cases b with
    | nil => rfl
    | cons d b =>
      obtain ⟨x, r, e, _⟩ := utf8Nat_lead d.toNat
      simp [byteLt, cpLt, bytes, e, lexLt]
  | cons c a ih =>
    intro b
    cases b with
    | nil => simp [byteLt, cpLt, bytes, lexLt_nil_right]
    | cons d b =>
      have ih' := ih b
      unfold byteLt cpLt at ih' ⊢
      simp only [bytes, List.flatMap_cons, List.map_cons] at ih' ⊢
      rcases Nat.lt_trichotomy c.toNat d.toNat with h | h | h
      · rw [lexLt_append_of_diffLt _ _ _ _ (utf8Nat_mono _ _ h (char_toNat_lt d))]
        simp [lexLt, h]
      · rw [h, lexLt_append_same, ih']
        simp [lexLt]
      · rw [lexLt_asymm _ _ (lexLt_append_of_diffLt _ _ _ _ (utf8Nat_mono _ _ h (char_toNat_lt c)))]
        have h1 : ¬ c.toNat < d.toNat := by omega
        have h2 : ¬ c.toNat = d.toNat := by omega
        simp [lexLt, h1, h2]

theorem byteLt_asymm (a b : Label) (h : byteLt a b = true) : byteLt b a = false := lexLt_asymm _ _ h

theorem byteLt_irrefl (a : Label) : byteLt a a = false := lexLt_irrefl _

theorem byteLt_trans (a b c : Label) (h1 : byteLt a b = true) (h2 : byteLt b c = true) : byteLt a c = true :=
  lexLt_trans _ _ _ h1 h2

theorem byteLt_trichotomy (a b : Label) (h1 : byteLt a b = false) (h2 : byteLt b a = false) : a = b := by
  rw [byteLt_eq_cpLt] at h1 h2
  exact (List.map_inj_right fun _ _ => Char.toNat_inj.mp).mp (lexLt_trichotomy _ _ h1 h2)

theorem bytes_injective (a b : Label) (h : bytes a = bytes b) : a = b := by
  have hi : byteLt a b = false ∧ byteLt b a = false := by unfold byteLt; rw [h]; exact ⟨lexLt_irrefl _, lexLt_irrefl _⟩
  exact byteLt_trichotomy a b hi.1 hi.2

theorem byteLe_iff (a b : Label) : byteLe a b = true ↔ bytes a ≤ bytes b := by
  unfold byteLe byteLt
  rw [Bool.not_eq_true', ← Bool.not_eq_true, lexLt_iff, List.not_lt]

theorem byteLe_total (a b : Label) : byteLe a b = true ∨ byteLe b a = true := by
  rw [byteLe_iff, byteLe_iff]; exact List.le_total _ _

theorem byteLe_trans (a b c : Label) (h1 : byteLe a b = true) (h2 : byteLe b c = true) : byteLe a c = true := by
  rw [byteLe_iff] at *; exact List.le_trans h1 h2

theorem byteLt_of_le_ne (a b : Label) (h : byteLe a b = true) (hne : a ≠ b) : byteLt a b = true := by
  unfold byteLe at h
  simp only [Bool.not_eq_true'] at h
  cases hab : byteLt a b with
  | true => rfl
  | false => exact absurd (byteLt_trichotomy a b hab h) hne

/-- the name list `varsort_lexi` leaves: a permutation of the old one, in STRICTLY ascending byte order
when the names are pairwise different (as they are in `namelist`) -/
theorem isort_byteLe_strict (xs : List Label) (nd : xs.Nodup) :
    (isort byteLe xs).Pairwise (fun a b => byteLt a b = true) := by
  have h1 := isort_sorted byteLe byteLe_total byteLe_trans xs
  have h2 : (isort byteLe xs).Nodup := (isort_perm byteLe xs).nodup_iff.mpr nd
  have h3 := h1.and h2
  exact h3.imp (fun ⟨h, hne⟩ => byteLt_of_le_ne _ _ h hne)

theorem indexOf_sorted_count (lt : Label → Label → Bool) (irr : ∀ a, lt a a = false)
    (asym : ∀ a b, lt a b = true → lt b a = false) :
    ∀ (ys : List Label), ys.Pairwise (fun a b => lt a b = true) → ∀ l ∈ ys,
      indexOf ys l = some (ys.filter (fun x => lt x l)).length := by
  intro ys h l hl
  fun_induction indexOf ys l with
  | case1 => simp at hl
  | case2 ys y =>
    have : (y :: ys).filter (fun x => lt x y) = [] := by
      rw [List.filter_eq_nil_iff]
      intro z hz
      rcases List.mem_cons.mp hz with rfl | hz
      · simp [irr]
      · simp [asym _ _ ((List.pairwise_cons.mp h).1 z hz)]
    rw [this]; rfl
  | case3 y ys l e ih =>
    have ⟨h1, h2⟩ := List.pairwise_cons.mp h
    have hl' : l ∈ ys := by
      rcases List.mem_cons.mp hl with h | h
      · exact absurd h.symm e
      · exact h
    rw [ih h2 hl', List.filter_cons, if_pos (h1 l hl')]
    simp

section rename
variable (ρ : Label → Label) (inj : ∀ a b, ρ a = ρ b → a = b)
include inj

theorem namesOf_rename (fs : List Fact) : namesOf (fs.map (Fact.rename ρ)) = (namesOf fs).map ρ := by
  fun_induction namesOf fs with
  | case1 => rfl
  | case2 l fs ih =>
    simp only [List.map_cons, Fact.rename, namesOf, ih, List.filter_map, List.cons.injEq, true_and]
    congr 1
    apply List.filter_congr
    intro y _
    by_cases e : y = l
    · simp [e]
    · have : ¬ ρ y = ρ l := fun h => e (inj _ _ h)
      simp [e, this]
  | case3 l f fs ih => simpa [Fact.rename, namesOf] using ih

omit inj in
theorem acsOf_rename (fs : List Fact) :
    acsOf (fs.map (Fact.rename ρ)) = (acsOf fs).map fun lf => (ρ lf.1, lf.2.rename ρ) := by
  induction fs with
  | nil => rfl
  | cons x fs ih => cases x <;> simp [Fact.rename, acsOf, ih]

theorem indexOf_rename (xs : List Label) (l : Label) : indexOf (xs.map ρ) (ρ l) = indexOf xs l := by
  simp only [indexOf_eq_idxOf?, List.idxOf?, List.findIdx?_map]
  congr 1
  funext x
  exact Bool.eq_iff_iff.mpr (by simpa using ⟨inj x l, congrArg ρ⟩)

theorem resolve_rename (xs : List Label) (f : Fml) :
    resolveFml (indexOf (xs.map ρ)) (f.rename ρ) = resolveFml (indexOf xs) f := by
  induction f with
  | top => rfl
  | bot => rfl
  | atom l => simp [Fml.rename, resolveFml, indexOf_rename ρ inj]
  | not f ih => simp [Fml.rename, resolveFml, ih]
  | and a b iha ihb | or a b iha ihb | imp a b iha ihb | xor a b iha ihb | iff a b iha ihb =>
    simp [Fml.rename, resolveFml, iha, ihb]

/-- **renaming is invisible to `from_parser`**: the store and the `ac` vector built from the renamed
facts are literally those built from the original facts -/
theorem fromParser_rename (fs : List Fact) :
    fromParser (PState.ofFacts (fs.map (Fact.rename ρ))) = fromParser (PState.ofFacts fs) := by
  unfold fromParser
  rw [workList_ofFacts, workList_ofFacts, dictSizeOf_ofFacts, dictSizeOf_ofFacts, namesOf_rename ρ inj,
    acsOf_rename, omap_map, List.length_map]
  congr 2
  funext lf
  unfold itemOf
  simp only [indexOf_rename ρ inj, resolve_rename ρ inj]

/-- the label map of the renamed file: the renamed label carries what the original label carried -/
theorem labelled_rename (xs : List Label) (v : I3) (l : Label) :
    labelled (xs.map ρ) v (ρ l) = labelled xs v l := by
  unfold labelled; rw [indexOf_rename ρ inj]

omit inj in
/-- in the label map of the renamed file, labels that are not the new name of a statement carry nothing -/
theorem labelled_rename_outside (xs : List Label) (v : I3) (l' : Label) (h : ∀ l ∈ xs, ρ l ≠ l') :
    labelled (xs.map ρ) v l' = none := by
  unfold labelled
  rw [(indexOf_eq_none_iff _ _).mpr]
  · rfl
  · intro hm
    obtain ⟨l, hl, e⟩ := List.mem_map.mp hm
    exact h l hl e

end rename

#print axioms same_framework_renamed
#print axioms fromParser_rename
#print axioms byteLt_eq_cpLt
#print axioms utf8Nat_eq_core
#print axioms isort_byteLe_strict
#print axioms isort_sorted_on
#print axioms indexOf_sorted_count

end SortModel
