import AdfObdd.ServerD9
/-! # C16 — "an accepted solve yields a stored result" and "an ended task is not reported as running"

Any environment, the atomic-request model `ServerM.runAll`.

* **(a) liveness-flavoured**: `write_lands` (`ServerSuccess.lean`) / `write_lost` characterise the final write of a task by the
  number of documents under the task's key AT THE MOMENT OF THE WRITE (`docsAt`): none - the write is
  dropped (`update_one` matches nothing; D9's LOST write), at least one - the first of them receives
  `taskWrite`. `Pending u name a s j n done`: a solve task `(j, n)` for the key `(u, name)` is unwritten and a
  document carries the key. It is kept by every `Quiet` event (no `DELETE /adf`, `DELETE /users/delete`,
  `PUT /users/update`, no event of this very task: `Pending.quiet`, a case analysis on `Effect`,
  `ServerReach.lean`; `Pending.quietAll`) and by the end of the task's blocking part (`Pending.finish`); an
  accepted `PUT /adf/{name}/solve` produces it (`solve_accepted`). From these, `Props/C16.lean` section 12:
  after `es2 ++ [finish j n] ++ es3 ++ [write j n]` with `es2`, `es3` quiet the document under the key shows
  under `s` exactly the outcome of `E.solve a s`.
* **(b)** `NoLostWrite`: no write of the history is dropped. `histLost` of `Props/C16.lean` (rename while the solve
  runs) satisfies `NoStaleWrite` but not `NoLostWrite`.
* **(c)** `RunInv`: every entry of `currently_running` is the `RunningInfo` of a task whose blocking part
  has not ended - an invariant of EVERY history (`runInv_reachable`; along `Effect`: a spawn adds the entry of a task
  that has not ended, `finish` erases the entry of the task it ends), so `GET` never lists a task kind for
  a key none of whose tasks of that kind is still computing (`listed_only_if_unfinished`). The converse
  (every unfinished task is listed) is FALSE in the Rust and in the model: `currently_running` is a SET of
  `(user, problem, task kind)`; two tasks with the same triple (delete + re-add of a problem while its parse
  task runs) share one entry, and the first to end removes it (`histTwin`, `Props/C16.lean`).
* **(d) timing of the running entry - MODELLED, NOT VERIFIED**: the model's `.spawn` command inserts the
  `RunningInfo` inside the request (ServerModel.lean `exec … (.spawn t)`), the Rust creates the
  `RunningGuard` as the first statement INSIDE the `spawn_blocking` closure (adf.rs:427-433 parse, 583
  solve), i.e. on the blocking thread pool some time after the handler has answered `200`. Observable
  difference: (1) two quick `PUT /adf/{n}/solve` of one strategy - the second request's
  `currently_running.contains(..)` (adf.rs:569-575) can run before the first task's guard exists, so the
  real server may answer `200 Solving started...` twice where the model answers `409`; both tasks then
  compute and write the same value, the stored answer is unaffected (`C17.solve_race_two_tasks` shows the same
  outcome for command-level interleaving). (2) a `GET` immediately after the `200` may show
  `running_tasks: []` although the task has been accepted. Making the model faithful needs a separate
  `start` event between `.spawn` and `.finish` (the harness would have to observe the guard's creation to
  schedule it); the driver's transcripts are recorded with the request-time insertion, every `GET` in them
  is issued after the harness has seen the task's write, so they do not discriminate. -/
namespace ServerM
section
variable {T H A R : Type} [DecidableEq T]

theorem mem_updNth_fwd (j : Nat) (f : TaskRec T A → TaskRec T A) : ∀ (n : Nat) (l : List (TaskRec T A)) (t : TaskRec T A),
    t ∈ l → t ∈ updNth j f n l ∨ (nthOf j n l = some t ∧ f t ∈ updNth j f n l) := by
  intro n l t
  fun_induction updNth j f n l with
  | case1 => intro h; cases h
  | case2 x xs hx =>
    intro h
    rw [nthOf, if_pos hx]
    rcases List.mem_cons.mp h with rfl | h
    · exact Or.inr ⟨rfl, List.mem_cons_self ..⟩
    · exact Or.inl (List.mem_cons_of_mem _ h)
  | case3 x xs hx k ih | case4 n x xs hx ih =>
    intro h
    simp only [nthOf, hx, if_true, if_false]
    rcases List.mem_cons.mp h with rfl | h
    · exact Or.inl (List.mem_cons_self ..)
    · rcases ih h with h' | ⟨h1, h2⟩
      · exact Or.inl (List.mem_cons_of_mem _ h')
      · exact Or.inr ⟨h1, List.mem_cons_of_mem _ h2⟩

theorem nthOf_append (j n : Nat) (l l' : List (TaskRec T A)) (t : TaskRec T A) (h : nthOf j n l = some t) :
    nthOf j n (l ++ l') = some t := by
  rw [nthOf_eq] at h ⊢
  rw [ofJar_append, List.getElem?_append_left (List.getElem?_eq_some_iff.mp h).1]
  exact h

theorem nthOf_new (j : Nat) (t : TaskRec T A) (ht : t.jar = j) (l : List (TaskRec T A)) :
    nthOf j (l.filter (fun x => decide (x.jar = j))).length (l ++ [t]) = some t := by
  show nthOf j (ofJar j l).length (l ++ [t]) = some t
  rw [nthOf_eq, ofJar_append, List.getElem?_append_right (Nat.le_refl _)]
  simp [ofJar, ht]

theorem nthOf_updNth_same (j : Nat) (f : TaskRec T A → TaskRec T A) (hf : ∀ t, (f t).jar = t.jar)
    (n : Nat) (l : List (TaskRec T A)) (t : TaskRec T A) (h : nthOf j n l = some t) :
    nthOf j n (updNth j f n l) = some (f t) := by
  rw [nthOf_eq] at h ⊢
  rw [updNth_ofJar j f hf, List.getElem?_modify_eq, h]; rfl

theorem nthOf_updNth_other (j j' : Nat) (f : TaskRec T A → TaskRec T A) (hf : ∀ t, (f t).jar = t.jar)
    (n n' : Nat) (l : List (TaskRec T A)) (hne : ¬ (j' = j ∧ n' = n)) :
    nthOf j n (updNth j' f n' l) = nthOf j n l := by
  rw [nthOf_eq, nthOf_eq]
  by_cases hj : j' = j
  · subst hj
    rw [updNth_ofJar j' f hf, List.getElem?_modify_ne _ _ fun e => hne ⟨rfl, e⟩]
  · exact congrArg (·[n]?) (updNth_filter_out (fun k => decide (k = j)) j' (by simpa using hj) f hf n' l)

/-- every entry of `currently_running` is the `RunningInfo` of a task whose blocking part has not ended -/
def RunInv (db : Db T H A R) : Prop :=
  ∀ x ∈ db.running, ∃ t ∈ db.tasks, t.info = x ∧ t.blockingDone = false

theorem mem_spawn_running (db : Db T H A R) (t : TaskRec T A) (x : RInfo T)
    (hx : x ∈ (exec db (.spawn t)).1.running) : x ∈ db.running ∨ x = t.info := by
  simp only [exec] at hx
  split at hx
  · exact Or.inl hx
  · exact (List.mem_append.mp hx).imp id (fun h => by simpa using h)

theorem RunInv.spawn {db db' : Db T H A R} (h : RunInv db) (t0 : TaskRec T A) (hb : t0.blockingDone = false)
    (ht : db'.tasks = db.tasks ++ [t0]) (hr : db'.running = (exec db (.spawn t0)).1.running) : RunInv db' := by
  intro x hx
  rw [hr] at hx; rw [ht]
  rcases mem_spawn_running db t0 x hx with h' | rfl
  · obtain ⟨w, hw, h1, h2⟩ := h x h'
    exact ⟨w, List.mem_append_left _ hw, h1, h2⟩
  · exact ⟨t0, List.mem_append_right _ (List.mem_singleton.mpr rfl), rfl, hb⟩

theorem stepEv_runInv (E : Env T H A R) {st : State T H A R} (h : RunInv st.db) (e : Event T) :
    RunInv (stepEv E st e).1.db := by
  cases stepEv_effect E st e with
  | same _ ht hr | del _ _ _ _ ht hr | delAll _ _ _ ht hr | rename _ _ _ _ _ ht hr =>
    intro x hx; rw [hr] at hx; rw [ht]; exact h x hx
  | add _ _ _ _ t0 _ _ h0 _ ht hr => exact h.spawn t0 (h0 ▸ rfl) ht hr
  | solve _ _ _ _ _ t0 _ _ h0 _ ht hr => exact h.spawn t0 (h0 ▸ rfl) ht hr
  | finish j n t _ htn _ _ ht hr =>
    intro x hx
    rw [hr] at hx; rw [ht]
    simp only [eraseInfo, List.mem_filter, Bool.not_eq_true'] at hx
    obtain ⟨w, hw, h1, h2⟩ := h x hx.1
    rcases mem_updNth_fwd j (fun t => { t with blockingDone := true }) n st.db.tasks w hw with h' | ⟨h', _⟩
    · exact ⟨w, h', h1, h2⟩
    · -- `w` is the finished task itself: then `x = t.info` was erased
      rw [htn] at h'
      cases h'
      have : isInfo t.info x = true := by rw [← h1]; simp [isInfo]
      rw [this] at hx
      exact absurd hx.2 (by simp)
  | write j n _ _ _ _ _ _ ht hr =>
    intro x hx
    rw [hr] at hx; rw [ht]
    obtain ⟨w, hw, h1, h2⟩ := h x hx
    rcases mem_updNth_fwd j (fun t => { t with written := true }) n st.db.tasks w hw with h' | ⟨_, h'⟩
    · exact ⟨w, h', h1, h2⟩
    · exact ⟨_, h', h1, h2⟩

theorem runAll_runInv (E : Env T H A R) : ∀ (es : List (Event T)) (st : State T H A R), RunInv st.db →
    RunInv (runAll E st es).1.db := by
  intro es
  induction es with
  | nil => intro st h; exact h
  | cons e es ih => intro st h; exact ih _ (stepEv_runInv E h e)

theorem runInv_reachable (E : Env T H A R) (es : List (Event T)) : RunInv (runAll E {} es).1.db :=
  runAll_runInv E es {} (fun x hx => by cases hx)

/-- **an ended task is not reported as running, every reachable state**: if `GET` lists a task kind for
the document `(u, n)`, some task of that kind spawned under that key is still in its blocking part. In
particular once EVERY task of that kind and key has ended, the kind is not listed -/
theorem listed_only_if_unfinished (E : Env T H A R) (es : List (Event T)) (u n : T) (k : Task)
    (h : k ∈ (exec (runAll E {} es).1.db (.rTasks u n : Cmd T H A R)).2) :
    ∃ t ∈ (runAll E {} es).1.db.tasks, t.username = u ∧ t.name = n ∧ t.input.task = k ∧ t.blockingDone = false := by
  simp only [exec, List.mem_map, List.mem_filter, Bool.and_eq_true, decide_eq_true_eq] at h
  obtain ⟨x, ⟨hx, hname, huser⟩, htask⟩ := h
  obtain ⟨t, ht, h1, h2⟩ := runInv_reachable E es x hx
  refine ⟨t, ht, ?_, ?_, ?_, h2⟩
  · rw [← huser, ← h1]; rfl
  · rw [← hname, ← h1]; rfl
  · rw [← htask, ← h1]; rfl

/-- **lost write**: the final write of a task whose key addresses NO document at that moment changes no
document (`update_one` matches nothing) - the task's outcome is never stored -/
theorem write_lost (E : Env T H A R) (db : Db T H A R) (j n : Nat) (t : TaskRec T A)
    (ht : nthOf j n db.tasks = some t) (hlive : t.blockingDone = true ∧ t.written = false)
    (h0 : docsAt db t.username t.name = 0) : (dbEv E db (.write j n)).problems = db.problems := by
  rw [dbEv_write E db j n t ht hlive]
  exact updFirst_none _ _ _ fun x hx => Bool.eq_false_iff.mpr (List.countP_eq_zero.mp h0 x hx)

def solveOutcome (E : Env T H A R) (a : A) (s : Strategy) : OWE R :=
  match E.solve a s with
  | .ok r => .some r
  | .error e => .error e

theorem taskWrite_solve (E : Env T H A R) (a : A) (s : Strategy) : taskWrite E (.solve a s) = .solved s (solveOutcome E a s) := by
  unfold solveOutcome
  simp only [taskWrite]
  cases E.solve a s <;> rfl

/-- the state of one solve task and its key between spawn and write -/
structure Pending (u name : T) (a : A) (s : Strategy) (j n : Nat) (done : Bool) (db : Db T H A R) : Prop where
  doc : ∃ p, db.problems.find? (isProb u name) = some p
  task : ∃ t, nthOf j n db.tasks = some t ∧ t.username = u ∧ t.name = name ∧ t.input = .solve a s ∧
    t.blockingDone = done ∧ t.written = false

/-- events that neither remove nor rename documents and are not events of the task `(j, n)` -/
def Quiet (j n : Nat) : Event T → Bool
  | .req rq => rq.req.keeps
  | .finish j' n' => !(decide (j' = j) && decide (n' = n))
  | .write j' n' => !(decide (j' = j) && decide (n' = n))
  | .timeout j' n' => !(decide (j' = j) && decide (n' = n))

theorem Quiet.keeps {j n : Nat} {e : Event T} (h : Quiet j n e = true) : e.keeps = true := by
  cases e <;> first | exact h | rfl

theorem Pending.quiet (E : Env T H A R) {u name : T} {a : A} {s : Strategy} {j n : Nat} {done : Bool}
    {st : State T H A R} (h : Pending u name a s j n done st.db) (e : Event T) (hq : Quiet j n e = true) :
    Pending u name a s j n done (stepEv E st e).1.db := by
  obtain ⟨⟨p, hp⟩, ⟨t, ht, hrest⟩⟩ := h
  -- the task `(j', n')` the event is about is not `(j, n)`
  have other : ∀ j' n', (e = .finish j' n' ∨ e = .write j' n' ∨ e = .timeout j' n') → ¬ (j' = j ∧ n' = n) := by
    intro j' n' he hjn
    rcases he with rfl | rfl | rfl <;> simp [Quiet, hjn.1, hjn.2] at hq
  cases stepEv_effect E st e with
  | same hp' ht' => exact ⟨⟨p, by rw [hp']; exact hp⟩, ⟨t, by rw [ht']; exact ht, hrest⟩⟩
  | finish j' n' _ he _ _ hp' ht' =>
    refine ⟨⟨p, by rw [hp']; exact hp⟩, ⟨t, ?_, hrest⟩⟩
    rw [ht', nthOf_updNth_other j j' (fun t => { t with blockingDone := true }) (fun _ => rfl) n n' _ (other j' n' (Or.inl he))]
    exact ht
  | write j' n' t' w _ _ he hp' ht' =>
    refine ⟨?_, ⟨t, ?_, hrest⟩⟩
    · rw [hp']
      rcases find_updFirst (isProb t'.username t'.name) (isProb u name) w.apply (isProb_apply u name w) st.db.problems with
        h' | ⟨_, _, _, h'⟩
      · exact ⟨p, h'.trans hp⟩
      · exact ⟨_, h'⟩
    rw [ht', nthOf_updNth_other j j' (fun t => { t with written := true }) (fun _ => rfl) n n' _
      (other j' n' (he.elim (fun h => Or.inr (Or.inl h.1)) (fun h => Or.inr (Or.inr h.1))))]
    exact ht
  | add _ _ _ _ t0 _ _ _ hp' ht' =>
    exact ⟨⟨p, by rw [hp', List.find?_append, hp]; rfl⟩, ⟨t, by rw [ht']; exact nthOf_append j n _ _ t ht, hrest⟩⟩
  | solve _ _ _ _ _ t0 _ _ _ hp' ht' =>
    exact ⟨⟨p, by rw [hp']; exact hp⟩, ⟨t, by rw [ht']; exact nthOf_append j n _ _ t ht, hrest⟩⟩
  | del _ _ hk | delAll _ hk | rename _ _ hk => rw [Quiet.keeps hq] at hk; cases hk

theorem Pending.quietAll (E : Env T H A R) {u name : T} {a : A} {s : Strategy} {j n : Nat} {done : Bool} :
    ∀ (es : List (Event T)) (st : State T H A R), Pending u name a s j n done st.db → (∀ e ∈ es, Quiet j n e = true) →
      Pending u name a s j n done (runAll E st es).1.db := by
  intro es
  induction es with
  | nil => intro st h _; exact h
  | cons e es ih =>
    intro st h hq
    exact ih _ (h.quiet E e (hq e (List.mem_cons_self ..))) (fun e' he' => hq e' (List.mem_cons_of_mem _ he'))

theorem Pending.finish (E : Env T H A R) {u name : T} {a : A} {s : Strategy} {j n : Nat}
    {st : State T H A R} (h : Pending u name a s j n false st.db) :
    Pending u name a s j n true (stepEv E st (.finish j n)).1.db := by
  obtain ⟨⟨p, hp⟩, ⟨t, ht, h1, h2, h3, h4, h5⟩⟩ := h
  show Pending u name a s j n true (dbEv E st.db (.finish j n))
  simp only [dbEv, ht, h4, Bool.false_eq_true, if_false]
  exact ⟨⟨p, hp⟩, ⟨_, nthOf_updNth_same j (fun t => { t with blockingDone := true }) (fun _ => rfl) n _ t ht,
    h1, h2, h3, rfl, h5⟩⟩

/-- the event is a write that is DROPPED: the task is due (ended, unwritten) and no document carries its key -/
def lostWrite (st : State T H A R) : Event T → Bool
  | .write j n =>
    match nthOf j n st.db.tasks with
    | some t => t.blockingDone && !t.written && decide (docsAt st.db t.username t.name = 0)
    | none => false
  | _ => false

def NoLostWrite (E : Env T H A R) : State T H A R → List (Event T) → Prop
  | _, [] => True
  | st, e :: es => lostWrite st e = false ∧ NoLostWrite E (stepEv E st e).1 es

def noLostWriteB (E : Env T H A R) : State T H A R → List (Event T) → Bool
  | _, [] => true
  | st, e :: es => !lostWrite st e && noLostWriteB E (stepEv E st e).1 es

theorem noLostWriteB_iff (E : Env T H A R) : ∀ (es : List (Event T)) (st : State T H A R),
    noLostWriteB E st es = true ↔ NoLostWrite E st es := by
  intro es
  induction es with
  | nil => intro st; simp [noLostWriteB, NoLostWrite]
  | cons e es ih => intro st; simp [noLostWriteB, NoLostWrite, ih]

/-- **a due write is visible under the task's key iff it is not lost**: after the write event of an ended,
unwritten task, a document under the task's key carries the task's outcome iff a document carried the key
at that moment (`lostWrite = false`); otherwise no document changes at all -/
theorem write_visible_iff_not_lost (E : Env T H A R) (st : State T H A R) (j n : Nat) (t : TaskRec T A)
    (ht : nthOf j n st.db.tasks = some t) (hlive : t.blockingDone = true ∧ t.written = false) :
    (lostWrite st (.write j n) = false →
      ∃ p, st.db.problems.find? (isProb t.username t.name) = some p ∧
        (stepEv E st (.write j n)).1.db.problems.find? (isProb t.username t.name) = some ((taskWrite E t.input).apply p)) ∧
    (lostWrite st (.write j n) = true → (stepEv E st (.write j n)).1.db.problems = st.db.problems) := by
  constructor
  · intro hl
    simp only [lostWrite, ht, hlive.1, hlive.2, Bool.not_false, Bool.true_and, decide_eq_false_iff_not] at hl
    cases hf : st.db.problems.find? (isProb t.username t.name) with
    | none => exact absurd ((countP_eq_zero_iff_find _ _).mpr hf) hl
    | some p => exact ⟨p, rfl, write_lands E st.db j n t ht hlive p hf⟩
  · intro hl
    simp only [lostWrite, ht, hlive.1, hlive.2, Bool.not_false, Bool.true_and, decide_eq_true_eq] at hl
    exact write_lost E st.db j n t ht hlive hl

end
end ServerM
