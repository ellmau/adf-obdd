import AdfObdd.FeatureQueries
/-! C12: the public diagram-building operations under a feature set (`stepOpC`, `runOpsC`,
    mirroring `stepOp`, `runOps` of `OpsModel`) and the simulation with the feature-free
    reference: every operation sequence issues the same handles and builds the same node table
    under every feature set (`step_same`, `run_same`, for the relation `RelA c z A`; `Rel` is `RelA` at `A := True`,
    and at `A := False` the same two theorems give memo transparency, `MemoTransparent.lean`). -/

def opIteC (c : Cfg) (fs : FStore) (i t e : Nat) : FStore × Nat := iteCfg c (i + t + e + 1) fs i t e
def opNotC (c : Cfg) (fs : FStore) (t : Nat) : FStore × Nat := opIteC c fs t 0 1

/-- one operation of `obdd.rs` under the feature set `c` -/
def stepOpC (c : Cfg) (fs : FStore) (hist : List Nat) : Op → FStore × Nat
  | .var v => nodeC c fs v 0 1
  | .const b => (fs, if b then 1 else 0)
  | .not a => opNotC c fs (hget hist a)
  | .and a b => opIteC c fs (hget hist a) (hget hist b) 0
  | .or a b => opIteC c fs (hget hist a) 1 (hget hist b)
  | .imp a b => opIteC c fs (hget hist a) (hget hist b) 1
  | .iff a b => let nb := opNotC c fs (hget hist b); opIteC c nb.1 (hget hist a) (hget hist b) nb.2
  | .xor a b => let nb := opNotC c fs (hget hist b); opIteC c nb.1 (hget hist a) nb.2 (hget hist b)
  | .restrict a v b => restrictC c (hget hist a + 1) fs (hget hist a) v b

def runOpsC (c : Cfg) : List Op → FStore → List Nat → FStore × List Nat
  | [], fs, hist => (fs, hist)
  | op :: ops, fs, hist => let r := stepOpC c fs hist op; runOpsC c ops r.1 (hist ++ [r.2])

/-- the store under feature set `c` and the feature-free reference store: both well formed,
same node table, ite memos answering alike (restrict memos unrelated); `z` as in `TabInv`: nothing was imported yet -/
structure Rel (c : Cfg) (z : Bool) (fs : FStore) (s : Store) : Prop where
  inv : FInv c z fs
  wf : WF s
  nodes : fs.base.nodes = s.nodes
  ite : IteAgree fs.base s

theorem Rel.new (c : Cfg) : Rel c true (newC c) Store.init :=
  ⟨newC_inv c, WF_init, rfl, fun _ => rfl⟩

/-- `Rel` with its clause on the ite memos under a proposition `A`: every operation keeps that clause and none needs it
for handles or node tables. At `A := True` this is `Rel`. At `A := False` it holds between the feature-free configured
store over `s` (`MemoT.bare s`) and EVERY well-formed store with the node table of `s`, whatever the memo tables hold:
memo independence (C11) is the empty-feature case of feature independence (C12), applied to both stores. -/
structure RelA (c : Cfg) (z : Bool) (A : Prop) (fs : FStore) (s : Store) : Prop where
  inv : FInv c z fs
  wf : WF s
  nodes : fs.base.nodes = s.nodes
  ite : A → IteAgree fs.base s

theorem Rel.toA {c : Cfg} {z : Bool} {fs : FStore} {s : Store} (r : Rel c z fs s) : RelA c z True fs s :=
  ⟨r.inv, r.wf, r.nodes, fun _ => r.ite⟩

theorem RelA.rel {c : Cfg} {z : Bool} {fs : FStore} {s : Store} (r : RelA c z True fs s) : Rel c z fs s :=
  ⟨r.inv, r.wf, r.nodes, r.ite trivial⟩

theorem node_rel {c : Cfg} {z : Bool} {A : Prop} {fs : FStore} {s : Store} (r : RelA c z A fs s) (v lo hi : Nat)
    (hlo : lo < s.nodes.size) (hhi : hi < s.nodes.size) (hv : v < VBOT)
    (hvlo : v < topVar s lo) (hvhi : v < topVar s hi) :
    (nodeC c fs v lo hi).2 = (mkNode s v lo hi).2 ∧ RelA c z A (nodeC c fs v lo hi).1 (mkNode s v lo hi).1 := by
  have ⟨eb, qb⟩ := nodeC_base c fs v lo hi
  have ⟨nM, qM⟩ := MemoT.mkNode_lock r.wf r.inv.wf r.nodes v lo hi
  have tv : ∀ x, topVar fs.base x = topVar s x := topVar_congr r.nodes
  have ⟨w1, _, _, _, _⟩ := mkNode_spec fs.base r.inv.wf v lo hi (by rw [r.nodes]; exact hlo)
    (by rw [r.nodes]; exact hhi) hv (by rw [tv]; exact hvlo) (by rw [tv]; exact hvhi)
  have ⟨w2, _, _, _, _⟩ := mkNode_spec s r.wf v lo hi hlo hhi hv hvlo hvhi
  have tab := nodeC_tab c z fs v lo hi r.inv.wf.table r.inv.tab (by rw [r.nodes]; exact hlo) (by rw [r.nodes]; exact hhi)
  refine ⟨qb.trans qM, ⟨by rw [eb]; exact w1, tab⟩, w2, by rw [eb]; exact nM, fun a k => ?_⟩
  rw [eb, (mkNode_memo _ _ _ _).2, (mkNode_memo _ _ _ _).2]; exact r.ite a k

theorem restrict_rel {c : Cfg} {z : Bool} {A : Prop} {fs : FStore} {s : Store} (r : RelA c z A fs s) (t v : Nat) (b : Bool)
    (ht : t < s.nodes.size) :
    (restrictC c (t+1) fs t v b).2 = (restrictF (t+1) s t v b).2 ∧
    RelA c z A (restrictC c (t+1) fs t v b).1 (restrictF (t+1) s t v b).1 := by
  have ht' : t < fs.base.nodes.size := by rw [r.nodes]; exact ht
  have ⟨e1, q1, inv1⟩ := restrictC_sim c z (t+1) fs t v b r.inv ht' (Nat.lt_succ_self _)
  have ⟨_, n2, q2⟩ := restrictS_sim (scOf c) (scOf_sound c) (t+1) fs.base s t v b r.inv.wf r.wf r.nodes ht'
    (Nat.lt_succ_self _)
  have ⟨w2, _, _, _, _⟩ := restrictF_spec (t+1) s t v b r.wf ht (Nat.lt_succ_self _)
  refine ⟨q1.trans q2, inv1, w2, by rw [e1]; exact n2, fun a k => ?_⟩
  rw [e1, restrictS_iteC, ← restrictS_none, restrictS_iteC]; exact r.ite a k

theorem ite_rel {c : Cfg} {z : Bool} {A : Prop} {fs : FStore} {s : Store} (r : RelA c z A fs s) (i t e : Nat)
    (hi : i < s.nodes.size) (ht : t < s.nodes.size) (he : e < s.nodes.size) :
    (opIteC c fs i t e).2 = (opIte s i t e).2 ∧ RelA c z A (opIteC c fs i t e).1 (opIte s i t e).1 := by
  unfold opIteC opIte
  have hi' : i < fs.base.nodes.size := by rw [r.nodes]; exact hi
  have ht' : t < fs.base.nodes.size := by rw [r.nodes]; exact ht
  have he' : e < fs.base.nodes.size := by rw [r.nodes]; exact he
  have hf : i + t + e < i + t + e + 1 := Nat.lt_succ_self _
  have ⟨e1, q1, inv1⟩ := iteCfg_sim c z _ fs i t e r.inv hi' ht' he' hf
  have ⟨_, n2, q2, a2⟩ := iteS_sim (scOf c) (scOf_sound c) _ fs.base s i t e r.inv.wf r.wf r.nodes hi' ht' he' hf
  have ⟨w2, _, _, _, _⟩ := iteF_spec _ s i t e r.wf hi ht he hf
  exact ⟨q1.trans q2, inv1, w2, by rw [e1]; exact n2, fun a => by rw [e1]; exact a2 (r.ite a)⟩

theorem Rel.size {c : Cfg} {z : Bool} {fs : FStore} {s : Store} (r : Rel c z fs s) :
    fs.base.nodes.size = s.nodes.size := by rw [r.nodes]

theorem Rel.queries {c : Cfg} {z : Bool} {fs : FStore} {s : Store} (r : Rel c z fs s) (hv : c.valid)
    (t : Nat) (ht : t < s.nodes.size) (memo : Bool) :
    (pathsC c fs t memo).1 = paths s t ∧
    maxDepthCfg c fs t = (countF s (t+1) t).2.2 ∧
    (∀ x, x ∈ varDepsC c fs t ↔ x ∈ depsOf s t) ∧
    ((c.exc = false ∨ memo = false) →
      (modelsC c fs t memo).1 = ((countF s (t+1) t).1, (countF s (t+1) t).2.1)) := by
  have htR : t < fs.base.nodes.size := by rw [r.nodes]; exact ht
  refine ⟨?_, ?_, ?_, ?_⟩
  · rw [(pathsC_exact c z fs t memo r.inv htR).1]
    exact pathsF_congr r.nodes _ _
  · rw [maxDepthCfg_exact c z fs t r.inv htR, countF_congr r.nodes]
  · intro x
    rw [varDepsC_exact c z fs t r.inv htR x, depsOf_congr r.nodes]
  · intro hex
    rw [(modelsC_exact c hv z fs t memo r.inv htR hex).1, countF_congr r.nodes]

/-- one operation under any feature set against the reference, for every `A`: `step_rel` is the case `A := True`,
`stepOp_memo_transparent` the case `A := False` at the empty feature set -/
theorem step_same {c : Cfg} {z : Bool} {A : Prop} {fs : FStore} {s : Store} (r : RelA c z A fs s)
    (hist : List Nat) (fns : List BoolFn) (op : Op) (h : HistOK s hist fns) (hv : op.valid hist.length) :
    (stepOpC c fs hist op).2 = (stepOp s hist op).2 ∧ RelA c z A (stepOpC c fs hist op).1 (stepOp s hist op).1 := by
  have w := r.wf
  have z0 := zero_lt s w
  have o1 := one_lt s w
  cases op with
  | var v =>
    have hv' : v < VBOT := hv
    exact node_rel r v 0 1 z0 o1 hv' (by rw [topVar_zero w]; exact hv')
      (by rw [topVar_one w]; unfold VTOP; unfold VBOT at hv'; omega)
  | const b => exact ⟨rfl, r⟩
  | not a => exact ite_rel r _ 0 1 (h.ok a hv).1 z0 o1
  | and a b => exact ite_rel r _ _ 0 (h.ok a hv.1).1 (h.ok b hv.2).1 z0
  | or a b => exact ite_rel r _ 1 _ (h.ok a hv.1).1 o1 (h.ok b hv.2).1
  | imp a b => exact ite_rel r _ _ 1 (h.ok a hv.1).1 (h.ok b hv.2).1 o1
  | iff a b =>
    have ha := (h.ok a hv.1).1
    have hb := (h.ok b hv.2).1
    have n := ite_rel r (hget hist b) 0 1 hb z0 o1
    have gn := opNot_good s w _ hb
    have i := ite_rel n.2 (hget hist a) (hget hist b) (opNot s (hget hist b)).2
      (Nat.lt_of_lt_of_le ha gn.ext.1) (Nat.lt_of_lt_of_le hb gn.ext.1) gn.lt
    simp only [stepOpC, stepOp, opNotC, opNot, n.1]
    exact i
  | xor a b =>
    have ha := (h.ok a hv.1).1
    have hb := (h.ok b hv.2).1
    have n := ite_rel r (hget hist b) 0 1 hb z0 o1
    have gn := opNot_good s w _ hb
    have i := ite_rel n.2 (hget hist a) (opNot s (hget hist b)).2 (hget hist b)
      (Nat.lt_of_lt_of_le ha gn.ext.1) gn.lt (Nat.lt_of_lt_of_le hb gn.ext.1)
    simp only [stepOpC, stepOp, opNotC, opNot, n.1]
    exact i
  | restrict a v b => exact restrict_rel r _ v b (h.ok a hv).1

/-- operation sequences: `run_rel` and `runOps_memo_transparent` are its two cases likewise -/
theorem run_same (c : Cfg) (z : Bool) {A : Prop} : ∀ (ops : List Op) (fs : FStore) (s : Store) (hist : List Nat)
    (fns : List BoolFn), RelA c z A fs s → HistOK s hist fns → opsValid ops hist.length →
    (runOpsC c ops fs hist).2 = (runOps ops s hist).2 ∧ RelA c z A (runOpsC c ops fs hist).1 (runOps ops s hist).1
  | [], _, _, _, _, r, _, _ => ⟨rfl, r⟩
  | op :: ops, fs, s, hist, fns, r, h, hv => by
    have ⟨q, r'⟩ := step_same r hist fns op h hv.1
    have h' := HistOK.step s hist fns op r.wf h hv.1
    have hv' : opsValid ops (hist ++ [(stepOp s hist op).2]).length := by simpa using hv.2
    rw [show runOpsC c (op :: ops) fs hist = runOpsC c ops (stepOpC c fs hist op).1 (hist ++ [(stepOpC c fs hist op).2])
      from rfl, show runOps (op :: ops) s hist = runOps ops (stepOp s hist op).1 (hist ++ [(stepOp s hist op).2]) from rfl, q]
    exact run_same c z ops _ _ _ _ r' h' hv'

theorem step_rel {c : Cfg} {z : Bool} {fs : FStore} {s : Store} (r : Rel c z fs s)
    (hist : List Nat) (fns : List BoolFn) (op : Op) (h : HistOK s hist fns) (hv : op.valid hist.length) :
    (stepOpC c fs hist op).2 = (stepOp s hist op).2 ∧
    Rel c z (stepOpC c fs hist op).1 (stepOp s hist op).1 :=
  (step_same r.toA hist fns op h hv).imp_right RelA.rel

theorem run_rel (c : Cfg) (z : Bool) (ops : List Op) (fs : FStore) (s : Store) (hist : List Nat) (fns : List BoolFn)
    (r : Rel c z fs s) (h : HistOK s hist fns) (hv : opsValid ops hist.length) :
    (runOpsC c ops fs hist).2 = (runOps ops s hist).2 ∧
    Rel c z (runOpsC c ops fs hist).1 (runOps ops s hist).1 :=
  (run_same c z ops fs s hist fns r.toA h hv).imp_right RelA.rel

#print axioms step_rel
#print axioms run_rel
