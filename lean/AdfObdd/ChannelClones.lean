import AdfObdd.Channel
/-! # Several searches on clones of one sender

The library's own test (`adf.rs`, `nogood_stable_channel…`, "multi-threaded usage") runs, in one thread,
```
adf.stable_nogood_channel(h1, s.clone());  adf.stable_nogood_channel(h2, s.clone());  adf.two_val_nogood_channel(h3, s)
```
while another thread loops `while let Ok(v) = r.recv()`.  `Chan.Cfg.closed` ("the sender was dropped" =
"the channel is disconnected") cannot express this: a search drops only the sender it was HANDED, and the
channel disconnects when the LAST sender is gone.

`MCfg` models it explicitly: `senders` = number of live `Sender` handles; the producer thread runs the
jobs `j₁, …, j_k` one after the other; each call is handed a clone of the thread's sender (`senders + 1`),
except the last call, which is handed the original; a search that returns drops the handle it was handed
(`senders - 1`, ghost `drops + 1`); the consumer's `recv` fails - its loop ends - iff the queue is empty and
`senders = 0`.  (The return of call `i` and call `i+1` are one producer step: nothing observable happens in
between.)

The model is proved to be, step by step, `Chan.run` of the COMPOSITE producer `comp` (the jobs run in
sequence, the outputs concatenated) with `closed = (senders = 0)`, so that every theorem of Channel.lean
transfers: for every capacity ≥ 1 or unbounded and every schedule the consumer receives a prefix of the
concatenation of the k results, its loop ends only after the LAST handle was dropped (not after the first
k-1 drops), then it has received exactly the concatenation, and every fair schedule ends it. -/
namespace Chan
variable {σ α : Type}

/-- one call: the loop, its start state, and the fact that it only appends to its output -/
structure Job (σ α : Type) where
  P : Producer σ α
  p : σ
  mono : Mono P

/-- the state of the producer thread: results of the searches that have returned, the running one, the
calls still to come -/
structure MState (σ α : Type) where
  pre : List α
  cur : Job σ α
  rest : List (Job σ α)

/-- the jobs in sequence as one producer -/
def comp : Producer (MState σ α) α where
  iter st :=
    if st.cur.P.done st.cur.p then
      match st.rest with
      | [] => st
      | j :: tl => { pre := st.pre ++ st.cur.P.out st.cur.p, cur := j, rest := tl }
    else { st with cur := { st.cur with p := st.cur.P.iter st.cur.p } }
  done st := st.cur.P.done st.cur.p && st.rest.isEmpty
  out st := st.pre ++ st.cur.P.out st.cur.p

theorem comp_mono : Mono (comp : Producer (MState σ α) α) := by
  intro st
  show st.pre ++ st.cur.P.out st.cur.p <+: (comp.iter st).pre ++ (comp.iter st).cur.P.out (comp.iter st).cur.p
  unfold comp
  simp only
  split
  · split
    · exact List.prefix_refl _
    · exact List.prefix_append _ _
  · exact (List.prefix_append_right_inj _).mpr (st.cur.mono st.cur.p)

structure MCfg (σ α : Type) where
  st : MState σ α
  running : Bool           -- the thread is inside one of the calls (false: the last call has returned)
  senders : Nat            -- live `Sender` handles
  drops : Nat              -- ghost: handles dropped so far
  iters : Nat
  sent : Nat
  buf : List α
  got : List α
  consDone : Bool
  log : List (ChEv α)      -- ghost: `send v` per message, `close` when the last handle is dropped

def mprodStep (cap : Option Nat) (c : MCfg σ α) : MCfg σ α :=
  if !c.running then c else
  match (comp.out c.st)[c.sent]? with
  | some v =>
    if full cap c.buf then c
    else { c with sent := c.sent + 1, buf := c.buf ++ [v], log := c.log ++ [ChEv.send v] }
  | none =>
    if c.st.cur.P.done c.st.cur.p then
      -- the running search returns and drops the handle it was handed
      match c.st.rest with
      | [] => { c with running := false, senders := c.senders - 1, drops := c.drops + 1, log := c.log ++ [ChEv.close] }
      | _ :: tl =>
        -- next call: handed a clone (`+ 1`), or - the last call - the original (count unchanged)
        { c with st := comp.iter c.st, iters := c.iters + 1, drops := c.drops + 1,
                 senders := c.senders - 1 + (if tl.isEmpty then 0 else 1) }
    else { c with st := comp.iter c.st, iters := c.iters + 1 }

def mconsStep (c : MCfg σ α) : MCfg σ α :=
  if c.consDone then c else
  match c.buf with
  | v :: rest => { c with buf := rest, got := c.got ++ [v] }
  | [] => if c.senders == 0 then { c with consDone := true } else c     -- `recv` fails: disconnected and empty

def mstep (cap : Option Nat) (c : MCfg σ α) : Ev → MCfg σ α
  | .prod => mprodStep cap c
  | .cons => mconsStep c

def mrun (cap : Option Nat) (sched : List Ev) (c : MCfg σ α) : MCfg σ α := sched.foldl (mstep cap) c

/-- the thread is about to run `j :: tl`: it owns the sender; the first call has been handed a clone (or, if it
is the only call, the original) -/
def minit (j : Job σ α) (tl : List (Job σ α)) : MCfg σ α :=
  { st := { pre := [], cur := j, rest := tl }, running := true, senders := if tl.isEmpty then 1 else 2, drops := 0,
    iters := 0, sent := 0, buf := [], got := [], consDone := false, log := [] }

/-- the view as a configuration of `Chan` over the composite producer: disconnected = no sender left -/
def proj (c : MCfg σ α) : Cfg (MState σ α) α :=
  { p := c.st, iters := c.iters, sent := c.sent, buf := c.buf, closed := !c.running, got := c.got,
    consDone := c.consDone, log := c.log }

/-- bookkeeping of handles: while a call is running the thread's original (unless handed to the last call)
and the handed one are alive; `total` = number of calls -/
structure CountInv (total : Nat) (c : MCfg σ α) : Prop where
  hs : c.senders = if c.running then (if c.st.rest.isEmpty then 1 else 2) else 0
  hd : c.drops + c.st.rest.length + (if c.running then 1 else 0) = total

theorem minit_count (j : Job σ α) (tl : List (Job σ α)) : CountInv (tl.length + 1) (minit j tl) :=
  ⟨rfl, by simp [minit]⟩

theorem mprodStep_sim (cap : Option Nat) {total : Nat} (c : MCfg σ α) (h : CountInv total c) :
    proj (mprodStep cap c) = prodStep comp cap (proj c) ∧ CountInv total (mprodStep cap c) := by
  have ⟨h1, h2⟩ := h
  fun_cases mprodStep cap c with
  | case1 hr => exact ⟨by simp [prodStep, proj, hr], h⟩
  | case2 hr v hg hf => exact ⟨by simp [prodStep, proj, hr, hg, hf], h⟩
  | case3 hr v hg hf => exact ⟨by simp [prodStep, proj, hr, hg, hf], h1, h2⟩
  | case4 hr hg hdn hrest =>
    have hrun : c.running = true := by simpa using hr
    have hcd : comp.done c.st = true := by simp [comp, hdn, hrest]
    rw [hrun, hrest] at h1 h2
    exact ⟨by simp [prodStep, proj, hrun, hg, hcd], by simp [h1], by simp [hrest]; simpa using h2⟩
  | case5 hr hg hdn j tl hrest =>
    have hrun : c.running = true := by simpa using hr
    have hcd : comp.done c.st = false := by simp [comp, hdn, hrest]
    have hit : (comp.iter c.st).rest = tl := by simp [comp, hdn, hrest]
    rw [hrun, hrest] at h1 h2
    refine ⟨by simp [prodStep, proj, hrun, hg, hcd], ?_, ?_⟩
    · simp only [hit, hrun, h1]; cases tl <;> simp
    · simp only [hit, hrun]; simp at h2 ⊢; omega
  | case6 hr hg hdn =>
    have hrun : c.running = true := by simpa using hr
    have hcd : comp.done c.st = false := by simp [comp, hdn]
    have hit : (comp.iter c.st).rest = c.st.rest := by simp [comp, hdn]
    exact ⟨by simp [prodStep, proj, hrun, hg, hcd], by simp only [hit]; exact h1, by simp only [hit]; exact h2⟩

theorem CountInv.senders_zero {total : Nat} {c : MCfg σ α} (hc : CountInv total c) :
    c.senders = 0 ↔ c.running = false := by
  rw [hc.hs]
  cases c.running with
  | false => exact ⟨fun _ => rfl, fun _ => rfl⟩
  | true => simp only [if_true, Bool.true_eq_false, iff_false]; split <;> omega

theorem mconsStep_sim {total : Nat} (c : MCfg σ α) (h : CountInv total c) :
    proj (mconsStep c) = consStep (proj c) ∧ CountInv total (mconsStep c) := by
  fun_cases mconsStep c with
  | case1 hd => exact ⟨by simp [consStep, proj, hd], h⟩
  | case2 hd v rest hb => exact ⟨by simp [consStep, proj, hd, hb], h.1, h.2⟩
  | case3 hd hb h0 =>
    have hr := h.senders_zero.mp (by simpa using h0)
    exact ⟨by simp [consStep, proj, hd, hb, hr], h.1, h.2⟩
  | case4 hd hb h0 =>
    have hr := (Bool.not_eq_false _).mp (mt h.senders_zero.mpr (by simpa using h0))
    exact ⟨by simp [consStep, proj, hd, hb, hr], h⟩

theorem mrun_sim (cap : Option Nat) {total : Nat} (sched : List Ev) : ∀ (c : MCfg σ α), CountInv total c →
    proj (mrun cap sched c) = run comp cap sched (proj c) ∧ CountInv total (mrun cap sched c) := by
  induction sched with
  | nil => intro c h; exact ⟨rfl, h⟩
  | cons e es ih =>
    intro c h
    show proj (mrun cap es (mstep cap c e)) = run comp cap es (step comp cap (proj c) e) ∧ _
    cases e with
    | prod =>
      have ⟨a, b⟩ := mprodStep_sim cap c h
      have ⟨x, y⟩ := ih _ b
      exact ⟨x.trans (by rw [a]; rfl), y⟩
    | cons =>
      have ⟨a, b⟩ := mconsStep_sim c h
      have ⟨x, y⟩ := ih _ b
      exact ⟨x.trans (by rw [a]; rfl), y⟩

theorem runG_add (P : Producer σ α) (a : Nat) (p : σ) : ∀ b, runG P (a + b) p = runG P b (runG P a p) := by
  intro b
  induction b with
  | zero => rfl
  | succ b ih =>
    show (if P.done (runG P (a + b) p) then runG P (a + b) p else P.iter (runG P (a + b) p)) = _
    rw [ih]; rfl

theorem runG_front (P : Producer σ α) (k : Nat) (p : σ) :
    runG P (k + 1) p = runG P k (if P.done p then p else P.iter p) := by
  rw [Nat.add_comm, runG_add]; rfl

theorem comp_runs_job (rest : List (Job σ α)) (pre : List α) (P : Producer σ α) (hm : Mono P) :
    ∀ (N : Nat) (p : σ), P.done (runG P N p) = true →
      ∃ k, runG comp k ⟨pre, ⟨P, p, hm⟩, rest⟩ = ⟨pre, ⟨P, runG P N p, hm⟩, rest⟩ := by
  intro N
  induction N with
  | zero => intro p _; exact ⟨0, rfl⟩
  | succ m ih =>
    intro p hd
    by_cases hdp : P.done p = true
    · refine ⟨0, ?_⟩
      have : runG P (m + 1) p = p := runG_stable (j := 0) hdp (m + 1) (Nat.zero_le _)
      rw [this]; rfl
    · rw [runG_front, if_neg hdp] at hd ⊢
      obtain ⟨k, hk⟩ := ih (P.iter p) hd
      refine ⟨k + 1, ?_⟩
      rw [runG_front, ← hk]
      -- the composite is not done and steps the current job
      show runG comp k (if (P.done p && _) = true then _ else if P.done p = true then _ else _) = _
      rw [Bool.eq_false_iff.mpr hdp]
      rfl

/-- job `j` halts with result `fin` -/
def Job.Halts (j : Job σ α) (fin : List α) : Prop := ∃ N, j.P.done (runG j.P N j.p) = true ∧ j.P.out (runG j.P N j.p) = fin

/-- the jobs halt with the results `fins`, one by one -/
inductive AllHalt : List (Job σ α) → List (List α) → Prop
  | nil : AllHalt [] []
  | cons {j : Job σ α} {f : List α} {js : List (Job σ α)} {fs : List (List α)} :
      j.Halts f → AllHalt js fs → AllHalt (j :: js) (f :: fs)

theorem comp_halts : ∀ (rest : List (Job σ α)) (fins : List (List α)), AllHalt rest fins →
    ∀ (cur : Job σ α) (pre fin : List α), cur.Halts fin →
    ∃ M, comp.done (runG comp M ⟨pre, cur, rest⟩) = true ∧
      comp.out (runG comp M ⟨pre, cur, rest⟩) = pre ++ fin ++ fins.flatten := by
  intro rest
  induction rest with
  | nil =>
    intro fins hf cur pre fin ⟨N, hd, ho⟩
    cases hf
    obtain ⟨P, p, hm⟩ := cur
    obtain ⟨k, hk⟩ := comp_runs_job [] pre P hm N p hd
    refine ⟨k, ?_, ?_⟩
    · rw [hk]; exact (Bool.and_true _).trans hd
    · rw [hk, List.flatten_nil, List.append_nil, ← ho]; rfl
  | cons j tl ih =>
    intro fins hf cur pre fin ⟨N, hd, ho⟩
    cases hf with
    | cons hj htl =>
      rename_i f fs
      obtain ⟨P, p, hm⟩ := cur
      obtain ⟨k, hk⟩ := comp_runs_job (j :: tl) pre P hm N p hd
      obtain ⟨M, h1, h2⟩ := ih fs htl j (pre ++ fin) f hj
      refine ⟨k + (1 + M), ?_⟩
      rw [runG_add, hk, Nat.add_comm 1 M, runG_front]
      -- the composite is not done: it files the result of the current job and starts the next one
      have hit : ∀ st : MState σ α, st = ⟨pre, ⟨P, runG P N p, hm⟩, j :: tl⟩ →
          (if comp.done st then st else comp.iter st) = ⟨pre ++ fin, j, tl⟩ := by
        rintro _ rfl
        show (if (P.done (runG P N p) && false) = true then _ else if P.done (runG P N p) = true then _ else _) = _
        rw [show P.done (runG P N p) = true from hd, show P.out (runG P N p) = fin from ho]
        rfl
      rw [hit _ rfl, List.flatten_cons, ← List.append_assoc]
      exact ⟨h1, h2⟩

theorem CountInv.drops_of_stopped {total : Nat} {c : MCfg σ α} (hc : CountInv total c) {cap : Option Nat}
    {p0 : MState σ α} (hinv : Inv comp cap p0 (proj c)) (hr : c.running = false) : c.drops = total := by
  have hcl : (proj c).closed = true := by show (!c.running) = true; rw [hr]; rfl
  have hd : (c.st.cur.P.done c.st.cur.p && c.st.rest.isEmpty) = true := (hinv.hc hcl).1
  have hre : c.st.rest = [] := List.isEmpty_iff.mp (Bool.and_eq_true _ _ ▸ hd).2
  have h2 := hc.hd
  rw [hr, hre] at h2
  exact h2

/-- **k sequential searches on clones of one sender.** `j :: tl` are the calls, `fin :: fins` their results.
For every capacity and every schedule, with `c` the configuration reached and `all` the concatenation of
the results:
 1. received ++ queued is a prefix of `all`;
 2. handles: the count is 0 iff the last call has returned, and then exactly `k` handles were dropped;
    before that (fewer than `k` drops) at least one handle is alive and the consumer's loop has NOT ended;
 3. when the last handle is gone: received ++ queued = `all`;
 4. when the consumer's loop has ended: it has received exactly `all`, no handle is left, nothing is queued;
 5. (capacity ≥ 1 or unbounded) there is a bound `m` such that every schedule with `m` fair rounds ends the
    consumer's loop. -/
theorem clones_deliver (j : Job σ α) (tl : List (Job σ α)) (fin : List α) (fins : List (List α))
    (hj : j.Halts fin) (htl : AllHalt tl fins) (cap : Option Nat) :
    ∃ m, ∀ (sched : List Ev),
      let c := mrun cap sched (minit j tl)
      let all := fin ++ fins.flatten
      (c.got ++ c.buf <+: all) ∧
      ((c.senders = 0 ↔ c.running = false) ∧ (c.senders = 0 → c.drops = tl.length + 1) ∧
        (c.drops < tl.length + 1 → 1 ≤ c.senders ∧ c.consDone = false)) ∧
      (c.senders = 0 → c.got ++ c.buf = all) ∧
      (c.consDone = true → c.got = all ∧ c.senders = 0 ∧ c.buf = []) ∧
      ((∀ k, cap = some k → 1 ≤ k) → Fair m sched → c.consDone = true) := by
  obtain ⟨M, hM, hout⟩ := comp_halts tl fins htl j [] fin hj
  rw [List.nil_append] at hout
  refine ⟨M + (fin ++ fins.flatten).length + 1 + (fin ++ fins.flatten).length + 1, fun sched => ?_⟩
  have ⟨hp, hc⟩ := mrun_sim cap sched (minit j tl) (minit_count j tl)
  rw [show proj (minit j tl) = (init ⟨[], j, tl⟩ : Cfg (MState σ α) α) from rfl] at hp
  generalize mrun cap sched (minit j tl) = c at hp hc
  -- everything is read off the invariant of `Chan` for the composite producer
  have hinv : Inv comp cap ⟨[], j, tl⟩ (proj c) := hp ▸ run_inv comp_mono sched _ (Inv.init _ cap _)
  have hzero := hc.senders_zero
  have hclosed : c.senders = 0 → (proj c).closed = true := fun h0 => by
    show (!c.running) = true; rw [hzero.mp h0]; rfl
  have hdone : c.consDone = true → c.got = fin ++ fins.flatten ∧ c.senders = 0 ∧ c.buf = [] := by
    intro hcd
    have ⟨a, b, d⟩ := finished_exact hM hinv hcd
    exact ⟨hout ▸ a, hzero.mpr ((Bool.not_eq_true' _).mp b), d⟩
  refine ⟨hout ▸ got_buf_prefix comp_mono hM hinv, ⟨hzero, fun h0 => hc.drops_of_stopped hinv (hzero.mp h0), ?_⟩,
    fun h0 => hout ▸ closed_all_sent hM hinv (hclosed h0), hdone, fun hcap hf => ?_⟩
  · intro hlt
    have hs1 : 1 ≤ c.senders := by
      refine Nat.pos_of_ne_zero fun h0 => ?_
      have := hc.drops_of_stopped hinv (hzero.mp h0)
      omega
    refine ⟨hs1, Bool.eq_false_iff.mpr fun hcd => ?_⟩
    have := (hdone hcd).2.1
    omega
  · have := fair_finishes comp_mono hM hcap _ sched hf _ (Inv.init comp cap ⟨[], j, tl⟩)
      (by rw [measure_init, hout]; exact Nat.le_refl _)
    rw [← hp] at this
    exact this

/-- a loop emitting `b, b+1, …, b+k-1` -/
def toyJob (b k : Nat) : Job Nat Nat :=
  { P := { iter := (· + 1), done := fun p => decide (k ≤ p), out := fun p => (List.range p).map (· + b) },
    p := 0,
    mono := by
      intro p
      show (List.range p).map (· + b) <+: (List.range (p + 1)).map (· + b)
      rw [List.range_succ, List.map_append]; exact List.prefix_append _ _ }

/-- two results, none, one result: after the first and the second call have returned (2 drops) a handle is
still alive and the consumer, although the queue is empty, is not done; after the third return it ends with
`[10, 11, 30]` -/
example :
    let s1 : List Ev := [.prod, .prod, .cons, .prod, .prod, .cons, .prod, .prod, .cons, .cons]
    let c1 := mrun (some 1) s1 (minit (toyJob 10 2) [toyJob 20 0, toyJob 30 1])
    let c2 := mrun (some 1) [.prod, .prod, .cons, .prod, .cons, .cons] c1
    (c1.drops = 2 ∧ c1.senders = 1 ∧ c1.got = [10, 11] ∧ c1.buf = [] ∧ c1.consDone = false) ∧
    (c2.drops = 3 ∧ c2.senders = 0 ∧ c2.got = [10, 11, 30] ∧ c2.consDone = true) := by decide +kernel

end Chan
