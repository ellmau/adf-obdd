import AdfObdd.ServerCred
import AdfObdd.ServerSuccess
/-! # C16 — what is stored in every reachable state of a deletion-free history (any environment)

The per-event theorems of `ServerSuccess.lean` assume, at the moment of a task's write, that the
addressed document is the one the task was spawned for. That is NOT a consequence of reachability in
general: a document can be deleted and re-created under the same name, or its owner renamed, while a
task runs, and the task's write then lands in whatever document carries the (user, name) pair at that
moment (finding D9; the Rust behaves the same). For histories WITHOUT the three requests that remove
or rename documents (`DELETE /adf/{name}`, `DELETE /users/delete`, `PUT /users/update`) it is: this
file proves that every event of such a history keeps the invariant `Good` (`Good.next`) —

* every stored framework is the environment's parse result for the document's OWN code and parsing
  strategy, and every stored strategy result is the environment's answer for that framework;
* every task ever spawned addresses an existing document; a parse task carries that document's code,
  a solve task the framework parsed from that document's code.

The statement about the states reached, `reachable_results_belong_to_the_code`, is the deletion-free case of
`no_d9_all_belong` and stands in `ServerD9.lean`.

`Effect` / `stepEv_effect`: everything one event can do to the problem collection, the task list and the running
set, in eight cases. Underneath, each handler that writes has one lemma giving the whole state after it in terms of
`exec` (`addFor_state`, `hAdd_state`, `hDelete_state`, `hDeleteAccount_state`, `hSolve_run` of `ServerSuccess.lean`;
`update` path by path in `ServerCred.lean`); the task events are `dbEv_task` of `ServerProofs.lean`. The invariants of this file, of `ServerStale.lean`, `ServerProv.lean` and
`ServerLive.lean` are case analyses on `Effect`.

Atomic requests (`stepEv`), arbitrary interleaving of requests of any number of users/jars with the
task events `finish` / `write` / `timeout`. -/
namespace ServerM
section
variable {T H A R : Type} [DecidableEq T]

/-- the task was spawned for this document -/
def TaskOK (E : Env T H A R) : TaskInput T A → Problem T A R → Prop
  | .parse code parsing, p => p.code = code ∧ p.parsing = parsing
  | .solve a _, p => ∃ r, E.parse p.parsing p.code = .ok (a, r)

/-- what the document stores belongs to its own code -/
def DocOK (E : Env T H A R) (p : Problem T A R) : Prop :=
  (∀ a, p.adf = .some a → ∃ r, E.parse p.parsing p.code = .ok (a, r)) ∧
  (∀ s res, p.res.get s = .some res → ∃ a r, E.parse p.parsing p.code = .ok (a, r) ∧ E.solve a s = .ok res)

structure Good (E : Env T H A R) (db : Db T H A R) : Prop where
  docs : ∀ p ∈ db.problems, DocOK E p
  tasks : ∀ t ∈ db.tasks, ∃ p, db.problems.find? (isProb t.username t.name) = some p ∧ TaskOK E t.input p

theorem Good.init (E : Env T H A R) : Good E ({} : Db T H A R) :=
  ⟨fun p hp => (by cases hp), fun t ht => (by cases ht)⟩

theorem Results.get_empty (s : Strategy) : (({} : Results R).get s) = .none := by cases s <;> rfl

theorem Results.get_set_some {r : Results R} {s s' : Strategy} {v : OWE R} {res : R}
    (h : (r.set s v).get s' = .some res) : (s' = s ∧ v = .some res) ∨ r.get s' = .some res := by
  by_cases hs : s' = s
  · subst hs; rw [Results.get_set_same] at h; exact Or.inl ⟨rfl, h⟩
  · rw [Results.get_set_other _ _ _ _ hs] at h; exact Or.inr h

theorem find_append_some {α : Type} (q : α → Bool) (l : List α) (x y : α) (h : l.find? q = some y) :
    (l ++ [x]).find? q = some y := by
  rw [List.find?_append, h]; rfl

theorem find_append_none {α : Type} (q : α → Bool) (l : List α) (x : α) (h : l.find? q = none) (hx : q x = true) :
    (l ++ [x]).find? q = some x := by
  rw [List.find?_append, h]; simp [hx]

theorem TaskOK_apply (E : Env T H A R) (i : TaskInput T A) (w : Write A R) (p : Problem T A R) :
    TaskOK E i (w.apply p) ↔ TaskOK E i p := by
  cases i <;> cases w <;> exact Iff.rfl

/-- tasks of the new state come from tasks of the old one, same key and input, and none is "un-written" -/
def TasksFrom (ts' ts : List (TaskRec T A)) : Prop :=
  ∀ t' ∈ ts', ∃ t ∈ ts, t'.username = t.username ∧ t'.name = t.name ∧ t'.input = t.input ∧
    (t'.written = false → t.written = false)

theorem TasksFrom.refl (ts : List (TaskRec T A)) : TasksFrom ts ts :=
  fun t ht => ⟨t, ht, rfl, rfl, rfl, id⟩

theorem tasksFrom_updNth (j n : Nat) (f : TaskRec T A → TaskRec T A)
    (hf : ∀ t, (f t).username = t.username ∧ (f t).name = t.name ∧ (f t).input = t.input ∧
      ((f t).written = false → t.written = false)) (l : List (TaskRec T A)) :
    TasksFrom (updNth j f n l) l := by
  intro t' ht'
  rcases mem_updNth j f n l t' ht' with h | ⟨t, ht, rfl⟩
  · exact ⟨t', h, rfl, rfl, rfl, id⟩
  · exact ⟨t, ht, hf t⟩

theorem tasksFrom_done (j n : Nat) (l : List (TaskRec T A)) :
    TasksFrom (updNth j (fun t => { t with blockingDone := true }) n l) l :=
  tasksFrom_updNth j n (fun t => { t with blockingDone := true }) (fun _ => ⟨rfl, rfl, rfl, id⟩) l

theorem tasksFrom_written (j n : Nat) (l : List (TaskRec T A)) :
    TasksFrom (updNth j (fun t => { t with written := true }) n l) l :=
  tasksFrom_updNth j n (fun t => { t with written := true }) (fun _ => ⟨rfl, rfl, rfl, fun hh => by cases hh⟩) l

/-- requests that neither remove nor rename documents -/
def Req.keeps : Req T → Bool
  | .delete _ | .deleteAccount | .update _ _ _ => false
  | _ => true

def Event.keeps : Event T → Bool
  | .req rq => rq.req.keeps
  | _ => true

/-- the rename `u → u'` a `PUT /users/update` request asks for (whether it is carried out shows in the state) -/
def renameOf (st : State T H A R) : Event T → Option (T × T)
  | .req ⟨jar, .update u' _ _⟩ => (st.sess jar).map (fun u => (u, u'))
  | _ => none

/-- what `update_many {username: u} {$set: {username: u'}}` does to one document -/
def renameDoc (u u' : T) (p : Problem T A R) : Problem T A R := if ownedP u p then { p with username := u' } else p

/-- everything one event can do to the problem collection, the task list and the running set
(`stepEv_effect`); every invariant along runs is a case analysis on it. Tasks keep their positions (`updNth`), a
task step names its event, a spawn names the record it appends. -/
inductive Effect (E : Env T H A R) (st : State T H A R) (e : Event T) (db' : Db T H A R) : Prop where
  | same (hp : db'.problems = st.db.problems) (ht : db'.tasks = st.db.tasks) (hr : db'.running = st.db.running)
  | finish (j n : Nat) (t : TaskRec T A) (he : e = .finish j n) (htn : nthOf j n st.db.tasks = some t)
      (hb : t.blockingDone = false) (hp : db'.problems = st.db.problems)
      (ht : db'.tasks = updNth j (fun t => { t with blockingDone := true }) n st.db.tasks)
      (hr : db'.running = eraseInfo t.info st.db.running)
  | write (j n : Nat) (t : TaskRec T A) (w : Write A R) (htn : nthOf j n st.db.tasks = some t) (hwr : t.written = false)
      (he : (e = .write j n ∧ t.blockingDone = true ∧ w = taskWrite E t.input) ∨
        (e = .timeout j n ∧ t.blockingDone = false ∧ w = timeoutWrite t.input))
      (hp : db'.problems = updFirst (isProb t.username t.name) w.apply st.db.problems)
      (ht : db'.tasks = updNth j (fun t => { t with written := true }) n st.db.tasks)
      (hr : db'.running = st.db.running)
  | add (u n c : T) (pg : Parsing) (t0 : TaskRec T A) (hren : renameOf st e = none)
      (hnone : st.db.problems.find? (isProb u n) = none) (h0 : t0 = { jar := e.jar, username := u, name := n, input := .parse c pg })
      (hp : db'.problems = st.db.problems ++ [{ name := n, username := u, code := c, parsing := pg }])
      (ht : db'.tasks = st.db.tasks ++ [t0]) (hr : db'.running = (exec st.db (.spawn t0)).1.running)
  | solve (u n : T) (p : Problem T A R) (a : A) (s : Strategy) (t0 : TaskRec T A)
      (hf : st.db.problems.find? (isProb u n) = some p) (ha : p.adf = .some a)
      (h0 : t0 = { jar := e.jar, username := u, name := n, input := .solve a s })
      (hp : db'.problems = st.db.problems) (ht : db'.tasks = st.db.tasks ++ [t0])
      (hr : db'.running = (exec st.db (.spawn t0)).1.running)
  | del (u n : T) (hk : e.keeps = false) (hp : db'.problems = delFirst (isProb u n) st.db.problems)
      (ht : db'.tasks = st.db.tasks) (hr : db'.running = st.db.running)
  | delAll (u : T) (hk : e.keeps = false) (hp : db'.problems = st.db.problems.filter (fun p => !ownedP u p))
      (ht : db'.tasks = st.db.tasks) (hr : db'.running = st.db.running)
  | rename (u u' : T) (hk : e.keeps = false) (hren : renameOf st e = some (u, u'))
      (hp : db'.problems = st.db.problems.map (renameDoc u u')) (ht : db'.tasks = st.db.tasks)
      (hr : db'.running = st.db.running)

/-- commands that leave the problem collection, the task list and the running set alone -/
def Harmless : Cmd T H A R → Prop
  | .uFind _ | .uInsert _ | .pFindOne _ _ | .pFindAll _ | .rContains _ | .rTasks _ _ => True
  | _ => False

theorem exec_harmless (db : Db T H A R) (c : Cmd T H A R) (hc : Harmless c) :
    (exec db c).1.problems = db.problems ∧ (exec db c).1.tasks = db.tasks ∧ (exec db c).1.running = db.running := by
  cases c with
  | uInsert u => simp only [exec]; split <;> exact ⟨rfl, rfl, rfl⟩
  | uFind _ | pFindOne _ _ | pFindAll _ | rContains _ | rTasks _ _ => exact ⟨rfl, rfl, rfl⟩
  | _ => exact absurd hc (by simp [Harmless])

/-- the requests whose handlers issue harmless commands only -/
def Req.reads : Req T → Bool
  | .add _ _ _ _ _ _ | .solve _ _ | .delete _ | .deleteAccount | .update _ _ _ => false
  | _ => true

theorem shape_harmless (E : Env T H A R) (jar : Nat) (id : Option T) {r : Req T} (hr : r.reads = true) :
    ∀ c, Shape E jar id r c → Harmless c := by
  intro c hc
  cases r with
  | register u p salt => rcases hc with rfl | rfl <;> trivial
  | login u p => cases hc; trivial
  | logout => obtain ⟨v, _, rfl⟩ := hc; trivial
  | info => obtain ⟨v, _, rfl⟩ := hc; trivial
  | get name => obtain ⟨v, _, rfl | ⟨n, rfl⟩⟩ := hc <;> trivial
  | list => obtain ⟨v, _, rfl | ⟨n, rfl⟩⟩ := hc <;> trivial
  | malformed => cases hc
  | add _ _ _ _ _ _ | solve _ _ | delete _ | deleteAccount | update _ _ _ => cases hr

theorem run_reads (E : Env T H A R) (jar : Nat) (id : Option T) {r : Req T} (hr : r.reads = true) (db : Db T H A R) :
    (run (handler E jar id r) db).1.problems = db.problems ∧ (run (handler E jar id r) db).1.tasks = db.tasks ∧
    (run (handler E jar id r) db).1.running = db.running :=
  run_inv (fun d => d.problems = db.problems ∧ d.tasks = db.tasks ∧ d.running = db.running)
    (fun d c hc hi => by
      have := exec_harmless d c (shape_harmless E jar id hr c hc)
      exact ⟨this.1.trans hi.1, this.2.1.trans hi.2.1, this.2.2.trans hi.2.2⟩) (handler_shape E jar id r) db ⟨rfl, rfl, rfl⟩

/-- the state after the tail of `add_adf_problem`: unchanged if the name is taken, else one `insert_one` and one spawn -/
theorem addFor_state (jar : Nat) (ck : Cookie T) (u name code : T) (parsing : Parsing) (emp fp : T) (db : Db T H A R) :
    (run (addFor (H := H) (A := A) (R := R) jar ck u name code parsing emp fp) db).1 =
      match db.problems.find? (isProb u (if name ≠ emp then name else fp)) with
      | some _ => db
      | none =>
        (exec (exec db (.pInsert { name := if name ≠ emp then name else fp, username := u, code := code, parsing := parsing })).1
          (.spawn { jar := jar, username := u, name := if name ≠ emp then name else fp, input := .parse code parsing })).1 := by
  unfold addFor
  by_cases hn : name ≠ emp
  · simp only [if_pos hn, run, exec]
    cases db.problems.find? (isProb u name)
    · simp only [run, exec]; rfl
    · rfl
  · simp only [if_neg hn, run, exec]
    cases db.problems.find? (isProb u fp)
    · simp only [run, exec]; rfl
    · rfl

/-- the state after `add_adf_problem`: possibly a new temporary account, then nothing or one new document (under a
pair that addressed no document) with its parse task -/
def AddState (jar : Nat) (parsing : Parsing) (db d : Db T H A R) : Prop :=
  ∃ us, d = { db with users := us } ∨
    ∃ u n c, db.problems.find? (isProb u n) = none ∧
      d = (exec (exec { db with users := us } (.pInsert { name := n, username := u, code := c, parsing := parsing })).1
        (.spawn { jar := jar, username := u, name := n, input := .parse c parsing })).1

theorem hAdd_state (E : Env T H A R) (jar : Nat) (id : Option T) (name : T) (code file : Option T) (parsing : Parsing)
    (fu fp : T) (db : Db T H A R) : AddState jar parsing db (run (hAdd E jar id name code file parsing fu fp) db).1 := by
  have tail : ∀ (ck : Cookie T) (u c : T) (us : List (User T H)),
      AddState jar parsing db (run (addFor jar ck u name c parsing E.emp fp : P T H A R) { db with users := us }).1 := by
    intro ck u c us
    rw [addFor_state]
    dsimp only
    cases hf : db.problems.find? (isProb u (if name ≠ E.emp then name else fp)) with
    | some _ => exact ⟨us, Or.inl rfl⟩
    | none => exact ⟨us, Or.inr ⟨u, _, c, hf, rfl⟩⟩
  fun_cases hAdd E jar id name code file parsing fu fp with
  | case1 | case2 => exact ⟨db.users, Or.inl rfl⟩
  | case3 c _ he u => exact tail .keep u c db.users
  | case4 c _ he =>
    simp only [run, exec]
    cases hf : db.users.find? (isUser fu) with
    | some _ => exact ⟨db.users, Or.inl rfl⟩
    | none =>
      simp only [run, exec]
      by_cases hany : db.users.any (isUser fu) = true
      · simp only [hany, if_true]
        exact ⟨db.users, Or.inl rfl⟩
      · simp only [hany, Bool.false_eq_true, if_false]
        exact tail (.login fu) fu c _

theorem run_ite_ret {c : Prop} [Decidable c] (a b : P T H A R) (d : Db T H A R) (ha : (run a d).1 = d)
    (hb : (run b d).1 = d) : (run (if c then a else b) d).1 = d := by
  split <;> assumption

/-- `delete_adf_problem` is at most one `delete_one` -/
theorem hDelete_state (id : Option T) (name : T) (db : Db T H A R) :
    (run (hDelete (H := H) id name) db).1 = match id with | none => db | some u => (exec db (.pDeleteOne u name)).1 := by
  unfold hDelete
  cases id with
  | none => rfl
  | some u => simp only [run, exec]; split <;> rfl

/-- `delete_account` is `delete_many` on the problems, then `delete_one` on the users -/
theorem hDeleteAccount_state (id : Option T) (db : Db T H A R) :
    (run (hDeleteAccount (H := H) (A := A) (R := R) id) db).1 =
      match id with | none => db | some u => (exec (exec db (.pDeleteAll u)).1 (.uDelete u)).1 := by
  unfold hDeleteAccount
  cases id with
  | none => rfl
  | some u => simp only [run, exec]; exact run_ite_ret _ _ _ rfl rfl

theorem request_effect (E : Env T H A R) (st : State T H A R) (rq : Request T) :
    Effect E st (.req rq) (step E st rq).1.db := by
  obtain ⟨jar, r⟩ := rq
  show Effect E st _ (run (handler E jar (st.sess jar) r) st.db).1
  by_cases hr : r.reads = true
  · have h := run_reads E jar (st.sess jar) hr st.db
    exact .same h.1 h.2.1 h.2.2
  · cases r with
    | add name code file parsing fu fp =>
      obtain ⟨us, h | ⟨u, n, c, hf, h⟩⟩ := hAdd_state E jar (st.sess jar) name code file parsing fu fp st.db
      · exact .same (by rw [handler, h]) (by rw [handler, h]) (by rw [handler, h])
      · exact .add u n c parsing _ rfl hf rfl (by rw [handler, h]; rfl) (by rw [handler, h]; rfl) (by rw [handler, h]; rfl)
    | solve name s =>
      rcases hSolve_run (H := H) jar (st.sess jar) name s st.db with ⟨h, _⟩ | ⟨u, p, a, _, hf, ha, hd⟩
      · exact .same (congrArg Db.problems h) (congrArg Db.tasks h) (congrArg Db.running h)
      · have hd' : (run (handler E jar (st.sess jar) (.solve name s)) st.db).1 = _ := hd
        exact .solve u name p a s _ hf ha rfl (by rw [hd']; rfl) (by rw [hd']; rfl) (by rw [hd']; rfl)
    | delete name =>
      rw [handler, hDelete_state]
      cases st.sess jar with
      | none => exact .same rfl rfl rfl
      | some u => exact .del u name rfl rfl rfl rfl
    | deleteAccount =>
      rw [handler, hDeleteAccount_state]
      cases st.sess jar with
      | none => exact .same rfl rfl rfl
      | some u => exact .delAll u rfl rfl rfl rfl
    | update u' p' salt =>
      -- the five paths of `update_user` (`ServerCred.lean`): only a replacement that matched renames
      show Effect E st _ (step E st ⟨jar, .update u' p' salt⟩).1.db
      have ok : ∀ u, st.sess jar = some u → Effect E st (.req ⟨jar, .update u' p' salt⟩)
          (if st.db.users.any (isUser u) = true then
            (updated E st jar u' p' salt u, (⟨200, .login u', .userInfo u' false⟩ : Resp T R))
           else (st, ⟨500, .keep, .msg .accountNotUpdated⟩)).1.db := by
        intro u hs
        split
        · exact .rename u u' rfl (by simp [renameOf, hs]) rfl rfl rfl
        · exact .same rfl rfl rfl
      by_cases he : u' = E.emp ∨ p' = E.emp
      · rw [step_update_emp E st jar u' p' salt he]; exact .same rfl rfl rfl
      · cases hs : st.sess jar with
        | none => rw [step_update_nosess E st jar u' p' salt he hs]; exact .same rfl rfl rfl
        | some u =>
          by_cases hne : u' = u
          · subst hne; rw [step_update_same E st jar u' p' salt he hs]; exact ok u' hs
          · cases hf : st.db.users.find? (isUser u') with
            | some x => rw [step_update_taken E st jar u' p' salt he hs hne hf]; exact .same rfl rfl rfl
            | none => rw [step_update_free E st jar u' p' salt he hs hne hf]; exact ok u hs
    | _ => exact absurd rfl hr

theorem dbEv_effect (E : Env T H A R) (st : State T H A R) (e : Event T) : Effect E st e (dbEv E st.db e) := by
  rcases dbEv_task E st.db st.db e rfl with h0 | ⟨t, ht, ⟨hb, hd, _, he⟩ | ⟨hw, w, hd, _, he⟩⟩
  · rw [h0.1]; exact .same rfl rfl rfl
  · rw [hd]; exact .finish _ _ t he ht hb rfl rfl rfl
  · rw [hd]; exact .write _ _ t w ht hw he rfl rfl rfl

theorem stepEv_effect (E : Env T H A R) (st : State T H A R) (e : Event T) : Effect E st e (stepEv E st e).1.db := by
  cases e with
  | req rq => exact request_effect E st rq
  | finish j n => exact dbEv_effect E st (.finish j n)
  | write j n => exact dbEv_effect E st (.write j n)
  | timeout j n => exact dbEv_effect E st (.timeout j n)

theorem Good.flags {E : Env T H A R} {db db' : Db T H A R} (h : Good E db) (hp : db'.problems = db.problems)
    (ht : TasksFrom db'.tasks db.tasks) : Good E db' := by
  refine ⟨fun p hp' => h.docs p (hp ▸ hp'), fun t' ht' => ?_⟩
  obtain ⟨t, htm, e1, e2, e3, _⟩ := ht t' ht'
  rw [hp, e1, e2, e3]
  exact h.tasks t htm

theorem DocOK_new (E : Env T H A R) (n u code : T) (parsing : Parsing) :
    DocOK E ({ name := n, username := u, code := code, parsing := parsing } : Problem T A R) := by
  refine ⟨fun a ha => (by cases ha), fun s res hr => ?_⟩
  have : (({} : Results R).get s) = .some res := hr
  rw [Results.get_empty] at this; cases this

theorem parseWrite_cases (E : Env T H A R) (code : T) (pg : Parsing) (w : Write A R)
    (hw : w = taskWrite E (.parse code pg) ∨ w = timeoutWrite (.parse code pg)) :
    ∃ oa po, w = .parsed oa po ∧ ∀ a, oa = .some a → ∃ r, E.parse pg code = .ok (a, r) := by
  rcases hw with rfl | rfl
  · simp only [taskWrite]
    cases E.parse pg code with
    | error e => exact ⟨.error e, .error e, rfl, fun a ha => by cases ha⟩
    | ok x => exact ⟨.some x.1, .some x.2, rfl, fun a ha => by cases ha; exact ⟨x.2, rfl⟩⟩
  · exact ⟨.error .timeout, .error .timeout, rfl, fun a ha => by cases ha⟩

theorem solveWrite_cases (E : Env T H A R) (a : A) (s : Strategy) (w : Write A R)
    (hw : w = taskWrite E (.solve a s) ∨ w = timeoutWrite (.solve a s : TaskInput T A)) :
    ∃ v, w = .solved s v ∧ ∀ res, v = .some res → E.solve a s = .ok res := by
  rcases hw with rfl | rfl
  · simp only [taskWrite]
    cases E.solve a s with
    | error e => exact ⟨.error e, rfl, fun res hr => by cases hr⟩
    | ok r => exact ⟨.some r, rfl, fun res hr => by cases hr; rfl⟩
  · exact ⟨.error .timeout, rfl, fun res hr => by cases hr⟩

theorem docOK_write (E : Env T H A R) (i : TaskInput T A) (w : Write A R) (hw : w = taskWrite E i ∨ w = timeoutWrite i)
    (p : Problem T A R) (hd : DocOK E p) (hok : TaskOK E i p) : DocOK E (w.apply p) := by
  cases i with
  | parse code pg =>
    obtain ⟨oa, po, rfl, hoa⟩ := parseWrite_cases E code pg w hw
    obtain ⟨rfl, rfl⟩ := hok
    exact ⟨hoa, hd.2⟩
  | solve a s =>
    obtain ⟨v, rfl, hv⟩ := solveWrite_cases E a s w hw
    obtain ⟨r0, hr0⟩ := hok
    refine ⟨hd.1, fun s' res hr => ?_⟩
    rcases Results.get_set_some hr with ⟨rfl, h⟩ | h
    · exact ⟨a, r0, hr0, hv res h⟩
    · exact hd.2 s' res h

theorem Good.next (E : Env T H A R) {st : State T H A R} (h : Good E st.db) (e : Event T) (hk : e.keeps = true) :
    Good E (stepEv E st e).1.db := by
  cases stepEv_effect E st e with
  | same hp ht => exact h.flags hp (ht ▸ TasksFrom.refl _)
  | finish j n _ _ _ _ hp ht => exact h.flags hp (ht ▸ tasksFrom_done j n _)
  | write j n t w htn _ he hp ht =>
    have ht' := ht ▸ tasksFrom_written j n _
    refine ⟨fun p hp' => ?_, fun t' ht'' => ?_⟩
    · rw [hp] at hp'
      rcases mem_updFirst_r _ _ _ _ hp' with h1 | ⟨x, hx, rfl⟩
      · exact h.docs p h1
      · obtain ⟨p0, hf0, hok⟩ := h.tasks t (nthOf_mem j n _ t htn).1
        obtain rfl : p0 = x := Option.some.inj (hf0.symm.trans hx)
        exact docOK_write E t.input w (he.imp (·.2.2) (·.2.2)) p0 (h.docs p0 (List.mem_of_find?_eq_some hf0)) hok
    · obtain ⟨t1, htm, e1, e2, e3, _⟩ := ht' t' ht''
      obtain ⟨p, hf, hok⟩ := h.tasks t1 htm
      rw [hp, e1, e2, e3]
      rcases find_updFirst (isProb t.username t.name) (isProb t1.username t1.name) w.apply (isProb_apply _ _ w)
          st.db.problems with h' | ⟨y, hy, _, h'⟩
      · exact ⟨p, h'.trans hf, hok⟩
      · obtain rfl : y = p := Option.some.inj (hy.symm.trans hf)
        exact ⟨_, h', (TaskOK_apply E t1.input w y).mpr hok⟩
  | add u n c pg t0 _ hnone h0 hp ht =>
    subst h0
    refine ⟨fun p hp' => ?_, fun t ht' => ?_⟩
    · rw [hp, List.mem_append, List.mem_singleton] at hp'
      rcases hp' with h' | rfl
      · exact h.docs p h'
      · exact DocOK_new E n u c pg
    · rw [ht, List.mem_append, List.mem_singleton] at ht'
      rw [hp]
      rcases ht' with h' | rfl
      · obtain ⟨p, hf, hok⟩ := h.tasks t h'
        exact ⟨p, find_append_some _ _ _ _ hf, hok⟩
      · exact ⟨_, find_append_none _ _ _ hnone (by simp [isProb]), rfl, rfl⟩
  | solve u n p a s t0 hf ha h0 hp ht =>
    subst h0
    refine ⟨fun q hq => h.docs q (hp ▸ hq), fun t ht' => ?_⟩
    rw [ht, List.mem_append, List.mem_singleton] at ht'
    rw [hp]
    rcases ht' with h' | rfl
    · exact h.tasks t h'
    · exact ⟨p, hf, (h.docs p (List.mem_of_find?_eq_some hf)).1 a ha⟩
  | del _ _ hk' | delAll _ hk' | rename _ _ hk' => rw [hk] at hk'; cases hk'

theorem Good.request (E : Env T H A R) {st : State T H A R} (h : Good E st.db) (rq : Request T)
    (hk : rq.req.keeps = true) : Good E (step E st rq).1.db :=
  h.next E (.req rq) hk

end
end ServerM
