import AdfObdd.StoreIte
import AdfObdd.Lfp
/-! the state-passing grounded loop on any restriction algebra, the Store
    instance, and C01 for the native back-end -/

section
variable {S T : Type} (A : RA S T)

def countConst (v : List T) : Nat := countSome (asg3 A v)

/-- `Adf::grounded_internal` (lib/src/adf.rs). `roundAux A s v v` gets the vector twice: as the entries to rewrite and
as `curr_interpretation`, the clone taken at the head of the round, so an entry decided during a round is not used in
the rest of that round. The `loop` ends when a round decides nothing new (`t_vals == old_t_vals`); fuel stands for it,
and more than `ac.length` is enough (`grounded_correct`). -/
def groundedLoop : Nat → S → List T → S × List T
  | 0, s, v => (s, v)
  | f+1, s, v =>
    let r := roundAux A s v v
    if countConst A r.2 = countConst A v then r else groundedLoop f r.1 r.2

theorem groundedLoop_sem : ∀ (fuel : Nat) (s : S) (v : List T), A.Inv s → AllValid A s v →
    A.Inv (groundedLoop A fuel s v).1 ∧ A.Le s (groundedLoop A fuel s v).1 ∧
    AllValid A (groundedLoop A fuel s v).1 (groundedLoop A fuel s v).2 ∧
    (groundedLoop A fuel s v).2.map (A.den (groundedLoop A fuel s v).1) = semLoop fuel (v.map (A.den s)) := by
  intro fuel
  induction fuel with
  | zero => intro s v hi hv; exact ⟨hi, A.le_refl s, hv, rfl⟩
  | succ f ih =>
    intro s v hi hv
    have ⟨i1, l1, v1, d1⟩ := round_sem A s v hi hv
    unfold groundedLoop semLoop
    simp only
    have c1 : countConst A (roundAux A s v v).2 = countSome ((semRound (v.map (A.den s))).map constOf) := by
      unfold countConst; rw [asg3_eq A i1 v1, d1]
    have c2 : countConst A v = countSome ((v.map (A.den s)).map constOf) := by
      unfold countConst; rw [asg3_eq A hi hv]
    by_cases hc : countConst A (roundAux A s v v).2 = countConst A v
    · rw [if_pos hc, if_pos (by rw [← c1, ← c2]; exact hc)]
      exact ⟨i1, l1, v1, d1⟩
    · rw [if_neg hc, if_neg (by rw [← c1, ← c2]; exact hc)]
      have ⟨i2, l2, v2, d2⟩ := ih _ _ i1 v1
      exact ⟨i2, A.le_trans l1 l2, v2, by rw [d2, d1]⟩

/-- C01, generic: the decided part of the result is a fixpoint of Γ below every fixpoint -/
theorem grounded_correct (fuel : Nat) (s : S) (ac : List T) (hi : A.Inv s) (hv : AllValid A s ac)
    (hf : ac.length < fuel) :
    let D := ac.map (A.den s)
    let w := asg3 A (groundedLoop A fuel s ac).2
    Gam D w = w ∧ ∀ w', Gam D w' = w' → Le3 w w' := by
  intro D w
  have ⟨i1, _, v1, d1⟩ := groundedLoop_sem A fuel s ac hi hv
  have hw : w = cv (semLoop fuel D) := by
    show asg3 A _ = _
    rw [asg3_eq A i1 v1, d1]
  rw [hw]
  exact grounded_sem D fuel (by simpa [D] using hf)
end

/-- `Term::is_truth_value` with `is_true`: the terminals are the handles 0 (`Term::BOT`) and 1 (`Term::TOP`) -/
def storeIsConst (t : Nat) : Option Bool := if t = 0 then some false else if t = 1 then some true else none

def StoreRA : RA Store Nat where
  Inv := WF
  Valid := fun s t => t < s.nodes.size
  den := eval
  Le := Ext
  le_refl := Ext.refl
  le_trans := Ext.trans
  valid_mono := fun l h => Nat.lt_of_lt_of_le h l.1
  den_mono := fun hi l hv => by funext σ; exact eval_ext hi l _ σ hv
  restrict := fun s t v b => restrictF (t+1) s t v b
  restrict_spec := fun v b hi hv => by
    have ⟨a, b', c, _, e⟩ := restrictF_spec _ _ _ v b hi hv (Nat.lt_succ_self _)
    exact ⟨a, b', c, funext e⟩
  isConst := storeIsConst
  isConst_spec := fun {s t} b hi hv => by
    unfold storeIsConst
    constructor
    · intro h
      by_cases h0 : t = 0
      · subst h0; simp at h; subst h; intro σ; exact eval_zero s σ
      · rw [if_neg h0] at h
        by_cases h1 : t = 1
        · subst h1; simp at h; subst h; intro σ; exact eval_one s σ
        · rw [if_neg h1] at h; cases h
    · intro h
      cases b with
      | false =>
        have : t = 0 := (canonical s hi t 0 hv (by have := hi.len; omega)).mp
          (fun σ => by rw [h σ, eval_zero])
        subst this; simp
      | true =>
        have : t = 1 := (canonical s hi t 1 hv (by have := hi.len; omega)).mp
          (fun σ => by rw [h σ, eval_one])
        subst this; simp

/-- C01 for the native back-end: `grounded_internal` on the real store model -/
theorem grounded_native (fuel : Nat) (s : Store) (ac : List Nat) (w : WF s)
    (hv : ∀ t ∈ ac, t < s.nodes.size) (hf : ac.length < fuel) :
    let D := ac.map (eval s)
    let g := (groundedLoop StoreRA fuel s ac).2.map storeIsConst
    Gam D g = g ∧ ∀ w', Gam D w' = w' → Le3 g w' :=
  grounded_correct StoreRA fuel s ac w hv hf
#print axioms grounded_native

theorem sic_some {t : Nat} {b : Bool} : storeIsConst t = some b ↔ t = (if b then 1 else 0) := by
  rcases t with _ | _ | t <;> cases b <;> simp [storeIsConst]

/-- `groundedLoop_sem` at `StoreRA` with the fields of the instance unfolded once (unifying them with
`WF`/`Ext`/`eval` at each use is slow) -/
theorem groundedLoop_store (fuel : Nat) (s : Store) (ac : List Nat) (w : WF s) (hv : ∀ t ∈ ac, t < s.nodes.size) :
    WF (groundedLoop StoreRA fuel s ac).1 ∧ Ext s (groundedLoop StoreRA fuel s ac).1 ∧
    (∀ t ∈ (groundedLoop StoreRA fuel s ac).2, t < (groundedLoop StoreRA fuel s ac).1.nodes.size) ∧
    (groundedLoop StoreRA fuel s ac).2.map (eval (groundedLoop StoreRA fuel s ac).1) = semLoop fuel (ac.map (eval s)) :=
  groundedLoop_sem StoreRA fuel s ac w hv

/-- `mapS_spec` at `StoreRA`, unfolded like `groundedLoop_store` -/
theorem mapS_store {f : Store → Nat → Store × Nat} {F : BoolFn → BoolFn} (hf : StoreRA.Computes f F)
    (xs : List Nat) (s : Store) (w : WF s) (hv : ∀ t ∈ xs, t < s.nodes.size) :
    WF (mapS f s xs).1 ∧ Ext s (mapS f s xs).1 ∧ (∀ t ∈ (mapS f s xs).2, t < (mapS f s xs).1.nodes.size) ∧
    (mapS f s xs).2.map (eval (mapS f s xs).1) = (xs.map (eval s)).map F :=
  mapS_spec StoreRA hf xs s w hv

theorem computes_restrictF (v : Nat) (b : Bool) :
    StoreRA.Computes (fun s t => restrictF (t+1) s t v b) (fun g σ => g (upd σ v b)) :=
  fun _ _ hi hv => StoreRA.restrict_spec v b hi hv
