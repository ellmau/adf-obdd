import AdfObdd.StoreIte
import AdfObdd.Deps
/-! the `variablelist` shortcut of `restrict` ("variable not in the diagram ⇒
    return the diagram") agrees, handle for handle and node table for node table, with the
    body that does the full recursion (C12 for `restrict`): the function does not depend on an
    absent variable, so the diagram represents its own cofactor and the recursion finds it again
    without allocating (`MemoT.restrictF_rep`) -/

theorem restrict_absent (s : Store) (w : WF s) : ∀ (fuel t v : Nat) (b : Bool), t < s.nodes.size → t < fuel →
    v ∉ depsF s fuel t →
    (restrictF fuel s t v b).1.nodes = s.nodes ∧ (restrictF fuel s t v b).2 = t := by
  intro fuel t v b ht hf hv
  exact MemoT.restrictF_rep fuel s t v b t w ht hf ht fun σ =>
    (deps_indep s w.table t ht v (depsF_fuel s w.table t fuel hf ▸ hv) σ b).symm
#print axioms restrict_absent
