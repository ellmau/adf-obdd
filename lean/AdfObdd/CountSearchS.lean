import AdfObdd.CountSearch
import AdfObdd.CountSearchK
/-! The counting-guided search as the code runs it — over an arbitrary concrete
    state `C` (vector with residual handles, `will_be`) observed through `abs`, and *threading a
    store* `S` through sibling branches under an invariant that is monotone along the store order.
    Same conclusion as `search_spec`; an instance of the machine `GK.search` of `CountSearchK.lean`. -/
namespace GS

structure CParams (S C : Type) where
  n : Nat
  abs : C → PA
  Inv : S → C → Prop
  Le : S → S → Prop
  pick : S → C → Option Nat
  goal : S → C → Nat → Bool
  cubes : S → C → Nat → Bool → List Cube
  cubeStep : S → C → Nat → Bool → Cube → S × Option C
  flipStep : S → C → Nat → Bool → S × Option C
  leaf : S → C → PA

variable {S C : Type}

def cubeLoop (P : CParams S C) (rec : S → C → S × List PA) (c : C) (idx : Nat) (g : Bool) :
    List Cube → S → S × List PA
  | [], s => (s, [])
  | cu :: cus, s =>
    let r := P.cubeStep s c idx g cu
    let here := match r.2 with
      | some c' => rec r.1 c'
      | none => (r.1, [])
    let rest := cubeLoop P rec c idx g cus here.1
    (rest.1, here.2 ++ rest.2)

def search (P : CParams S C) : Nat → S → C → S × List PA
  | 0, s, _ => (s, [])
  | fuel+1, s, c =>
    match P.pick s c with
    | none => (s, [P.leaf s c])
    | some idx =>
      let g := P.goal s c idx
      let r1 := cubeLoop P (fun s' c' => search P fuel s' c') c idx g (P.cubes s c idx g) s
      let f := P.flipStep r1.1 c idx g
      match f.2 with
      | some c' => let r2 := search P fuel f.1 c'; (r2.1, r1.2 ++ r2.2)
      | none => (f.1, r1.2)

structure CSound (T : Asg → Prop) (P : CParams S C) : Prop where
  le_refl : ∀ s, P.Le s s
  le_trans : ∀ s s' s'', P.Le s s' → P.Le s' s'' → P.Le s s''
  inv_mono : ∀ s s' c, P.Inv s c → P.Le s s' → P.Inv s' c
  bound : ∀ s c, P.Inv s c → P.pick s c ≠ none → decided (P.abs c) < P.n
  leaf_law : ∀ s c, P.Inv s c → P.pick s c = none → ∀ σ, Matches (P.leaf s c) σ ↔ Matches (P.abs c) σ
  cube_cover : ∀ s c idx, P.Inv s c → P.pick s c = some idx → ∀ σ, T σ → Matches (P.abs c) σ →
      σ idx = P.goal s c idx → ∃ cu ∈ P.cubes s c idx (P.goal s c idx), InCube cu σ
  cube_disj : ∀ s c idx, P.Inv s c → P.pick s c = some idx →
      (P.cubes s c idx (P.goal s c idx)).Pairwise (fun cu cu' => ∀ σ, ¬ (InCube cu σ ∧ InCube cu' σ))
  /-- a cube step taken later, in any extension `s` of the store `s0` in which the branching
  decision was made -/
  cube_step : ∀ s0 s c idx cu, P.Inv s0 c → P.pick s0 c = some idx → P.Le s0 s →
      P.Le s (P.cubeStep s c idx (P.goal s0 c idx) cu).1 ∧
      (∀ c', (P.cubeStep s c idx (P.goal s0 c idx) cu).2 = some c' →
        P.Inv (P.cubeStep s c idx (P.goal s0 c idx) cu).1 c' ∧ decided (P.abs c) < decided (P.abs c') ∧
        (∀ σ, Matches (P.abs c') σ → Matches (P.abs c) σ ∧ InCube cu σ ∧ σ idx = P.goal s0 c idx) ∧
        (∀ σ, T σ → Matches (P.abs c) σ → InCube cu σ → σ idx = P.goal s0 c idx → Matches (P.abs c') σ)) ∧
      ((P.cubeStep s c idx (P.goal s0 c idx) cu).2 = none →
        ∀ σ, T σ → Matches (P.abs c) σ → InCube cu σ → σ idx = P.goal s0 c idx → False)
  flip_step : ∀ s0 s c idx, P.Inv s0 c → P.pick s0 c = some idx → P.Le s0 s →
      P.Le s (P.flipStep s c idx (P.goal s0 c idx)).1 ∧
      (∀ c', (P.flipStep s c idx (P.goal s0 c idx)).2 = some c' →
        P.Inv (P.flipStep s c idx (P.goal s0 c idx)).1 c' ∧ decided (P.abs c) < decided (P.abs c') ∧
        (∀ σ, Matches (P.abs c') σ → Matches (P.abs c) σ ∧ σ idx = !P.goal s0 c idx) ∧
        (∀ σ, T σ → Matches (P.abs c) σ → σ idx = (!P.goal s0 c idx) → Matches (P.abs c') σ)) ∧
      ((P.flipStep s c idx (P.goal s0 c idx)).2 = none →
        ∀ σ, T σ → Matches (P.abs c) σ → σ idx = (!P.goal s0 c idx) → False)

variable {T : Asg → Prop} {P : CParams S C}

/-- what a (sub)search delivers -/
structure Spec (T : Asg → Prop) (P : CParams S C) (s : S) (c : C) (r : S × List PA) : Prop where
  le : P.Le s r.1
  cover : ∀ σ, T σ → Matches (P.abs c) σ → ∃ o ∈ r.2, Matches o σ
  sound : ∀ o ∈ r.2, ∀ σ, Matches o σ → Matches (P.abs c) σ
  disj : r.2.Pairwise Disj

/-! The machine is `GK.search` with partial assignments as outputs, one per leaf, and regions given by `abs`. -/

def toGK (P : CParams S C) : GK.CParams S C Cube PA where
  pick := P.pick
  goal := P.goal
  cubes := P.cubes
  cubeStep := P.cubeStep
  flipStep := P.flipStep
  leaf s c := (s, [P.leaf s c])

def view (P : CParams S C) : GK.View S C Cube PA where
  n := P.n
  mu c := decided (P.abs c)
  Reg c := Matches (P.abs c)
  RegO := Matches
  InK := InCube
  Good _ := True
  Inv := P.Inv
  Le := P.Le

theorem cubeLoop_toGK (P : CParams S C) (rec : S → C → S × List PA) (c : C) (idx : Nat) (g : Bool) :
    ∀ (l : List Cube) (s : S), cubeLoop P rec c idx g l s = GK.cubeLoop (toGK P) rec c idx g l s
  | [], _ => rfl
  | cu :: cus, s => by
    simp only [cubeLoop, GK.cubeLoop, cubeLoop_toGK P rec c idx g cus]
    rfl

theorem search_toGK (P : CParams S C) : ∀ (fuel : Nat) (s : S) (c : C), search P fuel s c = GK.search (toGK P) fuel s c
  | 0, _, _ => rfl
  | fuel + 1, s, c => by
    have ih : (fun s' c' => search P fuel s' c') = fun s' c' => GK.search (toGK P) fuel s' c' :=
      funext fun s' => funext fun c' => search_toGK P fuel s' c'
    simp only [search, GK.search, ih, cubeLoop_toGK]
    rfl

theorem CSound.toGK (hP : CSound T P) : GK.CSound T (toGK P) (view P) where
  le_refl := hP.le_refl
  le_trans := hP.le_trans
  inv_mono := hP.inv_mono
  bound := hP.bound
  leaf_law s c hinv hp :=
    { le := hP.le_refl s
      cover := fun σ _ m => ⟨_, List.mem_singleton.mpr rfl, (hP.leaf_law s c hinv hp σ).mpr m⟩
      sound := fun _ ho σ m => (hP.leaf_law s c hinv hp σ).mp (List.mem_singleton.mp ho ▸ m)
      disj := List.pairwise_singleton _ _
      good := fun _ _ => trivial }
  cube_cover := hP.cube_cover
  cube_disj := hP.cube_disj
  cube_step s0 s c idx cu hinv hp hle _ := hP.cube_step s0 s c idx cu hinv hp hle
  flip_step := hP.flip_step

/-- C04 core on the store-threading machine: complete, sound, duplicate-free, store only extended -/
theorem search_spec (hP : CSound T P) : ∀ (fuel : Nat) (s : S) (c : C), P.Inv s c →
    P.n - decided (P.abs c) < fuel → Spec T P s c (search P fuel s c) := by
  intro fuel s c hinv hf
  have sp := GK.search_spec hP.toGK fuel s c hinv hf
  rw [← search_toGK] at sp
  exact ⟨sp.le, sp.cover, sp.sound, sp.disj⟩
end GS
#print axioms GS.search_spec
