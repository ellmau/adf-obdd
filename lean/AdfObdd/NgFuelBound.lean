import AdfObdd.NgEndToEnd
/-! # An explicit fuel for `SM.ngSearch`

`NGen.halts_within` (file `NgBound`) bounds the number of iterations of the generic machine by
`stepsT n + 2 = 8 * 2^n - 4`. The simulation of `NgSimulation`/`NgEndToEnd` is lock-step (one concrete
iteration = one abstract iteration), so the same number bounds the concrete loop `SM.ngRun`:

    ngBound n = 2^(n+3)          (n = number of statements)

`ngSearch_halts_within`: for EVERY fuel `≥ ngBound n` the halting flag of `SM.ngSearch` is set, and
(`cSearch_eq_of_done`, `ngSearch_eq_of_done`) the result at that fuel is the exact one of `ng_end_to_end`. Halting needs no
support hypothesis (only exactness in two-valued mode does). `ngBound 16 = 524288 ≤ 10^6 < ngBound 17`:
the driver's bound of 10^6 iterations provably suffices for every framework with at most 16 statements. -/
namespace NConc
open NSem

def ngBound (n : Nat) : Nat := 2 ^ (n + 3)

theorem stepsT_le_ngBound (n : Nat) : NGen.stepsT n + 2 ≤ ngBound n := by
  have := NGen.stepsT_closed n
  unfold ngBound
  rw [Nat.pow_add]
  omega

theorem ngBound_mono {a b : Nat} (h : a ≤ b) : ngBound a ≤ ngBound b :=
  Nat.pow_le_pow_right (by omega) (by omega)

theorem ngBound_16 : ngBound 16 = 524288 := by decide
theorem ngBound_17 : ngBound 17 = 1048576 := by decide

/-- 16 is the largest number of statements for which the bound is below the driver's 10^6 -/
theorem ngBound_le_million_iff (n : Nat) : ngBound n ≤ 1000000 ↔ n ≤ 16 := by
  constructor
  · intro h
    rcases Nat.lt_or_ge 16 n with c | c
    · have := ngBound_mono (show 17 ≤ n by omega)
      rw [ngBound_17] at this; omega
    · exact c
  · intro h
    have := ngBound_mono h
    rw [ngBound_16] at this; omega

theorem cRun_mono (hc : CHeu) (n : Nat) (ac : List Nat) (stable : Bool) (m : Nat) (st : SM.NgS)
    (hd : (cRun hc n ac stable m st).done = true) : ∀ j, cRun hc n ac stable (m + j) st = cRun hc n ac stable m st := by
  intro j
  induction j with
  | zero => rfl
  | succ j ih =>
    have e : m + (j + 1) = (m + j) + 1 := by omega
    rw [e, cRun_succ, ih, if_pos hd]

theorem cSearch_mono (hc : CHeu) (F F' : Nat) (s : Store) (n : Nat) (ac : List Nat) (stable : Bool)
    (hh : (cSearch hc F s n ac stable).2.2.2 = true) (hF : F ≤ F') :
    cSearch hc F' s n ac stable = cSearch hc F s n ac stable := by
  obtain ⟨k, rfl⟩ := Nat.exists_eq_add_of_le hF
  unfold cSearch at hh ⊢
  rw [cRun_mono hc n ac stable F _ hh k]

theorem cSearch_eq_of_done (hc : CHeu) (s : Store) (n : Nat) (ac : List Nat) (stable : Bool) {F F' : Nat}
    (hh : (cSearch hc F s n ac stable).2.2.2 = true) (hh' : (cSearch hc F' s n ac stable).2.2.2 = true) :
    cSearch hc F' s n ac stable = cSearch hc F s n ac stable := by
  rcases Nat.le_total F F' with c | c
  · exact cSearch_mono hc F F' s n ac stable hh c
  · exact (cSearch_mono hc F' F s n ac stable hh' c).symm

theorem ngSearch_eq_of_done (h : SM.Heu) (s : Store) (n : Nat) (ac : List Nat) (stable : Bool) {F F' : Nat}
    (hh : (SM.ngSearch h F s n ac stable).2.2.2 = true) (hh' : (SM.ngSearch h F' s n ac stable).2.2.2 = true) :
    SM.ngSearch h F' s n ac stable = SM.ngSearch h F s n ac stable := by
  rw [ngSearch_eq, ngSearch_eq] at *
  exact cSearch_eq_of_done _ s n ac stable hh hh'

/-- **explicit fuel, any heuristic function**: the concrete loop run with ANY heuristic function that
always proposes an undecided statement with a truth value has halted after `ngBound n = 2^(n+3)`
iterations, hence for every larger fuel -/
theorem search_halts_within_any_heuristic (hc : CHeu) (hok : HeuOK hc) (s : Store) (n : Nat) (ac : List Nat)
    (stable : Bool) (w0 : WF s) (hn : ac.length = n) (hac0 : ∀ t ∈ ac, t < s.nodes.size) :
    ∀ fuel, ngBound n ≤ fuel → (cSearch hc fuel s n ac stable).2.2.2 = true := by
  intro fuel hf
  have ⟨hrel, hinv, hokv, _⟩ := init_facts s n ac stable w0 hac0 hn
  obtain ⟨f0, a', hf0, hrun⟩ := sem_halts_within (D := ac.map (eval s)) (stable := stable) (rawOf hc s n ac stable) _ hokv
  obtain ⟨m, hm, hdone, -⟩ := sim_run hc s n ac stable hok w0 hac0 hn f0 0 _ a' hrel hinv hrun
  have hb := stepsT_le_ngBound n
  have hd : (cSearch hc m s n ac stable).2.2.2 = true := hdone
  rw [cSearch_mono hc m fuel s n ac stable hd (by omega)]
  exact hd

/-- **explicit fuel for `SM.ngSearch`**: for every heuristic of `SM.Heu`, every well-formed store and every
valid vector of `n` conditions the loop has halted within `ngBound n = 2^(n+3)` iterations -/
theorem ngSearch_halts_within (h : SM.Heu) (s : Store) (n : Nat) (ac : List Nat) (stable : Bool)
    (w0 : WF s) (hn : ac.length = n) (hac0 : ∀ t ∈ ac, t < s.nodes.size) :
    ∀ fuel, ngBound n ≤ fuel → (SM.ngSearch h fuel s n ac stable).2.2.2 = true := by
  intro fuel hf
  rw [ngSearch_eq]
  exact search_halts_within_any_heuristic (SM.heuCall h) (heuOK_builtin h) s n ac stable w0 hn hac0 fuel hf

end NConc
#print axioms NConc.ngSearch_halts_within
