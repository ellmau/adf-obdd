import AdfObdd.Cubes
import AdfObdd.CountsDef
import AdfObdd.CountsMore
import AdfObdd.PathsDepth
/-! for the combined C13 statements: the goal variable never occurs in an enumerated
cube with the non-goal value; the arithmetic behind `more_models` -/

theorem cube_allows_goal (s : Store) (t : Nat) (goal : Bool) (gv : Nat) (c : PCube)
    (hc : c ∈ cubesF s (t+1) t goal gv [] []) (σ : Asg) (hin : InPC c σ) : InPC c (upd σ gv goal) := by
  have ⟨a, b⟩ := cubes_goal_consistent s (t+1) t goal gv [] [] c hc
  refine ⟨fun x hx => ?_, fun x hx => ?_⟩
  · by_cases e : x = gv
    · subst e
      rw [upd_same]
      cases goal
      · rfl
      · exact absurd hx (a rfl List.not_mem_nil)
    · rw [upd_other σ goal e]; exact hin.1 x hx
  · by_cases e : x = gv
    · subst e
      rw [upd_same]
      cases goal
      · exact absurd hx (b rfl List.not_mem_nil)
      · rfl
    · rw [upd_other σ goal e]; exact hin.2 x hx

/-- the arithmetic behind `more_models`: two pairs in the same positive ratio compare alike -/
theorem ratio_ge_iff (m cm a b p q : Nat) (hp : 0 < p) (hq : 0 < q)
    (h1 : m * p = a * q) (h2 : cm * p = b * q) : m ≥ cm ↔ a ≥ b := by
  constructor
  · intro h
    have : cm * p ≤ m * p := Nat.mul_le_mul_right p h
    rw [h1, h2] at this
    exact Nat.le_of_mul_le_mul_right this hq
  · intro h
    have : b * q ≤ a * q := Nat.mul_le_mul_right q h
    rw [← h1, ← h2] at this
    exact Nat.le_of_mul_le_mul_right this hp
