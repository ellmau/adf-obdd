import AdfObdd.NgSpecFacts
import AdfObdd.Spec.NgWide
/-! the search-based specification for wide nogood stores (`Spec/NgWide.lean`): the search
    `avoidingExt` is sound and complete, and the W-checks built on it coincide with the brute-force
    checks of `Spec/Ng.lean` (which enumerate all `2^n` total assignments) -/
namespace NgSpec

theorem exists_zero_or_succ {P : Nat → Prop} : (∃ j, P j) ↔ P 0 ∨ ∃ j, P (j + 1) :=
  ⟨fun ⟨j, h⟩ => by cases j; exact Or.inl h; exact Or.inr ⟨_, h⟩,
   fun h => h.elim (fun h => ⟨0, h⟩) fun ⟨j, h⟩ => ⟨j + 1, h⟩⟩

theorem pget_tail (A : PA) (j : Nat) : pget A.tail j = pget A (j + 1) := by cases A <;> rfl

/-- both vectors are walked together; a vector that has run out counts as undecided -/
theorem openLitsFrom_cons (i : Nat) (x : Option Bool) (g A : PA) :
    openLitsFrom i (x :: g) A =
      (match x, pget A 0 with | some c, none => [(i, c)] | _, _ => []) ++ openLitsFrom (i + 1) g A.tail := by
  cases A with
  | nil => cases x <;> rfl
  | cons a A => cases x <;> cases a <;> rfl

theorem mem_openLitsFrom : ∀ (g A : PA) (i v : Nat) (c : Bool),
    (v, c) ∈ openLitsFrom i g A ↔ ∃ j, v = i + j ∧ pget g j = some c ∧ pget A j = none
  | [], A, i, v, c => ⟨nofun, fun ⟨j, _, h, _⟩ => nomatch h⟩
  | x :: g, A, i, v, c => by
    rw [openLitsFrom_cons, List.mem_append, mem_openLitsFrom g A.tail (i + 1) v c]
    refine Iff.trans (or_congr ?_ (exists_congr fun j => ?_)) exists_zero_or_succ.symm
    · show _ ↔ v = i ∧ x = some c ∧ pget A 0 = none
      cases x <;> cases pget A 0 <;> simp [eq_comm]
    · rw [pget_tail, Nat.add_right_comm]; rfl

theorem mem_openLits {g A : PA} {v : Nat} {c : Bool} :
    (v, c) ∈ openLits g A ↔ pget g v = some c ∧ pget A v = none := by
  rw [openLits, mem_openLitsFrom]
  constructor
  · rintro ⟨j, h1, h2⟩; rw [Nat.zero_add] at h1; rw [h1]; exact h2
  · exact fun h => ⟨v, (Nat.zero_add v).symm, h⟩

theorem closed_cons (x a : Option Bool) (g A : PA) :
    Closed (x :: g) (a :: A) ↔ (∃ c, x = some c ∧ a = some (!c)) ∨ Closed g A := by
  unfold Closed
  rw [exists_zero_or_succ]
  rfl

theorem closedL_iff (g A : PA) : closedL g A = true ↔ Closed g A := by
  fun_induction closedL g A with
  | case1 A => exact ⟨nofun, fun ⟨i, c, h, _⟩ => nomatch h⟩
  | case2 x g => exact ⟨nofun, fun ⟨i, c, _, h⟩ => nomatch h⟩
  | case3 g A c d ih =>
    rw [closed_cons, Bool.or_eq_true, ih]
    refine or_congr ⟨fun h => ⟨c, rfl, ?_⟩, fun ⟨c', h1, h2⟩ => ?_⟩ Iff.rfl
    · cases c <;> cases d <;> first | rfl | cases h
    · cases h1; cases h2; cases c <;> rfl
  | case4 g A x a hne ih =>
    rw [closed_cons, ih]
    exact ⟨Or.inr, fun h => h.resolve_left fun ⟨c', h1, h2⟩ => hne c' (!c') h1 h2⟩

theorem pickOpen_none {A : PA} (gs : List PA) (h : pickOpen gs A = none) : ∀ g ∈ gs, closedL g A = true := by
  fun_induction pickOpen gs A with
  | case1 A => nofun
  | case2 A g gs hc ih =>
    intro x hx
    rcases List.mem_cons.mp hx with rfl | hx
    · exact hc
    · exact ih h x hx
  | case3 => cases h
  | case4 => cases h
  | case5 => cases h

theorem pickOpen_some {A : PA} (gs : List PA) (g : PA) (h : pickOpen gs A = some g) :
    g ∈ gs ∧ closedL g A = false := by
  fun_induction pickOpen gs A with
  | case1 A => cases h
  | case2 A x gs hc ih => exact (ih h).imp_left (List.mem_cons_of_mem _)
  | case3 A x gs hc hp => cases h; exact ⟨List.mem_cons_self .., Bool.eq_false_iff.mpr hc⟩
  | case4 A x gs hc k hp hle ih => cases h; exact ⟨List.mem_cons_self .., Bool.eq_false_iff.mpr hc⟩
  | case5 A x gs hc k hp hle ih => cases h; exact (ih hp).imp_left (List.mem_cons_of_mem _)

theorem psub_of_openLits_nil {g A : PA} (ho : openLits g A = []) (hc : closedL g A = false) : PSub g A := by
  intro i c hg
  cases hA : pget A i with
  | none =>
    have : (i, c) ∈ openLits g A := mem_openLits.mpr ⟨hg, hA⟩
    rw [ho] at this; cases this
  | some d =>
    by_cases e : d = c
    · rw [e]
    · have : closedL g A = true := (closedL_iff g A).mpr ⟨i, c, hg, by rw [hA, Bool.eq_not_of_ne e]⟩
      rw [hc] at this; cases this

theorem not_matches_of_closed {g R : PA} {σ : Asg} (h : Closed g R) (hm : Matches R σ) : ¬ Matches g σ := by
  intro hg
  obtain ⟨i, c, h1, h2⟩ := h
  have b := hm i _ h2
  rw [hg i c h1] at b
  cases c <;> cases b

theorem branch_lit {n : Nat} {gs : List PA} (hgs : ∀ g ∈ gs, g.length ≤ n) {A g : PA} (hA : A.length = n)
    (hp : pickOpen gs A = some g) {v : Nat} {c : Bool} {rest : List (Nat × Bool)}
    (ho : openLits g A = (v, c) :: rest) : pget A v = none ∧ v < A.length := by
  obtain ⟨hgv, hAv⟩ := mem_openLits.mp (ho ▸ List.mem_cons_self ..)
  exact ⟨hAv, hA ▸ Nat.lt_of_lt_of_le (pget_lt hgv) (hgs g (pickOpen_some gs g hp).1)⟩

theorem searchExt_sound {n : Nat} {gs : List PA} (hgs : ∀ g ∈ gs, g.length ≤ n) (fuel : Nat) (A R : PA)
    (hA : A.length = n) (h : searchExt gs fuel A = some R) :
    PSub A R ∧ R.length = n ∧ ∀ g ∈ gs, Closed g R := by
  fun_induction searchExt gs fuel A with
  | case1 A => cases h
  | case2 fuel A hp =>
    cases h
    exact ⟨PSub.refl _, hA, fun g hg => (closedL_iff g _).mp (pickOpen_none gs hp g hg)⟩
  | case3 fuel A g hp ho => cases h
  | case4 fuel A g hp v c rest ho R' h1 ih1 =>
    cases h
    have ⟨hAv, hv⟩ := branch_lit hgs hA hp ho
    exact (ih1 (by rw [setAt_length A v _ hv, hA]) h1).imp_left (psub_setAt _ hAv).trans
  | case5 fuel A g hp v c rest ho h1 ih1 ih2 =>
    have ⟨hAv, hv⟩ := branch_lit hgs hA hp ho
    exact (ih2 (by rw [setAt_length A v _ hv, hA]) h).imp_left (psub_setAt _ hAv).trans

/-- the search fails only if every total assignment that extends the interpretation matches a
nogood; the fuel is not the reason as long as it exceeds the number of undecided positions -/
theorem searchExt_complete {n : Nat} {gs : List PA} (hgs : ∀ g ∈ gs, g.length ≤ n) (fuel : Nat) (A : PA)
    (hA : A.length = n) (hf : n - size A < fuel) (h : searchExt gs fuel A = none) :
    ∀ σ, Matches A σ → ExcludedBy gs σ := by
  fun_induction searchExt gs fuel A with
  | case1 A => omega
  | case2 fuel A hp => cases h
  | case3 fuel A g hp ho =>
    have ⟨hg, hc⟩ := pickOpen_some gs g hp
    exact fun σ hm => ⟨g, hg, matches_of_psub (psub_of_openLits_nil ho hc) hm⟩
  | case4 fuel A g hp v c rest ho R' h1 ih1 => cases h
  | case5 fuel A g hp v c rest ho h1 ih1 ih2 =>
    have ⟨hAv, hv⟩ := branch_lit hgs hA hp ho
    have hlen : ∀ b, (setAt A v b).length = n := fun b => by rw [setAt_length A v b hv, hA]
    -- both branches decide one more position
    have hsz : ∀ b, n - size (setAt A v b) < fuel := by
      intro b
      have h1 := size_setAt A v b hv hAv
      have h2 := size_le_length (setAt A v b)
      rw [hlen b] at h2
      omega
    intro σ hm
    by_cases e : σ v = c
    · exact ih2 (hlen c) (hsz c) h σ (matches_setAt hm e)
    · exact ih1 (hlen _) (hsz _) h1 σ (matches_setAt hm (Bool.eq_not.mpr e))

theorem fillT_length (n : Nat) (R : PA) : (fillT n R).length = n := by
  rw [fillT, List.length_map, List.length_range]

theorem matches_fillT {n : Nat} {R : PA} (hR : R.length ≤ n) : Matches R (asg (fillT n R)) := by
  intro i b hi
  have hin : i < n := Nat.lt_of_lt_of_le (pget_lt hi) hR
  simp [asg, fillT, hin, hi]

theorem avoidingExt_sound {n : Nat} {gs : List PA} {A : PA} {t : List Bool} (hgs : ∀ g ∈ gs, g.length ≤ n)
    (hA : A.length = n) (h : avoidingExt n gs A = some t) :
    t.length = n ∧ Matches A (asg t) ∧ AvoidsL gs (asg t) := by
  obtain ⟨R, hs, rfl⟩ := Option.map_eq_some_iff.mp h
  have ⟨h1, h2, h3⟩ := searchExt_sound hgs (n + 1) A R hA hs
  have hm : Matches R (asg (fillT n R)) := matches_fillT (Nat.le_of_eq h2)
  exact ⟨fillT_length n R, matches_of_psub h1 hm, fun g hg => not_matches_of_closed (h3 g hg) hm⟩

theorem avoidingExt_complete {n : Nat} {gs : List PA} {A : PA} (hgs : ∀ g ∈ gs, g.length ≤ n)
    (hA : A.length = n) (h : avoidingExt n gs A = none) : ∀ σ, Matches A σ → ExcludedBy gs σ :=
  searchExt_complete hgs (n + 1) A hA (by omega) (Option.map_eq_none_iff.mp h)

theorem avoidingExt_none_iff {n : Nat} {gs : List PA} {A : PA} (hgs : ∀ g ∈ gs, g.length ≤ n) (hA : A.length = n) :
    avoidingExt n gs A = none ↔ ∀ σ, Matches A σ → ¬ AvoidsL gs σ := by
  constructor
  · intro h σ hm ha
    exact avoidsL_iff.mp ha (avoidingExt_complete hgs hA h σ hm)
  · intro h
    cases hs : avoidingExt n gs A with
    | none => rfl
    | some t =>
      have ⟨_, h1, h2⟩ := avoidingExt_sound hgs hA hs
      exact absurd h2 (h _ h1)

/-- soundness and completeness on value lists, in the vocabulary of the executable specification -/
theorem avoidingExt_some {n : Nat} {gs : List PA} {A : PA} {t : List Bool} (hgs : ∀ g ∈ gs, g.length ≤ n)
    (hA : A.length = n) (h : avoidingExt n gs A = some t) :
    t.length = n ∧ matchesT A t = true ∧ ∀ g ∈ gs, matchesT g t = false := by
  have ⟨h1, h2, h3⟩ := avoidingExt_sound hgs hA h
  exact ⟨h1, (matchesT_iff A t).mpr h2, fun g hg => Bool.eq_false_iff.mpr fun hm => h3 g hg ((matchesT_iff g t).mp hm)⟩

theorem avoidingExt_none {n : Nat} {gs : List PA} {A : PA} (hgs : ∀ g ∈ gs, g.length ≤ n)
    (hA : A.length = n) (h : avoidingExt n gs A = none) :
    ¬ ∃ t : List Bool, t.length = n ∧ matchesT A t = true ∧ ∀ g ∈ gs, matchesT g t = false := by
  rintro ⟨t, _, h1, h2⟩
  obtain ⟨g, hg, hm⟩ := avoidingExt_complete hgs hA h (asg t) ((matchesT_iff A t).mp h1)
  rw [← matchesT_iff, h2 g hg] at hm; cases hm

theorem avoidingExt_isNone {n : Nat} {gs : List PA} {A : PA} (hgs : ∀ g ∈ gs, g.length ≤ n) (hA : A.length = n) :
    (avoidingExt n gs A).isNone = (exts n gs A).isEmpty := by
  rw [Bool.eq_iff_iff, Option.isNone_iff_eq_none, avoidingExt_none_iff hgs hA,
    exts_empty_iff hgs (Nat.le_of_eq hA)]

theorem forcedByW_iff {n : Nat} {gs : List PA} {A r : PA} (hgs : ∀ g ∈ gs, g.length ≤ n) (hA : A.length = n)
    (hr : r.length ≤ n) :
    forcedByW n gs A r = true ↔ ∀ σ, Matches A σ → AvoidsL gs σ → Matches r σ := by
  -- one literal `i = v` of `r`: decided so in `A` (or nothing extends `A`), or nothing extends `A ∪ {i = ¬v}`
  have lit : ∀ i v, i < n →
      ((match pget A i with
        | some w => w == v || (avoidingExt n gs A).isNone
        | none => (avoidingExt n gs (setAt A i (!v))).isNone) = true ↔
       ∀ σ, Matches A σ → AvoidsL gs σ → σ i = v) := by
    intro i v hi
    cases hAi : pget A i with
    | some w =>
      dsimp only
      rw [Bool.or_eq_true, beq_iff_eq, Option.isNone_iff_eq_none, avoidingExt_none_iff hgs hA]
      constructor
      · rintro (rfl | hn) σ hm ha
        · exact hm i _ hAi
        · exact absurd ha (hn σ hm)
      · intro h
        by_cases e : w = v
        · exact Or.inl e
        · exact Or.inr fun σ hm ha => e ((hm i w hAi).symm.trans (h σ hm ha))
    | none =>
      have hlen : (setAt A i (!v)).length = n := by rw [setAt_length A i _ (hA ▸ hi), hA]
      dsimp only
      rw [Option.isNone_iff_eq_none, avoidingExt_none_iff hgs hlen]
      constructor
      · intro h σ hm ha
        exact Decidable.by_contra fun e => h σ (matches_setAt hm (Bool.eq_not.mpr e)) ha
      · intro h σ hm ha
        have h1 := h σ (matches_of_setAt hAi hm) ha
        have h2 := hm i (!v) (by rw [pget_setAt, if_pos rfl])
        rw [h1] at h2; cases v <;> cases h2
  exact (all_decided_iff r fun i v hi => lit i v (Nat.lt_of_lt_of_le (pget_lt hi) hr)).trans
    ⟨fun h σ hm ha i b hi => h i b hi σ hm ha, fun h i b hi σ hm ha => h σ hm ha i b hi⟩

theorem forcedByW_eq {n : Nat} {gs : List PA} {A r : PA} (hgs : ∀ g ∈ gs, g.length ≤ n) (hA : A.length = n)
    (hr : r.length ≤ n) : forcedByW n gs A r = forcedBy n gs A r := by
  rw [Bool.eq_iff_iff, forcedByW_iff hgs hA hr, forcedBy_iff hgs (Nat.le_of_eq hA) hr]

theorem conclViolationsW_eq {n : Nat} {gs : List PA} {A : PA} (hgs : ∀ g ∈ gs, g.length ≤ n) (hA : A.length = n)
    (x : Option PA) (hx : ∀ r, x = some r → r.length ≤ n) :
    conclViolationsW n gs A x = conclViolations n gs A x := by
  cases x with
  | none => simp only [conclViolationsW, conclViolations, avoidingExt_isNone hgs hA]
  | some r => simp only [conclViolationsW, conclViolations, forcedByW_eq hgs hA (hx r rfl)]

theorem closureViolationsW_eq {n : Nat} {gs : List PA} {A : PA} (hgs : ∀ g ∈ gs, g.length ≤ n) (hA : A.length = n)
    (x : ClosureAns) (hx : ∀ r, x = .update r → r.length ≤ n) :
    closureViolationsW n gs A x = closureViolations n gs A x := by
  cases x with
  | inconsistent => simp only [closureViolationsW, closureViolations, avoidingExt_isNone hgs hA]
  | noUpdate => simp only [closureViolationsW, closureViolations]
  | update r => simp only [closureViolationsW, closureViolations, forcedByW_eq hgs hA (hx r rfl)]

theorem escaping_some {n : Nat} {these those : List PA} {t : List Bool} (h1 : ∀ g ∈ these, g.length = n)
    (h2 : ∀ g ∈ those, g.length ≤ n) (h : escaping n these those = some t) :
    t.length = n ∧ ExcludedBy these (asg t) ∧ ¬ ExcludedBy those (asg t) := by
  unfold escaping at h
  obtain ⟨g, hg, hf⟩ := List.exists_of_findSome?_eq_some h
  have ⟨a, b, c⟩ := avoidingExt_sound h2 (h1 g hg) hf
  exact ⟨a, ⟨g, hg, b⟩, avoidsL_iff.mp c⟩

theorem escaping_none_iff {n : Nat} {these those : List PA} (h1 : ∀ g ∈ these, g.length = n)
    (h2 : ∀ g ∈ those, g.length ≤ n) :
    escaping n these those = none ↔ ∀ σ, ExcludedBy these σ → ExcludedBy those σ := by
  unfold escaping
  rw [List.findSome?_eq_none_iff]
  constructor
  · rintro h σ ⟨g, hg, hm⟩
    exact avoidingExt_complete h2 (h1 g hg) (h g hg) σ hm
  · intro h g hg
    rw [avoidingExt_none_iff h2 (h1 g hg)]
    intro σ hm ha
    exact avoidsL_iff.mp ha (h σ ⟨g, hg, hm⟩)

theorem storeViolationsW_nil {n : Nat} {gs stored : List PA} (hgs : ∀ g ∈ gs, g.length = n)
    (hst : ∀ g ∈ stored, g.length = n) :
    storeViolationsW n gs stored = [] ↔ ∀ σ, ExcludedBy stored σ ↔ ExcludedBy gs σ := by
  have hgs' : ∀ g ∈ gs, g.length ≤ n := fun g hg => Nat.le_of_eq (hgs g hg)
  have hst' : ∀ g ∈ stored, g.length ≤ n := fun g hg => Nat.le_of_eq (hst g hg)
  unfold storeViolationsW
  constructor
  · intro h σ
    cases e1 : escaping n gs stored with
    | some t => rw [e1] at h; cases h
    | none =>
      rw [e1] at h
      cases e2 : escaping n stored gs with
      | some t => rw [e2] at h; cases h
      | none =>
        exact ⟨(escaping_none_iff hst hgs').mp e2 σ, (escaping_none_iff hgs hst').mp e1 σ⟩
  · intro h
    rw [(escaping_none_iff hgs hst').mpr (fun σ => (h σ).mpr), (escaping_none_iff hst hgs').mpr (fun σ => (h σ).mp)]

/-- **the store check for wide stores accepts exactly what the brute-force check accepts** (the
witness it reports may be another one) -/
theorem storeViolationsW_iff {n : Nat} {gs stored : List PA} (hgs : ∀ g ∈ gs, g.length = n)
    (hst : ∀ g ∈ stored, g.length = n) :
    storeViolationsW n gs stored = [] ↔ storeViolations n gs stored = [] := by
  rw [storeViolationsW_nil hgs hst,
    storeViolations_nil (fun g hg => Nat.le_of_eq (hgs g hg)) (fun g hg => Nat.le_of_eq (hst g hg))]

theorem passes_wide_spec {n : Nat} {st : NgStore} {gs : List PA} (h : NgStore.Reach n st gs)
    (hgs : ∀ g ∈ gs, g.length = n) {A : PA} (hA : A.length = n) :
    conclViolationsW n gs A (st.conclusions A) = [] ∧
    closureViolationsW n gs A (ofClosure (st.closure A)) = [] ∧
    storeViolationsW n gs st.buckets.flatten = [] := by
  have ⟨m1, m2, m3⟩ := passes_spec h hgs hA
  have hgs' : ∀ g ∈ gs, g.length ≤ n := fun g hg => Nat.le_of_eq (hgs g hg)
  refine ⟨?_, ?_, (storeViolationsW_iff hgs fun g hg => h.inv.width (stored_iff_flatten.mpr hg)).mpr m3⟩
  · rw [conclViolationsW_eq hgs' hA _ fun r hr => Nat.le_of_eq (h.conclusions_sound hA hr).2.1]
    exact m1
  · rw [closureViolationsW_eq hgs' hA _ fun r hr => ?_]
    · exact m2
    · cases hc : st.closure A with
      | inconsistent => rw [hc] at hr; cases hr
      | noUpdate => rw [hc] at hr; cases hr
      | update R =>
        rw [hc] at hr; cases hr
        exact Nat.le_of_eq ((h.closure_sound hA).1 _ hc).2.2.1

end NgSpec
