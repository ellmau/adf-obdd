import AdfObdd.JsonModel
/-! proofs about the JSON text model: lexer ∘ renderer = id (any whitespace), reader ∘ tokens = id -/
namespace Json

theorem run_step {st st' : LS} {c : Char} {out : List Tok} (h : step st c = some (st', out)) (cs : List Char) :
    run st (c :: cs) = (run st' cs).map (out ++ ·) := by
  simp only [run, h]; cases run st' cs <;> rfl

theorem run_silent {st st' : LS} {c : Char} (h : step st c = some (st', [])) (cs : List Char) :
    run st (c :: cs) = run st' cs := by
  rw [run_step h]; cases run st' cs <;> rfl

theorem hexVal_hexChar : ∀ d, d < 16 → hexVal (hexChar d) = some d := by decide
theorem stepIdle_digit : ∀ d, d < 10 → stepIdle (digitChar d) = some (if d = 0 then .zero else .num d, []) := by decide
theorem digitVal_digitChar : ∀ d, d < 10 → digitVal (digitChar d) = some d := by decide

theorem isWs_cases {c : Char} (h : isWs c = true) : c = ' ' ∨ c = '\n' ∨ c = '\t' ∨ c = '\r' := by
  simpa [isWs, or_assoc] using h

theorem digitVal_ws {c : Char} (h : isWs c = true) : digitVal c = none := by
  rcases isWs_cases h with h | h | h | h <;> subst h <;> decide

theorem run_ws (w x : List Char) (hw : ∀ c ∈ w, isWs c = true) : run .idle (w ++ x) = run .idle x := by
  induction w with
  | nil => rfl
  | cons c cs ih =>
    have hc : step .idle c = some (.idle, []) := by simp [step, stepIdle, hw c]
    rw [List.cons_append, run_silent hc, ih fun c hc => hw c (List.mem_cons_of_mem _ hc)]

def isPunct : Tok → Bool
  | .num _ => false
  | .str _ => false
  | _ => true

theorem step_punct : ∀ {t : Tok}, isPunct t = true → ∃ c, tokChars t = [c] ∧ step .idle c = some (.idle, [t])
  | .lb, _ => ⟨'{', rfl, rfl⟩
  | .rb, _ => ⟨'}', rfl, rfl⟩
  | .lk, _ => ⟨'[', rfl, rfl⟩
  | .rk, _ => ⟨']', rfl, rfl⟩
  | .colon, _ => ⟨':', rfl, rfl⟩
  | .comma, _ => ⟨',', rfl, rfl⟩

theorem run_punct (t : Tok) (ht : isPunct t = true) (x : List Char) :
    run .idle (tokChars t ++ x) = (run .idle x).map (t :: ·) := by
  obtain ⟨c, hc, hs⟩ := step_punct ht
  rw [hc, List.singleton_append, run_step hs]
  rfl

theorem run_str_plain (acc : List Char) (c : Char) (x : List Char)
    (h1 : c ≠ '"') (h2 : c ≠ '\\') (h3 : ¬ c.toNat < 32) :
    run (.str acc) (c :: x) = run (.str (c :: acc)) x :=
  run_silent (by simp [step, h1, h2, h3]) x

theorem run_esc2 (acc : List Char) (e c : Char) (x : List Char)
    (h : step (.esc acc) e = some (.str (c :: acc), [])) :
    run (.str acc) ('\\' :: e :: x) = run (.str (c :: acc)) x := by
  rw [run_silent (st' := .esc acc) rfl, run_silent h]

theorem step_uni (acc : List Char) (k code : Nat) {c : Char} {h : Nat} (hc : hexVal c = some h) :
    step (.uni acc k code) c =
      if k < 3 then some (.uni acc (k + 1) (code * 16 + h), [])
      else if 0xD800 ≤ code * 16 + h ∧ code * 16 + h < 0xE000 then none
      else some (.str (Char.ofNat (code * 16 + h) :: acc), []) := by
  simp only [step, hc]

theorem run_uni (acc : List Char) (c : Char) (x : List Char) (h : c.toNat < 32) :
    run (.str acc) ('\\' :: 'u' :: '0' :: '0' :: hexChar (c.toNat / 16) :: hexChar (c.toNat % 16) :: x) =
    run (.str (c :: acc)) x := by
  have s5 : step (.uni acc 2 0) (hexChar (c.toNat / 16)) = some (.uni acc 3 (c.toNat / 16), []) := by
    rw [step_uni acc 2 0 (hexVal_hexChar _ (by omega)), if_pos (by omega), Nat.zero_mul, Nat.zero_add]
  have s6 : step (.uni acc 3 (c.toNat / 16)) (hexChar (c.toNat % 16)) = some (.str (c :: acc), []) := by
    rw [step_uni acc 3 _ (hexVal_hexChar _ (by omega)), Nat.div_add_mod' c.toNat 16, if_neg (by omega),
      if_neg (by omega), Char.ofNat_toNat]
  rw [run_silent (st' := .esc acc) rfl, run_silent (st' := .uni acc 0 0) rfl, run_silent (st' := .uni acc 1 0) rfl,
    run_silent (st' := .uni acc 2 0) rfl, run_silent s5, run_silent s6]

theorem run_escChar (acc : List Char) (c : Char) (x : List Char) :
    run (.str acc) (escChar c ++ x) = run (.str (c :: acc)) x := by
  fun_cases escChar c with
  | case8 _ _ _ _ _ _ _ h3 => exact run_uni acc c x h3
  | case9 h1 h2 _ _ _ _ _ h3 => exact run_str_plain acc c x h1 h2 h3
  | _ => rename_i h; subst h; exact run_esc2 acc _ _ x rfl  -- the seven two-character rows of the table

theorem run_escape (s : List Char) : ∀ (acc x : List Char),
    run (.str acc) (escape s ++ x) = run (.str (s.reverse ++ acc)) x := by
  induction s with
  | nil => intro acc x; rfl
  | cons c cs ih =>
    intro acc x
    rw [escape, List.flatMap_cons, List.append_assoc, run_escChar, ← escape, ih, List.reverse_cons,
      List.append_assoc, List.singleton_append]

theorem run_string (s x : List Char) :
    run .idle (tokChars (.str s) ++ x) = (run .idle x).map (Tok.str s :: ·) := by
  have close : step (.str (s.reverse ++ [])) '"' = some (.idle, [.str s]) := by simp [step]
  rw [tokChars, List.cons_append, List.append_assoc, run_silent (st' := .str []) rfl, run_escape,
    List.singleton_append, run_step close]
  rfl

theorem run_num_digit (acc d : Nat) (hd : d < 10) (x : List Char) :
    run (.num acc) (digitChar d :: x) = run (.num (acc * 10 + d)) x :=
  run_silent (by simp only [step, digitVal_digitChar d hd]) x

theorem run_digits : ∀ (n : Nat) (x : List Char),
    run .idle (digits n ++ x) = run (if n = 0 then .zero else .num n) x := by
  intro n
  fun_induction digits n with
  | case1 n h => exact run_silent (st := .idle) (stepIdle_digit n h)
  | case2 n h ih =>
    intro x
    rw [List.append_assoc, ih, if_neg (by omega), List.singleton_append,
      run_num_digit _ _ (by omega), if_neg (by omega), Nat.div_add_mod' n 10]

/-- the head of `x` is no digit: a number printed in front of `x` is read back as that number and not a longer one -/
def Hnd (x : List Char) : Prop := ∀ c, x.head? = some c → digitVal c = none

theorem run_num_end (n : Nat) (hn : n < B64) (x : List Char) (hx : Hnd x) :
    run (if n = 0 then .zero else .num n) x = (run .idle x).map (Tok.num n :: ·) := by
  cases x with
  | nil => split <;> simp [run, fin, *]
  | cons c cs =>
    have hs : step (if n = 0 then .zero else .num n) c = (stepIdle c).map fun p => (p.1, Tok.num n :: p.2) := by
      split <;> simp [step, hx c rfl, *]
    cases hi : stepIdle c with
    | none => simp only [run, hs, show step .idle c = stepIdle c from rfl, hi, Option.map_none]
    | some p =>
      rw [run_step (hs.trans (by rw [hi]; rfl)), run_step (st := .idle) hi]
      cases run p.1 cs <;> rfl

/-- **decimal round trip**: every natural below 2^64, printed in decimal and followed by anything
that does not start with a digit, is read back as that number (0 included, no leading zeros
produced) -/
theorem run_number (n : Nat) (hn : n < B64) (x : List Char) (hx : Hnd x) :
    run .idle (tokChars (.num n) ++ x) = (run .idle x).map (Tok.num n :: ·) := by
  rw [tokChars, run_digits, run_num_end n hn x hx]

/-- the pure decimal statement on ALL naturals (no bound): the digit reader of the machine, started
on the digits of `n`, ends in the state that holds `n` -/
theorem decimal_roundtrip (n : Nat) :
    run .idle (digits n) = if n = 0 then some [.num 0] else if n < B64 then some [.num n] else none := by
  have := run_digits n []
  rw [List.append_nil] at this
  rw [this]
  split <;> rfl

def startsNum : List Tok → Bool
  | .num _ :: _ => true
  | _ => false

/-- no number is directly followed by a number; all numbers fit `usize` -/
def Good : List Tok → Prop
  | [] => True
  | .num n :: r => n < B64 ∧ startsNum r = false ∧ Good r
  | _ :: r => Good r

def WsOnly (w : Nat → List Char) : Prop := ∀ i, ∀ c ∈ w i, isWs c = true

theorem noWs_ok : WsOnly noWs := fun _ _ h => by simp [noWs] at h

theorem hnd_render (w : Nat → List Char) (hw : WsOnly w) (i : Nat) (ts : List Tok) (h : startsNum ts = false) :
    Hnd (render w i ts) := by
  intro c hc
  cases hwi : w i with
  | cons a as =>
    have : c = a := by cases ts <;> simp [render, hwi] at hc <;> exact hc.symm
    subst this
    exact digitVal_ws (hw i c (by simp [hwi]))
  | nil =>
    cases ts with
    | nil => simp [render, hwi] at hc
    | cons t ts =>
      cases t <;> simp [render, hwi, tokChars, startsNum] at hc h <;> subst hc <;> decide

/-- **lexer ∘ renderer = id**, whatever whitespace is put between the tokens -/
theorem lex_render (w : Nat → List Char) (hw : WsOnly w) : ∀ (ts : List Tok) (i : Nat), Good ts →
    lex (render w i ts) = some ts := by
  intro ts i g
  unfold lex
  fun_induction render w i ts with
  | case1 i => simpa [run, fin] using run_ws (w i) [] (hw i)
  | case2 i t ts ih =>
    rw [run_ws _ _ (hw i)]
    cases t with
    | num n =>
      obtain ⟨hn, hs, g'⟩ := g
      rw [run_number n hn _ (hnd_render w hw _ ts hs), ih g']; rfl
    | str s => rw [run_string, ih g]; rfl
    | _ => rw [run_punct _ rfl, ih g]; rfl

theorem expect_self (t : Tok) (r : List Tok) : expect t (t :: r) = some r := by simp [expect]

theorem tSepTail_len {α : Type} (pr : α → List Tok → List Tok) (hl : ∀ x r, r.length < (pr x r).length) :
    ∀ (ys : List α) (x : α) (r : List Tok), ys.length + r.length < (tSepTail pr x ys r).length := by
  intro ys x r
  fun_induction tSepTail pr x ys r with
  | case1 x r => simpa using hl x r
  | case2 x y ys r ih =>
    have b := hl x (.comma :: tSepTail pr y ys r)
    simp only [List.length_cons] at b ⊢
    omega

theorem pSepTail_ok {α : Type} (pr : α → List Tok → List Tok) (p : P α) (cl : Tok) (hcl : Tok.comma ≠ cl)
    (hp : ∀ x r, p (pr x r) = some (x, r)) :
    ∀ (ys : List α) (x : α) (r : List Tok) (f : Nat), ys.length < f →
      pSepTail p cl f (tSepTail pr x ys (cl :: r)) = some (x :: ys, r)
  | _, _, _, 0, h => absurd h (Nat.not_lt_zero _)
  | [], x, r, f + 1, _ => by simp [pSepTail, tSepTail, hp]
  | y :: ys, x, r, f + 1, h => by
    simp [pSepTail, tSepTail, hp, hcl, pSepTail_ok pr p cl hcl hp ys y r f (by simpa using h)]

theorem pSeq_ok {α : Type} (op cl : Tok) (pr : α → List Tok → List Tok) (p : P α) (hcl : Tok.comma ≠ cl)
    (hp : ∀ x r, p (pr x r) = some (x, r)) (hl : ∀ x r, r.length < (pr x r).length)
    (hne : ∀ x r, expect cl (pr x r) = none) (xs : List α) (r : List Tok) :
    pSeq op cl p (tSeq op cl pr xs r) = some (xs, r) := by
  cases xs with
  | nil => simp [pSeq, tSeq, expect_self]
  | cons x xs =>
    have hne' : expect cl (tSepTail pr x xs (cl :: r)) = none := by
      cases xs <;> simp [tSepTail, hne]
    have := tSepTail_len pr hl xs x (cl :: r)
    simp only [pSeq, tSeq, expect_self, hne']
    exact pSepTail_ok pr p cl hcl hp xs x r _ (by omega)

theorem pStr_ok (s : String) (r : List Tok) : pStr (tStr s r) = some (s, r) := by
  simp [pStr, tStr, String.ofList_toList]
theorem pNum_ok (n : Nat) (r : List Tok) : pNum (tNum n r) = some (n, r) := rfl
theorem pKV_ok (kv : String × Nat) (r : List Tok) : pKV (tKV kv r) = some (kv, r) := by
  simp [pKV, tKV, String.ofList_toList]
theorem pNode_ok (n : Node) (r : List Tok) : pNode (tNode n r) = some (n, r) := by
  cases n; rfl
theorem pPair_ok (q : Node × Nat) (r : List Tok) : pPair (tPair q r) = some (q, r) := by
  obtain ⟨⟨v, l, h⟩, t⟩ := q; rfl

theorem pNames_ok (xs : List String) (r : List Tok) : pSeq .lk .rk pStr (tSeq .lk .rk tStr xs r) = some (xs, r) :=
  pSeq_ok _ _ _ _ (by decide) pStr_ok (by intro x r; simp [tStr]) (by intro x r; simp [tStr, expect]) xs r
theorem pMapping_ok (xs : List (String × Nat)) (r : List Tok) : pSeq .lb .rb pKV (tSeq .lb .rb tKV xs r) = some (xs, r) :=
  pSeq_ok _ _ _ _ (by decide) pKV_ok (by intro x r; simp [tKV]; omega) (by intro x r; simp [tKV, expect]) xs r
theorem pNodes_ok (xs : List Node) (r : List Tok) : pSeq .lk .rk pNode (tSeq .lk .rk tNode xs r) = some (xs, r) :=
  pSeq_ok _ _ _ _ (by decide) pNode_ok (by intro x r; simp [tNode]; omega) (by intro x r; simp [tNode, expect]) xs r
theorem pCache_ok (xs : List (Node × Nat)) (r : List Tok) : pSeq .lk .rk pPair (tSeq .lk .rk tPair xs r) = some (xs, r) :=
  pSeq_ok _ _ _ _ (by decide) pPair_ok (by intro x r; simp [tPair, tNode]; omega) (by intro x r; simp [tPair, expect]) xs r
theorem pAc_ok (xs : List Nat) (r : List Tok) : pSeq .lk .rk pNum (tSeq .lk .rk tNum xs r) = some (xs, r) :=
  pSeq_ok _ _ _ _ (by decide) pNum_ok (by intro x r; simp [tNum]) (by intro x r; simp [tNum, expect]) xs r

theorem parseStrictToks_toks (e : TextAdf) : parseStrictToks (toks e) = some e := by
  simp only [parseStrictToks, pAdf, toks, expect_self, pNames_ok, pMapping_ok, pNodes_ok, pCache_ok, pAc_ok,
    Option.bind_eq_bind, Option.bind_some, Option.pure_def]

mutual
theorem tJ_len : ∀ (v : J) (r : List Tok), r.length < (tJ v r).length
  | .num n, r => Nat.lt_succ_self _
  | .str s, r => Nat.lt_succ_self _
  | .arr [], r => Nat.lt_succ_of_lt (Nat.lt_succ_self _)
  | .arr (x :: xs), r => by
    have a := tJ_len x (tJs xs (.rk :: r))
    have b := tJs_len xs (.rk :: r)
    simp only [tJ, List.length_cons] at a b ⊢; omega
  | .obj [], r => Nat.lt_succ_of_lt (Nat.lt_succ_self _)
  | .obj ((k, v) :: kvs), r => by
    have a := tJ_len v (tJm kvs (.rb :: r))
    have b := tJm_len kvs (.rb :: r)
    simp only [tJ, List.length_cons] at a b ⊢; omega
theorem tJs_len : ∀ (xs : List J) (r : List Tok), r.length ≤ (tJs xs r).length
  | [], r => Nat.le_refl _
  | x :: xs, r => by
    have a := tJ_len x (tJs xs r)
    have b := tJs_len xs r
    simp only [tJs, List.length_cons] at a b ⊢; omega
theorem tJm_len : ∀ (kvs : List (List Char × J)) (r : List Tok), r.length ≤ (tJm kvs r).length
  | [], r => Nat.le_refl _
  | (k, v) :: kvs, r => by
    have a := tJ_len v (tJm kvs r)
    have b := tJm_len kvs r
    simp only [tJm, List.length_cons] at a b ⊢; omega
end

theorem tJ_ne_rk (v : J) (r r' : List Tok) : tJ v r ≠ .rk :: r' := by
  cases v with
  | num n => simp [tJ]
  | str s => simp [tJ]
  | arr xs => cases xs <;> simp [tJ]
  | obj kvs =>
    cases kvs with
    | nil => simp [tJ]
    | cons kv kvs => obtain ⟨k, v⟩ := kv; simp [tJ]

theorem pJ_lk (f : Nat) (ts : List Tok) (h : ∀ r', ts ≠ .rk :: r') :
    pJ (f + 1) (.lk :: ts) =
      match pJ f ts with
      | none => none
      | some (x, r) =>
        match pJs f r with
        | none => none
        | some (xs, r) => some (.arr (x :: xs), r) := by
  cases ts with
  | nil => rfl
  | cons t ts => cases t <;> first | exact absurd rfl (h ts) | rfl

mutual
theorem pJ_ok : ∀ (v : J) (f : Nat) (r : List Tok), (tJ v r).length ≤ f → pJ f (tJ v r) = some (v, r)
  | v, 0, r, h => absurd h (by have := tJ_len v r; omega)
  | .num n, f + 1, r, _ => rfl
  | .str s, f + 1, r, _ => rfl
  | .arr [], f + 1, r, _ => rfl
  | .arr (x :: xs), f + 1, r, h => by
    simp only [tJ, List.length_cons] at h
    have l1 := tJ_len x (tJs xs (.rk :: r))
    have hf := Nat.le_of_succ_le_succ h
    have a := pJ_ok x f (tJs xs (.rk :: r)) hf
    have b := pJs_ok xs f r (Nat.le_trans (Nat.le_of_lt l1) hf)
    rw [tJ, pJ_lk _ _ (fun r' => tJ_ne_rk x _ r'), a]
    simp only [b]
  | .obj [], f + 1, r, _ => rfl
  | .obj ((k, v) :: kvs), f + 1, r, h => by
    simp only [tJ, List.length_cons] at h
    have l1 := tJ_len v (tJm kvs (.rb :: r))
    have a := pJ_ok v f (tJm kvs (.rb :: r)) (by omega)
    have b := pJm_ok kvs f r (by omega)
    simp only [tJ, pJ, a, b]
theorem pJs_ok : ∀ (xs : List J) (f : Nat) (r : List Tok), (tJs xs (.rk :: r)).length ≤ f →
    pJs f (tJs xs (.rk :: r)) = some (xs, r)
  | xs, 0, r, h => absurd h (by have := tJs_len xs (.rk :: r); simp only [List.length_cons] at this; omega)
  | [], f + 1, r, _ => rfl
  | x :: xs, f + 1, r, h => by
    simp only [tJs, List.length_cons] at h
    have l1 := tJ_len x (tJs xs (.rk :: r))
    have hf := Nat.le_of_succ_le_succ h
    have a := pJ_ok x f (tJs xs (.rk :: r)) hf
    have b := pJs_ok xs f r (Nat.le_trans (Nat.le_of_lt l1) hf)
    simp only [tJs, pJs, a, b]
theorem pJm_ok : ∀ (kvs : List (List Char × J)) (f : Nat) (r : List Tok), (tJm kvs (.rb :: r)).length ≤ f →
    pJm f (tJm kvs (.rb :: r)) = some (kvs, r)
  | kvs, 0, r, h => absurd h (by have := tJm_len kvs (.rb :: r); simp only [List.length_cons] at this; omega)
  | [], f + 1, r, _ => rfl
  | (k, v) :: kvs, f + 1, r, h => by
    simp only [tJm, List.length_cons] at h
    have l1 := tJ_len v (tJm kvs (.rb :: r))
    have a := pJ_ok v f (tJm kvs (.rb :: r)) (by omega)
    have b := pJm_ok kvs f r (by omega)
    simp only [tJm, pJm, a, b]
end

theorem pJ_tJ (v : J) : pJ (tJ v []).length (tJ v []) = some (v, []) := pJ_ok v _ [] (Nat.le_refl _)

theorem tJs_map {α : Type} (g : α → J) (pr : α → List Tok → List Tok) (h : ∀ x r, tJ (g x) r = pr x r) :
    ∀ (ys : List α) (x : α) (r : List Tok), tJ (g x) (tJs (ys.map g) r) = tSepTail pr x ys r := by
  intro ys
  induction ys with
  | nil => intro x r; simp [tJs, tSepTail, h]
  | cons y ys ih => intro x r; simp only [List.map_cons, tJs, tSepTail, h, ← ih y r]

theorem tJ_arr_map {α : Type} (g : α → J) (pr : α → List Tok → List Tok) (h : ∀ x r, tJ (g x) r = pr x r)
    (xs : List α) (r : List Tok) : tJ (.arr (xs.map g)) r = tSeq .lk .rk pr xs r := by
  cases xs with
  | nil => simp [tJ, tSeq]
  | cons x xs => simp only [List.map_cons, tJ, tSeq, tJs_map g pr h]

theorem tJm_map : ∀ (ys : List (String × Nat)) (x : String × Nat) (r : List Tok),
    Tok.str x.1.toList :: .colon :: tJ (.num x.2) (tJm (ys.map fun kv => (kv.1.toList, J.num kv.2)) r) =
      tSepTail tKV x ys r := by
  intro ys x r
  fun_induction tSepTail tKV x ys r with
  | case1 x r => simp [tJm, tJ, tKV]
  | case2 x y ys r ih =>
    simp only [tJ] at ih
    simp only [List.map_cons, tJm, tJ, tKV, ih]

theorem tJ_obj_map (xs : List (String × Nat)) (r : List Tok) :
    tJ (.obj (xs.map fun kv => (kv.1.toList, J.num kv.2))) r = tSeq .lb .rb tKV xs r := by
  cases xs with
  | nil => simp [tJ, tSeq]
  | cons x xs =>
    have := tJm_map xs x (.rb :: r)
    simp only [tJ] at this
    simp only [List.map_cons, tJ, tSeq, this]

theorem tJ_eNode (n : Node) (r : List Tok) : tJ (eNode n) r = tNode n r := by
  simp [eNode, tJ, tJm, tNode]

theorem toks_eq (e : TextAdf) : toks e = tJ (enc e) [] := by
  simp only [enc, tJ, tJm, toks]
  rw [tJ_arr_map (fun s : String => J.str s.toList) tStr (fun x r => by simp [tJ, tStr]),
    tJ_obj_map,
    tJ_arr_map eNode tNode tJ_eNode,
    tJ_arr_map (fun q : Node × Nat => J.arr [eNode q.1, .num q.2]) tPair
      (fun x r => by simp [tJ, tJs, tPair, tJ_eNode]),
    tJ_arr_map J.num tNum (fun x r => by simp [tJ, tNum])]

theorem dNode_eNode (n : Node) : dNode (eNode n) = some n := by cases n; rfl

theorem dOrdering_obj (n m : J) :
    dOrdering (.obj [(kNames, n), (kMapping, m)]) = (do pure (← dList dStr n, ← dMap m)) := rfl
theorem dBdd_obj (n c : J) :
    dBdd (.obj [(kNodes, n), (kCache, c)]) = (do pure (← dList dNode n, ← dList dPair c)) := rfl
theorem dAdf_obj (o b a : J) :
    dAdf (.obj [(kOrdering, o), (kBdd, b), (kAc, a)]) = (do
      let ord ← dOrdering o
      let bdd ← dBdd b
      let ac ← dList dNat a
      pure ⟨ord.1, ord.2, bdd.1, bdd.2, ac⟩) := rfl

theorem dAdf_enc (e : TextAdf) : dAdf (enc e) = some e := by
  have h1 := mapM_map_some (fun s : String => J.str s.toList) dStr (fun s => by simp [dStr, String.ofList_toList]) e.names
  have h2 := mapM_map_some (fun kv : String × Nat => (kv.1.toList, J.num kv.2))
    (fun kv => (dNat kv.2).map (fun n => (String.ofList kv.1, n))) (fun kv => by simp [dNat, String.ofList_toList]) e.mapping
  have h3 := mapM_map_some eNode dNode dNode_eNode e.nodes
  have h4 := mapM_map_some (fun q : Node × Nat => J.arr [eNode q.1, .num q.2]) dPair
    (fun q => by simp [dPair, dNode_eNode, dNat]) e.cache
  have h5 := mapM_map_some J.num dNat (fun _ => rfl) e.ac
  simp only [enc, dAdf_obj, dOrdering_obj, dBdd_obj, dList, dMap, h1, h2, h3, h4, h5,
    Option.bind_eq_bind, Option.bind_some, Option.pure_def]

theorem field_perm (k : List Char) {o o' : List (List Char × J)} (h : o.Perm o') : field k o = field k o' := by
  unfold field
  have hp := h.filter (fun kv => kv.1 == k)
  generalize o.filter (fun kv => kv.1 == k) = l at hp
  generalize o'.filter (fun kv => kv.1 == k) = l' at hp
  have hl := hp.length_eq
  match l, l', hp, hl with
  | [], [], _, _ => rfl
  | [a], [b], hp, _ => rw [List.perm_singleton.mp hp.symm] 
  | _ :: _ :: _, _ :: _ :: _, _, _ => rfl

theorem field_unknown (k k' : List Char) (v : J) (o : List (List Char × J)) (h : k' ≠ k) :
    field k ((k', v) :: o) = field k o := by
  unfold field
  rw [List.filter_cons_of_neg (by simpa using h)]

theorem dAdf_perm {o o' : List (List Char × J)} (h : o.Perm o') : dAdf (.obj o) = dAdf (.obj o') := by
  simp only [dAdf, field_perm _ h]

/-- a member with another name is skipped (e.g. `"count_cache":{}` of older exports) -/
theorem dAdf_unknown (k : List Char) (v : J) (o : List (List Char × J))
    (h1 : k ≠ kOrdering) (h2 : k ≠ kBdd) (h3 : k ≠ kAc) : dAdf (.obj ((k, v) :: o)) = dAdf (.obj o) := by
  simp only [dAdf, field_unknown _ _ _ _ h1, field_unknown _ _ _ _ h2, field_unknown _ _ _ _ h3]

theorem parseToks_toks (e : TextAdf) : parseToks (toks e) = some e := by
  unfold parseToks
  rw [toks_eq, pJ_tJ]
  exact dAdf_enc e

theorem good_punct (t : Tok) (ht : isPunct t = true) (r : List Tok) : Good (t :: r) ↔ Good r := by
  cases t <;> simp [isPunct] at ht <;> simp [Good]
theorem good_str (s : List Char) (r : List Tok) : Good (.str s :: r) ↔ Good r := by simp [Good]
theorem startsNum_punct (t : Tok) (ht : isPunct t = true) (r : List Tok) : startsNum (t :: r) = false := by
  cases t <;> simp [isPunct] at ht <;> rfl

theorem good_tSepTail {α : Type} (pr : α → List Tok → List Tok) (ok : α → Prop) (cl : Tok) (hcl : isPunct cl = true)
    (hg : ∀ x r, ok x → startsNum r = false → Good r → Good (pr x r)) :
    ∀ (ys : List α) (x : α) (r : List Tok), ok x → (∀ y ∈ ys, ok y) → Good r → Good (tSepTail pr x ys (cl :: r)) := by
  intro ys
  induction ys with
  | nil =>
    intro x r hx _ g
    exact hg x _ hx (startsNum_punct cl hcl r) ((good_punct cl hcl r).mpr g)
  | cons y ys ih =>
    intro x r hx hys g
    exact hg x _ hx rfl (ih y r (hys y (by simp)) (fun z hz => hys z (by simp [hz])) g)

theorem good_tSeq {α : Type} (op cl : Tok) (pr : α → List Tok → List Tok) (ok : α → Prop)
    (hop : isPunct op = true) (hcl : isPunct cl = true)
    (hg : ∀ x r, ok x → startsNum r = false → Good r → Good (pr x r))
    (xs : List α) (r : List Tok) (hxs : ∀ x ∈ xs, ok x) (g : Good r) : Good (tSeq op cl pr xs r) := by
  cases xs with
  | nil => exact (good_punct op hop _).mpr ((good_punct cl hcl _).mpr g)
  | cons x xs =>
    exact (good_punct op hop _).mpr
      (good_tSepTail pr ok cl hcl hg xs x r (hxs x (by simp)) (fun y hy => hxs y (by simp [hy])) g)

def NodeFits (n : Node) : Prop := n.var < B64 ∧ n.lo < B64 ∧ n.hi < B64

/-- every number of the object is a `usize` -/
structure Fits (e : TextAdf) : Prop where
  mapping : ∀ kv ∈ e.mapping, kv.2 < B64
  nodes : ∀ n ∈ e.nodes, NodeFits n
  cache : ∀ q ∈ e.cache, NodeFits q.1 ∧ q.2 < B64
  ac : ∀ t ∈ e.ac, t < B64

theorem good_tNode (n : Node) (r : List Tok) (h : NodeFits n) (g : Good r) : Good (tNode n r) := by
  obtain ⟨a, b, c⟩ := h
  simp only [tNode, Good, startsNum, a, b, c, true_and]
  exact g

theorem good_toks (e : TextAdf) (f : Fits e) : Good (toks e) := by
  unfold toks
  simp only [Good]
  refine good_tSeq _ _ _ (fun _ => True) rfl rfl (fun x r _ _ g => by simpa [tStr, Good] using g) _ _ (fun _ _ => trivial) ?_
  simp only [Good]
  refine good_tSeq _ _ _ (fun kv => kv.2 < B64) rfl rfl
    (fun x r hx hs g => by simp only [tKV, Good]; exact ⟨hx, hs, g⟩) _ _ f.mapping ?_
  simp only [Good]
  refine good_tSeq _ _ _ NodeFits rfl rfl
    (fun x r hx _ g => good_tNode x r hx g) _ _ f.nodes ?_
  simp only [Good]
  refine good_tSeq _ _ _ (fun q => NodeFits q.1 ∧ q.2 < B64) rfl rfl
    (fun x r hx _ g => by
      simp only [tPair, Good]
      refine good_tNode x.1 _ hx.1 ?_
      simp only [Good]; exact ⟨hx.2, rfl, g⟩) _ _ f.cache ?_
  simp only [Good]
  refine good_tSeq _ _ _ (fun t => t < B64) rfl rfl
    (fun x r hx hs g => by simp only [tNum, Good]; exact ⟨hx, hs, g⟩) _ _ f.ac ?_
  simp [Good]

/-- **text round trip**: what `parse` reads from the rendering of the object's tokens — with ANY
whitespace between them, in particular none (`print`) — is the object -/
theorem parse_render (w : Nat → List Char) (hw : WsOnly w) (e : TextAdf) (f : Fits e) :
    parse (render w 0 (toks e)) = some e := by
  unfold parse
  rw [lex_render w hw _ 0 (good_toks e f)]
  exact parseToks_toks e

theorem parse_print (e : TextAdf) (f : Fits e) : parse (print e) = some e :=
  parse_render noWs noWs_ok e f

end Json
