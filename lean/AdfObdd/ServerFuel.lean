import AdfObdd.ServerAnswers
import AdfObdd.CliFuelBound
/-! # C16 — the iteration bound of the nogood-learning search is irrelevant once the search has halted

`nogood_internal` (lib/src/adf.rs) is a `loop { … }` WITHOUT a bound; the executable model
`SM.ngRun h n ac stable fuel` runs at most `fuel` iterations and reports in `NgS.done` whether the loop
reached its `break`. A search that halts within `F` iterations returns the very same state for every
`F' ≥ F` (`CliF.ngSearch_mono`), hence the server's solve task `SrvA.solveAdfF` does not depend on the
bound from `F` on (`solveAdfF_mono`), and the halting flag stays set (`strategyHalts_mono`). So "the
search halted within the driver's 10^6 iterations" is one instance of "the search halted within SOME
bound `F0`, and the answer is that of every bound `F ≥ F0`" - the latter is a statement about the
unbounded Rust loop.

An explicit `F0`: for a stored framework that denotes `n` conditions the search has halted within
`NConc.ngBound n = 2^(n+3)` iterations (`SrvA.strategyHalts_within`); `2^(16+3) ≤ 10^6`, so the bound of the
executable model (`solveAdf = solveAdfF 1000000`) provably suffices for `n ≤ 16` statements
(`strategyHalts_of_le_16`). Beyond that size `strategyHalts 1000000 a s` remains a hypothesis (evaluation only). -/
namespace SM

theorem ngSearch_mono (h : Heu) (F F' : Nat) (s : Store) (n : Nat) (ac : List Nat) (stable : Bool)
    (hh : (ngSearch h F s n ac stable).2.2.2 = true) (hF : F ≤ F') :
    ngSearch h F' s n ac stable = ngSearch h F s n ac stable :=
  CliF.ngSearch_mono h s n ac stable hh hF

end SM

namespace SrvA
open ServerM ServerAdf

theorem solveAdfF_mono (F F' : Nat) (a : SAdf) (s : Strategy) (hh : strategyHalts F a s = true) (hF : F ≤ F') :
    solveAdfF F' a s = solveAdfF F a s := by
  unfold solveAdfF
  rw [CliF.runSectionF_halted_mono .simple (secOf s) (rebuild a.nodes) a.ac.length a.ac hh hF]

theorem strategyHalts_mono (F F' : Nat) (a : SAdf) (s : Strategy) (hh : strategyHalts F a s = true) (hF : F ≤ F') :
    strategyHalts F' a s = true :=
  CliF.sectionHaltsF_mono .simple (secOf s) (rebuild a.nodes) a.ac.length a.ac hh hF

/-- **the answer of the unbounded loop**: if the search halts within `F0` iterations there is ONE result
`res` that the solve task returns for EVERY bound `F ≥ F0`, and it is - as a multiset of three-valued
interpretations - the specification's answer -/
theorem stored_answers_exact_from_bound (F0 : Nat) (a : SAdf) (n : Nat) (fms : List Fm) (s : Strategy)
    (h : Denotes a n fms) (hh : strategyHalts F0 a s = true) :
    ∃ res, (∀ F, F0 ≤ F → solveAdfF F a s = .ok res ∧ strategyHalts F a s = true) ∧
      (storedI3 res).Perm (Cli.specSection n (CliF.tablesOf n fms) (secOf s)) := by
  obtain ⟨res, h1, h2⟩ := stored_answers_exact_any_table F0 a n fms s h hh
  exact ⟨res, fun F hF => ⟨by rw [solveAdfF_mono F0 F a s hh hF]; exact h1, strategyHalts_mono F0 F a s hh hF⟩, h2⟩

/-- `2^(16+3) ≤ 10^6`: the bound of the executable model provably suffices for at most 16 statements -/
theorem strategyHalts_of_le_16 (a : SAdf) (n : Nat) (fms : List Fm) (s : Strategy) (h : Denotes a n fms)
    (h16 : n ≤ 16) : strategyHalts 1000000 a s = true :=
  strategyHalts_within a n fms s h 1000000 ((NConc.ngBound_le_million_iff n).mpr h16)

end SrvA
#print axioms SrvA.strategyHalts_within
