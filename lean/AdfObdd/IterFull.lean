import AdfObdd.AdfModel
import AdfObdd.Picks
/-! C20: the two interpretation iterators of `datatypes/adf.rs` on vectors of handles.

* `It2` / `It3` are literal state-machine models of `TwoValuedInterpretationsIterator` and
  `ThreeValuedInterpretationsIterator` (`indexes`, `current`, `started`, `original`; `next`,
  `decrement_vec`), `collect` is "call `next` until it answers `None`".
* `twoValAll` / `threeValAll` (AdfModel.lean, what the ADF driver runs) are proved equal to the reference
  enumerations `enum2` / `enum3`, which are defined by recursion on the undecided positions and know nothing
  about odometers; the `collect` of the literal machines is reduced to the `collectFrom` / `collect3` expression
  that `twoValAll` / `threeValAll` unfold to (`It2.collect_new`, `It3.collect_new`; the two are joined in
  Props/C20.lean).
* The reference enumerations in turn pick one of `opt2 t` / `opt3 t` for each entry `t`
  (`List.picks`, `enum2_und`, `enum3_und`): membership = completion / refinement and `Nodup` are read
  off entry by entry. -/
namespace IterFull
open Iter2M Iter3M

def und (v : List Nat) : List Nat := (List.range v.length).filter (fun i => !isTV (v.getD i 0))

/-- `indexes` of both iterators: undecided positions, descending (`.rev()`) -/
def idxs (v : List Nat) : List Nat := (und v).reverse

/-- `current` of the two-valued iterator after `new`: undecided ↦ ⊥ -/
def start2 (v : List Nat) : List Nat := v.map (fun t => if isTV t then t else 0)

def nUnd (v : List Nat) : Nat := (v.filter (fun t => !isTV t)).length

theorem twoValAll_def (v : List Nat) :
    twoValAll v = collectFrom (idxs v) (2 ^ (idxs v).length) (start2 v) := rfl

theorem mem_und {v : List Nat} {i : Nat} : i ∈ und v ↔ i < v.length ∧ ¬ v.getD i 0 < 2 := by
  simp [und, isTV]

theorem und_nodup (v : List Nat) : (und v).Nodup :=
  List.Nodup.sublist List.filter_sublist List.nodup_range

theorem range_map_getD (v : List Nat) : (List.range v.length).map (fun i => v.getD i 0) = v := by
  apply List.ext_getElem
  · simp
  · intro i h1 h2
    simp at h1
    simp [List.getD, h1]

theorem und_length (v : List Nat) : (und v).length = nUnd v := by
  unfold und nUnd
  conv => rhs; rw [← range_map_getD v, List.filter_map, List.length_map]
  rfl

theorem idxs_length (v : List Nat) : (idxs v).length = nUnd v := by
  simp [idxs, und_length]

/-- `w` is a total completion of `v`: decided entries kept, undecided ones replaced by ⊥ or ⊤ -/
def isCompletion (w v : List Nat) : Prop :=
  w.length = v.length ∧
  ∀ i, i < v.length → if v.getD i 0 < 2 then w.getD i 0 = v.getD i 0 else w.getD i 0 < 2

/-- `w` refines `v`: decided entries kept, an undecided entry is kept as it is or decided -/
def isRefinement (w v : List Nat) : Prop :=
  w.length = v.length ∧
  ∀ i, i < v.length → if v.getD i 0 < 2 then w.getD i 0 = v.getD i 0
                       else (w.getD i 0 = v.getD i 0 ∨ w.getD i 0 < 2)

instance (w v : List Nat) : Decidable (isCompletion w v) := by
  unfold isCompletion
  exact instDecidableAnd (dq := Nat.decidableBallLT _ _)
instance (w v : List Nat) : Decidable (isRefinement w v) := by
  unfold isRefinement
  exact instDecidableAnd (dq := Nat.decidableBallLT _ _)

theorem get?_of_lt (l : List Nat) {i : Nat} (h : i < l.length) : l[i]? = some (l.getD i 0) := by
  simp [List.getD, h]

theorem set_same {l : List Nat} {i a : Nat} (h : l[i]? = some a) : l.set i a = l := by
  obtain ⟨hi, rfl⟩ := List.getElem?_eq_some_iff.mp h
  exact List.set_getElem_self hi

theorem und_cons (t : Nat) (v : List Nat) :
    und (t :: v) = (if isTV t then [] else [0]) ++ (und v).map (· + 1) := by
  unfold und
  rw [List.length_cons, List.range_succ_eq_map, List.filter_cons, List.filter_map]
  simp only [Function.comp_def, List.getD_cons_zero, List.getD_cons_succ, Nat.succ_eq_add_one]
  cases isTV t <;> rfl

/-- what the two-valued iterator may put in place of an entry `t` -/
def opt2 (t : Nat) : List Nat := if isTV t then [t] else [0, 1]

theorem mem_opt2 {a t : Nat} : a ∈ opt2 t ↔ if t < 2 then a = t else a < 2 := by
  unfold opt2 isTV; by_cases h : t < 2 <;> simp [h]; omega

theorem opt2_nodup (t : Nat) : (opt2 t).Nodup := by
  unfold opt2; split <;> simp

theorem enum2_succ (a : Nat) (sl base : List Nat) :
    enum2 (sl.map (· + 1)) (a :: base) = (enum2 sl base).map (a :: ·) := by
  induction sl generalizing base with
  | nil => rfl
  | cons i sl ih => simp [enum2, ih]

theorem enum2_und (v : List Nat) : enum2 (und v) (start2 v) = List.picks opt2 v := by
  induction v with
  | nil => rfl
  | cons t v ih =>
    have e : start2 (t :: v) = (if isTV t then t else 0) :: start2 v := rfl
    rw [und_cons, e, List.picks, opt2, ← ih]
    cases isTV t <;> simp [enum2, enum2_succ]

theorem zeros_id : ∀ (sl : List Nat) (base : List Nat), (∀ i ∈ sl, base[i]? = some 0) → zeros sl base = base := by
  intro sl
  induction sl with
  | nil => intro base _; rfl
  | cons i rest ih =>
    intro base h
    rw [zeros_cons, set_same (h i (List.mem_cons_self ..))]
    exact ih base (fun j hj => h j (List.mem_cons_of_mem _ hj))

theorem start2_length (v : List Nat) : (start2 v).length = v.length := by simp [start2]

theorem start2_get (v : List Nat) {i : Nat} (h : i < v.length) :
    (start2 v)[i]? = some (if v.getD i 0 < 2 then v.getD i 0 else 0) := by
  simp [start2, List.getD, h, isTV]

theorem collect2_enum (v : List Nat) (fuel : Nat) (hf : 2 ^ nUnd v ≤ fuel) :
    collectFrom (idxs v) fuel (start2 v) = enum2 (und v) (start2 v) := by
  have hz : zeros (und v) (start2 v) = start2 v := by
    apply zeros_id
    intro i hi
    have ⟨hl, hu⟩ := mem_und.mp hi
    rw [start2_get v hl, if_neg hu]
  have := collect2_eq (und v) (start2 v) fuel (und_nodup v)
    (fun i hi => by rw [start2_length]; exact (mem_und.mp hi).1) (by rw [und_length]; exact hf)
  rw [hz] at this
  exact this

theorem twoValAll_eq_enum2 (v : List Nat) : twoValAll v = enum2 (und v) (start2 v) := by
  rw [twoValAll_def]
  exact collect2_enum v _ (by rw [idxs_length]; exact Nat.le_refl _)

theorem twoValAll_eq_picks (v : List Nat) : twoValAll v = List.picks opt2 v :=
  (twoValAll_eq_enum2 v).trans (enum2_und v)

theorem mem_twoValAll (v w : List Nat) : w ∈ twoValAll v ↔ isCompletion w v := by
  rw [twoValAll_eq_picks, List.mem_picks 0 0]
  exact and_congr_right fun _ => forall_congr' fun _ => imp_congr_right fun _ => mem_opt2

/-- the result vector `next` builds from the digit vector `current` -/
def toVec (v ix base ds : List Nat) : List Nat :=
  (ds.zip ix).foldl (fun acc (d, pos) =>
      acc.set pos (match d with | 0 => 0 | 1 => 1 | _ => v.getD pos 0)) base

theorem threeValAll_def (v : List Nat) :
    threeValAll v = (collect3 (3 ^ (idxs v).length) (List.replicate (idxs v).length 2)).map (toVec v (idxs v) v) := rfl

/-- reference enumeration of the refinements: slowest position first; keep, ⊤, ⊥ -/
def enum3 : (slow : List Nat) → List Nat → List (List Nat)
  | [], base => [base]
  | i :: rest, base => enum3 rest base ++ (enum3 rest (base.set i 1) ++ enum3 rest (base.set i 0))

theorem toVec_nil (v ix base : List Nat) : toVec v ix base [] = base := rfl

theorem toVec_cons (v : List Nat) (p : Nat) (ix base : List Nat) (d : Nat) (ds : List Nat) :
    toVec v (p :: ix) base (d :: ds) =
      toVec v ix (base.set p (match d with | 0 => 0 | 1 => 1 | _ => v.getD p 0)) ds := rfl

theorem toVec_set_comm (v : List Nat) : ∀ (ds ix base : List Nat) (i x : Nat), i ∉ ix →
    (toVec v ix base ds).set i x = toVec v ix (base.set i x) ds := by
  intro ds
  induction ds with
  | nil => intros; rfl
  | cons d ds ih =>
    intro ix base i x hi
    cases ix with
    | nil => rfl
    | cons p ix =>
      have hp : i ≠ p := fun e => hi (e ▸ List.mem_cons_self ..)
      rw [toVec_cons, toVec_cons, ih ix _ i x (fun m => hi (List.mem_cons_of_mem _ m)),
          List.set_comm _ _ (Ne.symm hp)]

theorem toVec_snoc (v : List Nat) : ∀ (ds ix base : List Nat) (d i : Nat), ds.length = ix.length →
    toVec v (ix ++ [i]) base (ds ++ [d]) =
      (toVec v ix base ds).set i (match d with | 0 => 0 | 1 => 1 | _ => v.getD i 0) := by
  intro ds ix base d i hl
  unfold toVec
  rw [List.zip_append hl, List.foldl_append]
  rfl

theorem enumD_mem_length : ∀ (k : Nat) (ds : List Nat), ds ∈ enumD k → ds.length = k := by
  intro k
  induction k with
  | zero => intro ds h; simp [enumD] at h; simp [h]
  | succ k ih =>
    intro ds h
    simp only [enumD, List.mem_append, List.mem_map] at h
    rcases h with ⟨x, hx, rfl⟩ | ⟨x, hx, rfl⟩ | ⟨x, hx, rfl⟩ <;> simp [ih x hx]

/-- `base` agrees with `v` on the positions of `sl`, so that the digit "keep", which writes `v[i]`, is a no-op on it
(`hkeep`). The induction peels the slowest digit (`toVec_snoc`) and pushes its `set` below the faster ones
(`toVec_set_comm`, as `i ∉ rest`). -/
theorem map_toVec_enumD (v : List Nat) : ∀ (sl base : List Nat), sl.Nodup →
    (∀ i ∈ sl, i < v.length ∧ base[i]? = v[i]?) →
    (enumD sl.length).map (toVec v sl.reverse base) = enum3 sl base := by
  intro sl
  induction sl with
  | nil => intro base _ _; rfl
  | cons i rest ih =>
    intro base hnd hb
    have hi : i ∉ rest := (List.nodup_cons.mp hnd).1
    have hnr : rest.Nodup := (List.nodup_cons.mp hnd).2
    have ⟨hil, hbi⟩ := hb i (List.mem_cons_self ..)
    have hir : i ∉ rest.reverse := by simpa using hi
    have hb' : ∀ x : Nat, ∀ j ∈ rest, j < v.length ∧ (base.set i x)[j]? = v[j]? := by
      intro x j hj
      have ⟨a, b⟩ := hb j (List.mem_cons_of_mem _ hj)
      have hji : i ≠ j := fun e => hi (e ▸ hj)
      exact ⟨a, by rw [List.getElem?_set_ne hji]; exact b⟩
    have hkeep : base.set i (v.getD i 0) = base := by
      apply set_same
      rw [hbi, get?_of_lt v hil]
    have step : ∀ (d : Nat), (enumD rest.length).map (fun ds => toVec v (i :: rest).reverse base (ds ++ [d])) =
        enum3 rest (base.set i (match d with | 0 => 0 | 1 => 1 | _ => v.getD i 0)) := by
      intro d
      rw [← ih _ hnr (hb' _)]
      apply List.map_congr_left
      intro ds hds
      have hl : ds.length = rest.reverse.length := by simp [enumD_mem_length _ _ hds]
      rw [List.reverse_cons, toVec_snoc v ds _ base d i hl, toVec_set_comm v ds _ base i _ hir]
    simp only [List.length_cons, enumD, List.map_append, List.map_map, enum3]
    have e2 := step 2
    have e1 := step 1
    have e0 := step 0
    simp only [hkeep] at e2 e1 e0
    exact congr (congrArg _ e2) (congr (congrArg _ e1) e0)

theorem collect3_enum (v : List Nat) (fuel : Nat) (hf : 3 ^ nUnd v ≤ fuel) :
    (collect3 fuel (List.replicate (idxs v).length 2)).map (toVec v (idxs v) v) = enum3 (und v) v := by
  rw [collect3_eq _ fuel (by rw [idxs_length]; exact hf)]
  have := map_toVec_enumD v (und v) v (und_nodup v) (fun _ hi => ⟨(mem_und.mp hi).1, rfl⟩)
  simpa [idxs] using this

theorem threeValAll_eq_enum3 (v : List Nat) : threeValAll v = enum3 (und v) v := by
  rw [threeValAll_def]
  exact collect3_enum v _ (by rw [idxs_length]; exact Nat.le_refl _)

theorem enum3_length (sl base : List Nat) : (enum3 sl base).length = 3 ^ sl.length := by
  induction sl generalizing base with
  | nil => rfl
  | cons i rest ih => simp [enum3, ih, Nat.pow_succ]; omega

theorem enum3_head (sl base : List Nat) : ∃ tl, enum3 sl base = base :: tl := by
  induction sl generalizing base with
  | nil => exact ⟨[], rfl⟩
  | cons i rest ih =>
    obtain ⟨tl, h⟩ := ih base
    exact ⟨tl ++ (enum3 rest (base.set i 1) ++ enum3 rest (base.set i 0)), by simp [enum3, h]⟩

/-- what the three-valued iterator may put in place of an entry `t`, in its order -/
def opt3 (t : Nat) : List Nat := if isTV t then [t] else [t, 1, 0]

theorem mem_opt3 {a t : Nat} : a ∈ opt3 t ↔ if t < 2 then a = t else (a = t ∨ a < 2) := by
  unfold opt3 isTV; by_cases h : t < 2 <;> simp [h]; omega

theorem opt3_nodup (t : Nat) : (opt3 t).Nodup := by
  unfold opt3 isTV; by_cases h : t < 2 <;> simp [h]; omega

theorem enum3_succ (a : Nat) (sl base : List Nat) :
    enum3 (sl.map (· + 1)) (a :: base) = (enum3 sl base).map (a :: ·) := by
  induction sl generalizing base with
  | nil => rfl
  | cons i sl ih => simp [enum3, ih]

theorem enum3_und (v : List Nat) : enum3 (und v) v = List.picks opt3 v := by
  induction v with
  | nil => rfl
  | cons t v ih =>
    rw [und_cons, List.picks, opt3, ← ih]
    cases isTV t <;> simp [enum3, enum3_succ]

theorem threeValAll_eq_picks (v : List Nat) : threeValAll v = List.picks opt3 v :=
  (threeValAll_eq_enum3 v).trans (enum3_und v)

theorem mem_threeValAll (v w : List Nat) : w ∈ threeValAll v ↔ isRefinement w v := by
  rw [threeValAll_eq_picks, List.mem_picks 0 0]
  exact and_congr_right fun _ => forall_congr' fun _ => imp_congr_right fun _ => mem_opt3

theorem threeValAll_head (v : List Nat) : ∃ tl, threeValAll v = v :: tl := by
  rw [threeValAll_eq_enum3]; exact enum3_head (und v) v

/-- `TwoValuedInterpretationsIterator` -/
structure It2 where
  indexes : List Nat
  current : Option (List Nat)
  started : Bool

/-- `TwoValuedInterpretationsIterator::new` -/
def It2.new (v : List Nat) : It2 := { indexes := idxs v, current := some (start2 v), started := false }

/-- `.iter().enumerate().find(|(_, &idx)| current[idx] == Term::BOT)`: (place in `indexes`, position) -/
def findBot (cur : List Nat) : List Nat → Option (Nat × Nat)
  | [] => none
  | i :: rest => if cur[i]? = some 0 then some (0, i) else (findBot cur rest).map (fun p => (p.1 + 1, p.2))

/-- body of `next` once started: flip the found position to ⊤ and reset `indexes[0..idx]` to ⊥ -/
def step2 (ix cur : List Nat) : Option (List Nat) :=
  match findBot cur ix with
  | some (k, a) => some ((ix.take k).foldl (fun r i => r.set i 0) (cur.set a 1))
  | none => none

/-- `TwoValuedInterpretationsIterator::next` -/
def It2.next (it : It2) : It2 × Option (List Nat) :=
  if it.started then
    match it.current with
    | some cur => ({ it with current := step2 it.indexes cur }, step2 it.indexes cur)
    | none => (it, none)
  else ({ it with started := true }, it.current)

/-- `collect()`: call `next` until it answers `None`; the flag says that `None` was seen within
the fuel (the iterator terminated by itself) -/
def It2.collect : Nat → It2 → List (List Nat) × Bool
  | 0, _ => ([], false)
  | fuel+1, it =>
    match it.next with
    | (it', some x) => let r := It2.collect fuel it'; (x :: r.1, r.2)
    | (_, none) => ([], true)

theorem findBot_set_notin (cur : List Nat) (i : Nat) (x : Nat) : ∀ (ix : List Nat), i ∉ ix →
    findBot (cur.set i x) ix = findBot cur ix := by
  intro ix
  induction ix with
  | nil => intro _; rfl
  | cons j rest ih =>
    intro h
    have hj : i ≠ j := fun e => h (e ▸ List.mem_cons_self ..)
    simp only [findBot, List.getElem?_set_ne hj, ih (fun m => h (List.mem_cons_of_mem _ m))]

theorem findBot_mem (cur : List Nat) : ∀ (ix : List Nat) (k a : Nat), findBot cur ix = some (k, a) → a ∈ ix := by
  intro ix k a
  fun_induction findBot cur ix generalizing k a with
  | case1 => intro h; cases h
  | case2 j rest hc => intro h; cases h; exact List.mem_cons_self ..
  | case3 j rest hc ih =>
    intro h
    cases hf : findBot cur rest with
    | none => simp [hf] at h
    | some p =>
      obtain ⟨k', a'⟩ := p
      simp [hf] at h
      exact List.mem_cons_of_mem _ (h.2 ▸ ih k' a' hf)

/-- "find, then reset the prefix" is the carry-as-you-go successor of `Iter2M` -/
theorem step2_eq_succ2 : ∀ (ix cur : List Nat), ix.Nodup → step2 ix cur = succ2 ix cur := by
  intro ix
  induction ix with
  | nil => intro cur _; rfl
  | cons i rest ih =>
    intro cur hnd
    have hi : i ∉ rest := (List.nodup_cons.mp hnd).1
    have hnr : rest.Nodup := (List.nodup_cons.mp hnd).2
    by_cases hc : cur[i]? = some 0
    · simp [step2, findBot, succ2, hc]
    · have hs : succ2 (i :: rest) cur = succ2 rest (cur.set i 0) := by simp [succ2, hc]
      rw [hs, ← ih _ hnr]
      unfold step2
      simp only [findBot, if_neg hc, findBot_set_notin cur i 0 rest hi]
      cases hf : findBot cur rest with
      | none => rfl
      | some p =>
        obtain ⟨k, a⟩ := p
        have ha : a ≠ i := fun e => hi (e ▸ findBot_mem cur rest k a hf)
        simp only [Option.map_some, List.take_succ_cons, List.foldl_cons]
        rw [List.set_comm _ _ ha]

theorem It2.collect_started (ix : List Nat) (hnd : ix.Nodup) : ∀ (f : Nat) (cur : List Nat),
    cur :: (It2.collect f { indexes := ix, current := some cur, started := true }).1 = collectFrom ix (f+1) cur := by
  intro f
  induction f with
  | zero => intro cur; simp only [It2.collect, collectFrom]; cases succ2 ix cur <;> rfl
  | succ f ih =>
    intro cur
    rw [collectFrom]
    simp only [It2.collect, It2.next, if_true, step2_eq_succ2 ix cur hnd]
    cases hs : succ2 ix cur with
    | none => rfl
    | some c => simp only; rw [ih c]

theorem It2.collect_flag : ∀ (f : Nat) (it : It2), (It2.collect f it).2 = true ↔ (It2.collect f it).1.length < f := by
  intro f it
  fun_induction It2.collect f it with
  | case1 => simp
  | case2 f it it' x hn r ih => simp only [List.length_cons, r]; rw [ih]; omega
  | case3 => simp

/-- `ThreeValuedInterpretationsIterator` -/
structure It3 where
  original : List Nat
  indexes : List Nat
  current : Option (List Nat)
  started : Bool

/-- `ThreeValuedInterpretationsIterator::new` -/
def It3.new (v : List Nat) : It3 :=
  { original := v, indexes := idxs v, current := some (List.replicate (idxs v).length 2), started := false }

/-- `decrement_vec`, literally: find the first digit > 0, decrement it, set the digits before it
to 2; `None` stands for the answer `false` -/
def decrementVec (ds : List Nat) : Option (List Nat) :=
  match ds.findIdx? (fun d => decide (d > 0)) with
  | some k => some (List.replicate k 2 ++ (ds.getD k 0 - 1) :: ds.drop (k+1))
  | none => none

/-- `ThreeValuedInterpretationsIterator::next` (with `decrement` inlined) -/
def It3.next (it : It3) : It3 × Option (List Nat) :=
  let it1 : It3 :=
    if it.started then
      match it.current with
      | some c => { it with current := decrementVec c }
      | none => it
    else { it with started := true }
  match it1.current with
  | some cur => (it1, some (toVec it1.original it1.indexes it1.original cur))
  | none => (it1, none)

def It3.collect : Nat → It3 → List (List Nat) × Bool
  | 0, _ => ([], false)
  | fuel+1, it =>
    match it.next with
    | (it', some x) => let r := It3.collect fuel it'; (x :: r.1, r.2)
    | (_, none) => ([], true)

theorem decrementVec_eq_pred3 : ∀ (ds : List Nat), decrementVec ds = pred3 ds := by
  intro ds
  induction ds with
  | nil => rfl
  | cons d rest ih =>
    unfold decrementVec pred3
    rw [List.findIdx?_cons]
    by_cases hd : 0 < d
    · simp [hd]
    · have : decide (d > 0) = false := by simpa using hd
      simp only [this, Bool.false_eq_true, if_false, if_neg hd]
      rw [← ih]
      unfold decrementVec
      cases List.findIdx? (fun d => decide (d > 0)) rest with
      | none => rfl
      | some k => simp [List.replicate_succ]

theorem It3.collect_started (v ix : List Nat) : ∀ (f : Nat) (cur : List Nat),
    toVec v ix v cur :: (It3.collect f { original := v, indexes := ix, current := some cur, started := true }).1 =
      (collect3 (f+1) cur).map (toVec v ix v) := by
  intro f
  induction f with
  | zero => intro cur; simp only [It3.collect, collect3]; cases pred3 cur <;> rfl
  | succ f ih =>
    intro cur
    rw [collect3]
    simp only [It3.collect, It3.next, if_true, decrementVec_eq_pred3]
    cases hs : pred3 cur with
    | none => rfl
    | some c => simp only [List.map_cons]; rw [← ih c]

theorem It3.collect_flag : ∀ (f : Nat) (it : It3), (It3.collect f it).2 = true ↔ (It3.collect f it).1.length < f := by
  intro f it
  fun_induction It3.collect f it with
  | case1 => simp
  | case2 f it it' x hn r ih => simp only [List.length_cons, r]; rw [ih]; omega
  | case3 => simp

theorem idxs_nodup (v : List Nat) : (idxs v).Nodup := by
  have h := und_nodup v
  unfold idxs List.Nodup at *; rw [List.pairwise_reverse]; exact h.imp (fun h => h.symm)

theorem It2.collect_new (v : List Nat) (f : Nat) :
    (It2.collect (f+1) (It2.new v)).1 = collectFrom (idxs v) (f+1) (start2 v) := by
  rw [← It2.collect_started (idxs v) (idxs_nodup v) f (start2 v)]
  simp [It2.collect, It2.next, It2.new]

theorem It3.collect_new (v : List Nat) (f : Nat) :
    (It3.collect (f+1) (It3.new v)).1 =
      (collect3 (f+1) (List.replicate (idxs v).length 2)).map (toVec v (idxs v) v) := by
  rw [← It3.collect_started v (idxs v) f _]
  simp [It3.collect, It3.next, It3.new]

end IterFull
