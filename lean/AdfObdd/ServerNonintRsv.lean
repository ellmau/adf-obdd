import AdfObdd.ServerNonintFull
/-! # C17 — clause (1) of the full noninterference statement: the alone run with RESERVED names

`nonint_rsv`: under the discipline of the full statement (`DisciplinedF`, conflicts permitted to BOTH
sides, the unused name proposals of authenticated `add`s included), what the jars `J` observe in the full run is
exactly `runRsv`: their own events executed on a state that holds nothing of anybody else except that
the user records of the others are present for the duration of each event.

The alone state is the view of the full state (`State.view`, `ServerNonintJ`).  For an event of `J` whose
names are regular, the view with the reserved records added (`reserve`) has the same view - the records lie outside the
name space - so the event commutes with it as with the view itself (`stepEv_view_mine` twice: all three runs give the
same response); that removing the records again (`unreserve`) leaves exactly the view is the law for the OTHER
side (`stepEv_view_other`) at the complement name space: the event touches nothing outside `S` (`rsv_step_mine`).
For a conflict of `J` (a name held by the others) the event is a no-op on the full state (`conflict_noop`) and on
every state with the same session and the same record under that name, with one and the same response
(`conflict_resp`); the view with the reserved records is such a state (`conflict_transfer`, `find_reserve`). -/
namespace ServerM
section
variable {T H A R : Type} [DecidableEq T]

theorem foreignUsers_fresh (s a : State T H A R) :
    ∀ u ∈ a.db.users, (foreignUsers s a).any (isUser u.username) = false := by
  intro u hu
  refine List.any_eq_false.mpr fun r hr hru => ?_
  simp only [isUser, decide_eq_true_eq] at hru
  simp only [foreignUsers, List.mem_filter, Bool.not_eq_true'] at hr
  exact Bool.false_ne_true (hr.2.symm.trans ((any_isUser _ _).mpr ⟨u, hu, hru.symm⟩))

omit [DecidableEq T] in
theorem reserve_ns {S : T → Bool} {J : Nat → Bool} (rs : List (User T H)) (a : State T H A R)
    (h : NsInvJ S J a) : NsInvJ S J (reserve rs a) := ⟨h.mine, h.others, h.tasks⟩

theorem rs_not_S {S : T → Bool} (rs : List (User T H)) (hrs : ∀ u ∈ rs, S u.username = false) (n : T) (hn : S n = true) :
    rs.any (isUser n) = false := by
  refine List.any_eq_false.mpr fun r hr hrn => ?_
  simp only [isUser, decide_eq_true_eq] at hrn
  have := hrs r hr
  rw [hrn, hn] at this; cases this

theorem unreserve_reserve (rs : List (User T H)) (a : State T H A R)
    (h : ∀ u ∈ a.db.users, rs.any (isUser u.username) = false) : unreserve rs (reserve rs a) = a := by
  have hu : ((a.db.users ++ rs).filter (fun u => !(rs.any (isUser u.username)))) = a.db.users := by
    rw [List.filter_append]
    have h1 : a.db.users.filter (fun u => !(rs.any (isUser u.username))) = a.db.users := by
      rw [List.filter_eq_self]
      intro u hu; rw [h u hu]; rfl
    have h2 : rs.filter (fun u => !(rs.any (isUser u.username))) = [] := by
      rw [List.filter_eq_nil_iff]
      intro u hu
      have : rs.any (isUser u.username) = true := (any_isUser _ _).mpr ⟨u, hu, rfl⟩
      rw [this]; simp
    rw [h1, h2, List.append_nil]
  obtain ⟨⟨us, ps, rn, ts⟩, se⟩ := a
  simp only [unreserve, reserve] at hu ⊢
  rw [hu]

theorem find_reserve {S : T → Bool} (s a : State T H A R) (w : ∀ u ∈ a.db.users, S u.username = true) (n : T)
    (hn : S n = false) :
    (reserve (foreignUsers s a) a).db.users.find? (isUser n) = s.db.users.find? (isUser n) := by
  show (a.db.users ++ foreignUsers s a).find? (isUser n) = _
  have h1 : a.db.users.find? (isUser n) = none := by
    rw [List.find?_eq_none]
    intro u hu hun
    simp only [isUser, decide_eq_true_eq] at hun
    have := w u hu
    rw [hun, hn] at this; cases this
  have h1' := any_false_of_find_none n _ h1
  rw [List.find?_append, h1, Option.none_or]
  unfold foreignUsers
  apply find_filter_in
  intro x hx
  simp only [isUser, decide_eq_true_eq] at hx
  rw [hx, h1']; rfl

theorem conflict_resp (E : Env T H A R) (st : State T H A R) (rq : Request T) (n : T)
    (hn : n ∈ evNames (.req rq)) (hc : Conflict E st (.req rq) n) (hg : ghostAdd st (.req rq) = false) :
    ∃ r, ∀ y : State T H A R, y.sess rq.jar = st.sess rq.jar →
      y.db.users.find? (isUser n) = st.db.users.find? (isUser n) → step E y rq = (y, r) := by
  obtain ⟨hacc, hs, hlog⟩ := hc
  obtain ⟨x, hx⟩ := find_of_any hacc
  obtain ⟨jar, r⟩ := rq
  cases r with
  | register v p salt =>
    rw [List.mem_singleton.mp hn] at hx ⊢
    by_cases he : v = E.emp ∨ p = E.emp
    · exact ⟨_, fun y _ _ => step_register_emp E y jar v p salt he⟩
    · exact ⟨_, fun y _ hf => step_register_taken E y jar v p salt he (hf.trans hx)⟩
  | update v p salt =>
    rw [List.mem_singleton.mp hn] at hx hs ⊢
    by_cases he : v = E.emp ∨ p = E.emp
    · exact ⟨_, fun y _ _ => step_update_emp E y jar v p salt he⟩
    · cases hid : st.sess jar with
      | none => exact ⟨_, fun y hy _ => step_update_nosess E y jar v p salt he hy⟩
      | some u =>
        have hne : v ≠ u := fun h => hs (hid.trans (congrArg some h.symm))
        exact ⟨_, fun y hy hf => step_update_taken E y jar v p salt he hy hne (hf.trans hx)⟩
  | login v p =>
    rw [List.mem_singleton.mp hn] at hx ⊢
    by_cases he : v = E.emp ∨ p = E.emp
    · exact ⟨_, fun y _ _ => step_login_emp E y jar v p he⟩
    · cases hp : x.password with
      | none => exact ⟨_, fun y _ hf => step_login_temp E y jar v p he (hf.trans hx) hp⟩
      | some h =>
        cases hv : E.verify h p with
        | false => exact ⟨_, fun y _ hf => step_login_wrong E y jar v p he (hf.trans hx) hp hv⟩
        | true =>
          -- a login that succeeds is no conflict
          rw [loginOk, step_login_ok E st jar v p he hx hp hv] at hlog
          cases hlog
  | add name code file parsing fu fp =>
    rw [List.mem_singleton.mp hn] at hx ⊢
    simp only [ghostAdd, Option.isSome_eq_false_iff, Option.isNone_iff_eq_none] at hg
    refine ⟨(step E st ⟨jar, .add name code file parsing fu fp⟩).2, fun y hy hf => ?_⟩
    have hy' := hy.trans hg
    have hx' := hf.trans hx
    refine Prod.ext (add_taken E y jar name code file parsing fu fp hy'
      (List.any_eq_true.mpr ⟨x, List.mem_of_find?_eq_some hx', List.find?_some hx'⟩)) ?_
    simp only [step, stepT, handler, hg, hy', hAdd]
    split
    · rfl
    · split
      · rfl
      · simp only [run, exec, hx, hx', reply]
  | _ => cases hn

omit [DecidableEq T] in
theorem filter_self_of_compl {α : Type} {S : α → Bool} {l : List α} (h : l.filter (fun x => !S x) = []) : l.filter S = l :=
  List.filter_eq_self.mpr fun x hx => by simpa using List.filter_eq_nil_iff.mp h x hx

omit [DecidableEq T] in
theorem view_self_of_compl {S : T → Bool} {J : Nat → Bool} {z : State T H A R}
    (h : z.view (fun x => !S x) (fun k => !J k) = {}) : z.view S J = z := by
  simp only [State.view, Db.view, State.mk.injEq, Db.mk.injEq] at h
  refine state_ext ?_ (funext fun k => ?_)
  · simp only [State.view, Db.view, filter_self_of_compl h.1.1, filter_self_of_compl h.1.2.1,
      filter_self_of_compl h.1.2.2.1, filter_self_of_compl h.1.2.2.2]
  · show (if J k then z.sess k else none) = z.sess k
    by_cases hk : J k = true
    · rw [if_pos hk]
    · rw [if_neg hk]; have := congrFun h.2 k; simpa [hk] using this.symm

theorem foreignUsers_view_out {S : T → Bool} {J : Nat → Bool} (s : State T H A R) :
    ∀ u ∈ foreignUsers s (s.view S J), S u.username = false := by
  intro u hu
  simp only [foreignUsers, List.mem_filter, Bool.not_eq_true'] at hu
  refine Bool.eq_false_iff.mpr fun hS => Bool.false_ne_true (hu.2.symm.trans ((any_isUser _ _).mpr ⟨u, ?_, rfl⟩))
  exact List.mem_filter.mpr ⟨hu.1, hS⟩

theorem rsv_step_mine (E : Env T H A R) {S : T → Bool} {J : Nat → Bool} {s : State T H A R} (is : NsInvJ S J s)
    (rs : List (User T H)) (hrs : ∀ u ∈ rs, S u.username = false) (e : Event T) (hj : J e.jar = true) (hn : e.onSide S J s) :
    NsInvJ S J (stepEv E s e).1 ∧
    (stepEv E s e).2 = (stepEv E (reserve rs (s.view S J)) e).2 ∧
    unreserve rs (stepEv E (reserve rs (s.view S J)) e).1 = (stepEv E s e).1.view S J := by
  -- `y`, the view with the reserved records: its view is the view, its complement view the records
  have isy : NsInvJ S J (reserve rs (s.view S J)) := reserve_ns _ _ is.view
  have hgy : ghostAdd s e = ghostAdd (reserve rs (s.view S J)) e := ghostAdd_congr (s.view_sess_in (S := S) hj).symm
  have hy : (reserve rs (s.view S J)).view S J = s.view S J := by
    refine state_ext ?_ (funext fun k => by by_cases hk : J k = true <;> simp [State.view, reserve, hk])
    have : rs.filter (fun u => S u.username) = [] := List.filter_eq_nil_iff.mpr fun u hu => by simp [hrs u hu]
    simp [State.view, Db.view, reserve, List.filter_append, List.filter_filter, this]
  have hyc : (reserve rs (s.view S J)).view (fun x => !S x) (fun k => !J k) = ⟨{ users := rs }, fun _ => none⟩ := by
    refine state_ext ?_ (funext fun k => by by_cases hk : J k = true <;> simp [State.view, reserve, hk])
    have : rs.filter (fun u => !S u.username) = rs := List.filter_eq_self.mpr fun u hu => by simp [hrs u hu]
    simp [State.view, Db.view, reserve, List.filter_append, List.filter_filter, this]
  have h0 := stepEv_view_mine E is e hj hn
  have h1 := (stepEv_view_mine E isy e hj (hn.imp_right (hgy ▸ ·))).2
  rw [hy, h0.2] at h1
  have h2 := (stepEv_view_other E isy.compl e (by rw [hj]; rfl) (hn.compl.imp_right (hgy ▸ ·))).2
  rw [hyc] at h2
  refine ⟨h0.1, (Prod.mk.inj h1).2, ?_⟩
  rw [(Prod.mk.inj h1).1]
  -- `z`, the state after the event without the reserved records: same view, empty complement view
  generalize (stepEv E (reserve rs (s.view S J)) e).1 = x at h2 ⊢
  have hzv : (unreserve rs x).view S J = x.view S J := by
    refine state_ext ?_ rfl
    simp only [State.view, Db.view, unreserve, Db.mk.injEq, and_true, List.filter_filter]
    exact List.filter_congr fun u _ => by
      cases hS : S u.username with
      | false => rfl
      | true => simp [rs_not_S rs hrs u.username hS]
  rw [← hzv]
  refine (view_self_of_compl (z := unreserve rs x) (state_ext ?_ (congrArg State.sess h2 :))).symm
  have hx := congrArg State.db h2
  simp only [State.view, Db.view, Db.mk.injEq] at hx
  simp only [State.view, Db.view, unreserve, Db.mk.injEq, hx.2, and_true, List.filter_filter]
  refine List.filter_eq_nil_iff.mpr fun u hu hc => ?_
  simp only [Bool.and_eq_true, Bool.not_eq_true'] at hc
  have : u ∈ rs := hx.1 ▸ List.mem_filter.mpr ⟨hu, by simpa using hc.1⟩
  exact Bool.false_ne_true (hc.2.symm.trans ((any_isUser _ _).mpr ⟨u, this, rfl⟩))

theorem conflict_transfer (E : Env T H A R) (s y : State T H A R) (e : Event T) (n : T) (hmem : n ∈ evNames e)
    (hc : Conflict E s e n) (hg : ghostAdd s e = false) (hsess : s.sess e.jar = y.sess e.jar)
    (hfind : s.db.users.find? (isUser n) = y.db.users.find? (isUser n)) :
    (stepEv E y e).1 = y ∧ (stepEv E s e).2 = (stepEv E y e).2 := by
  cases e with
  | req rq =>
    obtain ⟨r, h⟩ := conflict_resp E s rq n hmem hc hg
    simp only [stepEv]
    rw [h s rfl rfl, h y hsess.symm hfind.symm]
    exact ⟨rfl, rfl⟩
  | _ => cases hmem

theorem runRsv_cons_mine (E : Env T H A R) {J : Nat → Bool} (s a : State T H A R) {e : Event T} (es : List (Event T))
    (hj : J e.jar = true) :
    runRsv E J s a (e :: es) = evOut e.jar (stepEv E (reserve (foreignUsers s a) a) e).2 ++
      runRsv E J (stepEv E s e).1 (unreserve (foreignUsers s a) (stepEv E (reserve (foreignUsers s a) a) e).1) es := by
  cases h : (stepEv E (reserve (foreignUsers s a) a) e).2 <;> simp [runRsv, hj, evOut, h]

theorem runRsv_cons_other (E : Env T H A R) {J : Nat → Bool} (s a : State T H A R) {e : Event T} (es : List (Event T))
    (hj : J e.jar = false) : runRsv E J s a (e :: es) = runRsv E J (stepEv E s e).1 a es := by
  simp [runRsv, hj]

theorem rsv_cons_mine (E : Env T H A R) {J : Nat → Bool} {s a : State T H A R} {e : Event T} {es : List (Event T)}
    (hj : J e.jar = true) (hresp : (stepEv E s e).2 = (stepEv E (reserve (foreignUsers s a) a) e).2)
    (ih : obsJ J (runAll E (stepEv E s e).1 es).2 =
      runRsv E J (stepEv E s e).1 (unreserve (foreignUsers s a) (stepEv E (reserve (foreignUsers s a) a) e).1) es) :
    obsJ J (runAll E s (e :: es)).2 = runRsv E J s a (e :: es) := by
  rw [runAll_cons, runRsv_cons_mine E s a es hj, obsJ_append, obsJ_evOut_in hj, ih, hresp]

theorem rsv_cons_other (E : Env T H A R) {J : Nat → Bool} {s a : State T H A R} {e : Event T} {es : List (Event T)}
    (hj : J e.jar = false) (ih : obsJ J (runAll E (stepEv E s e).1 es).2 = runRsv E J (stepEv E s e).1 a es) :
    obsJ J (runAll E s (e :: es)).2 = runRsv E J s a (e :: es) := by
  rw [runAll_cons, runRsv_cons_other E s a es hj, obsJ_append, obsJ_evOut_out hj, List.nil_append, ih]

theorem rsv_view_cons (E : Env T H A R) {S : T → Bool} {J : Nat → Bool} {s : State T H A R} (is : NsInvJ S J s)
    {e : Event T} {es : List (Event T)} (hn : e.onSide S J s)
    (ih : NsInvJ S J (stepEv E s e).1 →
      obsJ J (runAll E (stepEv E s e).1 es).2 = runRsv E J (stepEv E s e).1 ((stepEv E s e).1.view S J) es) :
    obsJ J (runAll E s (e :: es)).2 = runRsv E J s (s.view S J) (e :: es) := by
  cases hj : J e.jar with
  | true =>
    have h := rsv_step_mine E is _ (foreignUsers_view_out (S := S) (J := J) s) e hj hn
    exact rsv_cons_mine E hj h.2.1 (by rw [h.2.2]; exact ih h.1)
  | false =>
    have h := stepEv_view_other E is e hj hn
    exact rsv_cons_other E hj (by rw [← h.2]; exact ih h.1)

theorem nonint_rsv (E : Env T H A R) (J : Nat → Bool) (ghost : Bool) : ∀ (es : List (Event T)) (own : T → Option Nat) (s : State T H A R),
    NsInvJ (spaceOfJ own J) J s → DisciplinedF E J true ghost own s es →
    obsJ J (runAll E s es).2 = runRsv E J s (s.view (spaceOfJ own J) J) es := by
  intro es
  induction es with
  | nil => intro _ s _ _; rfl
  | cons e es ih =>
    intro own s is hd
    obtain ⟨hnames, hrest⟩ := hd
    rcases claimF_cases J own s e hnames with ⟨hreg, hcl⟩ | ⟨n, hmem, hnot, hc, hcl⟩
    · rw [hcl] at hrest
      obtain ⟨hv, is'⟩ := view_claim is e hreg
      rw [hv]
      exact rsv_view_cons E is' (onSide_claim own J s e) (fun is'' => ih _ _ is'' hrest)
    · -- a conflict: nothing is claimed
      rw [hcl] at hrest
      cases hg : ghostAdd s e with
      | true => exact rsv_view_cons E is (Or.inr hg) (fun is' => ih _ _ is' hrest)
      | false =>
        have hnoop := conflict_noop E s e n hmem hc.2.2 hg
        rw [hnoop] at hrest
        cases hj : J e.jar with
        | true =>
          -- the user himself mentions a name held by the others
          have hSn : spaceOfJ own J n = false := Bool.eq_false_iff.mpr (fun h => hnot (Or.inl (h.trans hj.symm)))
          -- the view with the reserved records finds the others' record under `n`
          have h := conflict_transfer E s (reserve (foreignUsers s (s.view (spaceOfJ own J) J)) (s.view (spaceOfJ own J) J))
            e n hmem hc.2.2 hg (s.view_sess_in (S := spaceOfJ own J) hj).symm (find_reserve s _ (WithinJ.view (spaceOfJ own J) J s).users n hSn).symm
          exact rsv_cons_mine E hj h.2 (by rw [hnoop, h.1, unreserve_reserve _ _ (foreignUsers_fresh s _)]; exact ih own s is hrest)
        | false => exact rsv_cons_other E hj (by rw [hnoop]; exact ih own s is hrest)

end
end ServerM
