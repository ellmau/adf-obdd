import AdfObdd.Channel
/-! # `bounded(0)`: the rendezvous channel

`crossbeam_channel::bounded(0)` has no buffer: `send` blocks until a receiver takes the message, the
message is handed over directly.  In `Chan.prodStep` a capacity `some 0` makes every `send` block forever
(`full (some 0) _ = true`), so that model says nothing about it.  Here the hand-over is ONE joint event,
linearised as the consumer's step: a consumer step with a message pending at the sending end (the producer
stands at `s.send(v)`, i.e. `(P.out p)[sent]? = some v`) takes `v`; a producer step with a pending message is
blocked (no-op); everything else is as in `Chan`.  `buf` stays empty.  Every real execution with a
zero-capacity channel is a schedule of this model (the rendezvous is the consumer event; which side arrived
first is not observable).

Results: the invariant `Chan.Inv … (some 0)` with `buf = []` for every schedule (so all safety consequences
of Channel.lean hold verbatim), and liveness for fair schedules via `Chan.Sys.fair_finishes`. -/
namespace Chan
namespace Zero
variable {σ α : Type}

def prodStep (P : Producer σ α) (c : Cfg σ α) : Cfg σ α :=
  if c.closed then c else
  match (P.out c.p)[c.sent]? with
  | some _ => c          -- blocked in `send` until the receiver takes the message
  | none =>
    if P.done c.p then { c with closed := true, log := c.log ++ [ChEv.close] }
    else { c with p := P.iter c.p, iters := c.iters + 1 }

def consStep (P : Producer σ α) (c : Cfg σ α) : Cfg σ α :=
  if c.consDone then c else
  if c.closed then { c with consDone := true } else
  match (P.out c.p)[c.sent]? with
  | some v => { c with sent := c.sent + 1, got := c.got ++ [v], log := c.log ++ [ChEv.send v] }   -- rendezvous
  | none => c

def step (P : Producer σ α) (c : Cfg σ α) : Ev → Cfg σ α
  | .prod => prodStep P c
  | .cons => consStep P c

def run (P : Producer σ α) (sched : List Ev) (c : Cfg σ α) : Cfg σ α := sched.foldl (step P) c

/-- the invariant of Channel.lean at capacity 0, plus: nothing is ever queued -/
def ZInv (P : Producer σ α) (p0 : σ) (c : Cfg σ α) : Prop := Inv P (some 0) p0 c ∧ c.buf = []

theorem zinv_init (P : Producer σ α) (p0 : σ) : ZInv P p0 (init p0 : Cfg σ α) := ⟨Inv.init P _ p0, rfl⟩

/-- the producer of the rendezvous model is the producer at a channel that is always full -/
theorem prodStep_eq (P : Producer σ α) (c : Cfg σ α) : prodStep P c = Chan.prodStep P (some 0) c := by
  have hf : full (some 0) c.buf = true := decide_eq_true (p := 0 ≤ c.buf.length) (Nat.zero_le _)
  unfold prodStep Chan.prodStep
  rw [hf]
  cases (P.out c.p)[c.sent]? <;> rfl

theorem prodStep_buf (P : Producer σ α) (c : Cfg σ α) : (prodStep P c).buf = c.buf := by
  fun_cases prodStep P c <;> rfl

theorem consStep_cases (P : Producer σ α) (c : Cfg σ α) :
    (consStep P c = c ∧ (c.consDone = true ∨ c.closed = false ∧ (P.out c.p)[c.sent]? = none)) ∨
    (c.consDone = false ∧ c.closed = true ∧ consStep P c = { c with consDone := true }) ∨
    (∃ v, c.consDone = false ∧ c.closed = false ∧ (P.out c.p)[c.sent]? = some v ∧
      consStep P c = { c with sent := c.sent + 1, got := c.got ++ [v], log := c.log ++ [ChEv.send v] }) := by
  fun_cases consStep P c with
  | case1 h => exact Or.inl ⟨rfl, Or.inl h⟩
  | case2 h hcl => exact Or.inr (Or.inl ⟨eq_false_of_ne_true h, hcl, rfl⟩)
  | case3 h hcl v hv => exact Or.inr (Or.inr ⟨v, eq_false_of_ne_true h, eq_false_of_ne_true hcl, hv, rfl⟩)
  | case4 h hcl hv => exact Or.inl ⟨rfl, Or.inr ⟨eq_false_of_ne_true hcl, hv⟩⟩

theorem prodStep_inv {P : Producer σ α} (hm : Mono P) {p0 : σ} {c : Cfg σ α} (h : ZInv P p0 c) :
    ZInv P p0 (prodStep P c) :=
  ⟨prodStep_eq P c ▸ Chan.prodStep_inv hm h.1, (prodStep_buf P c).trans h.2⟩

theorem consStep_inv {P : Producer σ α} {p0 : σ} {c : Cfg σ α} (h : ZInv P p0 c) : ZInv P p0 (consStep P c) := by
  obtain ⟨h, hb⟩ := h
  rcases consStep_cases P c with ⟨e, _⟩ | ⟨_, hcl, e⟩ | ⟨v, hcd, hcl, hv, e⟩ <;> rw [e]
  · exact ⟨h, hb⟩
  · exact ⟨⟨h.hp, h.hs, h.hq, h.hc, fun _ => ⟨hcl, hb⟩, h.hcap, h.hlog⟩, hb⟩
  · refine ⟨⟨h.hp, (List.getElem?_eq_some_iff.mp hv).1, ?_, ?_, ?_, h.hcap, ?_⟩, hb⟩
    · show c.got ++ [v] ++ c.buf = (P.out c.p).take (c.sent + 1)
      rw [take_succ_of_get hv, ← h.hq, hb, List.append_nil, List.append_nil]
    · intro hc; rw [hcl] at hc; cases hc
    · intro hc; rw [hcd] at hc; cases hc
    · show c.log ++ [ChEv.send v] = ((P.out c.p).take (c.sent + 1)).map ChEv.send ++ (if c.closed then [ChEv.close] else [])
      rw [h.hlog, take_succ_of_get hv, hcl]; simp

theorem step_inv {P : Producer σ α} (hm : Mono P) {p0 : σ} {c : Cfg σ α} (h : ZInv P p0 c) (e : Ev) :
    ZInv P p0 (step P c e) := by
  cases e with
  | prod => exact prodStep_inv hm h
  | cons => exact consStep_inv h

theorem run_inv {P : Producer σ α} (hm : Mono P) {p0 : σ} (sched : List Ev) :
    ∀ c : Cfg σ α, ZInv P p0 c → ZInv P p0 (run P sched c) :=
  fun _ h => List.foldlRecOn sched (step P) h fun _ h e _ => step_inv hm h e

def sys (P : Producer σ α) (p0 : σ) (N : Nat) : Sys (Cfg σ α) where
  prod := prodStep P
  cons := consStep P
  inv := ZInv P p0
  fin := fun c => c.consDone
  meas := measure N (P.out (runG P N p0)).length

theorem sys_run (P : Producer σ α) (p0 : σ) (N : Nat) (sched : List Ev) (c : Cfg σ α) :
    (sys P p0 N).run sched c = run P sched c := by
  unfold Sys.run run
  congr 1

theorem cons_progress {P : Producer σ α} (hm : Mono P) {p0 : σ} {N : Nat} (hN : P.done (runG P N p0) = true)
    {c : Cfg σ α} (h : ZInv P p0 c) :
    (consStep P c = c ∧ (c.consDone = true ∨ c.closed = false ∧ (P.out c.p)[c.sent]? = none)) ∨
    measure N (P.out (runG P N p0)).length (consStep P c) < measure N (P.out (runG P N p0)).length c := by
  rcases consStep_cases P c with e | ⟨hcd, _, e⟩ | ⟨v, _, _, hv, e⟩
  · exact Or.inl e
  · rw [e]
    refine Or.inr (Nat.add_lt_add_left ?_ _)
    show 0 < if c.consDone then 0 else 1
    rw [hcd]; exact Nat.one_pos
  · -- the send and the reception of `v` are two units of work; everything sent has been received
    have hlt := Nat.lt_of_lt_of_le (List.getElem?_eq_some_iff.mp hv).1 (sent_le_final hm hN h.1)
    have hgs : c.got.length = c.sent := by rw [← h.1.length_eq, h.2]; rfl
    rw [e]
    refine Or.inr (Nat.add_lt_add_right (Nat.add_lt_add
      (Nat.add_lt_add_right (Nat.add_lt_add_left (Nat.sub_succ_lt_self _ _ hlt) _) _) ?_) _)
    show _ - (c.got ++ [v]).length < _ - c.got.length
    rw [List.length_append, List.length_singleton]
    exact Nat.sub_succ_lt_self _ _ (hgs ▸ hlt)

theorem laws {P : Producer σ α} (hm : Mono P) {p0 : σ} {N : Nat} (hN : P.done (runG P N p0) = true) :
    (sys P p0 N).Laws where
  inv_step := fun _ e h => step_inv hm h e
  progress := by
    intro c e h
    cases e with
    | prod =>
      show prodStep P c = c ∨ measure N _ (prodStep P c) < measure N _ c
      rw [prodStep_eq]
      exact step_progress hm hN h.1 .prod
    | cons => exact (cons_progress hm hN h).imp_left And.left
  nodead := by
    intro c h hcd
    -- whoever has something to do decreases a measure, so changes the configuration
    rcases cons_progress hm hN h with ⟨_, hw⟩ | hlt
    · left
      obtain ⟨hcl, hv⟩ := hw.resolve_left (by rw [show c.consDone = false from hcd]; nofun)
      show prodStep P c ≠ c
      rw [prodStep_eq]
      rcases prod_progress hm hN h.1 with ⟨_, hw⟩ | hlt
      · obtain ⟨v, hv', _⟩ := hw.resolve_left (by rw [hcl]; nofun)
        rw [hv] at hv'; cases hv'
      · exact mt (congrArg _) (Nat.ne_of_lt hlt)
    · exact Or.inr (mt (congrArg _) (Nat.ne_of_lt hlt))
  fin_stays := by
    intro c e h
    have h : c.consDone = true := h
    cases e with
    | prod =>
      show (prodStep P c).consDone = true
      rw [prodStep_eq]; exact (prodStep_cons_end P _ c).2.trans h
    | cons =>
      show (consStep P c).consDone = true
      unfold consStep; rw [if_pos h]; exact h
  pos := fun c h => measure_pos N _ h

/-- **delivery through a rendezvous channel.** For every schedule: (1) what the consumer has received is a
prefix of the final output and nothing is queued; (2) once the sender is dropped everything has been received
and the log at the sending end is one `send` per result, in order, then the `close`; (3) when the consumer's
iteration has ended it has received exactly the final output; (4) every schedule with enough fair rounds ends
the consumer's iteration. -/
theorem delivers {P : Producer σ α} (hm : Mono P) {p0 : σ} {N : Nat} (hN : P.done (runG P N p0) = true)
    (sched : List Ev) :
    let c := run P sched (init p0)
    let res := P.out (runG P N p0)
    (c.got <+: res ∧ c.buf = []) ∧
    (c.closed = true → c.got = res ∧ c.log = res.map ChEv.send ++ [ChEv.close]) ∧
    (c.consDone = true → c.got = res ∧ c.closed = true) ∧
    (∀ m, Fair m sched → N + res.length + 1 + res.length + 1 ≤ m → c.consDone = true) := by
  intro c res
  have hi : ZInv P p0 c := run_inv hm sched _ (zinv_init P p0)
  refine ⟨⟨got_prefix hm hN hi.1, hi.2⟩, ?_, ?_, ?_⟩
  · intro hcl
    have := closed_all_sent hN hi.1 hcl
    rw [hi.2, List.append_nil] at this
    exact ⟨this, closed_log hN hi.1 hcl⟩
  · intro hcd
    have := finished_exact hN hi.1 hcd
    exact ⟨this.1, this.2.1⟩
  · intro m hf hle
    have := Sys.fair_finishes (laws hm hN) m sched hf (init p0) (zinv_init P p0)
      (by show measure N _ (init p0 : Cfg σ α) ≤ m; rw [measure_init]; exact hle)
    rw [sys_run] at this
    exact this

/-- the toy producer of Channel.lean (emits `0, 10, 20`) through `bounded(0)`: each message is handed over at a
consumer step; the producer's steps in between are blocked -/
example :
    let c := run toy [.prod, .prod, .prod, .cons, .prod, .prod, .cons, .prod, .cons, .cons, .prod, .prod, .cons] (init 0)
    c.got = [0, 10, 20] ∧ c.consDone = true ∧ c.buf = [] ∧
    c.log = [ChEv.send 0, ChEv.send 10, ChEv.send 20, ChEv.close] := by decide +kernel

/-- blocked in `send`: producer steps alone never get past the first message -/
example : (run toy [.prod, .prod, .prod, .prod, .prod] (init 0)).sent = 0 ∧
    (run toy [.prod, .prod, .prod, .prod, .prod] (init 0)).iters = 1 := by decide +kernel

end Zero
end Chan
