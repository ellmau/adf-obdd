import AdfObdd.NgGenHalt
/-! # The generic nogood-learning search halts, within an explicit number of iterations

Big-step induction on the number `d` of statements not yet decided: exploring the subtree below a state
with `d` undecided statements and coming back with the request to backtrack takes at most `stepsT d`
iterations, where

    stepsT 0 = 2,   stepsT (d+1) = 2 * stepsT d + 6      (closed form: stepsT d + 6 = 8 * 2^d).

A state that is not about to choose spends one iteration (plus possibly one in which only the vector
changes, `after_tail2N`) and then is dead, has decided more (`stepsT (d-1)`) or is about to choose; a state
about to choose (`choice_subtree`) spends one iteration for the choice, explores the first branch
(`1 + stepsT (d-1)`), one iteration for the backtrack/restore (plus possibly a vector-only one), and
explores the flipped branch (`stepsT (d-1)`), in which the learned nogoods force the opposite value, so no
second choice on that level happens.
From the initial state two more iterations are needed (`halts_within`): `stepsT n + 2 = 8 * 2^n - 4`. -/
namespace NGen

variable {V Sto : Type}

/-- iterations needed to explore the subtree below a state with `d` undecided statements -/
def stepsT : Nat → Nat
  | 0 => 2
  | d+1 => 2 * stepsT d + 6

theorem stepsT_closed : ∀ d, stepsT d + 6 = 8 * 2 ^ d
  | 0 => rfl
  | d+1 => by
    have := stepsT_closed d
    rw [stepsT, Nat.pow_succ]; omega

theorem stepsT_mono {d e : Nat} (h : d ≤ e) : stepsT d ≤ stepsT e := by
  induction h with
  | refl => exact Nat.le_refl _
  | step _ ih => rw [stepsT]; omega

/-- `ReachB` within at most `J` iterations -/
def ReachBN (P : GParams V Sto) (J : Nat) (k : Nat) (s : St V Sto) (base : PA) (stk : List (Entry V)) (st0 : Sto) : Prop :=
  ∃ j s', j ≤ J ∧ iterN P k j s = some s' ∧ s'.backtrack = true ∧ s'.choice = false ∧
    (∃ extra, s'.stack = extra ++ stk ∧ Plain P base (P.dec s'.cur) extra) ∧
    (∀ g, P.Mem s'.store g → P.Mem st0 g ∨ PSub base g) ∧ PSub base (P.dec s'.cur) ∧
    P.OkS s'.store ∧ P.Ok s'.cur

variable {P : GParams V Sto} {n : Nat} {mu : PA → Nat}

theorem ReachBN.toReachB {J k : Nat} {s : St V Sto} {base : PA} {stk : List (Entry V)} {st0 : Sto}
    (h : ReachBN P J k s base stk st0) : ReachB P k s base stk st0 := by
  obtain ⟨j, s', _, rest⟩ := h
  exact ⟨j, s', rest⟩

theorem ReachBN.mono {J J' k : Nat} {s : St V Sto} {base : PA} {stk : List (Entry V)} {st0 : Sto}
    (h : ReachBN P J k s base stk st0) (hJ : J ≤ J') : ReachBN P J' k s base stk st0 := by
  obtain ⟨j, s', hj, rest⟩ := h
  exact ⟨j, s', Nat.le_trans hj hJ, rest⟩

theorem ReachBN.weaken {J k : Nat} {s : St V Sto} {base base' : PA} {stk stk' : List (Entry V)} {st0 st0' : Sto}
    (h : ReachBN P J k s base' stk' st0') (pl : List (Entry V)) (hstk : stk' = pl ++ stk) (hpl : Plain P base base' pl)
    (hb : PSub base base') (hst : ∀ g, P.Mem st0' g → P.Mem st0 g ∨ PSub base g) : ReachBN P J k s base stk st0 := by
  obtain ⟨j, s', hj, hk, b1, b2, ⟨extra, he, hp⟩, hs, hc, ho1, ho2⟩ := h
  refine ⟨j, s', hj, hk, b1, b2, ⟨extra ++ pl, by rw [he, hstk, List.append_assoc], ?_⟩, ?_, hb.trans hc, ho1, ho2⟩
  · intro e he'
    rcases List.mem_append.mp he' with h1 | h1
    · exact (hp.weaken hb) e h1
    · exact (hpl.top hc) e h1
  · intro g hg
    rcases hs g hg with h1 | h1
    · exact hst g h1
    · exact Or.inr (hb.trans h1)

theorem ReachBN.step {J k : Nat} {s s1 : St V Sto} {base : PA} {stk : List (Entry V)} {st0 : Sto}
    (hi : iter P k s = Res.cont s1) (h : ReachBN P J (k+1) s1 base stk st0) : ReachBN P (J + 1) k s base stk st0 := by
  obtain ⟨j, s', hj, hk, rest⟩ := h
  refine ⟨j + 1, s', by omega, ?_, rest⟩
  unfold iterN; rw [hi]; exact hk

theorem ReachBN.prepend {J J' j k : Nat} {s s1 : St V Sto} {base : PA} {stk : List (Entry V)} {st0 : Sto}
    (hi : iterN P k j s = some s1) (hj : j ≤ J) (h : ReachBN P J' (k + j) s1 base stk st0) :
    ReachBN P (J + J') k s base stk st0 := by
  obtain ⟨j', s', hj', hk, rest⟩ := h
  exact ⟨j + j', s', by omega, iterN_add P j j' k s s1 s' hi hk, rest⟩

/-- every live state that has decided more than `m` comes back within `J` iterations -/
def Below (P : GParams V Sto) (mu : PA → Nat) (J m : Nat) : Prop :=
  ∀ k t, LInv P t → m < mu (P.dec t.cur) → ReachBN P J k t (P.dec t.cur) t.stack t.store

/-- what follows a tail that classified or decided something. The nogoods of the store are complemented in
the current interpretation or in the update the closure answers; `hG`, `hC`: the states with more decided,
resp. about to choose on the same decided part, come back within `J` iterations -/
theorem after_tailN (J : Nat) (k : Nat) (s s'' : St V Sto) (to : TailOut3 P mu s s'') (hoks : P.OkS s.store)
    (hw : ∀ g, P.Mem s.store g → Closed g (P.dec s.cur) ∨
      ∃ R, P.closure s.store (P.dec s.cur) = Closure.update R ∧ Closed g R)
    (hG : Below P mu J (mu (P.dec s.cur)))
    (hC : P.closure s.store (P.dec s.cur) = Closure.noUpdate → ∀ k t, LInv P t → t.choice = true →
      P.dec t.cur = P.dec s.cur → ReachBN P J k t (P.dec t.cur) t.stack t.store) :
    ReachBN P J k s'' (P.dec s.cur) s.stack s.store := by
  cases to with
  | dead pl b1 b2 hst hpl hstore hsub hok =>
    exact ⟨0, s'', Nat.zero_le _, rfl, b1, b2, ⟨pl, hst, hpl⟩, fun g hg => Or.inl (hstore ▸ hg), hsub, hstore ▸ hoks, hok⟩
  | grown pl b1 b2 hst hpl hstore hsub hmu hR hok =>
    have li : LInv P s'' := by
      refine ⟨b1, fun g hg => ?_, fun h => (by rw [b2] at h; cases h), hok, hstore ▸ hoks⟩
      rcases hw g (hstore ▸ hg) with h | ⟨R, hcl, h⟩
      · exact h.mono hsub
      · exact h.mono (hR R hcl)
    exact (hG k s'' li hmu).weaken pl hst hpl hsub (fun g hg => Or.inl (hstore ▸ hg))
  | choose b1 b2 hst hstore hcur htv hno hok =>
    have li : LInv P s'' := by
      refine ⟨b1, fun g hg => ?_, fun _ => by rw [hcur]; exact htv, hok, hstore ▸ hoks⟩
      rcases hw g (hstore ▸ hg) with h | ⟨R, hcl, _⟩
      · rw [hcur]; exact h
      · rw [hno] at hcl; cases hcl
    exact (hC hno k s'' li b2 hcur).weaken [] (by rw [hst]; rfl) (fun _ h => by cases h) (by rw [hcur]; exact PSub.refl _)
      (fun g hg => Or.inl (hstore ▸ hg))

/-- `after_tailN` through a possible iteration in which only the vector changes -/
theorem after_tail2N (hL : GLive0 P n mu) (J : Nat) (k : Nat) (s0 : St V Sto) (hb : s0.backtrack = false)
    (hc : s0.choice = false) (hok : P.Ok s0.cur) (hoks : P.OkS s0.store)
    (hw : ∀ g, P.Mem s0.store g → Closed g (P.dec s0.cur) ∨
      ∃ R, P.closure s0.store (P.dec s0.cur) = Closure.update R ∧ Closed g R)
    (hG : Below P mu J (mu (P.dec s0.cur)))
    (hC : P.closure s0.store (P.dec s0.cur) = Closure.noUpdate → ∀ k t, LInv P t → t.choice = true →
      P.dec t.cur = P.dec s0.cur → ReachBN P J k t (P.dec t.cur) t.stack t.store) :
    ReachBN P (J + 1) k (stepTail P s0) (P.dec s0.cur) s0.stack s0.store := by
  rcases tail_out hL s0 hb hc hok hoks with h | h
  · exact (after_tailN J k s0 _ h hoks hw hG hC).mono (Nat.le_succ _)
  · rcases tail_out hL (stepTail P s0) h.b1 h.b2 h.hok (h.hstore ▸ hoks) with h2 | h2
    · exact ReachBN.step (iter_N k _ h.b1 h.b2)
        (after_tailN J (k+1) s0 _ (h2.transfer h.hst h.hstore h.hcur) hoks hw hG hC)
    · exact absurd h.hset h2.hne

/-- a state about to choose, when every state that has decided more comes back within `J` iterations:
the choice, the first branch, the backtracking iteration, and the flipped branch - in which the nogoods
learned in the first branch force the opposite value, so this level makes no second choice -/
theorem choice_subtree (hL : GLive0 P n mu) (J k : Nat) (s : St V Sto) (li : LInv P s) (hc : s.choice = true)
    (below : Below P mu J (mu (P.dec s.cur))) :
    ReachBN P (2 * J + 4) k s (P.dec s.cur) s.stack s.store := by
  have hsome := (hL.heu_total k s.cur li.okc (li.ch hc)).1
  cases hh : P.heu k s.cur with
  | none => rw [hh] at hsome; cases hsome
  | some vb =>
    obtain ⟨v, b⟩ := vb
    have ⟨hn, hgrow⟩ := hL.heu_valid k s.cur v b li.okc hh
    have hdset := hL.dec_set k s.cur v b li.okc hh
    have hcur1 : P.dec (afterChoice P s v b).cur = setAt (P.dec s.cur) v b := hdset
    have hsub := psub_setAt b hn
    have hokC : P.OkG (setAt (P.dec s.cur) v b) := by rw [← hdset]; exact hL.okg _ (hL.ok_set k s.cur v b li.okc hh)
    obtain ⟨j1, sB, hj1, hk1, bB, cB, ⟨extra, hstB, hplB⟩, hstoreB, -, hoksB, -⟩ :=
      after_tail2N hL J (k+1) (afterChoice P s v b) li.nb rfl (hL.ok_set k s.cur v b li.okc hh) li.oks
        (fun g hg => Or.inl ((li.w g hg).mono (hcur1 ▸ hsub)))
        (fun k' t lt hm => below k' t lt (by rw [hcur1] at hm; omega))
        (fun _ k' t lt _ hcur => below k' t lt (by rw [hcur, hcur1]; exact hgrow))
    simp only [afterChoice, hdset] at hstB hplB hstoreB
    -- the backtracking iteration restores `s.cur` and learns the popped entries
    obtain ⟨t, h3, h3oks, h3store⟩ :=
      step3_to_choice hL.toShape bB hstB (fun e he => ⟨(hplB e he).1, (hplB e he).2.2.2⟩) hokC hoksB
    have hiterB := iter_B (P := P) (k + 1 + j1) sB cB (by rw [hstB]; simp)
    rw [h3] at hiterB
    -- every stored nogood is an old one or extends the first branch
    have hold : ∀ g, P.Mem t g → P.Mem s.store g ∨ PSub (setAt (P.dec s.cur) v b) g := by
      intro g hg
      rcases (h3store g).mp hg with h | ⟨e, he, h⟩ | h
      · right; rw [h]; exact PSub.refl _
      · right; rw [← h]; exact (hplB e he).2.1
      · exact hstoreB g h
    -- so the closure answers the flipped value, which complements the nogoods of the first branch
    obtain ⟨R, hclR, hRv⟩ := hL.cl_flip t (P.dec s.cur) v b h3oks (hL.okg _ li.okc) hokC hn
      ((h3store _).mpr (Or.inl rfl)) (fun g hg => (hold g hg).imp (li.w g) id)
    have r2 := after_tail2N hL J (k + 1 + j1 + 1)
      { sB with backtrack := false, stack := s.stack, store := t, cur := s.cur } rfl cB li.okc h3oks
      (fun g hg => (hold g hg).imp (li.w g) (fun h => ⟨R, hclR, Closed.of_flip h hRv⟩))
      below
      (fun hno => by rw [hclR] at hno; cases hno)
    have rB := ReachBN.step hiterB (r2.weaken [] rfl (fun _ h => by cases h) (PSub.refl _)
      (fun g hg => (hold g hg).imp id hsub.trans))
    exact (ReachBN.step (iter_C k s li.nb hc v b hh) (ReachBN.prepend hk1 hj1 rB)).mono (by omega)

/-- the big-step lemma with the iterations counted: exploring the subtree below a live state with at
most `d` undecided statements comes back within `stepsT d` iterations -/
theorem bigstepN (hL : GLive0 P n mu) : ∀ (d k : Nat) (s : St V Sto), LInv P s → n ≤ mu (P.dec s.cur) + d →
    ReachBN P (stepsT d) k s (P.dec s.cur) s.stack s.store := by
  intro d
  induction d with
  | zero =>
    -- everything is decided: no choice is pending, and the tail can neither decide more nor ask for a choice
    intro k s li hd
    have hc : s.choice = false := by
      cases hc : s.choice with
      | false => rfl
      | true => have := (hL.heu_total k s.cur li.okc (li.ch hc)).2; omega
    refine ReachBN.step (iter_N k s li.nb hc)
      (after_tail2N hL 0 (k+1) s li.nb hc li.okc li.oks (fun g hg => Or.inl (li.w g hg)) ?_ ?_)
    · intro k' t lt hm
      have := hL.mu_le _ (hL.okg _ lt.okc); omega
    · intro _ k' t lt htc hcur
      have := (hL.heu_total k' t.cur lt.okc (lt.ch htc)).2
      rw [hcur] at this; omega
  | succ d ih =>
    have Ccase : ∀ k s, LInv P s → s.choice = true → n ≤ mu (P.dec s.cur) + (d + 1) →
        ReachBN P (2 * stepsT d + 4) k s (P.dec s.cur) s.stack s.store :=
      fun k s li hc hd => choice_subtree hL (stepsT d) k s li hc (fun k' t lt hm => ih k' t lt (by omega))
    intro k s li hd
    by_cases hc : s.choice = true
    · exact (Ccase k s li hc hd).mono (by rw [stepsT]; omega)
    · have hc' : s.choice = false := by simpa using hc
      refine (ReachBN.step (iter_N k s li.nb hc') (after_tail2N hL (2 * stepsT d + 4) (k+1) s li.nb hc' li.okc li.oks
        (fun g hg => Or.inl (li.w g hg)) ?_ ?_)).mono (by rw [stepsT]; omega)
      · intro k' t lt hm
        exact (ih k' t lt (by omega)).mono (by omega)
      · intro _ k' t lt htc hcur
        exact Ccase k' t lt htc (by rw [hcur]; exact hd)

/-- the big-step lemma: exploring the subtree below any live state comes back -/
theorem bigstep (hL : GLive P n mu) : ∀ (d k : Nat) (s : St V Sto), LInv P s → n - mu (P.dec s.cur) ≤ d →
    ReachB P k s (P.dec s.cur) s.stack s.store :=
  fun d k s li hd => (bigstepN hL.to0 d k s li (by omega)).toReachB

/-- **liveness with an explicit bound**: from the initial state the loop halts within
`stepsT n + 2 = 8 * 2^n - 4` iterations, for every heuristic oracle satisfying the `GLive` laws -/
theorem halts_within (hL : GLive P n mu) (g : V) (st : Sto) (hok : P.Ok g) (hoks : P.OkS st) (hemp : ∀ x, ¬ P.Mem st x)
    (k : Nat) :
    ∃ fuel s', fuel ≤ stepsT n + 2 ∧
      run P k fuel { cur := g, store := st, stack := [], backtrack := false, choice := false, out := [] } = some s' := by
  have li : LInv P { cur := g, store := st, stack := [], backtrack := false, choice := false, out := [] } :=
    ⟨rfl, (fun x h => absurd h (hemp x)), (fun h => (by cases h)), hok, hoks⟩
  obtain ⟨j, sB, hj, hk, bB, cB, ⟨extra, hst, hpl⟩, -, -, hoksB, hokB⟩ := bigstepN hL.to0 (n - mu (P.dec g)) k _ li
    (show n ≤ mu (P.dec g) + (n - mu (P.dec g)) by omega)
  have hj' : j ≤ stepsT n := Nat.le_trans hj (stepsT_mono (Nat.sub_le _ _))
  simp only [List.append_nil] at hst
  cases hex : extra with
  | nil =>
    refine ⟨j + 1, sB, by omega, ?_⟩
    rw [run_of_iterN j 1 k _ sB hk]
    unfold run; rw [iter_D _ sB bB cB (by rw [hst, hex])]
  | cons e rest =>
    -- one more backtracking iteration empties the stack and finds the popped nogood violated
    have hiterB := iter_B (P := P) (k + j) sB cB (by rw [hst, hex]; simp)
    obtain ⟨t, h3, h3oks, h3mem⟩ := step3_plain hL.to0.toShape bB (by rw [hst]; exact fun x hx => ⟨(hpl x hx).1, (hpl x hx).2.2.2⟩) hoksB
    have hcl : P.closure t (P.dec sB.cur) = Closure.inconsistent :=
      hL.cl_direct _ _ h3oks (hL.okg _ hokB)
        ⟨e.ng, h3mem e (by rw [hst, hex]; exact List.mem_cons_self ..), (hpl e (by rw [hex]; exact List.mem_cons_self ..)).2.2.1⟩
    have hfin : stepTail P { sB with backtrack := false, stack := [], store := t } =
        { sB with backtrack := true, stack := [], store := t } := by
      unfold stepTail; simp only [hcl]
    rw [h3, hfin] at hiterB
    refine ⟨j + 2, { sB with backtrack := true, stack := [], store := t }, by omega, ?_⟩
    rw [run_of_iterN j 2 k _ sB hk]
    unfold run; rw [hiterB]; simp only
    unfold run; rw [iter_D (k + j + 1) { sB with backtrack := true, stack := [], store := t } rfl cB rfl]

end NGen
#print axioms NGen.bigstepN
#print axioms NGen.bigstep
#print axioms NGen.halts_within
