/-! The node set computed by `DoubleLabeledGraph::from_adf_and_ac` (iterated expansion of the roots by
lo/hi children) is exactly the set of nodes reachable from the roots (`graph_nodes_exact`). With the
`HashSet`s of the loop made explicit as duplicate-free lists it ends within `table size + 2` rounds,
because every round but the last adds at least one new node index below the table size
(`expandD_total`). -/
namespace GraphM

structure GNode where
  lo : Nat
  hi : Nat

def children (ns : List GNode) (i : Nat) : List Nat :=
  match ns[i]? with | some n => [n.lo, n.hi] | none => []

inductive Reachable (ns : List GNode) (roots : List Nat) : Nat → Prop
  | root (r : Nat) : r ∈ roots → Reachable ns roots r
  | step (i c : Nat) : Reachable ns roots i → c ∈ children ns i → Reachable ns roots c

/-- the `while !new_node_indices.is_empty()` loop; `none` = fuel exhausted -/
def expand (ns : List GNode) : Nat → List Nat → List Nat → Option (List Nat)
  | 0, _, _ => none
  | fuel+1, seen, new =>
    if new.isEmpty then some seen else
    let seen' := seen ++ new
    let new' := (seen'.flatMap (children ns)).filter (fun c => !seen'.contains c)
    expand ns fuel seen' new'

def Closed (ns : List GNode) (seen : List Nat) : Prop := ∀ i ∈ seen, ∀ c ∈ children ns i, c ∈ seen

/-- invariant of the expansion loops: what has been collected is reachable, the roots are collected, and
the children of what has been expanded (`seen`) are collected -/
structure ExpInv (ns : List GNode) (roots seen new : List Nat) : Prop where
  reachS : ∀ x ∈ seen, Reachable ns roots x
  reachN : ∀ x ∈ new, Reachable ns roots x
  rootsIn : ∀ r ∈ roots, r ∈ seen ∨ r ∈ new
  closed : ∀ i ∈ seen, ∀ c ∈ children ns i, c ∈ seen ∨ c ∈ new

theorem ExpInv.init (ns : List GNode) {roots new : List Nat} (h : ∀ x, x ∈ new ↔ x ∈ roots) : ExpInv ns roots [] new :=
  ⟨fun _ h => (by cases h), fun x hx => Reachable.root x ((h x).mp hx), fun r hr => Or.inr ((h r).mpr hr),
    fun _ h => (by cases h)⟩

theorem ExpInv.done {ns : List GNode} {roots seen : List Nat} (h : ExpInv ns roots seen []) :
    ∀ x, x ∈ seen ↔ Reachable ns roots x := by
  refine fun x => ⟨h.reachS x, fun hx => ?_⟩
  induction hx with
  | root r hr => exact (h.rootsIn r hr).resolve_right (by simp)
  | step i c _ hci ihx => exact (h.closed i ihx c hci).resolve_right (by simp)

theorem ExpInv.step {ns : List GNode} {roots seen new new' : List Nat} (h : ExpInv ns roots seen new)
    (hn : ∀ x, x ∈ new' ↔ (x ∈ (seen ++ new).flatMap (children ns) ∧ x ∉ seen ++ new)) :
    ExpInv ns roots (seen ++ new) new' := by
  have hsn : ∀ x ∈ seen ++ new, Reachable ns roots x := fun x hx =>
    (List.mem_append.mp hx).elim (h.reachS x) (h.reachN x)
  refine ⟨hsn, fun x hx => ?_, fun r hr => Or.inl ?_, fun i hi c hci => ?_⟩
  · obtain ⟨i, hi, hci⟩ := List.mem_flatMap.mp ((hn x).mp hx).1
    exact Reachable.step i x (hsn i hi) hci
  · exact List.mem_append.mpr (h.rootsIn r hr)
  · by_cases hin : c ∈ seen ++ new
    · exact Or.inl hin
    · exact Or.inr ((hn c).mpr ⟨List.mem_flatMap.mpr ⟨i, hi, hci⟩, hin⟩)

theorem expand_spec (ns : List GNode) (roots : List Nat) : ∀ (fuel : Nat) (seen new res : List Nat),
    ExpInv ns roots seen new → expand ns fuel seen new = some res → ∀ x, x ∈ res ↔ Reachable ns roots x := by
  intro fuel seen new res
  fun_induction expand ns fuel seen new with
  | case1 => intro _ h; cases h
  | case2 f seen new he =>
    intro hi h
    cases h
    obtain rfl : new = [] := by simpa using he
    exact hi.done
  | case3 f seen new he seen' new' ih =>
    exact fun hi h => ih (hi.step (fun x => List.mem_filter.trans (and_congr_right' (by simp [seen'])))) h

theorem graph_nodes_exact (ns : List GNode) (roots : List Nat) (fuel : Nat) (res : List Nat)
    (h : expand ns fuel [] roots = some res) : ∀ x, x ∈ res ↔ Reachable ns roots x :=
  expand_spec ns roots fuel [] roots res (ExpInv.init ns (fun _ => Iff.rfl)) h
#print axioms graph_nodes_exact

def dedupN : List Nat → List Nat
  | [] => []
  | x :: xs => if (dedupN xs).contains x then dedupN xs else x :: dedupN xs

theorem mem_dedupN : ∀ (l : List Nat) (x : Nat), x ∈ dedupN l ↔ x ∈ l := by
  intro l x
  fun_induction dedupN l generalizing x with
  | case1 => rfl
  | case2 y ys h ih =>
    have hy : y ∈ ys := (ih y).mp (by simpa using h)
    rw [ih, List.mem_cons]
    exact ⟨Or.inr, fun hx => hx.elim (fun e => e ▸ hy) id⟩
  | case3 y ys h ih => rw [List.mem_cons, List.mem_cons, ih]

theorem nodup_dedupN : ∀ l : List Nat, (dedupN l).Nodup := by
  intro l
  fun_induction dedupN l with
  | case1 => exact List.nodup_nil
  | case2 y ys h ih => exact ih
  | case3 y ys h ih => exact List.nodup_cons.mpr ⟨by simpa using h, ih⟩

/-- the `while !new_node_indices.is_empty()` loop on sets; `none` = fuel exhausted -/
def expandD (ns : List GNode) : Nat → List Nat → List Nat → Option (List Nat)
  | 0, _, _ => none
  | fuel+1, seen, new =>
    if new.isEmpty then some seen else
    let seen' := seen ++ new
    let new' := dedupN ((seen'.flatMap (children ns)).filter (fun c => !seen'.contains c))
    expandD ns fuel seen' new'

theorem expandD_spec (ns : List GNode) (roots : List Nat) : ∀ (fuel : Nat) (seen new res : List Nat),
    ExpInv ns roots seen new → expandD ns fuel seen new = some res → ∀ x, x ∈ res ↔ Reachable ns roots x := by
  intro fuel seen new res
  fun_induction expandD ns fuel seen new with
  | case1 => intro _ h; cases h
  | case2 f seen new he =>
    intro hi h
    cases h
    obtain rfl : new = [] := by simpa using he
    exact hi.done
  | case3 f seen new he seen' new' ih =>
    exact fun hi h =>
      ih (hi.step (fun x => (mem_dedupN _ x).trans (List.mem_filter.trans (and_congr_right' (by simp [seen']))))) h

def InRange (ns : List GNode) (roots : List Nat) : Prop :=
  (∀ r ∈ roots, r < ns.length) ∧ (∀ (i : Nat) (n : GNode), ns[i]? = some n → n.lo < ns.length ∧ n.hi < ns.length)

theorem children_lt (ns : List GNode) (hr : ∀ (i : Nat) (n : GNode), ns[i]? = some n → n.lo < ns.length ∧ n.hi < ns.length)
    (i c : Nat) (hc : c ∈ children ns i) : c < ns.length := by
  unfold children at hc
  split at hc
  · next n hn =>
    simp only [List.mem_cons, List.not_mem_nil, or_false] at hc
    rcases hc with rfl | rfl
    · exact (hr i n hn).1
    · exact (hr i n hn).2
  · cases hc

theorem expandD_terminates (ns : List GNode)
    (hr : ∀ (i : Nat) (n : GNode), ns[i]? = some n → n.lo < ns.length ∧ n.hi < ns.length) :
    ∀ (fuel : Nat) (seen new : List Nat), (seen ++ new).Nodup → (∀ x ∈ seen ++ new, x < ns.length) →
      ns.length - seen.length < fuel → ∃ res, expandD ns fuel seen new = some res := by
  intro fuel seen new
  fun_induction expandD ns fuel seen new with
  | case1 => intro _ _ h; exact absurd h (Nat.not_lt_zero _)
  | case2 f seen new he => exact fun _ _ _ => ⟨seen, rfl⟩
  | case3 f seen new he seen' new' ih =>
    intro hnd hlt hfuel
    have hne : new ≠ [] := by simpa using he
    -- pigeonhole: duplicate-free and below the table size
    have hlen : (seen ++ new).length ≤ ns.length := by
      simpa using hnd.length_le_of_subset (l₂ := List.range ns.length) (fun x hx => List.mem_range.mpr (hlt x hx))
    have hpos : 0 < new.length := List.length_pos_iff.mpr hne
    apply ih
    · rw [List.nodup_append]
      refine ⟨hnd, nodup_dedupN _, ?_⟩
      intro a ha b hb
      rw [mem_dedupN, List.mem_filter] at hb
      intro hab
      subst hab
      have : ¬ a ∈ seen' := by simpa using hb.2
      exact this ha
    · intro x hx
      rcases List.mem_append.mp hx with h | h
      · exact hlt x h
      · rw [mem_dedupN, List.mem_filter, List.mem_flatMap] at h
        obtain ⟨⟨i, _, hci⟩, _⟩ := h
        exact children_lt ns hr i x hci
    · rw [List.length_append] at hlen ⊢
      omega

theorem expandD_total (ns : List GNode) (roots : List Nat) (h : InRange ns roots) :
    ∃ res, expandD ns (ns.length + 2) [] (dedupN roots) = some res ∧ ∀ x, x ∈ res ↔ Reachable ns roots x := by
  obtain ⟨res, hres⟩ := expandD_terminates ns h.2 (ns.length + 2) [] (dedupN roots)
    (by simpa using nodup_dedupN roots)
    (by intro x hx; simp only [List.nil_append, mem_dedupN] at hx; exact h.1 x hx)
    (by simp)
  refine ⟨res, hres, ?_⟩
  exact expandD_spec ns roots _ [] (dedupN roots) res (ExpInv.init ns (mem_dedupN roots)) hres

end GraphM
