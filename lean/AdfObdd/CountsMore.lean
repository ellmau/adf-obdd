import AdfObdd.Counts
import AdfObdd.PathsDepth
/-! C13, remaining counting clauses: `cmodels + models = 2^depth`, and the counter-model count
    stands in the exact ratio of the falsifying assignments. -/

theorem sat_compl (f : Asg → Bool) : ∀ (vs : List Nat) (base : Asg),
    sat f base vs + sat (fun σ => !f σ) base vs = 2 ^ vs.length := by
  intro vs
  induction vs with
  | nil =>
    intro base
    simp only [sat]
    by_cases hb : f base = true <;> simp [hb]
  | cons v vs ih =>
    intro base
    simp only [sat, List.length_cons, Nat.pow_succ]
    have a := ih (upd base v true)
    have b := ih (upd base v false)
    omega

/-- if `M : S = D : P` and `C`, `S'` are the complements of `M` in `D` and of `S` in `P`, then `C : S' = D : P` -/
theorem compl_ratio {C M S S' D P : Nat} (hm : M * P = S * D) (ht : C + M = D) (hc : S + S' = P) :
    C * P = S' * D := by
  have e1 : C * P + M * P = D * P := by rw [← Nat.add_mul, ht]
  have e2 : S * D + S' * D = D * P := by rw [← Nat.add_mul, hc, Nat.mul_comm]
  omega

/-- C13, counter-model clause -/
theorem cmodels_val (s : Store) (h : TableWF s.nodes) (t : Nat) (ht : t < s.nodes.size)
    (vs : List Nat) (hvs : vs.Pairwise (· < ·)) (hdeps : ∀ x ∈ depsF s (t+1) t, x ∈ vs) (base : Asg) :
    (countF s (t+1) t).1 * 2 ^ vs.length =
      sat (fun σ => !eval s t σ) base vs * 2 ^ (countF s (t+1) t).2.2 :=
  compl_ratio (models_val s h t ht vs hvs hdeps base) (counts_total_fuel s h (t+1) t ht (Nat.lt_succ_self t))
    (sat_compl (eval s t) vs base)

theorem eval_agree_on_deps (s : Store) (h : TableWF s.nodes) : ∀ (t : Nat), t < s.nodes.size →
    ∀ σ σ' : Asg, (∀ x ∈ depsF s (t+1) t, σ x = σ' x) → eval s t σ = eval s t σ' :=
  h.ind (fun _ _ _ => by rw [eval_zero, eval_zero]) (fun _ _ _ => by rw [eval_one, eval_one])
    fun t n ht hn _ ih σ σ' hag => by
      have hm := fun {x} => mem_deps_node s h (x := x) ht hn
      rw [Tab.eval_eq_child s h t n ht hn rfl, Tab.eval_eq_child s h t n ht hn (hag _ (hm.mpr (Or.inl rfl))).symm]
      exact ih _ σ σ' fun x hx => hag x (hm.mpr (Or.inr ⟨_, hx⟩))

#print axioms cmodels_val
