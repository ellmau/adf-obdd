import AdfObdd.Grounded
/-! the filter of `Adf::complete` is exactly "fixpoint of Γ" -/

section
variable {S T : Type} (A : RA S T)

/-- `interpretation.iter().enumerate().all(|(i, it)| it.compare_inf(&fold restrict ac[i] by interpretation))`
with the short circuit of `all` -/
def completeCheck (s : S) (v : List T) : List T → List T → S × Bool
  | a :: acs, x :: xs =>
    let r := restrictBy A s a 0 v
    if A.isConst r.2 == A.isConst x then completeCheck r.1 v acs xs else (r.1, false)
  | _, _ => (s, true)

/-- Two states because the filter of `completeAll` threads the store through all candidates: conditions and candidate
are valid in `s0`, where the enumeration starts, the check runs in a later `s`, and the verdict is read in `s0`. -/
theorem completeCheck_spec (v : List T) : ∀ (acs xs : List T) (s s0 : S), A.Inv s0 → A.Le s0 s → A.Inv s →
    AllValid A s0 acs → AllValid A s0 xs → acs.length = xs.length →
    A.Inv (completeCheck A s v acs xs).1 ∧ A.Le s (completeCheck A s v acs xs).1 ∧
    ((completeCheck A s v acs xs).2 = true ↔
      (acs.map (fun a => constOf (fun σ => A.den s0 a (over σ 0 (asg3 A v))))) = xs.map (fun x => constOf (A.den s0 x))) := by
  intro acs
  induction acs with
  | nil =>
    intro xs s s0 _ _ hi _ _ hl
    cases xs with
    | nil => exact ⟨hi, A.le_refl s, by simp [completeCheck]⟩
    | cons _ _ => simp at hl
  | cons a acs ih =>
    intro xs s s0 hi0 hle hi ha hx hl
    cases xs with
    | nil => simp at hl
    | cons x xs =>
      have ⟨hav, has⟩ : A.Valid s0 a ∧ AllValid A s0 acs := List.forall_mem_cons.mp ha
      have ⟨hxv, hxs⟩ : A.Valid s0 x ∧ AllValid A s0 xs := List.forall_mem_cons.mp hx
      have ⟨i1, l1, v1, d1⟩ := restrictBy_spec A v 0 s a hi (A.valid_mono hle hav)
      unfold completeCheck
      simp only
      -- what the two information values are, semantically
      have e1 : A.isConst (restrictBy A s a 0 v).2 = constOf (fun σ => A.den s0 a (over σ 0 (asg3 A v))) := by
        rw [isConst_eq_constOf A i1 v1, d1, A.den_mono hi0 hle hav]
      have e2 : A.isConst x = constOf (A.den s0 x) := isConst_eq_constOf A hi0 hxv
      by_cases hc : (A.isConst (restrictBy A s a 0 v).2 == A.isConst x) = true
      · rw [if_pos hc]
        have heq : constOf (fun σ => A.den s0 a (over σ 0 (asg3 A v))) = constOf (A.den s0 x) := by
          rw [← e1, ← e2]; simpa using hc
        have ⟨i2, l2, h2⟩ := ih xs _ s0 hi0 (A.le_trans hle l1) i1 has hxs (by simpa using hl)
        refine ⟨i2, A.le_trans l1 l2, ?_⟩
        rw [h2]
        simp only [List.map_cons, List.cons.injEq, heq, true_and]
      · rw [if_neg hc]
        refine ⟨i1, l1, ?_⟩
        simp only [List.map_cons, List.cons.injEq]
        constructor
        · intro h; cases h
        · intro ⟨h, _⟩
          exfalso; apply hc
          rw [e1, e2, h]; simp

/-- C02 core: the filter accepts `v` iff its decided part is a fixpoint of the consequence
operator of the ADF denoted by `ac` -/
theorem complete_filter_iff (s : S) (ac v : List T) (hi : A.Inv s) (ha : AllValid A s ac)
    (hv : AllValid A s v) (hl : ac.length = v.length) :
    (completeCheck A s v ac v).2 = true ↔ Gam (ac.map (A.den s)) (asg3 A v) = asg3 A v := by
  have ⟨_, _, h⟩ := completeCheck_spec A v ac v s s hi (A.le_refl s) hi ha hv hl
  rw [h]
  have e := asg3_eq A hi hv
  simp only [Gam, List.map_map, e, Function.comp_def]
end
#print axioms complete_filter_iff
