import AdfObdd.Store
import AdfObdd.Fold
/-! canonicity, proved from the structural invariant of the bare node table (`TableWF`) so that
    it applies to tables dumped from the real store as well as to model stores -/

theorem eval_lt2 (s : Store) (t : Nat) (h : t < 2) (σ : Asg) : eval s t σ = decide (t = 1) :=
  evalF_lt2 s.nodes t h σ
theorem eval_zero (s : Store) (σ : Asg) : eval s 0 σ = false := eval_lt2 s 0 (by decide) σ
theorem eval_one (s : Store) (σ : Asg) : eval s 1 σ = true := eval_lt2 s 1 (by decide) σ

namespace Tab

theorem evalF_fuel (s : Store) (h : TableWF s.nodes) (t fuel : Nat) (σ : Asg) (hf : t < fuel) :
    evalF s.nodes fuel t σ = evalF s.nodes (t+1) t σ := by
  rw [Memo.evalF_eq_F, Memo.evalF_eq_F, Memo.F_fuel _ s h t fuel hf]

theorem eval_node (s : Store) (h : TableWF s.nodes) (t : Nat) (n : Node) (ht : 2 ≤ t)
    (hn : s.nodes[t]? = some n) (σ : Asg) :
    eval s t σ = if σ n.var then eval s n.hi σ else eval s n.lo σ := by
  rw [Memo.eval_eq_val, Memo.eval_eq_val, Memo.eval_eq_val, Memo.val_node _ s h ht hn]; rfl

theorem topVar_zero (s : Store) (h : TableWF s.nodes) : topVar s 0 = VBOT := topVar_of_get h.bot
theorem topVar_one (s : Store) (h : TableWF s.nodes) : topVar s 1 = VTOP := topVar_of_get h.top

theorem child_lt (s : Store) (h : TableWF s.nodes) {t : Nat} {n : Node} (ht : 2 ≤ t)
    (hn : s.nodes[t]? = some n) (b : Bool) : n.child b < t := by
  have ⟨_, hlo, hhi, _, _, _⟩ := h.inner t n ht hn
  cases b
  · exact hlo
  · exact hhi

theorem lt_topVar_child (s : Store) (h : TableWF s.nodes) {t : Nat} {n : Node} (ht : 2 ≤ t)
    (hn : s.nodes[t]? = some n) (b : Bool) : n.var < topVar s (n.child b) := by
  have ⟨_, _, _, _, hvlo, hvhi⟩ := h.inner t n ht hn
  obtain ⟨m, hm⟩ := get_of_lt (Nat.lt_trans (child_lt s h ht hn b) (lt_of_get hn))
  rw [topVar_of_get hm]
  cases b
  · exact hvlo m hm
  · exact hvhi m hm

theorem eval_eq_child (s : Store) (h : TableWF s.nodes) (t : Nat) (n : Node) (ht : 2 ≤ t)
    (hn : s.nodes[t]? = some n) {b : Bool} {σ : Asg} (hσ : σ n.var = b) : eval s t σ = eval s (n.child b) σ := by
  rw [eval_node s h t n ht hn, hσ]
  cases b <;> rfl

theorem eval_upd_of_lt (s : Store) (h : TableWF s.nodes) (t : Nat) (ht : t < s.nodes.size) (v : Nat) (b : Bool)
    (hv : v < topVar s t) (σ : Asg) : eval s t (upd σ v b) = eval s t σ := by
  revert hv
  refine h.ind (P := fun t => v < topVar s t → eval s t (upd σ v b) = eval s t σ) ?_ ?_ ?_ t ht
  · intro _; rw [eval_zero, eval_zero]
  · intro _; rw [eval_one, eval_one]
  · intro t n ht2 hn _ ih hv
    rw [topVar_of_get hn] at hv
    rw [eval_eq_child s h t n ht2 hn rfl, eval_eq_child s h t n ht2 hn rfl, upd_other σ b (Nat.ne_of_gt hv)]
    exact ih _ (Nat.lt_trans hv (lt_topVar_child s h ht2 hn _))

theorem eval_child (s : Store) (h : TableWF s.nodes) (t : Nat) (n : Node) (ht : 2 ≤ t)
    (hn : s.nodes[t]? = some n) (b : Bool) (σ : Asg) : eval s (n.child b) σ = eval s t (upd σ n.var b) := by
  rw [eval_eq_child s h t n ht hn (upd_same σ n.var b)]
  exact (eval_upd_of_lt s h (n.child b) (Nat.lt_trans (child_lt s h ht hn b) (lt_of_get hn)) n.var b
    (lt_topVar_child s h ht hn b) σ).symm

theorem eval_lo (s : Store) (h : TableWF s.nodes) (t : Nat) (n : Node) (ht : 2 ≤ t)
    (hn : s.nodes[t]? = some n) (σ : Asg) : eval s n.lo σ = eval s t (upd σ n.var false) :=
  eval_child s h t n ht hn false σ

theorem eval_hi (s : Store) (h : TableWF s.nodes) (t : Nat) (n : Node) (ht : 2 ≤ t)
    (hn : s.nodes[t]? = some n) (σ : Asg) : eval s n.hi σ = eval s t (upd σ n.var true) :=
  eval_child s h t n ht hn true σ

theorem le_topVar_of_lt2 (s : Store) (h : TableWF s.nodes) {t : Nat} (ht : t < 2) : VBOT ≤ topVar s t := by
  rcases (by omega : t = 0 ∨ t = 1) with rfl | rfl
  · rw [topVar_zero s h]; exact Nat.le_refl _
  · rw [topVar_one s h]; decide

theorem topVar_lt_of_inner (s : Store) (h : TableWF s.nodes) {t : Nat} (ht2 : 2 ≤ t) (ht : t < s.nodes.size) :
    topVar s t < VBOT := by
  obtain ⟨n, hn⟩ := get_of_lt ht
  rw [topVar_of_get hn]; exact (h.inner t n ht2 hn).1

theorem inner_of_topVar_lt (s : Store) (h : TableWF s.nodes) {t : Nat} (hv : topVar s t < VBOT) : 2 ≤ t :=
  Nat.le_of_not_lt fun h2 => Nat.lt_irrefl _ (Nat.lt_of_lt_of_le hv (le_topVar_of_lt2 s h h2))

/-- an inner node depends on its variable, provided its two children, which differ, also differ
as functions -/
theorem depends_of_children (s : Store) (h : TableWF s.nodes) {t : Nat} {n : Node} (ht : 2 ≤ t)
    (hn : s.nodes[t]? = some n) (hc : (∀ σ, eval s n.lo σ = eval s n.hi σ) → n.lo = n.hi) :
    ¬ ∀ σ, eval s t (upd σ n.var false) = eval s t (upd σ n.var true) :=
  fun hind => (h.inner t n ht hn).2.2.2.1 (hc fun σ => by rw [eval_lo s h t n ht hn, eval_hi s h t n ht hn, hind])

/-- canonicity for the handles below `k`: equal functions, equal handles. By induction on `k`; for
the children of a node below `k` the premise of `depends_of_children` is the induction hypothesis. -/
theorem canon_aux (s : Store) (h : TableWF s.nodes) :
    ∀ (k a b : Nat), a < s.nodes.size → b < s.nodes.size → a < k → b < k →
      (∀ σ, eval s a σ = eval s b σ) → a = b := by
  intro k
  induction k using Nat.strongRecOn with
  | _ k ih =>
    -- by symmetry the top variable of `a` is not above that of `b`
    have step : ∀ a b, a < s.nodes.size → b < s.nodes.size → a < k → b < k →
        topVar s a ≤ topVar s b → (∀ σ, eval s a σ = eval s b σ) → a = b := by
      intro a b ha hb hak hbk hle heq
      rcases Nat.lt_or_ge a 2 with ha2 | ha2
      · -- `a` is a terminal, so `b` is one too
        have hb2 : b < 2 := Nat.lt_of_not_le fun h2 => Nat.lt_irrefl _ (Nat.lt_of_lt_of_le
          (Nat.lt_of_lt_of_le (topVar_lt_of_inner s h h2 hb) (le_topVar_of_lt2 s h ha2)) hle)
        have := heq (fun _ => false)
        rw [eval_lt2 s a ha2, eval_lt2 s b hb2, decide_eq_decide] at this
        omega
      obtain ⟨na, hna⟩ := get_of_lt ha
      rw [topVar_of_get hna] at hle
      rcases Nat.lt_or_ge na.var (topVar s b) with hlt | hge
      · -- `b` ignores the variable of `a`, so would `a`
        have ⟨_, hlo, hhi, _⟩ := h.inner a na ha2 hna
        refine (depends_of_children s h ha2 hna
          (ih a hak na.lo na.hi (Nat.lt_trans hlo ha) (Nat.lt_trans hhi ha) hlo hhi) fun σ => ?_).elim
        rw [heq, heq, eval_upd_of_lt s h b hb na.var false hlt, eval_upd_of_lt s h b hb na.var true hlt]
      · -- same variable: `b` is an inner node too and the children agree pairwise
        have hvb : topVar s b = na.var := Nat.le_antisymm hge hle
        have hb2 : 2 ≤ b := inner_of_topVar_lt s h (by rw [hvb]; exact (h.inner a na ha2 hna).1)
        obtain ⟨nb, hnb⟩ := get_of_lt hb
        have hv : nb.var = na.var := by rw [← topVar_of_get hnb, hvb]
        have hm : max a b < k := Nat.max_lt.mpr ⟨hak, hbk⟩
        have hc : ∀ c, na.child c = nb.child c := fun c =>
          have la := child_lt s h ha2 hna c
          have lb := child_lt s h hb2 hnb c
          ih _ hm _ _ (Nat.lt_trans la ha) (Nat.lt_trans lb hb) (Nat.lt_of_lt_of_le la (Nat.le_max_left a b))
            (Nat.lt_of_lt_of_le lb (Nat.le_max_right a b)) fun σ => by
              rw [eval_child s h a na ha2 hna, eval_child s h b nb hb2 hnb, hv, heq]
        have hnn : nb = na := by
          have hl : na.lo = nb.lo := hc false
          have hh : na.hi = nb.hi := hc true
          cases na; cases nb; simp only at hv hl hh; rw [hv, hl, hh]
        exact h.nodup a b na ha2 hb2 hna (hnn ▸ hnb)
    intro a b ha hb hak hbk heq
    rcases Nat.le_total (topVar s a) (topVar s b) with hle | hle
    · exact step a b ha hb hak hbk hle heq
    · exact (step b a hb ha hbk hak hle fun σ => (heq σ).symm).symm

/-- C06 core: canonicity -/
theorem canonical (s : Store) (h : TableWF s.nodes) (a b : Nat)
    (ha : a < s.nodes.size) (hb : b < s.nodes.size) :
    (∀ σ, eval s a σ = eval s b σ) ↔ a = b := by
  constructor
  · exact canon_aux s h (max a b + 1) a b ha hb (Nat.lt_succ_of_le (Nat.le_max_left _ _))
      (Nat.lt_succ_of_le (Nat.le_max_right _ _))
  · intro h; subst h; intro σ; rfl

theorem inner_depends (s : Store) (h : TableWF s.nodes) {t : Nat} {n : Node} (ht : 2 ≤ t)
    (hn : s.nodes[t]? = some n) : ¬ ∀ σ, eval s t (upd σ n.var false) = eval s t (upd σ n.var true) :=
  have ⟨_, hlo, hhi, _⟩ := h.inner t n ht hn
  have hlen := lt_of_get hn
  depends_of_children s h ht hn (canonical s h n.lo n.hi (Nat.lt_trans hlo hlen) (Nat.lt_trans hhi hlen)).mp

end Tab

/-! the same facts under the full store invariant (the names the rest of the development uses) -/
theorem evalF_fuel (s : Store) (h : WF s) :
    ∀ (t fuel : Nat) (σ : Asg), t < fuel → evalF s.nodes fuel t σ = evalF s.nodes (t+1) t σ :=
  Tab.evalF_fuel s h.table
theorem eval_node (s : Store) (h : WF s) (t : Nat) (n : Node) (ht : 2 ≤ t)
    (hn : s.nodes[t]? = some n) (σ : Asg) :
    eval s t σ = if σ n.var then eval s n.hi σ else eval s n.lo σ :=
  Tab.eval_node s h.table t n ht hn σ
theorem eval_upd_of_lt (s : Store) (w : WF s) (t : Nat) (ht : t < s.nodes.size) (v : Nat) (b : Bool)
    (hv : v < topVar s t) (σ : Asg) : eval s t (upd σ v b) = eval s t σ :=
  Tab.eval_upd_of_lt s w.table t ht v b hv σ
theorem eval_lo (s : Store) (h : WF s) (t : Nat) (n : Node) (ht : 2 ≤ t)
    (hn : s.nodes[t]? = some n) (σ : Asg) : eval s n.lo σ = eval s t (upd σ n.var false) :=
  Tab.eval_lo s h.table t n ht hn σ
theorem eval_hi (s : Store) (h : WF s) (t : Nat) (n : Node) (ht : 2 ≤ t)
    (hn : s.nodes[t]? = some n) (σ : Asg) : eval s n.hi σ = eval s t (upd σ n.var true) :=
  Tab.eval_hi s h.table t n ht hn σ
theorem topVar_child_lo {s : Store} (w : WF s) {t : Nat} {n : Node} (ht : 2 ≤ t) (hn : s.nodes[t]? = some n) :
    n.var < topVar s n.lo := Tab.lt_topVar_child s w.table ht hn false
theorem topVar_child_hi {s : Store} (w : WF s) {t : Nat} {n : Node} (ht : 2 ≤ t) (hn : s.nodes[t]? = some n) :
    n.var < topVar s n.hi := Tab.lt_topVar_child s w.table ht hn true
theorem topVar_zero {s : Store} (w : WF s) : topVar s 0 = VBOT := Tab.topVar_zero s w.table
theorem topVar_one {s : Store} (w : WF s) : topVar s 1 = VTOP := Tab.topVar_one s w.table
theorem inner_of_not_const {s : Store} (w : WF s) {t : Nat} {n : Node} (hn : s.nodes[t]? = some n)
    (h : ¬ n.var ≥ VBOT) : 2 ≤ t :=
  Tab.inner_of_topVar_lt s w.table (by rw [topVar_of_get hn]; exact Nat.lt_of_not_le h)
theorem canon_aux (s : Store) (h : WF s) :
    ∀ (k a b : Nat), a < s.nodes.size → b < s.nodes.size → a ≤ k → b ≤ k →
      (∀ σ, eval s a σ = eval s b σ) → a = b :=
  fun k a b ha hb hak hbk => Tab.canon_aux s h.table (k+1) a b ha hb (Nat.lt_succ_of_le hak) (Nat.lt_succ_of_le hbk)
/-- C06 core: canonicity -/
theorem canonical (s : Store) (h : WF s) (a b : Nat)
    (ha : a < s.nodes.size) (hb : b < s.nodes.size) :
    (∀ σ, eval s a σ = eval s b σ) ↔ a = b :=
  Tab.canonical s h.table a b ha hb

theorem eq_one_iff (s : Store) (w : WF s) (a : Nat) (ha : a < s.nodes.size) : a = 1 ↔ ∀ σ, eval s a σ = true := by
  rw [← canonical s w a 1 ha (one_lt s w)]
  simp only [eval_one]
theorem eq_zero_iff (s : Store) (w : WF s) (a : Nat) (ha : a < s.nodes.size) : a = 0 ↔ ∀ σ, eval s a σ = false := by
  rw [← canonical s w a 0 ha (zero_lt s w)]
  simp only [eval_zero]

#print axioms canonical
