import AdfObdd.StoreIte
/-! native compilation of a formula to a diagram preserves its Boolean function
    (C09, native pipeline; any formula size) -/

inductive Fm where
  | top | bot
  | atom (v : Nat)
  | not (f : Fm)
  | and (a b : Fm) | or (a b : Fm) | imp (a b : Fm) | xor (a b : Fm) | iff (a b : Fm)

def Fm.sem : Fm → Asg → Bool
  | .top, _ => true
  | .bot, _ => false
  | .atom v, σ => σ v
  | .not f, σ => !f.sem σ
  | .and a b, σ => a.sem σ && b.sem σ
  | .or a b, σ => a.sem σ || b.sem σ
  | .imp a b, σ => !a.sem σ || b.sem σ
  | .xor a b, σ => a.sem σ != b.sem σ
  | .iff a b, σ => a.sem σ == b.sem σ

def Fm.atomsOK : Fm → Prop
  | .top => True | .bot => True
  | .atom v => v < VBOT
  | .not f => f.atomsOK
  | .and a b => a.atomsOK ∧ b.atomsOK | .or a b => a.atomsOK ∧ b.atomsOK
  | .imp a b => a.atomsOK ∧ b.atomsOK | .xor a b => a.atomsOK ∧ b.atomsOK | .iff a b => a.atomsOK ∧ b.atomsOK

def opIte (s : Store) (i t e : Nat) : Store × Nat := iteF (i + t + e + 1) s i t e
def opNot (s : Store) (t : Nat) : Store × Nat := opIte s t 0 1

/-- `Adf::term` -/
def compile (s : Store) : Fm → Store × Nat
  | .top => (s, 1)
  | .bot => (s, 0)
  | .atom v => mkNode s v 0 1
  | .not f => let r := compile s f; opNot r.1 r.2
  | .and a b => let ra := compile s a; let rb := compile ra.1 b; opIte rb.1 ra.2 rb.2 0
  | .or a b => let ra := compile s a; let rb := compile ra.1 b; opIte rb.1 ra.2 1 rb.2
  | .imp a b => let ra := compile s a; let rb := compile ra.1 b; opIte rb.1 ra.2 rb.2 1
  | .iff a b => let ra := compile s a; let rb := compile ra.1 b
                let nb := opNot rb.1 rb.2; opIte nb.1 ra.2 rb.2 nb.2
  | .xor a b => let ra := compile s a; let rb := compile ra.1 b
                let nb := opNot rb.1 rb.2; opIte nb.1 ra.2 nb.2 rb.2

/-- what an operation started in `s` delivers: a well-formed store `s'` that extends `s` (so handles of `s` keep their
functions) and a handle `r` of `s'` that denotes `f` -/
structure Good (s s' : Store) (r : Nat) (f : Asg → Bool) : Prop where
  wf : WF s'
  ext : Ext s s'
  lt : r < s'.nodes.size
  ev : ∀ σ, eval s' r σ = f σ

theorem Good.congr {s s' : Store} {r : Nat} {f g : Asg → Bool} (h : Good s s' r f) (e : ∀ σ, f σ = g σ) :
    Good s s' r g := ⟨h.wf, h.ext, h.lt, fun σ => (h.ev σ).trans (e σ)⟩

theorem Good.after {s0 s s' : Store} {r : Nat} {f : Asg → Bool} (e : Ext s0 s) (h : Good s s' r f) :
    Good s0 s' r f := ⟨h.wf, e.trans h.ext, h.lt, h.ev⟩

/-- a result survives a later computation -/
theorem Good.keep {s s1 s2 : Store} {a b : Nat} {f g : Asg → Bool} (ga : Good s s1 a f) (gb : Good s1 s2 b g) :
    Good s s2 a f :=
  ⟨gb.wf, ga.ext.trans gb.ext, gb.ext.lt ga.lt, fun σ => (eval_ext ga.wf gb.ext a σ ga.lt).trans (ga.ev σ)⟩

theorem opIte_good (s : Store) (w : WF s) (i t e : Nat) (hi : i < s.nodes.size) (ht : t < s.nodes.size)
    (he : e < s.nodes.size) :
    Good s (opIte s i t e).1 (opIte s i t e).2 (fun σ => if eval s i σ then eval s t σ else eval s e σ) := by
  have ⟨a, b, c, _, d⟩ := iteF_spec (i + t + e + 1) s i t e w hi ht he (Nat.lt_succ_self _)
  exact ⟨a, b, c, d⟩

theorem opVar_good (s : Store) (w : WF s) (v : Nat) (hv : v < VBOT) :
    Good s (mkNode s v 0 1).1 (mkNode s v 0 1).2 (fun σ => σ v) := by
  have ⟨a, b, c, _, d⟩ := mkNode_spec s w v 0 1 (zero_lt s w) (one_lt s w) hv
    (by rw [topVar_zero w]; exact hv)
    (by rw [topVar_one w]; exact Nat.lt_trans hv (by decide))
  refine ⟨a, b, c, fun σ => (d σ).trans ?_⟩
  rw [eval_zero, eval_one]; cases σ v <;> rfl

theorem opNot_good (s : Store) (w : WF s) (t : Nat) (ht : t < s.nodes.size) :
    Good s (opNot s t).1 (opNot s t).2 (fun σ => !eval s t σ) :=
  (opIte_good s w t 0 1 ht (zero_lt s w) (one_lt s w)).congr fun σ => by
    rw [eval_zero, eval_one]; cases eval s t σ <;> rfl

theorem opAnd_good (s : Store) (w : WF s) (a b : Nat) (ha : a < s.nodes.size) (hb : b < s.nodes.size) :
    Good s (opIte s a b 0).1 (opIte s a b 0).2 (fun σ => eval s a σ && eval s b σ) :=
  (opIte_good s w a b 0 ha hb (zero_lt s w)).congr fun σ => by
    rw [eval_zero]; cases eval s a σ <;> rfl

theorem opOr_good (s : Store) (w : WF s) (a b : Nat) (ha : a < s.nodes.size) (hb : b < s.nodes.size) :
    Good s (opIte s a 1 b).1 (opIte s a 1 b).2 (fun σ => eval s a σ || eval s b σ) :=
  (opIte_good s w a 1 b ha (one_lt s w) hb).congr fun σ => by
    rw [eval_one]; cases eval s a σ <;> rfl

theorem opImp_good (s : Store) (w : WF s) (a b : Nat) (ha : a < s.nodes.size) (hb : b < s.nodes.size) :
    Good s (opIte s a b 1).1 (opIte s a b 1).2 (fun σ => !eval s a σ || eval s b σ) :=
  (opIte_good s w a b 1 ha hb (one_lt s w)).congr fun σ => by
    rw [eval_one]; cases eval s a σ <;> rfl

/-- `iff` and `xor` negate the second operand first; the operands stay valid in the larger store -/
theorem opIff_good (s : Store) (w : WF s) (a b : Nat) (ha : a < s.nodes.size) (hb : b < s.nodes.size) :
    Good s (opIte (opNot s b).1 a b (opNot s b).2).1 (opIte (opNot s b).1 a b (opNot s b).2).2
      (fun σ => eval s a σ == eval s b σ) := by
  have gn := opNot_good s w b hb
  refine ((opIte_good _ gn.wf a b _ (gn.ext.lt ha) (gn.ext.lt hb) gn.lt).after gn.ext).congr fun σ => ?_
  rw [eval_ext w gn.ext a σ ha, eval_ext w gn.ext b σ hb, gn.ev σ]
  cases eval s a σ <;> cases eval s b σ <;> rfl

theorem opXor_good (s : Store) (w : WF s) (a b : Nat) (ha : a < s.nodes.size) (hb : b < s.nodes.size) :
    Good s (opIte (opNot s b).1 a (opNot s b).2 b).1 (opIte (opNot s b).1 a (opNot s b).2 b).2
      (fun σ => eval s a σ != eval s b σ) := by
  have gn := opNot_good s w b hb
  refine ((opIte_good _ gn.wf a _ b (gn.ext.lt ha) gn.lt (gn.ext.lt hb)).after gn.ext).congr fun σ => ?_
  rw [eval_ext w gn.ext a σ ha, eval_ext w gn.ext b σ hb, gn.ev σ]
  cases eval s a σ <;> cases eval s b σ <;> rfl

/-- binary connectives: compile both sides, keep the first handle alive, combine -/
theorem Good.bin {op : Store → Nat → Nat → Store × Nat} {F : Bool → Bool → Bool}
    (hop : ∀ s, WF s → ∀ a b, a < s.nodes.size → b < s.nodes.size →
      Good s (op s a b).1 (op s a b).2 fun σ => F (eval s a σ) (eval s b σ))
    {s s1 s2 : Store} {a b : Nat} {f g : Asg → Bool} (ga : Good s s1 a f) (gb : Good s1 s2 b g) :
    Good s (op s2 a b).1 (op s2 a b).2 fun σ => F (f σ) (g σ) :=
  have ka := ga.keep gb
  ((hop s2 gb.wf a b ka.lt gb.lt).after ka.ext).congr fun σ => by rw [ka.ev σ, gb.ev σ]

theorem compile_correct : ∀ (φ : Fm) (s : Store), WF s → φ.atomsOK →
    Good s (compile s φ).1 (compile s φ).2 φ.sem := by
  intro φ s w hok
  fun_induction compile s φ with
  | case1 s => exact ⟨w, Ext.refl _, one_lt s w, fun σ => eval_one s σ⟩
  | case2 s => exact ⟨w, Ext.refl _, zero_lt s w, fun σ => eval_zero s σ⟩
  | case3 s v => exact opVar_good s w v hok
  | case4 _ _ _ ih =>
    have g := ih w hok
    exact ((opNot_good _ g.wf _ g.lt).after g.ext).congr fun σ => by rw [g.ev σ]; rfl
  | case5 _ _ _ _ _ iha ihb => have ga := iha w hok.1; exact Good.bin opAnd_good ga (ihb ga.wf hok.2)
  | case6 _ _ _ _ _ iha ihb => have ga := iha w hok.1; exact Good.bin opOr_good ga (ihb ga.wf hok.2)
  | case7 _ _ _ _ _ iha ihb => have ga := iha w hok.1; exact Good.bin (F := fun x y => !x || y) opImp_good ga (ihb ga.wf hok.2)
  | case8 _ _ _ _ _ _ iha ihb => have ga := iha w hok.1; exact Good.bin opIff_good ga (ihb ga.wf hok.2)
  | case9 _ _ _ _ _ _ iha ihb => have ga := iha w hok.1; exact Good.bin opXor_good ga (ihb ga.wf hok.2)
#print axioms compile_correct
