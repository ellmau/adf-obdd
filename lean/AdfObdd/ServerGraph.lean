import AdfObdd.ServerAdf
/-! C16: the graph DTO builder `graphOf` — its node set is the reachable set, and
    walking the DTO from a node evaluates the diagram of that node. -/
namespace ServerAdf

theorem gnodes_length (ns : Array Node) : (gnodes ns).length = ns.size := by simp [gnodes]

theorem gnodes_get (ns : Array Node) (i : Nat) :
    (gnodes ns)[i]? = (ns[i]?).map (fun n => (⟨n.lo, n.hi⟩ : GraphM.GNode)) := by
  simp [gnodes]

/-- what the builder needs of the ADF: a well-formed table, an ordering with distinct names that
names every variable tested at a node reachable from the roots, roots inside the table (derived from
the parser facts / from the functions the roots denote in `ServerVars.lean`) -/
structure GraphHyp (names : List String) (ns : Array Node) (ac : List Nat) : Prop where
  wf : TableWF ns
  nodup : names.Nodup
  vars : ∀ (i : Nat) (n : Node), 2 ≤ i → GraphM.Reachable (gnodes ns) ac i → ns[i]? = some n → n.var < names.length
  roots : ∀ r ∈ ac, r < ns.size

theorem vbot_lt_vtop : VBOT < VTOP := by unfold VBOT VTOP; omega

theorem inRange_of_hyp {names : List String} {ns : Array Node} {ac : List Nat} (h : GraphHyp names ns ac) :
    GraphM.InRange (gnodes ns) ac := by
  refine ⟨fun r hr => by rw [gnodes_length]; exact h.roots r hr, fun i n hn => ?_⟩
  rw [gnodes_get] at hn
  obtain ⟨t, hi, rfl⟩ := Option.map_eq_some_iff.mp hn
  rw [gnodes_length]
  show t.lo < ns.size ∧ t.hi < ns.size
  have h0 : 0 < ns.size := Nat.lt_of_lt_of_le Nat.zero_lt_two h.wf.len
  have h1 : 1 < ns.size := h.wf.len
  rcases i with _ | _ | i
  · obtain rfl := Option.some.inj (hi.symm.trans h.wf.bot); exact ⟨h0, h0⟩
  · obtain rfl := Option.some.inj (hi.symm.trans h.wf.top); exact ⟨h1, h1⟩
  · have := h.wf.inner (i + 2) t (by omega) hi
    have := lt_of_get hi
    exact ⟨by omega, by omega⟩

theorem nodeSet_spec {names : List String} {ns : Array Node} {ac : List Nat} (h : GraphHyp names ns ac) :
    ∀ x, x ∈ nodeSet ns ac ↔ GraphM.Reachable (gnodes ns) ac x := by
  obtain ⟨res, hres, hspec⟩ := GraphM.expandD_total (gnodes ns) ac (inRange_of_hyp h)
  intro x
  unfold nodeSet
  rw [gnodes_length] at hres
  rw [hres]
  exact hspec x

theorem reachable_lt {names : List String} {ns : Array Node} {ac : List Nat} (h : GraphHyp names ns ac) :
    ∀ x, GraphM.Reachable (gnodes ns) ac x → x < ns.size := by
  intro x hx
  induction hx with
  | root r hr => exact h.roots r hr
  | step i c _ hc _ =>
    have := GraphM.children_lt (gnodes ns) (inRange_of_hyp h).2 i c hc
    rwa [gnodes_length] at this

/-- the ids of the DTO's nodes -/
def idsOf (ns : Array Node) (ac : List Nat) : List Nat :=
  (List.range ns.size).filter (fun i => (nodeSet ns ac).contains i)

theorem mem_idsOf {names : List String} {ns : Array Node} {ac : List Nat} (h : GraphHyp names ns ac) (x : Nat) :
    x ∈ idsOf ns ac ↔ GraphM.Reachable (gnodes ns) ac x := by
  unfold idsOf
  rw [List.mem_filter, List.mem_range]
  constructor
  · intro hx; exact (nodeSet_spec h x).mp (by simpa using hx.2)
  · intro hx; exact ⟨reachable_lt h x hx, by simpa using (nodeSet_spec h x).mpr hx⟩

theorem graphOf_ids (names : List String) (ns : Array Node) (ac : List Nat) :
    (graphOf names ns ac).nodes.map (·.id) = idsOf ns ac := by
  simp [graphOf, idsOf, List.map_map, Function.comp_def]

theorem find_key_map {β : Type} (key : β → Nat) (g : Nat → β) (hk : ∀ i, key (g i) = i) (x : Nat) : ∀ l : List Nat,
    (l.map g).find? (fun e => key e == x) = if x ∈ l then some (g x) else none := by
  intro l
  induction l with
  | nil => simp
  | cons y ys ih =>
    simp only [List.map_cons, List.find?_cons, List.mem_cons, hk]
    by_cases hy : y = x
    · subst hy; simp
    · have : (y == x) = false := by simpa using hy
      simp only [this, ih]
      have hxy : ¬ x = y := fun h => hy h.symm
      simp [hxy]

theorem indexOf_eq_idxOf? (x : String) (names : List String) : indexOf x names = names.idxOf? x := by
  induction names with
  | nil => rfl
  | cons y ys ih => rw [indexOf, List.idxOf?_cons, ih, BEq.comm]

theorem indexOf_getD (names : List String) (v : Nat) (nd : names.Nodup) (hv : v < names.length) :
    indexOf (names.getD v "?") names = some v := by
  rw [← List.getElem_eq_getD (h := hv), indexOf_eq_idxOf?, List.idxOf?_eq_some_iff]
  exact ⟨hv, rfl, fun j hj ej => by
    have := (List.getElem_inj (h₀ := by omega) (h₁ := hv) nd).mp ej; omega⟩

theorem graphOf_lo_find (names : List String) (ns : Array Node) (ac : List Nat) (x : Nat) :
    (graphOf names ns ac).lo.find? (fun e => e.1 == x) =
      if x ∈ (idsOf ns ac).filter (isInner ns) then some (x, (ns.getD x ⟨0, 0, 0⟩).lo) else none := by
  simp only [graphOf]; exact find_key_map Prod.fst _ (fun _ => rfl) x _

theorem graphOf_hi_find (names : List String) (ns : Array Node) (ac : List Nat) (x : Nat) :
    (graphOf names ns ac).hi.find? (fun e => e.1 == x) =
      if x ∈ (idsOf ns ac).filter (isInner ns) then some (x, (ns.getD x ⟨0, 0, 0⟩).hi) else none := by
  simp only [graphOf]; exact find_key_map Prod.fst _ (fun _ => rfl) x _

theorem graphOf_node_find (names : List String) (ns : Array Node) (ac : List Nat) {x : Nat} (hx : x ∈ idsOf ns ac) :
    (graphOf names ns ac).nodes.find? (fun n => n.id == x) =
      some ⟨x, nameOfVar names ((ns.getD x ⟨VTOP, 0, 0⟩).var), rootsOf names ac x⟩ := by
  simp only [graphOf]; exact (find_key_map GNodeD.id _ (fun _ => rfl) x _).trans (if_pos hx)

theorem inner_var_ne {ns : Array Node} (w : TableWF ns) {x : Nat} {t : Node} (h2 : 2 ≤ x) (ht : ns[x]? = some t) :
    t.var ≠ VTOP ∧ t.var ≠ VBOT := by
  have := (w.inner x t h2 ht).1
  have := vbot_lt_vtop
  constructor <;> omega

theorem isInner_iff {ns : Array Node} (w : TableWF ns) {x : Nat} {t : Node} (ht : ns[x]? = some t) :
    isInner ns x = true ↔ 2 ≤ x := by
  rcases x with _ | _ | x
  · simp [isInner, w.bot]
  · simp [isInner, w.top]
  · have hvar := inner_var_ne w (Nat.le_add_left 2 x) ht
    simp [isInner, ht, hvar.1, hvar.2]

theorem inner_mem {names : List String} {ns : Array Node} {ac : List Nat} (h : GraphHyp names ns ac) {x : Nat} {t : Node}
    (hreach : GraphM.Reachable (gnodes ns) ac x) (h2 : 2 ≤ x) (ht : ns[x]? = some t) :
    x ∈ (idsOf ns ac).filter (isInner ns) :=
  List.mem_filter.mpr ⟨(mem_idsOf h x).mpr hreach, (isInner_iff h.wf ht).mpr h2⟩

theorem walk_inner {names : List String} {ns : Array Node} {ac : List Nat} (h : GraphHyp names ns ac) (σ : Asg) (f : Nat)
    {x : Nat} {t : Node} (hreach : GraphM.Reachable (gnodes ns) ac x) (h2 : 2 ≤ x) (ht : ns[x]? = some t) :
    walk (graphOf names ns ac) names σ (f + 1) x =
      walk (graphOf names ns ac) names σ f (if σ t.var then t.hi else t.lo) := by
  have hvar := inner_var_ne h.wf h2 ht
  have hmem := inner_mem h hreach h2 ht
  rw [walk, graphOf_lo_find, graphOf_hi_find, if_pos hmem, if_pos hmem,
    graphOf_node_find names ns ac ((mem_idsOf h x).mpr hreach)]
  simp only [Array.getD_eq_getD_getElem?, ht, Option.getD_some, nameOfVar, if_neg hvar.1, if_neg hvar.2]
  rw [indexOf_getD names t.var h.nodup (h.vars x t h2 hreach ht)]

theorem walk_terminal {names : List String} {ns : Array Node} {ac : List Nat} (w : TableWF ns) (σ : Asg) (f : Nat)
    {x : Nat} (hx : x < 2) : walk (graphOf names ns ac) names σ (f + 1) x = some (decide (x = 1)) := by
  obtain ⟨t, ht⟩ := get_of_lt (Nat.lt_of_lt_of_le hx w.len)
  have hnot : ¬ x ∈ (idsOf ns ac).filter (isInner ns) := fun hm =>
    Nat.not_le_of_lt hx ((isInner_iff w ht).mp (List.mem_filter.mp hm).2)
  rw [walk, graphOf_lo_find, graphOf_hi_find, if_neg hnot, if_neg hnot]
  rcases (by omega : x = 0 ∨ x = 1) with rfl | rfl <;> rfl

/-- **walking the DTO evaluates the diagram**: from every node of the graph, following the lo/hi
edges according to `σ` (the variable tested at a node is the statement its label names, a node
without outgoing edges is a terminal) ends in the value `evalF` computes on the node table -/
theorem walk_eval {names : List String} {ns : Array Node} {ac : List Nat} (h : GraphHyp names ns ac) (σ : Asg) :
    ∀ (fuel x : Nat), x < fuel → GraphM.Reachable (gnodes ns) ac x →
      walk (graphOf names ns ac) names σ fuel x = some (evalF ns fuel x σ) := by
  intro fuel
  induction fuel with
  | zero => intro x hx; exact absurd hx (Nat.not_lt_zero _)
  | succ f ih =>
    intro x hxf hreach
    by_cases h2 : 2 ≤ x
    · obtain ⟨t, ht⟩ := get_of_lt (reachable_lt h x hreach)
      have hin := h.wf.inner x t h2 ht
      have hchild : ∀ c, c = t.lo ∨ c = t.hi →
          walk (graphOf names ns ac) names σ f c = some (evalF ns f c σ) := fun c hc =>
        ih c (by rcases hc with rfl | rfl <;> omega) (.step x c hreach (by
          simpa only [GraphM.children, gnodes_get, ht, Option.map_some, List.mem_cons, List.not_mem_nil, or_false] using hc))
      rw [walk_inner h σ f hreach h2 ht, evalF, if_neg (show ¬ x = 0 by omega), if_neg (show ¬ x = 1 by omega), ht]
      simp only
      split
      · exact hchild t.hi (.inr rfl)
      · exact hchild t.lo (.inl rfl)
    · rw [walk_terminal h.wf σ f (Nat.lt_of_not_le h2), evalF_lt2 ns f (Nat.lt_of_not_le h2) σ]

end ServerAdf
