import AdfObdd.NgStoreAfter
/-! # What `nogood_internal` does when the heuristic gives no answer (`HeuOK.total` is necessary)

In the Rust (`adf.rs:846-853`) a heuristic answer `None` sets `backtrack = true`: the current partial
interpretation is treated like a conflict - the stack is popped down to the last choice (learning the popped
entries as nogoods), or, if the stack is empty, the search ends.  `NConc.cChoice` models exactly that
(`cIter_none`).  A built-in heuristic answers `None` only when nothing is undecided (`heuCall_none`), and
then the classification step would not have asked.  A custom heuristic that answers `None` while a statement
is undecided abandons the whole subtree below the current interpretation, models included.

`first_call_none_loses_everything`: for EVERY framework that has two different target models (so the grounded
interpretation leaves something undecided) and EVERY heuristic that answers `None` when it is first asked,
the search halts with the EMPTY result.  Hence `HeuOK.total` cannot be dropped from
`search_exact_any_heuristic`.

Proof: up to its first heuristic call the run is the run of any reference heuristic (`cState_congr`); on
that stretch nothing is pushed, learned or emitted (`pre_invariant`: the closure over an empty nogood store
is `NoUpdate` - `closureF_empty` -, and a leaf or a conflict before the first choice is impossible when two
models exist, by the invariant `NGen.SInv` of the simulated semantic machine); so at the first call the stack
is empty and `None` ends the search. -/
namespace NConc
open NSem

theorem cIter_congr (h1 h2 : CHeu) (n : Nat) (ac : List Nat) (stable : Bool) (st : SM.NgS) (hc : st.choice = false) :
    cIter h1 n ac stable st = cIter h2 n ac stable st := by
  unfold cIter cChoice; simp [hc]

/-- **`None` is treated as a conflict**: the iteration continues exactly as if `backtrack` had been set -/
theorem cIter_none (hc : CHeu) (n : Nat) (ac : List Nat) (stable : Bool) (st : SM.NgS) (hch : st.choice = true)
    (hn : hc st.s st.cur st.time = none) :
    cIter hc n ac stable st =
      cIter hc n ac stable { st with choice := false, backtrack := true, trace := st.trace ++ [st.cur], time := st.time + 1 } := by
  unfold cIter cChoice; simp [hch, hn]

/-- an answer `None` on an empty stack ends the search with what has been emitted so far -/
theorem cIter_none_empty_stack (hc : CHeu) (n : Nat) (ac : List Nat) (stable : Bool) (st : SM.NgS) (hch : st.choice = true)
    (hn : hc st.s st.cur st.time = none) (hs : st.stack = []) :
    (cIter hc n ac stable st).done = true ∧ (cIter hc n ac stable st).out = st.out := by
  unfold cIter cChoice; simp [hch, hn, hs]

theorem conclusions_empty (m : Nat) (A : PA) : conclusions (List.replicate m ([] : List PA)) A = some A :=
  conclusions_allclosed_gen _ A fun bk hb g hg => by
    rw [List.eq_of_mem_replicate (List.mem_of_mem_take hb)] at hg; cases hg

theorem conclusionClosure_empty (m : Nat) (A : PA) :
    conclusionClosure (List.replicate m ([] : List PA)) A = Closure.noUpdate := by
  unfold conclusionClosure
  rw [conclusions_empty]
  simp only [updateVec_self_flag]
  rfl

theorem closureF_empty (m : Nat) (v : List Nat) : SM.closureF (List.replicate m ([] : List PA)) v = ClosT.noUpdate := by
  rw [closureF_eq, conclusionClosure_empty]; rfl

/-- nothing has been pushed, learned or emitted yet -/
structure Pre (n : Nat) (c : SM.NgS) : Prop where
  time : c.time = 0
  out : c.out = []
  stack : c.stack = []
  buckets : c.buckets = List.replicate (n + 1) []
  bt : c.backtrack = false
  nd : c.done = false

/-- one iteration from such a state (no choice pending): either the state is still of that kind, or the
iteration ended in a conflict / a leaf: not done, `backtrack` set, at most one output, only non-choice stack entries -/
theorem cIter_pre (hc : CHeu) (n : Nat) (ac : List Nat) (stable : Bool) (c : SM.NgS) (hp : Pre n c) (hch : c.choice = false) :
    Pre n (cIter hc n ac stable c) ∨
    ((cIter hc n ac stable c).done = false ∧ (cIter hc n ac stable c).backtrack = true ∧
      (cIter hc n ac stable c).out.length ≤ 1 ∧ ∀ e ∈ (cIter hc n ac stable c).stack, e.1 = false) := by
  have e1 : cChoice hc c = c := by unfold cChoice; simp [hch]
  have e2 : cBack c = c := by unfold cBack; simp [hp.bt]
  have e3 : cIter hc n ac stable c = cTail n ac stable c := by
    unfold cIter
    simp only [e1, hp.bt, Bool.false_and, Bool.false_eq_true, if_false, e2]
  rw [e3]
  unfold cTail
  rw [hp.buckets, closureF_empty]
  simp only
  unfold cFinal
  simp only
  split
  · right
    exact ⟨hp.nd, rfl, by simp [hp.out], by simp [hp.stack]⟩
  · unfold cProp
    simp only
    split
    · left; exact ⟨hp.time, hp.out, hp.stack, hp.buckets, hp.bt, hp.nd⟩
    · simp only [Bool.false_eq_true, if_false]
      rcases cClass_cases n ac stable
        { c with s := (applyInterp (applyInterp c.s c.cur ac).1 c.cur c.cur).1,
                 cur := (applyInterp (applyInterp c.s c.cur ac).1 c.cur c.cur).2 } with hq | ⟨s', hq⟩ | ⟨s', hq⟩
      · left; rw [hq]; exact ⟨hp.time, hp.out, hp.stack, hp.buckets, hp.bt, hp.nd⟩
      · right; rw [hq]
        exact ⟨hp.nd, rfl, by simp [hp.out], by simp [hp.stack]⟩
      · right; rw [hq]
        exact ⟨hp.nd, rfl, by simp [hp.out], by simp [hp.stack]⟩

theorem stackRel_no_choice {s : Store} {st : List (Bool × PA)} {hs : List (List Nat)} {as : List AEntry}
    (h : StackRel s st hs as) (hf : ∀ e ∈ st, e.1 = false) : ∀ e ∈ as, e.choice = none := by
  induction h with
  | nil hs => intro e he; cases he
  | plain g rest hs as _ ih => exact List.forall_mem_cons.mpr ⟨rfl, ih (List.forall_mem_cons.mp hf).2⟩
  | choice g rest x hs v b as _ _ => cases (List.forall_mem_cons.mp hf).1

theorem exists_least {p : Nat → Prop} (m : Nat) : p m → ∃ k, p k ∧ ∀ j, j < k → ¬ p j := by
  induction m using Nat.strongRecOn with
  | _ m ih =>
    intro hm
    by_cases h : ∃ j, j < m ∧ p j
    · obtain ⟨j, hj, hpj⟩ := h
      exact ih j hj hpj
    · exact ⟨m, hm, fun j hj hp => h ⟨j, hj, hp⟩⟩

section run
variable (h : CHeu) (s : Store) (n : Nat) (ac : List Nat) (stable : Bool)

/-- before the first heuristic call nothing is pushed, learned or emitted, provided two different target models exist -/
theorem pre_invariant (hok : HeuOK h) (w0 : WF s) (hac0 : ∀ t ∈ ac, t < s.nodes.size) (hn : ac.length = n)
    (hS : stable = false → ∀ f ∈ ac.map (eval s), Supp n f)
    (σ1 σ2 : Asg) (h1 : Target (ac.map (eval s)) n stable σ1) (h2 : Target (ac.map (eval s)) n stable σ2)
    (i : Nat) (hi : i < n) (hne : σ1 i ≠ σ2 i) :
    ∀ k, (∀ j, j < k → (cState h s n ac stable j).choice = false) → Pre n (cState h s n ac stable k) := by
  intro k
  induction k with
  | zero => intro _; exact ⟨rfl, rfl, rfl, rfl, rfl, rfl⟩
  | succ k ih =>
    intro hall
    have hp := ih (fun j hj => hall j (by omega))
    have hch := hall k (by omega)
    have hnext := cState_succ_running h s n ac stable hp.nd
    rw [hnext]
    rcases cIter_pre h n ac stable _ hp hch with hgood | ⟨hnd, hbt, hlen, hstk⟩
    · exact hgood
    · exfalso
      -- the run is alive, so it is related to a state of the semantic machine that satisfies that machine's invariant
      have ⟨_, _, hokv, hg⟩ := init_facts s n ac stable w0 hac0 hn
      obtain ⟨-, -, hd | ⟨a, hr, hi', hs⟩⟩ := After.cState_rel h hok s n ac stable w0 hac0 hn
        (NGen.SInv (Target (ac.map (eval s)) n stable) (PP s n ac stable (rawOf h s n ac stable)))
        (NGen.inv_init _ _ hg hokv (NgStore.new_inv n) (NgStore.new_not_stored n))
        (fun k _ _ => NGen.iter_inv (sem_sound (by simp [hn]) hS _) k) (k + 1)
      · rw [hnext, hnd] at hd; cases hd
      rw [hnext] at hr hi'
      have habt : a.backtrack = true := by rw [hr.bt]; exact hbt
      have hnoch := stackRel_no_choice hr.stack hstk
      -- every target model has been reported
      obtain ⟨o1, ho1, hm1⟩ := hs.toQ.all_reported habt hnoch σ1 h1
      obtain ⟨o2, ho2, hm2⟩ := hs.toQ.all_reported habt hnoch σ2 h2
      have hlen' : a.out.length ≤ 1 := by rw [hr.out, List.length_map]; exact hlen
      obtain ⟨x, hx⟩ := List.length_eq_one_iff.mp (Nat.le_antisymm hlen' (List.length_pos_of_mem ho1))
      have e1 : o1 = x := List.mem_singleton.mp (hx ▸ ho1)
      obtain rfl : o1 = o2 := e1.trans (List.mem_singleton.mp (hx ▸ ho2)).symm
      have ⟨htv, hol⟩ := hs.outTV o1 ho1
      have hol' : o1.length = n := hol
      obtain ⟨b, hb⟩ := twoV_true htv i (by rw [hol']; exact hi)
      have hpg : pget o1 i = some b := pget_eq_some.mpr hb
      exact hne ((hm1 i b hpg).trans (hm2 i b hpg).symm)

theorem cState_congr (hc : CHeu) : ∀ k, (∀ j, j < k → (cState h s n ac stable j).choice = false) →
    cState hc s n ac stable k = cState h s n ac stable k := by
  intro k
  induction k with
  | zero => intro _; rfl
  | succ k ih =>
    intro hall
    have e := ih (fun j hj => hall j (by omega))
    rw [cState_succ, cState_succ, e]
    rw [cIter_congr hc h n ac stable _ (hall k (by omega))]

end run

/-- **`HeuOK.total` is necessary.** Take any framework with two different target models (stable models resp.
two-valued models, differing on a statement `i < n`) and any heuristic `hc` that answers `None` the first
time it is asked.  Then the search halts, and its result is EMPTY: every model is lost.  (The reference
heuristic `SM.Heu.simple` only serves to name the iteration in which the first call happens.) -/
theorem first_call_none_loses_everything (hc : CHeu) (hfirst : ∀ st v, hc st v 0 = none)
    (s : Store) (n : Nat) (ac : List Nat) (stable : Bool)
    (w0 : WF s) (hn : ac.length = n) (hac0 : ∀ t ∈ ac, t < s.nodes.size)
    (hsup : stable = false → ∀ t ∈ ac, ∀ σ τ : Asg, (∀ i, i < n → σ i = τ i) → eval s t σ = eval s t τ)
    (σ1 σ2 : Asg) (h1 : Target (ac.map (eval s)) n stable σ1) (h2 : Target (ac.map (eval s)) n stable σ2)
    (i : Nat) (hi : i < n) (hne : σ1 i ≠ σ2 i) :
    ∃ fuel, (cSearch hc fuel s n ac stable).2.2.2 = true ∧ (cSearch hc fuel s n ac stable).2.1 = [] := by
  have hS : stable = false → ∀ f ∈ ac.map (eval s), Supp n f := by
    intro hst f hf
    obtain ⟨t, ht, rfl⟩ := List.mem_map.mp hf
    exact hsup hst t ht
  let h : CHeu := SM.heuCall SM.Heu.simple
  have hok : HeuOK h := heuOK_builtin _
  have hpre := pre_invariant h s n ac stable hok w0 hac0 hn hS σ1 σ2 h1 h2 i hi hne
  -- the reference run halts, so it makes a first heuristic call
  obtain ⟨m, hdone, _⟩ := search_exact_any_heuristic h hok s n ac stable w0 hn hac0 hsup
  have hex : ∃ j, (cState h s n ac stable j).choice = true := by
    false_or_by_contra
    rename_i hno
    have := (hpre m (fun j _ => Bool.eq_false_iff.mpr fun hcj => hno ⟨j, hcj⟩)).nd
    have hd : (cState h s n ac stable m).done = true := hdone
    rw [hd] at this; cases this
  obtain ⟨j0, hj0⟩ := hex
  obtain ⟨k0, hk0, hleast⟩ := exists_least (p := fun j => (cState h s n ac stable j).choice = true) j0 hj0
  have hall : ∀ j, j < k0 → (cState h s n ac stable j).choice = false :=
    fun j hj => Bool.eq_false_iff.mpr (hleast j hj)
  have hp := hpre k0 hall
  have hsame := cState_congr h s n ac stable hc k0 hall
  have hnext : cState hc s n ac stable (k0 + 1) = cIter hc n ac stable (cState h s n ac stable k0) := by
    rw [cState_succ_running hc s n ac stable (hsame ▸ hp.nd), hsame]
  have hnone : hc (cState h s n ac stable k0).s (cState h s n ac stable k0).cur (cState h s n ac stable k0).time = none := by
    rw [hp.time]; exact hfirst _ _
  have ⟨hd, ho⟩ := cIter_none_empty_stack hc n ac stable _ hk0 hnone hp.stack
  refine ⟨k0 + 1, ?_, ?_⟩
  · show (cState hc s n ac stable (k0 + 1)).done = true
    rw [hnext]; exact hd
  · show (cState hc s n ac stable (k0 + 1)).out = []
    rw [hnext, ho]; exact hp.out

theorem sigOf_ne {v1 v2 : I3} (t1 : TotalI v1) (t2 : TotalI v2) {i : Nat} (h1 : i < v1.length) (h2 : i < v2.length)
    (hne : v1[i]? ≠ v2[i]?) : sigOf v1 i ≠ sigOf v2 i := by
  obtain ⟨b1, e1⟩ := t1 i h1
  obtain ⟨b2, e2⟩ := t2 i h2
  have p1 : pget v1 i = some b1 := pget_eq_some.mpr e1
  have p2 : pget v2 i = some b2 := pget_eq_some.mpr e2
  simp only [sigOf, p1, p2, Option.getD_some]
  intro e; subst e
  exact hne (e1.trans e2.symm)

/-- the same in the vocabulary of `ng_search_exact`: `v1`, `v2` are two different interpretations satisfying the
right-hand side of the exactness theorem (so a search with a total heuristic emits both) -/
theorem first_call_none_models (hc : CHeu) (hfirst : ∀ st v, hc st v 0 = none)
    (s : Store) (n : Nat) (ac : List Nat) (stable : Bool)
    (w0 : WF s) (hn : ac.length = n) (hac0 : ∀ t ∈ ac, t < s.nodes.size)
    (hsup : stable = false → ∀ t ∈ ac, ∀ σ τ : Asg, (∀ i, i < n → σ i = τ i) → eval s t σ = eval s t τ)
    (v1 v2 : I3) (hne : v1 ≠ v2)
    (m : ∀ v, v = v1 ∨ v = v2 → (v.length = n ∧ TotalI v ∧ Gam (ac.map (eval s)) v = v ∧
          (stable = true → ∀ w : I3, IsLfp (redu (ac.map (eval s)) v) w → ∀ i : Nat, v[i]? = some (some true) → w[i]? = some (some true)))) :
    ∃ fuel, (cSearch hc fuel s n ac stable).2.2.2 = true ∧ (cSearch hc fuel s n ac stable).2.1 = [] := by
  have hDl : (ac.map (eval s)).length = n := by simp [hn]
  obtain ⟨l1, t1, f1, c1⟩ := m v1 (Or.inl rfl)
  obtain ⟨l2, t2, f2, c2⟩ := m v2 (Or.inr rfl)
  have ⟨i, hi, hd⟩ : ∃ i, i < n ∧ v1[i]? ≠ v2[i]? := by
    false_or_by_contra
    rename_i hno
    apply hne
    apply List.ext_getElem?
    intro i
    rcases Nat.lt_or_ge i n with hi | hi
    · false_or_by_contra
      rename_i hx
      exact hno ⟨i, hi, hx⟩
    · rw [List.getElem?_eq_none (by omega), List.getElem?_eq_none (by omega)]
  exact first_call_none_loses_everything hc hfirst s n ac stable w0 hn hac0 hsup (sigOf v1) (sigOf v2)
    (target_of_model hDl l1 t1 f1 c1) (target_of_model hDl l2 t2 f2 c2) i hi
    (sigOf_ne t1 t2 (by omega) (by omega) hd)

/-- `first_call_none_models` for written acceptance conditions (`from_parser` model) -/
theorem first_call_none_compiled (hc : CHeu) (hfirst : ∀ st v, hc st v 0 = none) (fms : List Fm) (stable : Bool)
    (hn : fms.length ≤ VBOT) (hv : ∀ f ∈ fms, atomsLt fms.length f)
    (v1 v2 : I3) (hne : v1 ≠ v2)
    (m : ∀ v, v = v1 ∨ v = v2 → (v.length = fms.length ∧ TotalI v ∧ Gam (fms.map Fm.sem) v = v ∧
          (stable = true → ∀ w : I3, IsLfp (redu (fms.map Fm.sem) v) w → ∀ i : Nat, v[i]? = some (some true) → w[i]? = some (some true)))) :
    ∃ fuel, (cSearch hc fuel (buildNative fms.length fms).1 fms.length (buildNative fms.length fms).2 stable).2.2.2 = true ∧
      (cSearch hc fuel (buildNative fms.length fms).1 fms.length (buildNative fms.length fms).2 stable).2.1 = [] := by
  have ⟨w, hl, hvalid, e, hsup⟩ := compiled_facts fms hn hv
  exact first_call_none_models hc hfirst _ fms.length _ stable w hl hvalid (fun _ => hsup) v1 v2 hne (e.symm ▸ m)

end NConc
#print axioms NConc.first_call_none_loses_everything
