import AdfObdd.ServerProofs
/-! # C16 — the success path of the background tasks (any environment)

What the final `update_one` of a parse / solve task stores when the library call succeeded, that it
touches the addressed document and (for a solve task) the addressed strategy only, and that `GET`
returns what is stored. Everything here holds in EVERY server state `db` (hence in every reachable
one) and for every environment; `ServerConcreteProofs.lean` instantiates it with the concrete
library models. -/
namespace ServerM

theorem Results.get_set_same {R : Type} (r : Results R) (s : Strategy) (v : OWE R) : (r.set s v).get s = v := by
  cases s <;> rfl

theorem Results.get_set_other {R : Type} (r : Results R) (s s' : Strategy) (v : OWE R) (h : s' ≠ s) :
    (r.set s v).get s' = r.get s' := by
  cases s <;> cases s' <;> first | rfl | exact absurd rfl h

section
variable {T H A R : Type} [DecidableEq T]

theorem find_updFirst_same {α : Type} (q : α → Bool) (f : α → α) (hq : ∀ x, q x = true → q (f x) = true) :
    ∀ l : List α, (updFirst q f l).find? q = (l.find? q).map f := by
  intro l
  fun_induction updFirst q f l with
  | case1 => rfl
  | case2 x xs h => simp [h, hq x h]
  | case3 x xs h ih => simp [h, ih]

/-- the first `q'`-match stays, unless it is also the first `q`-match: then it is updated in place -/
theorem find_updFirst {α : Type} (q q' : α → Bool) (f : α → α) (hf : ∀ x, q' (f x) = q' x) (l : List α) :
    (updFirst q f l).find? q' = l.find? q' ∨
      ∃ y, l.find? q' = some y ∧ l.find? q = some y ∧ (updFirst q f l).find? q' = some (f y) := by
  induction l with
  | nil => exact Or.inl rfl
  | cons x xs ih =>
    cases hq' : q' x with
    | true =>
      cases hq : q x with
      | true => exact Or.inr ⟨x, by simp [hq'], by simp [hq], by simp [updFirst, hq, hf, hq']⟩
      | false => exact Or.inl (by simp [updFirst, hq, hq'])
    | false =>
      cases hq : q x with
      | true => exact Or.inl (by simp [updFirst, hq, hf, hq'])
      | false =>
        simp only [updFirst, hq, Bool.false_eq_true, if_false, List.find?_cons, hq']
        exact ih

theorem isProb_apply (u n : T) (w : Write A R) (p : Problem T A R) : isProb u n (w.apply p) = isProb u n p := by
  cases w <;> rfl

theorem isProb_other {u n u' n' : T} (h : ¬ (u' = u ∧ n' = n)) (p : Problem T A R) (hp : isProb u n p = true) :
    isProb u' n' p = false := by
  simp only [isProb, Bool.and_eq_true, decide_eq_true_eq] at hp
  simp only [isProb, Bool.and_eq_false_iff, decide_eq_false_iff_not]
  rcases hp with ⟨h1, h2⟩
  by_cases hn : n' = n
  · right; rw [h2]; intro e; exact h ⟨e.symm, hn⟩
  · left; rw [h1]; intro e; exact hn e.symm

theorem dbEv_write (E : Env T H A R) (db : Db T H A R) (j n : Nat) (t : TaskRec T A)
    (ht : nthOf j n db.tasks = some t) (hlive : t.blockingDone = true ∧ t.written = false) :
    (dbEv E db (.write j n)).problems =
      updFirst (isProb t.username t.name) (taskWrite E t.input).apply db.problems := by
  simp only [dbEv, ht, hlive.1, hlive.2, Bool.not_false, Bool.and_self, if_true, exec]

/-- **the write lands**: if a document carries the task's key at that moment, the first such document
receives the task's outcome -/
theorem write_lands (E : Env T H A R) (db : Db T H A R) (j n : Nat) (t : TaskRec T A)
    (ht : nthOf j n db.tasks = some t) (hlive : t.blockingDone = true ∧ t.written = false)
    (p : Problem T A R) (hp : db.problems.find? (isProb t.username t.name) = some p) :
    (dbEv E db (.write j n)).problems.find? (isProb t.username t.name) = some ((taskWrite E t.input).apply p) := by
  rw [dbEv_write E db j n t ht hlive, find_updFirst_same _ _ (fun x hx => by rw [isProb_apply]; exact hx), hp]
  rfl

/-- **a successful parse task stores the parse result**: the final write of a parse task whose
library call returned `(a, r)` puts `a` into `adf` and `r` into `acs_per_strategy.parse_only` of the
addressed document; name, owner, code, parsing and all strategy results stay as they were -/
theorem parse_success_stored (E : Env T H A R) (db : Db T H A R) (j n : Nat) (t : TaskRec T A) (code : T)
    (parsing : Parsing) (a : A) (r : R) (ht : nthOf j n db.tasks = some t) (hin : t.input = .parse code parsing)
    (hlive : t.blockingDone = true ∧ t.written = false) (hok : E.parse parsing code = .ok (a, r))
    (p : Problem T A R) (hp : db.problems.find? (isProb t.username t.name) = some p) :
    (dbEv E db (.write j n)).problems.find? (isProb t.username t.name) =
      some { p with adf := .some a, parseOnly := .some r } := by
  rw [write_lands E db j n t ht hlive p hp, hin]
  simp only [taskWrite, hok]
  rfl

/-- **a successful solve task stores the library's answer under its strategy**: the final write of a
solve task for strategy `s` on the ADF `a` it was spawned with, whose library call returned `r`, sets
`acs_per_strategy.<s>` of the addressed document to `r` — the stored ADF, the parse-only result,
the code and the results of the other strategies (`solve_write_other_strategies`) stay as they were -/
theorem solve_success_stored (E : Env T H A R) (db : Db T H A R) (j n : Nat) (t : TaskRec T A) (a : A)
    (s : Strategy) (r : R) (ht : nthOf j n db.tasks = some t) (hin : t.input = .solve a s)
    (hlive : t.blockingDone = true ∧ t.written = false) (hok : E.solve a s = .ok r)
    (p : Problem T A R) (hp : db.problems.find? (isProb t.username t.name) = some p) :
    (dbEv E db (.write j n)).problems.find? (isProb t.username t.name) =
      some { p with res := p.res.set s (.some r) } := by
  rw [write_lands E db j n t ht hlive p hp, hin]
  simp only [taskWrite, hok]
  rfl

theorem solve_write_other_strategies (p : Problem T A R) (s s' : Strategy) (v : OWE R) (h : s' ≠ s) :
    ({ p with res := p.res.set s v } : Problem T A R).res.get s' = p.res.get s' :=
  Results.get_set_other _ _ _ _ h

/-- **the write lands nowhere else**: the document any OTHER (user, problem name) pair addresses is the same
before and after the write of a task (whatever the task, whatever it computed) -/
theorem write_elsewhere_unchanged (E : Env T H A R) (db : Db T H A R) (j n : Nat) (u' n' : T)
    (h : ∀ t, nthOf j n db.tasks = some t → ¬ (u' = t.username ∧ n' = t.name)) :
    (dbEv E db (.write j n)).problems.find? (isProb u' n') = db.problems.find? (isProb u' n') := by
  rcases dbEv_task E db db (.write j n) rfl with h0 | ⟨t, ht, ⟨_, _, _, he⟩ | ⟨_, w, hd, _⟩⟩
  · rw [h0.1]
  · cases he
  · rw [hd]
    rcases find_updFirst _ _ _ (isProb_apply u' _ w) db.problems with h' | ⟨y, hy, hy', _⟩
    · exact h'
    · have := isProb_other (h t ht) y (List.find?_some hy')
      rw [List.find?_some hy] at this
      cases this

theorem write_users_running (E : Env T H A R) (db : Db T H A R) (j n : Nat) :
    (dbEv E db (.write j n)).users = db.users ∧ (dbEv E db (.write j n)).running = db.running := by
  refine ⟨dbEv_users E db _, ?_⟩
  rcases dbEv_task E db db (.write j n) rfl with h0 | ⟨t, _, ⟨_, _, _, he⟩ | ⟨_, w, hd, _⟩⟩
  · rw [h0.1]
  · cases he
  · rw [hd]; rfl

/-- **`GET /adf/{name}` returns what is stored**: for the owner of a stored document the response is
200 with the document's code, parsing, parse-only result and the results of all six strategies -/
theorem get_returns_stored (E : Env T H A R) (st : State T H A R) (jar : Nat) (u name : T) (p : Problem T A R)
    (hs : st.sess jar = some u) (hf : st.db.problems.find? (isProb u name) = some p) :
    ∃ ts, (step E st ⟨jar, .get name⟩).2 = ⟨200, .keep, .problem ⟨p.name, p.code, p.parsing, p.parseOnly, p.res, ts⟩⟩ ∧
      (step E st ⟨jar, .get name⟩).1.db = st.db := by
  refine ⟨(exec st.db (.rTasks p.username p.name : Cmd T H A R)).2, ?_, ?_⟩ <;>
    simp only [step, stepT, handler, hGet, hs, run, exec, hf, infoOf]

theorem get_no_change (E : Env T H A R) (st : State T H A R) (jar : Nat) (name : T) :
    (step E st ⟨jar, .get name⟩).1.db = st.db := by
  simp only [step, stepT, handler, hGet]
  cases hs : st.sess jar with
  | none => rfl
  | some u =>
    simp only [run, exec]
    cases hf : st.db.problems.find? (isProb u name) with
    | none => rfl
    | some p => rfl

theorem hSolve_run (jar : Nat) (id : Option T) (name : T) (s : Strategy) (db : Db T H A R) :
    ((run (hSolve (H := H) jar id name s) db).1 = db ∧ (run (hSolve (H := H) jar id name s) db).2.1.status ≠ 200) ∨
    ∃ u p a, id = some u ∧ db.problems.find? (isProb u name) = some p ∧ p.adf = .some a ∧
      (run (hSolve (H := H) jar id name s) db).1 =
        (exec db (.spawn { jar := jar, username := u, name := name, input := .solve a s })).1 := by
  unfold hSolve
  cases id with
  | none => exact Or.inl ⟨rfl, by show (401 : Nat) ≠ 200; decide⟩
  | some u =>
    simp only [run, exec]
    cases hf : db.problems.find? (isProb u name) with
    | none => exact Or.inl ⟨rfl, by show (404 : Nat) ≠ 200; decide⟩
    | some p =>
      simp only
      cases ha : p.adf with
      | none | error _ => exact Or.inl ⟨rfl, by show (400 : Nat) ≠ 200; decide⟩
      | some a =>
        simp only [run, exec]
        by_cases hb : ((p.res.get s).isSome || db.running.any (isInfo ⟨u, name, .solve s⟩)) = true
        · simp only [hb, if_true]; exact Or.inl ⟨rfl, by show (409 : Nat) ≠ 200; decide⟩
        · simp only [hb, Bool.false_eq_true, if_false, run, exec]
          exact Or.inr ⟨u, p, a, rfl, hf, ha, rfl⟩

/-- **the solve request spawns the task on the STORED framework**: if `PUT /adf/{name}/solve` is
accepted (200), the addressed document exists, holds a stored ADF `a`, and the task appended to the
task list is `solve a s` for exactly this user, problem and strategy; nothing else changes -/
theorem solve_accepted (E : Env T H A R) (st : State T H A R) (jar : Nat) (name : T) (s : Strategy)
    (h : (step E st ⟨jar, .solve name s⟩).2.status = 200) :
    ∃ u p a, st.sess jar = some u ∧ st.db.problems.find? (isProb u name) = some p ∧ p.adf = .some a ∧
      (step E st ⟨jar, .solve name s⟩).1.db.tasks =
        st.db.tasks ++ [{ jar := jar, username := u, name := name, input := .solve a s }] ∧
      (step E st ⟨jar, .solve name s⟩).1.db.problems = st.db.problems := by
  rcases hSolve_run (H := H) jar (st.sess jar) name s st.db with ⟨_, hne⟩ | ⟨u, p, a, hid, hf, ha, hd⟩
  · exact absurd h hne
  · have hd' : (step E st ⟨jar, .solve name s⟩).1.db = _ := hd
    exact ⟨u, p, a, hid, hf, ha, by rw [hd']; rfl, by rw [hd']; rfl⟩

end
end ServerM
