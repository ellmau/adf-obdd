import AdfObdd.PathsDepth
import AdfObdd.Cubes
/-! On a structurally well-formed table the dependency list of a handle unfolds along its node;
    `DepsUpTo` is the invariant of the loops that build a table of such lists node by node. -/

theorem depsOf_congr {s s' : Store} (h : s'.nodes = s.nodes) (t : Nat) : depsOf s' t = depsOf s t :=
  depsF_congr h _ _

theorem terminal_var {ns : Array Node} (w : TableWF ns) {k : Nat} {n : Node} (hk : k < 2) (hn : ns[k]? = some n) :
    VBOT ≤ n.var := by
  match k, hk with
  | 0, _ => rw [w.bot] at hn; cases hn; exact Nat.le_refl _
  | 1, _ => rw [w.top] at hn; cases hn; decide

theorem depsOf_const (s : Store) (t : Nat) (h : t < 2) : depsOf s t = [] := by
  unfold depsOf depsF; rw [if_pos h]

theorem depsOf_node (s : Store) (w : TableWF s.nodes) (t : Nat) (n : Node) (ht2 : 2 ≤ t) (hn : s.nodes[t]? = some n) :
    depsOf s t = n.var :: (depsOf s n.lo ++ depsOf s n.hi) := depsF_node' s w t n ht2 hn

theorem getD_push_lt {α : Type} {d : α} (tbl : Array α) (e : α) (i : Nat) (hi : i < tbl.size) :
    (tbl.push e).getD i d = tbl.getD i d := by
  rw [Array.getD_eq_getD_getElem?, Array.getD_eq_getD_getElem?, Array.getElem?_push, if_neg (by omega)]
theorem getD_push_eq {α : Type} {d : α} (tbl : Array α) (e : α) : (tbl.push e).getD tbl.size d = e := by
  rw [Array.getD_eq_getD_getElem?, Array.getElem?_push, if_pos rfl]; rfl

/-- the loop invariant of `generate_var_dependencies` and of the pushes of `Bdd::node`: the table has `k`
entries and entry `i` stands in the relation `R` to the recursive dependency list of handle `i` (`R` is equality
where the model's entries are these lists, "same members" where they are sets) -/
def DepsUpTo (R : List Nat → List Nat → Prop) (s : Store) (k : Nat) (tbl : Array (List Nat)) : Prop :=
  tbl.size = k ∧ ∀ i, i < k → R (tbl.getD i []) (depsOf s i)

theorem DepsUpTo.empty (R : List Nat → List Nat → Prop) (s : Store) : DepsUpTo R s 0 #[] :=
  ⟨rfl, fun _ h => absurd h (Nat.not_lt_zero _)⟩

theorem DepsUpTo.push {R : List Nat → List Nat → Prop} {s : Store} {k : Nat} {tbl : Array (List Nat)}
    (hd : DepsUpTo R s k tbl) {e : List Nat} (he : R e (depsOf s k)) : DepsUpTo R s (k+1) (tbl.push e) := by
  obtain ⟨hsz, hmem⟩ := hd
  refine ⟨by rw [Array.size_push, hsz], fun i hi => ?_⟩
  by_cases hlt : i < k
  · rw [getD_push_lt _ _ _ (by omega)]; exact hmem i hlt
  · obtain rfl : i = tbl.size := by omega
    rw [getD_push_eq, hsz]; exact he
