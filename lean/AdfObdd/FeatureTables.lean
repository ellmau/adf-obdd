import AdfObdd.FeatureVariants
import AdfObdd.PathsDepth
import AdfObdd.NodeTable
/-! C12, the feature-dependent tables: `var_deps` (with `variablelist`) and `count_cache`
    (filled ad hoc in `node` with `adhoccounting`, by `modelcount_memoization` otherwise).
    Invariants `DepsOK`, `CntOK`, `CntFull`, `CntZero`; pushing a node keeps the dependency table
    exact and its regeneration loop rebuilds it; the memoised count and the cached depth return the
    naive values. Only the structural invariant of the bare node table (`TableWF`) is needed. -/

theorem CN.combine_eq (l h : CN) :
    CN.combine l h =
      ⟨l.cm * 2 ^ (max l.depth h.depth - l.depth) + h.cm * 2 ^ (max l.depth h.depth - h.depth),
       l.m * 2 ^ (max l.depth h.depth - l.depth) + h.m * 2 ^ (max l.depth h.depth - h.depth),
       l.pcm + h.pcm, l.pm + h.pm, max l.depth h.depth + 1⟩ := by
  unfold CN.combine
  by_cases hd : l.depth > h.depth
  · rw [if_pos hd, if_pos hd, Nat.max_eq_left (Nat.le_of_lt hd), Nat.sub_self]
  · rw [if_neg hd, if_neg hd, Nat.max_eq_right (Nat.le_of_not_lt hd), Nat.sub_self]

theorem naiveCN_eq (s : Store) : ∀ (fuel t : Nat),
    naiveCN s fuel t = ⟨(countF s fuel t).1, (countF s fuel t).2.1, (pathsF s fuel t).1, (pathsF s fuel t).2,
                        (countF s fuel t).2.2⟩ := by
  intro fuel t
  fun_induction naiveCN s fuel t with
  | case1 => rfl
  | case2 => rw [countF_one, pathsF_one]; simp [CN.top]
  | case3 => rw [countF_zero, pathsF_zero]; simp [CN.bot]
  | case4 f t h1 h0 hn => unfold countF pathsF; simp [h0, h1, hn, CN.zero]
  | case5 f t h1 h0 n hn ihlo ihhi =>
    rw [countF_node s f t n (by omega) hn, pathsF_node s f t n (by omega) hn]
    rw [CN.combine_eq, ihlo, ihhi]

/-- the five numbers are a fold of `CN.combine` -/
def cnG : Memo.Meas CN := ⟨CN.zero, CN.bot, CN.top, CN.zero, fun _ => CN.combine⟩

theorem naiveCN_eq_F (s : Store) : ∀ (fuel t : Nat), naiveCN s fuel t = cnG.F s fuel t :=
  Memo.F_unique cnG s (naiveCN s) (fun _ => rfl) (fun _ _ => rfl)

theorem naive_eq_val (s : Store) (t : Nat) : naive s t = cnG.val s t := naiveCN_eq_F s (t+1) t

theorem naive_one (s : Store) : naive s 1 = CN.top := by simp [naive, naiveCN]
theorem naive_zero (s : Store) : naive s 0 = CN.bot := by simp [naive, naiveCN]

theorem naiveCN_fuel (s : Store) (h : TableWF s.nodes) (t fuel : Nat) (hf : t < fuel) :
    naiveCN s fuel t = naive s t := by
  rw [naiveCN_eq_F, naive_eq_val]; exact Memo.F_eq_val _ s h hf

theorem naive_node (s : Store) (h : TableWF s.nodes) (t : Nat) (n : Node) (ht : 2 ≤ t)
    (hn : s.nodes[t]? = some n) : naive s t = CN.combine (naive s n.lo) (naive s n.hi) := by
  rw [naive_eq_val, naive_eq_val, naive_eq_val]; exact Memo.val_node _ s h ht hn

def ExtN (ns ns' : Array Node) : Prop := ∀ (i : Nat) (n : Node), ns[i]? = some n → ns'[i]? = some n

theorem naive_ext (s s' : Store) (h : TableWF s.nodes) (he : ExtN s.nodes s'.nodes) (t : Nat)
    (ht : t < s.nodes.size) : naive s' t = naive s t := by
  rw [naive_eq_val, naive_eq_val]; exact Memo.F_ext _ h he (t+1) t ht

theorem naive_congr {s s' : Store} (h : s'.nodes = s.nodes) (t : Nat) : naive s' t = naive s t := by
  rw [naive_eq_val, naive_eq_val]; exact Memo.F_congr _ h (t+1) t

theorem ExtN_push (ns : Array Node) (x : Node) : ExtN ns (ns.push x) := by
  intro i n hn
  have := lt_of_get hn
  rw [Array.getElem?_push, if_neg (by omega)]; exact hn

def CN.agree (em : Bool) (r x : CN) : Prop :=
  r.pcm = x.pcm ∧ r.pm = x.pm ∧ r.depth = x.depth ∧ (em = true → r.cm = x.cm ∧ r.m = x.m)

theorem CN.agree_refl (em : Bool) (x : CN) : CN.agree em x x := ⟨rfl, rfl, rfl, fun _ => ⟨rfl, rfl⟩⟩

theorem CN.agree_true {r x : CN} (h : CN.agree true r x) : r = x := by
  obtain ⟨a, b, c, d⟩ := h
  obtain ⟨d1, d2⟩ := d rfl
  cases r; cases x; simp_all

theorem CN.agree_weaken {em : Bool} {r x : CN} (h : CN.agree true r x) : CN.agree em r x := by
  rw [CN.agree_true h]; exact CN.agree_refl em x

theorem CN.agree_combine {em : Bool} {l h L H : CN} (hl : CN.agree em l L) (hh : CN.agree em h H) :
    CN.agree em (CN.combine l h) (CN.combine L H) := by
  obtain ⟨l1, l2, l3, l4⟩ := hl
  obtain ⟨h1, h2, h3, h4⟩ := hh
  rw [CN.combine_eq, CN.combine_eq]
  refine ⟨by simp only [l1, h1], by simp only [l2, h2], by simp only [l3, h3], ?_⟩
  intro he
  obtain ⟨l5, l6⟩ := l4 he
  obtain ⟨h5, h6⟩ := h4 he
  simp only [l3, h3, l5, l6, h5, h6, and_self]

theorem CN.agree_adhoc {em cm : Bool} {l h L H : CN} (hem : em = true → cm = true)
    (hl : CN.agree em l L) (hh : CN.agree em h H) :
    CN.agree em (CN.adhoc cm l h) (CN.combine L H) := by
  obtain ⟨l1, l2, l3, l4⟩ := hl
  obtain ⟨h1, h2, h3, h4⟩ := hh
  refine ⟨?_, ?_, ?_, ?_⟩
  · simp only [CN.adhoc, CN.combine, l1, h1]
  · simp only [CN.adhoc, CN.combine, l2, h2]
  · simp only [CN.adhoc, CN.combine, l3, h3]
  · intro he
    have hcm := hem he
    obtain ⟨l5, l6⟩ := l4 he
    obtain ⟨h5, h6⟩ := h4 he
    subst hcm
    unfold CN.adhoc CN.combine
    simp only [if_true, l3, h3, l5, l6, h5, h6]
    by_cases hd : L.depth > H.depth
    · simp only [hd, if_true, Nat.pow_zero, and_self]
    · simp only [hd, if_false, Nat.pow_zero, and_self]

/-- the documented exception: without `adhoccountmodels` the ad-hoc model components are 0 -/
theorem CN.adhoc_false_models (l h : CN) : (CN.adhoc false l h).cm = 0 ∧ (CN.adhoc false l h).m = 0 := by
  simp [CN.adhoc]

def CntOK (em : Bool) (s : Store) (c : CntCache) : Prop :=
  ∀ t r, c[t]? = some r → t < s.nodes.size ∧ CN.agree em r (naive s t)

/-- every handle has an entry (what the `.expect(…)`s of the ad-hoc bodies rely on) -/
def CntFull (s : Store) (c : CntCache) : Prop := ∀ t, t < s.nodes.size → ∃ r, c[t]? = some r

/-- every inner node has an entry whose model components are 0 (the exception configuration,
as long as nothing was imported) -/
def CntZero (s : Store) (c : CntCache) : Prop :=
  ∀ t, 2 ≤ t → t < s.nodes.size → ∃ r, c[t]? = some r ∧ r.cm = 0 ∧ r.m = 0

theorem CntOK.weaken {em : Bool} {s : Store} {c : CntCache} (h : CntOK true s c) : CntOK em s c :=
  fun t r hr => ⟨(h t r hr).1, CN.agree_weaken (h t r hr).2⟩

theorem CntOK_empty (em : Bool) (s : Store) : CntOK em s ∅ := by
  intro t r h; simp at h

theorem CntOK_ext {em : Bool} {s s' : Store} {c : CntCache} (h : TableWF s.nodes)
    (he : ExtN s.nodes s'.nodes) (hsz : s.nodes.size ≤ s'.nodes.size) (hc : CntOK em s c) : CntOK em s' c := by
  intro t r hr
  have ⟨a, b⟩ := hc t r hr
  exact ⟨by omega, by rw [naive_ext s s' h he t a]; exact b⟩

theorem CntOK_congr {em : Bool} {s s' : Store} {c : CntCache} (he : s'.nodes = s.nodes)
    (hc : CntOK em s c) : CntOK em s' c := by
  unfold CntOK
  simp only [he, naive_congr he]
  exact hc

theorem insert_cases (c : CntCache) (k : Nat) (x : CN) (t : Nat) :
    t = k ∧ (c.insert k x)[t]? = some x ∨ t ≠ k ∧ (c.insert k x)[t]? = c[t]? := by
  rw [Std.HashMap.getElem?_insert]
  by_cases h : k = t
  · exact Or.inl ⟨h.symm, if_pos (beq_iff_eq.mpr h)⟩
  · exact Or.inr ⟨fun e => h e.symm, if_neg (fun e => h (beq_iff_eq.mp e))⟩

theorem CntOK_insert {em : Bool} {s : Store} {c : CntCache} (hc : CntOK em s c) (t : Nat) (r : CN)
    (ht : t < s.nodes.size) (hr : CN.agree em r (naive s t)) : CntOK em s (c.insert t r) := by
  intro t' r' h
  rcases insert_cases c t r t' with ⟨rfl, e⟩ | ⟨_, e⟩ <;> rw [e] at h
  · cases h; exact ⟨ht, hr⟩
  · exact hc t' r' h

theorem memoCN_spec (em : Bool) (s : Store) (h : TableWF s.nodes) :
    ∀ (fuel : Nat) (c : CntCache) (t : Nat), CntOK em s c → t < s.nodes.size → t < fuel →
    CN.agree em (memoCN s fuel c t).1 (naive s t) ∧ CntOK em s (memoCN s fuel c t).2 ∧
    (∀ (k : Nat) (x : CN), c[k]? = some x → (memoCN s fuel c t).2[k]? = some x) ∧
    (2 ≤ t → ∃ r, (memoCN s fuel c t).2[t]? = some r) := by
  intro fuel c t
  fun_induction memoCN s fuel c t with
  | case1 => intro _ _ h; omega
  | case2 =>
    intro hc _ _; rw [naive_one]
    exact ⟨CN.agree_refl _ _, hc, fun _ _ hx => hx, fun h => by omega⟩
  | case3 =>
    intro hc _ _; rw [naive_zero]
    exact ⟨CN.agree_refl _ _, hc, fun _ _ hx => hx, fun h => by omega⟩
  | case4 f c t h1 h0 r hm => intro hc _ _; exact ⟨(hc t r hm).2, hc, fun _ _ hx => hx, fun _ => ⟨r, hm⟩⟩
  | case5 f c t h1 h0 hm hn => intro _ ht _; rw [Array.getElem?_eq_none_iff] at hn; omega
  | case6 f c t h1 h0 hm n hn L H r ih1 ih2 =>
    intro hc ht hf
    have ⟨_, hlo, hhi, _, _, _⟩ := h.inner t n (by omega) hn
    have ⟨a1, c1, m1, _⟩ := ih1 hc (by omega) (by omega)
    have ⟨a2, c2, m2, _⟩ := ih2 c1 (by omega) (by omega)
    have hag : CN.agree em r (naive s t) := by
      rw [naive_node s h t n (by omega) hn]; exact CN.agree_combine a1 a2
    refine ⟨hag, CntOK_insert c2 t _ ht hag, ?_, ?_⟩
    · intro k x hx
      rcases insert_cases H.2 t r k with ⟨rfl, _⟩ | ⟨_, e⟩
      · rw [hm] at hx; cases hx
      · rw [e]; exact m2 k x (m1 k x hx)
    · intro _; exact ⟨_, ((insert_cases H.2 t _ t).resolve_right fun h => h.1 rfl).2⟩

/-- `max_depth` at `repaired := true`, feature `adhoccounting` off: cached or recursive, the depth -/
theorem maxDepthC_exact (em : Bool) (s : Store) (h : TableWF s.nodes) (c : CntCache) (hc : CntOK em s c) :
    ∀ (fuel t : Nat), t < s.nodes.size → t < fuel → maxDepthC true s c fuel t = (naive s t).depth := by
  intro fuel t
  fun_induction maxDepthC true s c fuel t with
  | case1 => intro _ h; omega
  | case2 f t r hm => intro _ _; exact (hc t r hm).2.2.2.1
  | case3 f t hm h2 =>
    intro _ _
    have h01 : t = 0 ∨ t = 1 := by omega
    rcases h01 with h | h <;> subst h
    · rw [naive_zero]; rfl
    · rw [naive_one]; rfl
  | case4 f t hm h2 hn => intro ht _; rw [Array.getElem?_eq_none_iff] at hn; omega
  | case5 f t hm h2 n hn ihhi ihlo =>
    intro ht hf
    have ⟨_, hlo, hhi, _, _, _⟩ := h.inner t n (by omega) hn
    simp only [if_true]
    rw [ihhi (by omega) (by omega), ihlo (by omega) (by omega),
        naive_node s h t n (by omega) hn, CN.combine_eq]
    simp only
    rw [Nat.max_comm]

theorem mem_setUnion {a b : List Nat} {x : Nat} : x ∈ setUnion a b ↔ x ∈ a ∨ x ∈ b := by
  unfold setUnion
  rw [List.mem_append, List.mem_filter]
  constructor
  · rintro (h | ⟨h, _⟩)
    · exact Or.inl h
    · exact Or.inr h
  · rintro (h | h)
    · exact Or.inl h
    · by_cases ha : x ∈ a
      · exact Or.inl ha
      · refine Or.inr ⟨h, ?_⟩
        simpa using ha

theorem mem_setInsert {a : List Nat} {v x : Nat} : x ∈ setInsert v a ↔ x = v ∨ x ∈ a := by
  fun_cases setInsert v a with
  | case1 hc =>
    have := List.contains_iff_mem.mp hc
    constructor
    · exact Or.inr
    · rintro (h | h)
      · rw [h]; exact this
      · exact h
  | case2 => exact List.mem_cons

theorem mem_depsEntry {tbl : Array (List Nat)} {v lo hi x : Nat} :
    x ∈ depsEntry tbl v lo hi ↔ x = v ∨ x ∈ tbl.getD lo [] ∨ x ∈ tbl.getD hi [] := by
  unfold depsEntry; rw [mem_setInsert, mem_setUnion]

def DepsOK (s : Store) (tbl : Array (List Nat)) : Prop :=
  tbl.size = s.nodes.size ∧ ∀ i, i < s.nodes.size → ∀ x, x ∈ tbl.getD i [] ↔ x ∈ depsF s (i+1) i

/-- `var_deps` entries are sets: they are compared with the recursive lists by their members; `DepsOK` is
`DepsUpTo SameMem` at `k = s.nodes.size` -/
abbrev SameMem (a b : List Nat) : Prop := ∀ x, x ∈ a ↔ x ∈ b

theorem depsOf_ext (s s' : Store) (h : TableWF s.nodes) (he : ExtN s.nodes s'.nodes) (t : Nat)
    (ht : t < s.nodes.size) : depsOf s' t = depsOf s t := by
  unfold depsOf
  rw [Memo.depsF_eq_F, Memo.depsF_eq_F]; exact Memo.F_ext _ h he (t+1) t ht

theorem Memo.val_push {α : Type} (G : Memo.Meas α) (s s' : Store) (v lo hi : Nat) (h : TableWF s.nodes)
    (hs' : s'.nodes = s.nodes.push ⟨v, lo, hi⟩) (hlo : lo < s.nodes.size) (hhi : hi < s.nodes.size) :
    G.val s' s.nodes.size = G.node ⟨v, lo, hi⟩ (G.val s lo) (G.val s hi) := by
  have he : ExtN s.nodes s'.nodes := by rw [hs']; exact ExtN_push _ _
  have hl := h.len
  have hn : s'.nodes[s.nodes.size]? = some ⟨v, lo, hi⟩ := by rw [hs']; simp
  rw [Memo.Meas.val, Memo.F_node G s' _ _ _ (by omega) (by omega) hn, Memo.F_ext G h he _ lo hlo,
    Memo.F_ext G h he _ hi hhi, Memo.F_eq_val G s h hlo, Memo.F_eq_val G s h hhi]

theorem depsOf_push (s s' : Store) (v lo hi : Nat) (h : TableWF s.nodes)
    (hs' : s'.nodes = s.nodes.push ⟨v, lo, hi⟩) (hlo : lo < s.nodes.size) (hhi : hi < s.nodes.size) :
    depsOf s' s.nodes.size = v :: (depsOf s lo ++ depsOf s hi) := by
  unfold depsOf
  rw [Memo.depsF_eq_F, Memo.depsF_eq_F, Memo.depsF_eq_F]
  exact Memo.val_push Memo.depsG s s' v lo hi h hs' hlo hhi

theorem naive_push (s s' : Store) (v lo hi : Nat) (h : TableWF s.nodes)
    (hs' : s'.nodes = s.nodes.push ⟨v, lo, hi⟩) (hlo : lo < s.nodes.size) (hhi : hi < s.nodes.size) :
    naive s' s.nodes.size = CN.combine (naive s lo) (naive s hi) := by
  rw [naive_eq_val, naive_eq_val, naive_eq_val]
  exact Memo.val_push cnG s s' v lo hi h hs' hlo hhi

theorem DepsOK_push (s s' : Store) (tbl : Array (List Nat)) (v lo hi : Nat)
    (h : TableWF s.nodes) (hs' : s'.nodes = s.nodes.push ⟨v, lo, hi⟩)
    (hlo : lo < s.nodes.size) (hhi : hi < s.nodes.size) (hd : DepsOK s tbl) :
    DepsOK s' (tbl.push (depsEntry tbl v lo hi)) := by
  have he : ExtN s.nodes s'.nodes := by rw [hs']; exact ExtN_push _ _
  have hd : DepsUpTo SameMem s s.nodes.size tbl := hd
  have old : DepsUpTo SameMem s' s.nodes.size tbl :=
    ⟨hd.1, fun i hi x => by rw [depsOf_ext s s' h he i hi]; exact hd.2 i hi x⟩
  have := old.push (e := depsEntry tbl v lo hi) fun x => by
    rw [depsOf_push s s' v lo hi h hs' hlo hhi, mem_depsEntry, hd.2 lo hlo x, hd.2 hi hhi x]
    simp only [List.mem_cons, List.mem_append]
  have hsz : s'.nodes.size = s.nodes.size + 1 := by rw [hs', Array.size_push]
  unfold DepsOK
  rw [hsz]
  exact this

/-- `generate_var_dependencies`, started on the empty table, builds an exact table for every
structurally well-formed node table -/
theorem genDeps_ok (s : Store) (h : TableWF s.nodes) : DepsOK s (genDeps #[] s.nodes) := by
  unfold genDeps
  refine Array.foldl_induction (motive := fun k tbl => DepsUpTo SameMem s k tbl) (.empty _ s) ?_
  intro k tbl hd
  have hk : s.nodes[k.1]? = some s.nodes[k] := Array.getElem?_eq_getElem k.2
  generalize s.nodes[k] = n at hk
  unfold genDepsStep
  by_cases h2 : k.1 < 2
  · rw [if_pos (terminal_var h h2 hk)]
    exact hd.push (e := []) fun x => by rw [depsOf_const s k h2]
  · have ⟨hvb, hlo, hhi, _, _, _⟩ := h.inner k.1 n (by omega) hk
    rw [if_neg (by omega)]
    exact hd.push fun x => by
      rw [mem_depsEntry, depsOf_node s h _ n (by omega) hk, hd.2 n.lo (by omega) x, hd.2 n.hi (by omega) x]
      simp only [List.mem_cons, List.mem_append]

theorem DepsOK_congr {s s' : Store} {tbl : Array (List Nat)} (he : s'.nodes = s.nodes)
    (hd : DepsOK s tbl) : DepsOK s' tbl := by
  unfold DepsOK
  simp only [he, depsF_congr he]
  exact hd

theorem DepsOK_contains {s : Store} {tbl : Array (List Nat)} (hd : DepsOK s tbl) (t v : Nat)
    (ht : t < s.nodes.size) : (tbl.getD t []).contains v = (depsOf s t).contains v := by
  rw [Bool.eq_iff_iff, List.contains_iff_mem, List.contains_iff_mem]
  unfold depsOf
  exact hd.2 t ht v

#print axioms memoCN_spec
#print axioms maxDepthC_exact
#print axioms DepsOK_push
#print axioms genDeps_ok
