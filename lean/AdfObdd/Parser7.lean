import AdfObdd.Parser6

/-! necessary conditions every accepted text satisfies, as executable scanners — so that whole
classes of malformed texts are rejected: missing terminator, leading blanks, unbalanced
brackets, wrong arity / unknown connective, trailing garbage. The scanners refine each other
(`bal_of_shape`, `count_of_bal`: facts about texts, not about the grammar), so only the finest,
`shape`, is followed through the grammar. -/
namespace ParserM

theorem DerFile.nil_text {t : List Char} (h : DerFile [] t) : t = [] := by cases h; rfl

theorem DerFact.ends {x : Fact} {s : List Char} (h : DerFact x s) : ∃ pre w, s = pre ++ '.' :: w ∧ AllWs w := by
  cases h with
  | stmt l sl w _ hw => exact ⟨['s','('] ++ sl ++ [')'], w, by simp, hw⟩
  | ac l sl f s' w1 w2 w _ _ _ _ hw =>
    exact ⟨['a','c','('] ++ sl ++ w1 ++ [','] ++ w2 ++ s' ++ [')'], w, by simp, hw⟩

theorem DerFile.ends {fs : List Fact} {t : List Char} (h : DerFile fs t) (hne : fs ≠ []) :
    ∃ pre w, t = pre ++ '.' :: w ∧ AllWs w := by
  induction h with
  | nil => exact absurd rfl hne
  | cons x xs s t' hx hxs ih =>
    cases xs with
    | nil =>
      obtain ⟨pre, w, e, hw⟩ := hx.ends
      exact ⟨pre, w, by rw [hxs.nil_text, List.append_nil, e], hw⟩
    | cons y ys =>
      obtain ⟨pre, w, e, hw⟩ := ih (by simp)
      exact ⟨s ++ pre, w, by rw [e, List.append_assoc], hw⟩

/-- the last character that is not a blank is the terminator `.` -/
def endsWithDot (cs : List Char) : Bool := (cs.reverse.dropWhile isWs).head? == some '.'

theorem endsWithDot_of (pre w : List Char) (hw : AllWs w) : endsWithDot (pre ++ '.' :: w) = true := by
  unfold endsWithDot
  have e : (pre ++ '.' :: w).reverse = w.reverse ++ ('.' :: pre.reverse) := by simp
  rw [e, dropWhile_ws w.reverse ('.' :: pre.reverse) (fun c hc => hw c (List.mem_reverse.mp hc))
    (by intro c hc; simp at hc; subst hc; decide)]
  rfl

theorem DerFile.starts {x : Fact} {xs : List Fact} {t : List Char} (h : DerFile (x :: xs) t) :
    t.head? = some 's' ∨ t.head? = some 'a' := by
  cases h with
  | cons _ _ s t' hx _ =>
    cases hx with
    | stmt l sl w _ _ => left; rw [stmt_text]; rfl
    | ac l sl f s' w1 w2 w _ _ _ _ _ => right; rw [ac_text]; rfl

/-- `bal q d cs`: scanning `cs` with `q` = inside a quoted label and `d` open brackets never closes
a bracket that is not open, and ends outside quotes with no bracket open -/
def bal : Bool → Nat → List Char → Bool
  | q, d, [] => !q && d == 0
  | true, d, c :: cs => if c = '"' then bal false d cs else bal true d cs
  | false, d, c :: cs =>
    if c = '"' then bal true d cs
    else if c = '(' then bal false (d + 1) cs
    else if c = ')' then (match d with
      | 0 => false
      | d' + 1 => bal false d' cs)
    else bal false d cs

def balanced (cs : List Char) : Bool := bal false 0 cs

def Plain (c : Char) : Prop := c ≠ '"' ∧ c ≠ '(' ∧ c ≠ ')' ∧ c ≠ ','

theorem alnum_plain {c : Char} (h : isAlnum c = true) : Plain c :=
  ⟨alnum_ne h (by decide), alnum_ne h (by decide), alnum_ne h (by decide), alnum_ne h (by decide)⟩

theorem ws_plain {c : Char} (h : isWs c = true) : Plain c ∧ isAlnum c = false :=
  ⟨⟨ws_ne h (by decide), ws_ne h (by decide), ws_ne h (by decide), ws_ne h (by decide)⟩, ws_not_alnum h⟩

/-- number of commas the argument list of a keyword must contain; `none` = no bracket may follow -/
def arityOf (run : List Char) : Option Nat :=
  if run = ['a','n','d'] ∨ run = ['o','r'] ∨ run = ['i','m','p'] ∨ run = ['x','o','r'] ∨ run = ['i','f','f'] ∨
     run = ['a','c'] then some 1
  else if run = ['n','e','g'] ∨ run = ['s'] ∨ run = ['c'] then some 0
  else none

/-- `shape q run stk cs`: outside quoted labels, every `(` directly follows one of the nine
keywords (as a maximal alphanumeric word `run`), every `,` is the single top-level comma of a
group opened by `and/or/imp/xor/iff/ac`, every `)` closes a group that has all its commas, and at
the end no group and no quote is open. `stk` = commas still missing in the open groups. -/
def shape : Bool → List Char → List Nat → List Char → Bool
  | q, _, stk, [] => !q && stk.isEmpty
  | true, _, stk, c :: cs => if c = '"' then shape false [] stk cs else shape true [] stk cs
  | false, run, stk, c :: cs =>
    if c = '"' then shape true [] stk cs
    else if c = '(' then
      (match arityOf run with
      | none => false
      | some n => shape false [] (n :: stk) cs)
    else if c = ',' then
      (match stk with
      | 1 :: s => shape false [] (0 :: s) cs
      | _ => false)
    else if c = ')' then
      (match stk with
      | 0 :: s => shape false [] s cs
      | _ => false)
    else if isAlnum c then shape false (run ++ [c]) stk cs
    else shape false [] stk cs

def arityOK (cs : List Char) : Bool := shape false [] [] cs

theorem shape_run_irrel (run : List Char) (stk : List Nat) (r : List Char) (h : GoodRest r) :
    shape false run stk r = shape false [] stk r := by
  cases r with
  | nil => simp [shape]
  | cons c r' =>
    obtain ⟨ha, hp⟩ := h c rfl
    simp only [shape, hp, if_false, ha]
    simp

theorem shape_alnum (stk : List Nat) : ∀ (l run r : List Char), AllAlnum l →
    shape false run stk (l ++ r) = shape false (run ++ l) stk r := by
  intro l
  induction l with
  | nil => intro run r _; simp
  | cons c l ih =>
    intro run r h
    have hc := h c (List.mem_cons_self ..)
    obtain ⟨h1, h2, h3, h4⟩ := alnum_plain hc
    simp only [List.cons_append, shape, h1, h2, h3, h4, if_false, hc, if_true]
    rw [ih (run ++ [c]) r (fun x hx => h x (List.mem_cons_of_mem _ hx))]
    simp

theorem shape_ws (stk : List Nat) : ∀ (w r : List Char), AllWs w →
    shape false [] stk (w ++ r) = shape false [] stk r := by
  intro w
  induction w with
  | nil => intro r _; rfl
  | cons c w ih =>
    intro r h
    obtain ⟨⟨h1, h2, h3, h4⟩, h5⟩ := ws_plain (h c (List.mem_cons_self ..))
    simp only [List.cons_append, shape, h1, h2, h3, h4, if_false, h5]
    simp only [Bool.false_eq_true, if_false]
    exact ih r (fun x hx => h x (List.mem_cons_of_mem _ hx))

theorem shape_inq (stk : List Nat) : ∀ (l run r : List Char), '"' ∉ l →
    shape true run stk (l ++ '"' :: r) = shape false [] stk r := by
  intro l
  induction l with
  | nil => intro run r _; simp [shape]
  | cons c l ih =>
    intro run r h
    have hc : c ≠ '"' := fun e => h (e ▸ List.mem_cons_self ..)
    simp only [List.cons_append, shape, hc, if_false]
    exact ih [] r (fun e => h (List.mem_cons_of_mem _ e))

theorem shape_label {l sl : List Char} (h : DerL l sl) (stk : List Nat) (r : List Char) (hr : GoodRest r) :
    shape false [] stk (sl ++ r) = shape false [] stk r := by
  cases h with
  | alnum _ hl => rw [shape_alnum stk l [] r hl, shape_run_irrel _ stk r hr]
  | quoted hq =>
    rw [quoted_text]
    simp only [shape, if_true]
    exact shape_inq stk l [] r hq

theorem shape_open (kw : List Char) (n : Nat) (hk : AllAlnum kw) (ha : arityOf kw = some n) (stk : List Nat)
    (r : List Char) : shape false [] stk (kw ++ '(' :: r) = shape false [] (n :: stk) r := by
  rw [shape_alnum stk kw [] _ hk]
  simp [shape, ha]

theorem shape_close (run : List Char) (stk : List Nat) (r : List Char) :
    shape false run (0 :: stk) (')' :: r) = shape false [] stk r := by simp [shape]

theorem shape_comma (run : List Char) (stk : List Nat) (r : List Char) :
    shape false run (1 :: stk) (',' :: r) = shape false [] (0 :: stk) r := by simp [shape]

theorem shape_dot (stk : List Nat) (r : List Char) : shape false [] stk ('.' :: r) = shape false [] stk r := by
  simp [shape, show isAlnum '.' = false by decide]

theorem goodRest_comma (r : List Char) : GoodRest (',' :: r) := goodRest_cons (by decide) (by decide) r

theorem shape_formula {f : Fml} {s : List Char} (h : DerF f s) : ∀ (stk : List Nat) (r : List Char),
    GoodRest r → shape false [] stk (s ++ r) = shape false [] stk r := by
  induction h using DerF.binInduction with
  | top =>
    intro stk r _
    rw [show ['c','(','v',')'] ++ r = ['c'] ++ '(' :: (['v'] ++ ')' :: r) from rfl,
      shape_open ['c'] 0 (allAlnum_lit _ (by decide)) (by decide), shape_alnum _ _ _ _ (allAlnum_lit _ (by decide))]
    exact shape_close _ _ _
  | bot =>
    intro stk r _
    rw [show ['c','(','f',')'] ++ r = ['c'] ++ '(' :: (['f'] ++ ')' :: r) from rfl,
      shape_open ['c'] 0 (allAlnum_lit _ (by decide)) (by decide), shape_alnum _ _ _ _ (allAlnum_lit _ (by decide))]
    exact shape_close _ _ _
  | atom l s hl => intro stk r hr; exact shape_label hl stk r hr
  | not f s _ ih =>
    intro stk r _
    rw [neg_text, shape_open _ 0 (allAlnum_lit _ (by decide)) (by decide), ih _ _ (goodRest_close r)]
    exact shape_close _ _ _
  | bin kw mk hk a b s1 s2 w1 w2 _ _ h1 h2 iha ihb =>
    intro stk r _
    rw [bin_text, shape_open kw 1 hk.alnum (by cases hk <;> decide), iha _ _ (goodRest_ws_comma w1 _ h1),
      shape_ws _ _ _ h1, shape_comma, shape_ws _ _ _ h2, ihb (0 :: stk) (')' :: r) (goodRest_close r)]
    exact shape_close _ _ _

theorem shape_fact {x : Fact} {s : List Char} (h : DerFact x s) (r : List Char) :
    shape false [] [] (s ++ r) = shape false [] [] r := by
  cases h with
  | stmt l sl w hl hw =>
    rw [stmt_text, shape_open _ 0 (allAlnum_lit _ (by decide)) (by decide), shape_label hl _ _ (goodRest_close _),
      shape_close, shape_dot, shape_ws _ _ _ hw]
  | ac l sl f s' w1 w2 w hl hf h1 h2 hw =>
    rw [ac_text, shape_open _ 1 (allAlnum_lit _ (by decide)) (by decide),
      shape_label hl _ _ (goodRest_ws_comma w1 _ h1), shape_ws _ _ _ h1, shape_comma, shape_ws _ _ _ h2,
      shape_formula hf _ _ (goodRest_close _), shape_close, shape_dot, shape_ws _ _ _ hw]

theorem DerFile.arityOK {fs : List Fact} {t : List Char} (h : DerFile fs t) : arityOK t = true := by
  unfold ParserM.arityOK
  induction h with
  | nil => rfl
  | cons x xs s t' hx _ ih => rw [shape_fact hx]; exact ih

/-- the arity scanner refines the bracket scanner: its stack has one entry per open bracket -/
theorem bal_of_shape : ∀ (cs : List Char) (q : Bool) (run : List Char) (stk : List Nat),
    shape q run stk cs = true → bal q stk.length cs = true := by
  intro cs q run stk
  fun_induction shape q run stk cs with
  | case1 => simp [bal]
  | case5 | case8 | case10 => intro h; cases h
  | case2 _ _ _ ih | case4 _ _ _ ih | case6 _ _ _ _ _ _ ih | case7 _ _ _ _ _ ih | case9 _ _ _ _ _ _ ih =>
    unfold bal; exact ih  -- the guards on a literal character evaluate
  | case3 _ _ _ _ hc ih => unfold bal; rw [if_neg hc]; exact ih
  | case11 _ _ _ _ h1 h2 _ h4 _ ih | case12 _ _ _ _ h1 h2 _ h4 _ ih =>
    unfold bal; rw [if_neg h1, if_neg h2, if_neg h4]; exact ih

theorem DerFile.balanced {fs : List Fact} {t : List Char} (h : DerFile fs t) : balanced t = true :=
  bal_of_shape t false [] [] h.arityOK

/-- the bracket scanner refines the parity of quotes: it toggles `q` at every `"` and ends outside -/
theorem count_of_bal : ∀ (cs : List Char) (q : Bool) (d : Nat),
    bal q d cs = true → (cs.count '"' + q.toNat) % 2 = 0 := by
  intro cs q d
  fun_induction bal q d cs with
  | case1 q => cases q <;> simp
  | case2 _ _ ih | case4 _ _ ih => intro h; have := ih h; simp at this ⊢; omega
  | case3 _ _ _ hc ih | case5 _ _ hc ih | case7 _ _ hc _ ih | case8 _ _ _ hc _ _ ih =>
    rw [List.count_cons_of_ne hc]; exact ih
  | case6 => intro h; cases h

theorem DerFile.even_quotes {fs : List Fact} {t : List Char} (h : DerFile fs t) : t.count '"' % 2 = 0 :=
  count_of_bal t false 0 h.balanced

theorem dropWhile_ne_nil (p : Char → Bool) : ∀ (a : List Char), (∃ c ∈ a, p c = false) → a.dropWhile p ≠ [] := by
  intro a
  induction a with
  | nil => intro ⟨c, hc, _⟩; simp at hc
  | cons d a ih =>
    intro ⟨c, hc, hp⟩
    simp only [List.dropWhile]
    cases hd : p d with
    | false => simp
    | true =>
      rcases List.mem_cons.mp hc with rfl | h
      · rw [hd] at hp; cases hp
      · exact ih ⟨c, h, hp⟩

theorem endsWithDot_append (cs g : List Char) (hg : ∃ c ∈ g, isWs c = false) :
    endsWithDot (cs ++ g) = endsWithDot g := by
  unfold endsWithDot
  have hne : g.reverse.dropWhile isWs ≠ [] :=
    dropWhile_ne_nil isWs g.reverse (let ⟨c, hc, hp⟩ := hg; ⟨c, List.mem_reverse.mpr hc, hp⟩)
  rw [List.reverse_append, List.dropWhile_append, if_neg (by simpa using hne)]
  cases h : g.reverse.dropWhile isWs with
  | nil => exact absurd h hne
  | cons _ _ => rfl

theorem parse_of_der (fs : List Fact) (t : List Char) (h : DerFile fs t) (hne : fs ≠ []) :
    parse t = some (PState.ofFacts fs) := by
  rw [parse_eq, parseFacts_complete fs t h hne]; rfl

theorem parse_some_der (t : List Char) (st : PState) (h : parse t = some st) :
    ∃ fs, fs ≠ [] ∧ DerFile fs t ∧ st = PState.ofFacts fs := by
  rw [parse_eq] at h
  obtain ⟨fs, hf, rfl⟩ := Option.map_eq_some_iff.mp h
  obtain ⟨a, b⟩ := parseFacts_sound t fs hf
  exact ⟨fs, a, b, rfl⟩

theorem reject_of (t : List Char) (P : Prop) (hP : ∀ fs, fs ≠ [] → DerFile fs t → P) (hn : ¬ P) :
    parse t = none := by
  cases h : parse t with
  | none => rfl
  | some st =>
    obtain ⟨fs, a, b, _⟩ := parse_some_der t st h
    exact absurd (hP fs a b) hn

end ParserM
