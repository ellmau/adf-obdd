import AdfObdd.Store
/-! Memoised evaluation of the pure diagram measures (`countF`, `pathsF`, dependency sets).

The measures of the model are pure fuel-recursive functions of the node table; they recompute shared
sub-diagrams (exponential on a parity diagram). The code keeps one cache entry per node
(`count_cache`, `var_deps`). Here: a generic measure `Meas.F` (the common shape of the pure
definitions), a top-down evaluation `Meas.go` that threads a `Std.HashMap Nat α` keyed by the node,
and the proof that it returns EXACTLY the pure value on EVERY table, well formed or not:

* an entry is written for node `t` only if `t` is *good*: the value of `t` does not depend on the fuel
  (`Good`); that is established on the way (children with smaller indices, children good),
* anywhere else the recursion falls back to the pure definition with the same fuel.

`F_unique` recognises a definition as a measure; `F_rel` / `F_ind` prove facts about measures on any table
(only the node case is left). What holds on a well-formed table is in `Fold.lean`. -/

namespace Memo

structure Meas (α : Type) where
  /-- out of fuel -/
  z : α
  l0 : α
  l1 : α
  /-- index outside the table -/
  nn : α
  node : Node → α → α → α

variable {α : Type}

def Meas.F (G : Meas α) (s : Store) : Nat → Nat → α
  | 0, _ => G.z
  | fuel+1, t =>
    if t = 1 then G.l1 else if t = 0 then G.l0 else
    match s.nodes[t]? with
    | none => G.nn
    | some n => G.node n (G.F s fuel n.lo) (G.F s fuel n.hi)

/-- memoised evaluation: value, "the value of this node is independent of the fuel", memo -/
def Meas.go (G : Meas α) (s : Store) : Nat → Nat → Std.HashMap Nat α → (α × Bool) × Std.HashMap Nat α
  | 0, _, m => ((G.z, false), m)
  | fuel+1, t, m =>
    if t = 1 then ((G.l1, true), m) else if t = 0 then ((G.l0, true), m) else
    match m[t]? with
    | some v => ((v, true), m)
    | none =>
      match s.nodes[t]? with
      | none => ((G.nn, false), m)
      | some n =>
        if n.lo < t ∧ n.hi < t then
          let l := G.go s fuel n.lo m
          let h := G.go s fuel n.hi l.2
          let v := G.node n l.1.1 h.1.1
          if l.1.2 && h.1.2 then ((v, true), h.2.insert t v) else ((v, false), h.2)
        else ((G.node n (G.F s fuel n.lo) (G.F s fuel n.hi), false), m)

def Good (G : Meas α) (s : Store) (t : Nat) : Prop := ∀ fuel, t < fuel → G.F s fuel t = G.F s (t+1) t

def Inv (G : Meas α) (s : Store) (m : Std.HashMap Nat α) : Prop :=
  ∀ j v, m[j]? = some v → v = G.F s (j+1) j ∧ Good G s j

theorem inv_empty (G : Meas α) (s : Store) : Inv G s ∅ := by
  intro j v h; simp at h

theorem F_one (G : Meas α) (s : Store) (f : Nat) : G.F s (f+1) 1 = G.l1 := by
  rw [Meas.F, if_pos rfl]

theorem F_zero (G : Meas α) (s : Store) (f : Nat) : G.F s (f+1) 0 = G.l0 := by
  rw [Meas.F, if_neg (by decide), if_pos rfl]

theorem F_node (G : Meas α) (s : Store) (f t : Nat) (n : Node) (h1 : t ≠ 1) (h0 : t ≠ 0)
    (hn : s.nodes[t]? = some n) : G.F s (f+1) t = G.node n (G.F s f n.lo) (G.F s f n.hi) := by
  rw [Meas.F, if_neg h1, if_neg h0, hn]

theorem F_none (G : Meas α) (s : Store) (f t : Nat) (h1 : t ≠ 1) (h0 : t ≠ 0)
    (hn : s.nodes[t]? = none) : G.F s (f+1) t = G.nn := by
  rw [Meas.F, if_neg h1, if_neg h0, hn]

theorem good_one (G : Meas α) (s : Store) : Good G s 1 := by
  intro fuel h
  cases fuel with
  | zero => exact absurd h (Nat.not_lt_zero _)
  | succ f => rw [F_one, F_one]

theorem good_zero (G : Meas α) (s : Store) : Good G s 0 := by
  intro fuel h
  cases fuel with
  | zero => exact absurd h (Nat.not_lt_zero _)
  | succ f => rw [F_zero, F_zero]

theorem good_node (G : Meas α) (s : Store) (t : Nat) (n : Node) (h1 : t ≠ 1) (h0 : t ≠ 0)
    (hn : s.nodes[t]? = some n) (hlo : n.lo < t) (hhi : n.hi < t)
    (gl : Good G s n.lo) (gh : Good G s n.hi) : Good G s t := by
  intro fuel h
  cases fuel with
  | zero => exact absurd h (Nat.not_lt_zero _)
  | succ f =>
    rw [F_node G s f t n h1 h0 hn, F_node G s t t n h1 h0 hn,
      gl f (Nat.lt_of_lt_of_le hlo (Nat.le_of_lt_succ h)), gh f (Nat.lt_of_lt_of_le hhi (Nat.le_of_lt_succ h)),
      gl t hlo, gh t hhi]

theorem F_unique (G : Meas α) (s : Store) (g : Nat → Nat → α) (h0 : ∀ t, g 0 t = G.z)
    (hs : ∀ f t, g (f+1) t = if t = 1 then G.l1 else if t = 0 then G.l0 else
      match s.nodes[t]? with
      | none => G.nn
      | some n => G.node n (g f n.lo) (g f n.hi)) : ∀ f t, g f t = G.F s f t := by
  intro f
  induction f with
  | zero => intro t; exact h0 t
  | succ f ih => intro t; rw [hs, Meas.F]; simp only [ih]

theorem F_congr (G : Meas α) {s s' : Store} (hn : s'.nodes = s.nodes) : ∀ f t, G.F s' f t = G.F s f t := by
  intro f
  induction f with
  | zero => intro t; rfl
  | succ f ih => intro t; unfold Meas.F; simp only [hn, ih]

theorem F_rel {β : Type} (G : Meas α) (H : Meas β) (s : Store) (R : Nat → α → β → Prop)
    (hz : ∀ t, R t G.z H.z) (h1 : R 1 G.l1 H.l1) (h0 : R 0 G.l0 H.l0) (hnn : ∀ t, R t G.nn H.nn)
    (hnode : ∀ t n a b a' b', 2 ≤ t → s.nodes[t]? = some n → R n.lo a a' → R n.hi b b' →
      R t (G.node n a b) (H.node n a' b')) :
    ∀ f t, R t (G.F s f t) (H.F s f t) := by
  intro f
  induction f with
  | zero => exact hz
  | succ f ih =>
    intro t
    by_cases e1 : t = 1
    · subst e1; rw [F_one, F_one]; exact h1
    by_cases e0 : t = 0
    · subst e0; rw [F_zero, F_zero]; exact h0
    cases hn : s.nodes[t]? with
    | none => rw [F_none G s f t e1 e0 hn, F_none H s f t e1 e0 hn]; exact hnn t
    | some n =>
      rw [F_node G s f t n e1 e0 hn, F_node H s f t n e1 e0 hn]
      exact hnode t n _ _ _ _ (Nat.one_lt_iff_ne_zero_and_ne_one.mpr ⟨e0, e1⟩) hn (ih n.lo) (ih n.hi)

theorem F_ind (G : Meas α) (s : Store) (P : Nat → α → Prop)
    (hz : ∀ t, P t G.z) (h1 : P 1 G.l1) (h0 : P 0 G.l0) (hnn : ∀ t, P t G.nn)
    (hnode : ∀ t n a b, 2 ≤ t → s.nodes[t]? = some n → P n.lo a → P n.hi b → P t (G.node n a b)) :
    ∀ f t, P t (G.F s f t) :=
  F_rel G G s (fun t a _ => P t a) hz h1 h0 hnn (fun t n a b _ _ ht hn => hnode t n a b ht hn)

theorem go_spec (G : Meas α) (s : Store) : ∀ (fuel t : Nat) (m : Std.HashMap Nat α), Inv G s m → t < fuel →
    (G.go s fuel t m).1.1 = G.F s fuel t ∧ Inv G s (G.go s fuel t m).2 ∧
      ((G.go s fuel t m).1.2 = true → Good G s t) := by
  intro fuel t m hm ht
  fun_induction Meas.go G s fuel t m with
  | case1 => exact absurd ht (Nat.not_lt_zero _)
  | case2 f m => exact ⟨(F_one G s f).symm, hm, fun _ => good_one G s⟩
  | case3 f m => exact ⟨(F_zero G s f).symm, hm, fun _ => good_zero G s⟩
  | case4 f t m _ _ v hmt =>
    obtain ⟨hv, hg⟩ := hm t v hmt
    exact ⟨by rw [hv, hg (f+1) ht], hm, fun _ => hg⟩
  | case5 f t m h1 h0 _ hn => exact ⟨(F_none G s f t h1 h0 hn).symm, hm, fun h => by cases h⟩
  | case6 f t m h1 h0 _ n hn hc L H v hb ihl ihh =>
    -- both children first; the node's value is recorded only if theirs do not depend on the fuel
    have hf := Nat.le_of_lt_succ ht
    obtain ⟨vl, il, gl⟩ := ihl hm (Nat.lt_of_lt_of_le hc.1 hf)
    obtain ⟨vh, ih2, gh⟩ := ihh il (Nat.lt_of_lt_of_le hc.2 hf)
    have hv : v = G.F s (f+1) t := by rw [F_node G s f t n h1 h0 hn, ← vl, ← vh]
    rw [Bool.and_eq_true] at hb
    have hgood : Good G s t := good_node G s t n h1 h0 hn hc.1 hc.2 (gl hb.1) (gh hb.2)
    refine ⟨hv, fun j v hj => ?_, fun _ => hgood⟩
    rcases (getElem?_insert_some _ _ _ _ _).mp hj with ⟨rfl, rfl⟩ | ⟨_, hj⟩
    · exact ⟨by rw [hv, hgood (f+1) ht], hgood⟩
    · exact ih2 j v hj
  | case7 f t m h1 h0 _ n hn hc L H v hb ihl ihh =>
    have hf := Nat.le_of_lt_succ ht
    obtain ⟨vl, il, _⟩ := ihl hm (Nat.lt_of_lt_of_le hc.1 hf)
    obtain ⟨vh, ih2, _⟩ := ihh il (Nat.lt_of_lt_of_le hc.2 hf)
    exact ⟨by rw [F_node G s f t n h1 h0 hn, ← vl, ← vh], ih2, fun h => by cases h⟩
  | case8 f t m h1 h0 _ n hn => exact ⟨(F_node G s f t n h1 h0 hn).symm, hm, fun h => by cases h⟩

/-- one query with a memo of its own -/
def Meas.FM (G : Meas α) (s : Store) (fuel t : Nat) : α :=
  if t < fuel then (G.go s fuel t ∅).1.1 else G.F s fuel t

theorem FM_eq (G : Meas α) (s : Store) (fuel t : Nat) : G.FM s fuel t = G.F s fuel t := by
  unfold Meas.FM
  split
  · next h => exact (go_spec G s fuel t ∅ (inv_empty G s) h).1
  · rfl

def Meas.mapL (G : Meas α) (s : Store) (ts : List Nat) : List α := ts.map (fun t => G.F s (t+1) t)

def Meas.mapGo (G : Meas α) (s : Store) : List Nat → Std.HashMap Nat α → List α
  | [], _ => []
  | t :: ts, m => let r := G.go s (t+1) t m; r.1.1 :: Meas.mapGo G s ts r.2

/-- `mapL` with ONE memo shared by all handles -/
def Meas.mapLM (G : Meas α) (s : Store) (ts : List Nat) : List α := G.mapGo s ts ∅

theorem mapGo_eq (G : Meas α) (s : Store) : ∀ (ts : List Nat) (m : Std.HashMap Nat α), Inv G s m →
    G.mapGo s ts m = G.mapL s ts := by
  intro ts
  induction ts with
  | nil => intros; rfl
  | cons t ts ih =>
    intro m hm
    obtain ⟨hv, hi, _⟩ := go_spec G s (t+1) t m hm (Nat.lt_succ_self t)
    simp only [Meas.mapGo, Meas.mapL, List.map_cons, hv]
    rw [ih _ hi]; rfl

@[csimp] theorem mapL_eq_mapLM : @Meas.mapL = @Meas.mapLM := by
  funext α G s ts
  exact (mapGo_eq G s ts ∅ (inv_empty G s)).symm

end Memo

/-! ### finite sets of naturals as strictly increasing lists

(the dependency sets: the cost of a union depends on the NUMBER of members, not on their magnitude —
a variable index is any `usize`) -/
namespace Memo

def umerge : List Nat → List Nat → List Nat
  | [], b => b
  | x :: a, [] => x :: a
  | x :: a, y :: b =>
    if x < y then x :: umerge a (y :: b)
    else if y < x then y :: umerge (x :: a) b
    else x :: umerge a b
termination_by a b => a.length + b.length

theorem mem_umerge (a b : List Nat) (v : Nat) : v ∈ umerge a b ↔ v ∈ a ∨ v ∈ b := by
  fun_induction umerge a b with
  | case1 b => simp
  | case2 x a => simp
  | case3 x a y b h ih => simp only [List.mem_cons, ih]; grind
  | case4 x a y b h1 h2 ih => simp only [List.mem_cons, ih]; grind
  | case5 x a y b h1 h2 ih =>
    have : x = y := by omega
    subst this
    simp only [List.mem_cons, ih]; grind

theorem lt_umerge {x : Nat} {a b : List Nat} (ha : ∀ z ∈ a, x < z) (hb : ∀ z ∈ b, x < z) :
    ∀ z ∈ umerge a b, x < z :=
  fun z hz => ((mem_umerge a b z).mp hz).elim (ha z) (hb z)

theorem umerge_sorted (a b : List Nat) (ha : a.Pairwise (· < ·)) (hb : b.Pairwise (· < ·)) :
    (umerge a b).Pairwise (· < ·) := by
  fun_induction umerge a b with
  | case1 b => exact hb
  | case2 x a => exact ha
  | case3 x a y b h ih =>
    have ⟨hx, ha'⟩ := List.pairwise_cons.mp ha
    have ⟨hy, _⟩ := List.pairwise_cons.mp hb
    exact List.pairwise_cons.mpr
      ⟨lt_umerge hx (List.forall_mem_cons.mpr ⟨h, fun z hz => Nat.lt_trans h (hy z hz)⟩), ih ha' hb⟩
  | case4 x a y b h1 h2 ih =>
    have ⟨hx, _⟩ := List.pairwise_cons.mp ha
    have ⟨hy, hb'⟩ := List.pairwise_cons.mp hb
    exact List.pairwise_cons.mpr
      ⟨lt_umerge (List.forall_mem_cons.mpr ⟨h2, fun z hz => Nat.lt_trans h2 (hx z hz)⟩) hy, ih ha hb'⟩
  | case5 x a y b h1 h2 ih =>
    obtain rfl : x = y := by omega
    have ⟨hx, ha'⟩ := List.pairwise_cons.mp ha
    have ⟨hy, hb'⟩ := List.pairwise_cons.mp hb
    exact List.pairwise_cons.mpr ⟨lt_umerge hx hy, ih ha' hb'⟩

end Memo
