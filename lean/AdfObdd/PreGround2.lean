import AdfObdd.PreGround
/-! the least fixpoint is reached by iterating Γ from below, so it lies below whatever the steps of that
    iteration stay below: every *pre*-fixpoint of Γ, and every fixpoint of the reduct's operator — the lemma
    behind "pre-grounding does not change the stable models" -/

/-- induction along the iteration that reaches the least fixpoint `g`: a step of Γ taken below `g` and `w` stays below `w` -/
theorem lfp_le_of_step {D : List BoolFn} {g : I3} (hg : IsLfp D g) {w : I3}
    (h : ∀ u, Le3 u g → Le3 u w → Le3 (Gam D u) w) : Le3 g w := by
  have h0 : Le3 (cv D) w := (cv_le_Gam D []).trans (h [] (Le3.nil g) (Le3.nil w))
  obtain ⟨U, ⟨ru, lu⟩, _, hst⟩ := semLoop_stop (P := fun V => Reach D V ∧ Le3 (cv V) w)
    (fun V ⟨r, l⟩ => ⟨reach_round r, r.cv_round ▸ h _ (r.snd g (Le3.of_eq hg.1)) l⟩)
    (D.length + 1) D ⟨reach_self D, h0⟩ (Nat.lt_succ_of_le (Nat.sub_le _ _))
  exact (hg.2 _ (by rw [← ru.cv_round, hst])).trans lu

/-- the least fixpoint is the least pre-fixpoint -/
theorem lfp_le_prefix (D : List BoolFn) (g : I3) (hg : IsLfp D g) {w' : I3} (hw' : Le3 (Gam D w') w') :
    Le3 g w' :=
  lfp_le_of_step hg fun _ _ l => (Gam_mono D l).trans hw'

theorem lfp_le_reduct_fix (D : List BoolFn) (g v w : I3) (hg : IsLfp D g) (hgv : Le3 g v)
    (hw : Gam (redu D v) w = w) : Le3 g w :=
  lfp_le_of_step hg fun _ lg lw => hw ▸ Gam_le_redu D (lg.trans hgv) fun j => lw j true
#print axioms lfp_le_prefix
#print axioms lfp_le_reduct_fix
