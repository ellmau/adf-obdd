import AdfObdd.WfCheck
/-! a memoised structural comparison of a handle in one node table with a handle
    in another one; `true` implies the two handles denote the same Boolean function (the verified
    validator of C09: dumped real table vs the model's own table, no truth tables involved) -/

abbrev Seen := Std.HashMap (Nat × Nat) Unit

/-- depth-first comparison; `seen` holds pairs already found equal -/
def isoF (A B : Array Node) : Nat → Seen → Nat → Nat → Bool × Seen
  | 0, seen, _, _ => (false, seen)
  | fuel+1, seen, a, b =>
    if a < 2 ∨ b < 2 then (decide (a = b), seen) else
    match seen[(a, b)]? with
    | some _ => (true, seen)
    | none =>
      match A[a]?, B[b]? with
      | some na, some nb =>
        if na.var ≠ nb.var then (false, seen) else
        let r1 := isoF A B fuel seen na.lo nb.lo
        if !r1.1 then (false, r1.2) else
        let r2 := isoF A B fuel r1.2 na.hi nb.hi
        if !r2.1 then (false, r2.2) else (true, r2.2.insert (a, b) ())
      | _, _ => (false, seen)

def SeenOK (sa sb : Store) (seen : Seen) : Prop :=
  ∀ (x y : Nat), seen[(x, y)]? = some () → ∀ σ, eval sa x σ = eval sb y σ

theorem isoF_sound (sa sb : Store) (ha : TableWF sa.nodes) (hb : TableWF sb.nodes) :
    ∀ (fuel : Nat) (seen : Seen) (a b : Nat), SeenOK sa sb seen →
      SeenOK sa sb (isoF sa.nodes sb.nodes fuel seen a b).2 ∧
      ((isoF sa.nodes sb.nodes fuel seen a b).1 = true → ∀ σ, eval sa a σ = eval sb b σ) := by
  intro fuel seen a b h
  -- a negative answer promises nothing
  have no : ∀ {seen' : Seen} {a b : Nat}, SeenOK sa sb seen' → SeenOK sa sb (false, seen').2 ∧
      ((false, seen').1 = true → ∀ σ, eval sa a σ = eval sb b σ) := fun h' => ⟨h', fun x => by cases x⟩
  fun_induction isoF sa.nodes sb.nodes fuel seen a b with
  | case1 => exact no h
  | case2 _ seen a b hc =>
    refine ⟨h, fun he σ => ?_⟩
    obtain rfl : a = b := of_decide_eq_true he
    have h2 : a < 2 := hc.elim id id
    rw [eval_lt2 sa a h2, eval_lt2 sb a h2]
  | case3 _ seen a b _ _ hs => exact ⟨h, fun _ => h a b hs⟩
  | case4 => exact no h
  | case5 => rename_i ih1; exact no (ih1 h).1
  | case6 => rename_i ih1 ih2; exact no (ih2 (ih1 h).1).1
  | case7 _ seen a b hc _ na nb hnb hna hv r1 h1 r2 h2 ih1 ih2 =>
    -- both pairs of children compared equal: the nodes denote the same function, and the pair may be recorded
    have ⟨s1, e1⟩ := ih1 h
    have ⟨s2, e2⟩ := ih2 s1
    have key : ∀ σ, eval sa a σ = eval sb b σ := fun σ => by
      rw [Tab.eval_node sa ha a na (Nat.le_of_not_lt fun x => hc (Or.inl x)) hna,
          Tab.eval_node sb hb b nb (Nat.le_of_not_lt fun x => hc (Or.inr x)) hnb, Decidable.of_not_not hv,
          e1 (by simpa using h1) σ, e2 (by simpa using h2) σ]
    refine ⟨fun x y hxy => ?_, fun _ => key⟩
    rcases (getElem?_insert_some _ _ _ _ _).mp hxy with ⟨hk, _⟩ | ⟨_, hxy⟩
    · cases hk; exact key
    · exact s2 x y hxy
  | case8 => exact no h

theorem isoCheck_sound (sa sb : Store) (ca : wfCheck sa.nodes = true) (cb : wfCheck sb.nodes = true)
    (fuel a b : Nat) (h : (isoF sa.nodes sb.nodes fuel {} a b).1 = true) :
    ∀ σ, eval sa a σ = eval sb b σ := by
  have h0 : SeenOK sa sb {} := by
    intro x y hxy; simp at hxy
  exact (isoF_sound sa sb (wfCheck_sound _ ca) (wfCheck_sound _ cb) fuel {} a b h0).2 h
#print axioms isoCheck_sound
