import AdfObdd.CountsDef
/-! The heuristics evaluate `minPaths`/`passive`/`active` for every undecided statement inside the
comparison function of a `min_by` (twice per comparison). Here: the keys of all candidates computed
ONCE per heuristic call, the path counts of all candidates with one shared memo
(`Memo.Meas.mapL`, compiled to `mapLM`) and the dependency sets of all conditions with another, and
`min_by` on the precomputed keys — proved equal to the `min_by` with the recomputing comparison. -/

namespace Memo

/-- `Iterator::min_by` (the first minimum) on (candidate, key) pairs, comparing the keys -/
def minByK {K : Type} (cmpK : K → K → Ordering) : List ((Nat × Nat) × K) → Option (Nat × Nat)
  | [] => none
  | x :: xs => some (xs.foldl (fun m y => if cmpK m.2 y.2 == .gt then y else m) x).1

/-- the running minimum of `min_by` commutes with a map `f` under which the comparisons agree on `P`, and stays in `P` -/
theorem foldl_min_map {α β : Type} (f : α → β) (cmp : α → α → Ordering) (cmpK : β → β → Ordering) (P : α → Prop)
    (hc : ∀ p q, P p → P q → cmp p q = cmpK (f p) (f q)) : ∀ (xs : List α) (m : α), P m → (∀ y ∈ xs, P y) →
    f (xs.foldl (fun m y => if cmp m y == .gt then y else m) m) =
      (xs.map f).foldl (fun m y => if cmpK m y == .gt then y else m) (f m) ∧
    P (xs.foldl (fun m y => if cmp m y == .gt then y else m) m) := by
  intro xs
  induction xs with
  | nil => intro m hm _; exact ⟨rfl, hm⟩
  | cons y ys ih =>
    intro m hm hy
    have hyl := hy y (List.mem_cons_self ..)
    simp only [List.foldl_cons, List.map_cons]
    rw [← hc m y hm hyl]
    by_cases hg : (cmp m y == .gt) = true
    · simp only [hg, if_true]
      exact ih y hyl (fun z hz => hy z (List.mem_cons_of_mem _ hz))
    · simp only [hg, Bool.false_eq_true, if_false]
      exact ih m hm (fun z hz => hy z (List.mem_cons_of_mem _ hz))

theorem zip_map_self {α β : Type} (g : α → β) : ∀ (u : List α), u.zip (u.map g) = u.map (fun x => (x, g x)) := by
  intro u
  induction u with
  | nil => rfl
  | cons a u ih => simp only [List.map_cons, List.zip_cons_cons, ih]

/-- keys `(minPaths, passive)` of the candidates `(statement, handle)` -/
def keysPI (s : Store) (v : List Nat) (u : List (Nat × Nat)) : List ((Nat × Nat) × (Nat × Nat)) :=
  let pl := pathG.mapL s (u.map (·.2))
  let bl := setG.mapL s v
  (u.zip pl).map (fun x => (x.1, (min x.2.1 x.2.2, passiveB bl x.1.1)))

theorem keysPI_eq (s : Store) (v : List Nat) (u : List (Nat × Nat)) :
    keysPI s v u = u.map (fun p => (p, (minPaths s p.2, passive s p.1 v))) := by
  unfold keysPI
  simp only [Meas.mapL, List.map_map]
  rw [zip_map_self, List.map_map]
  apply List.map_congr_left
  intro p _
  simp only [Function.comp, minPaths, paths, pathsF_eq_F, passive_eq_B, Meas.mapL]

/-- keys `(passive, active, minPaths)` of the candidates `(statement, handle)` -/
def keysA (s : Store) (v : List Nat) (u : List (Nat × Nat)) : List ((Nat × Nat) × (Nat × Nat × Nat)) :=
  let pl := pathG.mapL s (u.map (·.2))
  let bl := setG.mapL s v
  (u.zip pl).map (fun x => (x.1, (passiveB bl x.1.1, activeB bl x.1.1, min x.2.1 x.2.2)))

theorem keysA_eq (s : Store) (v : List Nat) (u : List (Nat × Nat)) :
    keysA s v u = u.map (fun p => (p, (passive s p.1 v, active s p.1 v, minPaths s p.2))) := by
  unfold keysA
  simp only [Meas.mapL, List.map_map]
  rw [zip_map_self, List.map_map]
  apply List.map_congr_left
  intro p _
  simp only [Function.comp, minPaths, paths, pathsF_eq_F, passive_eq_B, active_eq_B, Meas.mapL]

/-- `heu_a` on keys `(passive, active, minPaths)` -/
def cmpA (a b : Nat × Nat × Nat) : Ordering :=
  match compare b.1 a.1 with
  | .eq => match compare a.2.1 b.2.1 with
    | .eq => compare a.2.2 b.2.2
    | o => o
  | o => o

/-- `heu_b` on keys `(minPaths, passive)` -/
def cmpB (a b : Nat × Nat) : Ordering :=
  match compare a.1 b.1 with
  | .eq => compare b.2 a.2
  | o => o

/-- `MinModMinPathsMaxVarImp` on keys `(minPaths, passive)` -/
def cmpPI (a b : Nat × Nat) : Ordering :=
  match compare a.1 b.1 with
  | .eq => compare a.2 b.2
  | o => o

/-- `MinModMaxVarImpMinPaths` on keys `(minPaths, passive)` -/
def cmpIP (a b : Nat × Nat) : Ordering :=
  match compare a.2 b.2 with
  | .eq => compare a.1 b.1
  | o => o

end Memo
