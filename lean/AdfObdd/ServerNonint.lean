import AdfObdd.ServerProofs
/-! The vocabulary of the noninterference statements of C17 for ONE cookie jar `j`: when a task is
    live, the name-space discipline (`NsInv`, `Within`), what it means that nothing of a name exists
    (`Free`), what the jar observes (`obs`), and the discipline of account names (`Disciplined`).
    The unwinding argument is in `ServerNonintJ.lean`, for a set `J` of jars; the one-jar statements
    are its instance `J = {j}`. -/
namespace ServerM
section
variable {T H A R : Type} [DecidableEq T]

/-- a task that may still act: its blocking part has not ended or its result is not written yet -/
def live (t : TaskRec T A) : Bool := !(t.blockingDone && t.written)

/-- the name-space discipline: `j`'s session and live tasks lie inside `S`, everybody else's outside -/
structure NsInv (S : T → Bool) (j : Nat) (s : State T H A R) : Prop where
  mine : ∀ u, s.sess j = some u → S u = true
  others : ∀ k, k ≠ j → ∀ u, s.sess k = some u → S u = false
  tasks : ∀ t ∈ s.db.tasks, live t = true → S t.username = decide (t.jar = j)

def Event.namesIn (S : T → Bool) : Event T → Prop
  | .req rq => ∀ n ∈ reqNames rq.req, S n = true
  | _ => True

theorem applyCookie_in {S : T → Bool} (id : Option T) (ck : Cookie T) (names : List T)
    (hid : ∀ u, id = some u → S u = true) (hn : ∀ n ∈ names, S n = true) (hck : ∀ u, ck = .login u → u ∈ names) :
    ∀ u, applyCookie id ck = some u → S u = true := by
  intro u hu
  cases ck with
  | keep => exact hid u hu
  | login x => simp only [applyCookie, Option.some.injEq] at hu; subst hu; exact hn _ (hck _ rfl)
  | logout => simp [applyCookie] at hu

/-- what jar `j` observes: the responses to its own requests, in order -/
def obs (j : Nat) (out : List (Nat × Resp T R)) : List (Resp T R) :=
  (out.filter (fun x => decide (x.1 = j))).map (·.2)

/-- nothing named `n` exists: no account, no problem, no running entry, no session, no live task -/
structure Free (n : T) (s : State T H A R) : Prop where
  users : ∀ u ∈ s.db.users, u.username ≠ n
  probs : ∀ p ∈ s.db.problems, p.username ≠ n
  running : ∀ i ∈ s.db.running, i.username ≠ n
  sess : ∀ k, s.sess k ≠ some n
  tasks : ∀ t ∈ s.db.tasks, live t = true → t.username ≠ n

/-- the alone state holds nothing but `j`'s: all names in `S`, no other session, no other task -/
structure Within (S : T → Bool) (j : Nat) (a : State T H A R) : Prop where
  users : ∀ u ∈ a.db.users, S u.username = true
  probs : ∀ p ∈ a.db.problems, S p.username = true
  running : ∀ i ∈ a.db.running, S i.username = true
  sess : ∀ k, k ≠ j → a.sess k = none
  tasks : ∀ t ∈ a.db.tasks, t.jar = j

/-- `e.namesIn S` is `∀ n ∈ evNames e, S n = true` (`namesIn_of_evNames`); the disciplines quantify over the list -/
def evNames : Event T → List T
  | .req rq => reqNames rq.req
  | _ => []

/-- **the discipline of account names, as far as jar `j` is concerned**: mentioning a name claims it
(`own` is the ghost record of who claimed which name last).  `j` may mention a name only if `j`
itself claimed it last, or nothing of that name exists any more (no account, no problem, no running
entry, no session, no unfinished task); another jar may mention a name that `j` claimed last only
if nothing of that name exists any more.  What the other jars do among themselves is not restricted. -/
def Disciplined (E : Env T H A R) (j : Nat) : (T → Option Nat) → State T H A R → List (Event T) → Prop
  | _, _, [] => True
  | own, st, e :: es =>
    (∀ n ∈ evNames e, (if e.jar = j then own n = some j else own n ≠ some j) ∨ Free n st) ∧
    Disciplined E j (fun n => if n ∈ evNames e then some e.jar else own n) (stepEv E st e).1 es

end
end ServerM
