import AdfObdd.HybridParser
import AdfObdd.IsoCheck
import AdfObdd.CliWorld
/-! # Non-vacuity of the hybrid theorems: a lawful library WITH a dump satisfying `Bio.DumpSpec`

The computable truth-table library (`Bio.ttLib nv`, lawful: `Bio.ttLawful nv`) with the dump "complete
(unreduced) decision tree of the table, in biodivine's layout" - two terminal entries, children before
parents, the root last (`Bio.ttDump nv`, CliWorld.lean; what the model driver runs). `Bio.ttDump_spec` proves
`DumpSpec` for it for EVERY number of variables `nv ≤ VBOT` and EVERY table; `Bio.ttDump2_spec` is the case
of two variables with the dump written out (`|2,0,0|2,1,1|1,·,·|1,·,·|0,2,3|`), so the hypotheses of all
hybrid theorems are jointly satisfiable for every two-statement framework. -/
namespace Bio

def bitT (t k : Nat) : Nat := if t.testBit k then 1 else 0

/-- `|2,0,0|2,1,1|1,·,·|1,·,·|0,2,3|` -/
def ttDump2 (t : Nat) : List Node :=
  [⟨2, 0, 0⟩, ⟨2, 1, 1⟩, ⟨1, bitT t 0, bitT t 2⟩, ⟨1, bitT t 1, bitT t 3⟩, ⟨0, 2, 3⟩]

section dump
open TT (numOf bitsAsg merge)

theorem _root_.Den.mono {d d' : List Node} (hp : d <+: d') {j : Nat} {f : BoolFn} (h : Den d j f) : Den d' j f := by
  induction h with
  | bot => exact Den.bot
  | top => exact Den.top
  | inner j n fl fh h2 hn _ _ ihl ihh =>
    have hl : j < d.length := (List.getElem?_eq_some_iff.mp hn).1
    exact Den.inner j n fl fh h2 (by rw [List.prefix_iff_getElem?.mp hp j hl, ← hn, List.getElem?_eq_getElem hl]) ihl ihh

theorem dumpOK_snoc {d : List Node} (h : DumpOK d) (n : Node) (hv : n.var < VBOT)
    (hlo : n.lo < d.length) (hhi : n.hi < d.length)
    (hol : ∀ m, 2 ≤ n.lo → d[n.lo]? = some m → n.var < m.var)
    (ohh : ∀ m, 2 ≤ n.hi → d[n.hi]? = some m → n.var < m.var) : DumpOK (d ++ [n]) := by
  intro j m hj hget
  rcases getElem?_concat_some hget with ⟨hlt, hget⟩ | ⟨rfl, rfl⟩
  · have ⟨a, b, c, e, f⟩ := h j m hj hget
    refine ⟨a, b, c, fun m' h2 hm' => e m' h2 ?_, fun m' h2 hm' => f m' h2 ?_⟩
    · rwa [List.getElem?_append_left (by omega)] at hm'
    · rwa [List.getElem?_append_left (by omega)] at hm'
  · refine ⟨hv, hlo, hhi, fun m' h2 hm' => hol m' h2 ?_, fun m' h2 hm' => ohh m' h2 ?_⟩
    · rwa [List.getElem?_append_left hlo] at hm'
    · rwa [List.getElem?_append_left hhi] at hm'

theorem den_ttBit (d : List Node) (t a : Nat) : Den d (ttBit t a) (fun _ => t.testBit a) := by
  unfold ttBit
  cases t.testBit a
  · exact Den.bot
  · exact Den.top

theorem ttBit_lt (t a : Nat) : ttBit t a < 2 := by unfold ttBit; split <;> omega

/-- the invariant of the dump construction: the dump is extended and stays ordered; the returned index
is in range, denotes the table's function with the variables below `k` fixed by `a` (`TT.merge`), and, if
it is an inner node, carries variable `k`; if a variable was left, it is the last entry -/
structure GoSpec (t nv k f a : Nat) (d : List Node) (r : List Node × Nat) : Prop where
  ext : d <+: r.1
  ok : DumpOK r.1
  den : Den r.1 r.2 (fun σ => t.testBit (numOf nv (merge σ a k)))
  lt : r.2 < r.1.length
  var : ∀ m, 2 ≤ r.2 → r.1[r.2]? = some m → m.var = k
  last : 0 < f → r.2 + 1 = r.1.length

theorem ttDumpGo_spec (t nv : Nat) (hnv : nv ≤ VBOT) : ∀ (f k a : Nat) (d : List Node), k + f = nv → a < 2 ^ k →
    DumpOK d → 2 ≤ d.length → GoSpec t nv k f a d (ttDumpGo t f k a d) := by
  intro f
  induction f with
  | zero =>
    intro k a d hk ha hd hlen
    obtain rfl : k = nv := by omega
    have hb := ttBit_lt t a
    refine ⟨List.prefix_refl d, hd, ?_, by show ttBit t a < d.length; omega,
      fun m h2 _ => absurd h2 (by show ¬ 2 ≤ ttBit t a; omega), fun h => absurd h (Nat.lt_irrefl 0)⟩
    have e : (fun σ : Asg => t.testBit (numOf k (merge σ a k))) = fun _ => t.testBit a := by
      funext σ
      exact congrArg _ ((numOf_congr (σ' := bitsAsg a) fun x hx => if_pos hx).trans (numOf_bitsAsg ha))
    rw [e]
    exact den_ttBit _ t a
  | succ f ih =>
    intro k a d hk ha hd hlen
    have L := ih (k + 1) a d (by omega) (by rw [Nat.pow_succ]; omega) hd hlen
    have H := ih (k + 1) (2 ^ k + a) _ (by omega) (by rw [Nat.pow_succ]; omega) L.ok
      (Nat.le_trans hlen L.ext.length_le)
    simp only [ttDumpGo]
    generalize ttDumpGo t f (k + 1) a d = l at L H ⊢
    generalize ttDumpGo t f (k + 1) (2 ^ k + a) l.1 = h at H ⊢
    have hsnoc : h.1 <+: h.1 ++ [(⟨k, l.2, h.2⟩ : Node)] := List.prefix_append _ _
    have hget : (h.1 ++ [(⟨k, l.2, h.2⟩ : Node)])[h.1.length]? = some ⟨k, l.2, h.2⟩ := List.getElem?_concat_length
    refine ⟨(L.ext.trans H.ext).trans hsnoc, ?_, ?_,
      by rw [List.length_append, List.length_singleton]; exact Nat.lt_succ_self _,
      fun m _ hm => by rw [hget] at hm; cases hm; rfl,
      fun _ => by rw [List.length_append, List.length_singleton]⟩
    · refine dumpOK_snoc H.ok ⟨k, l.2, h.2⟩ (by show k < VBOT; omega) (Nat.lt_of_lt_of_le L.lt H.ext.length_le) H.lt
        (fun m h2 hm => ?_) (fun m h2 hm => by rw [H.var m h2 hm]; exact Nat.lt_succ_self k)
      rw [List.prefix_iff_getElem?.mp H.ext _ L.lt, ← List.getElem?_eq_getElem L.lt] at hm
      rw [L.var m h2 hm]; exact Nat.lt_succ_self k
    · have dn := Den.inner h.1.length ⟨k, l.2, h.2⟩ _ _ (Nat.le_trans hlen (L.ext.trans H.ext).length_le) hget
        (L.den.mono (H.ext.trans hsnoc)) (H.den.mono hsnoc)
      -- variable `k` moves from the assignment into the number
      have e : (fun σ : Asg => t.testBit (numOf nv (merge σ a k))) =
          fun σ => if σ k then t.testBit (numOf nv (merge σ (2 ^ k + a) (k + 1)))
            else t.testBit (numOf nv (merge σ a (k + 1))) := by
        funext σ
        have := TT.merge_succ σ ha (σ k)
        rw [upd_self rfl] at this
        rw [← this]
        cases σ k
        · rw [if_neg Bool.false_ne_true, if_neg Bool.false_ne_true, Nat.zero_add]
        · rfl
      rw [e]; exact dn

/-- **the dump of a truth table over ANY number of variables** (that fit the own store's variable
type) satisfies the assumption about the external dump: for every table that is not constant the dump
is ordered, has the two terminal entries, and its last entry denotes the table's function -/
theorem ttDump_spec (nv : Nat) (hnv : nv ≤ VBOT) : DumpSpec (ttLawful nv) (ttDump nv) := by
  refine ⟨fun t hv h1 h0 => ?_⟩
  have S := ttDumpGo_spec t nv hnv nv 0 0 [⟨nv, 0, 0⟩, ⟨nv, 1, 1⟩] (Nat.zero_add nv) Nat.one_pos
    (fun j n hj hget => by rw [List.getElem?_eq_none (by simp; omega)] at hget; cases hget) (Nat.le_refl 2)
  -- a non-constant table has at least one variable, so the root is the last entry
  have hpos : 0 < nv := by
    rcases Nat.eq_zero_or_pos nv with rfl | h
    · have : t < 2 ^ 1 := Nat.lt_pow_two_of_testBit t fun i hi => hv i hi
      have h0' : t ≠ 0 := by simpa [ttLib] using h0
      have h1' : t ≠ 1 := by simpa [ttLib, TT.mask] using h1
      omega
    · exact h
  have hroot := S.last hpos
  have hd := S.den
  have e : (fun σ : Asg => t.testBit (numOf nv (merge σ 0 0))) = ttDen nv t := by
    funext σ; exact congrArg _ (numOf_congr fun x _ => if_neg (Nat.not_lt_zero x))
  rw [e] at hd
  unfold ttDump
  rw [← hroot, Nat.add_sub_cancel]
  exact ⟨S.ok, hroot ▸ S.ext.length_le, hd⟩

end dump

theorem ttDump2_spec : DumpSpec (ttLawful 2) ttDump2 :=
  -- `ttDump2` is the decision-tree dump at two variables
  (funext fun _ => rfl : ttDump 2 = ttDump2) ▸ ttDump_spec 2 (by decide)

/-! ## semantic facts about WRITTEN frameworks by evaluation on the truth-table library

For a written framework `fms` (atoms are statements) the biodivine back-end's algorithms on the
computable lawful library `ttLib` decide the least fixpoint, the fixpoints of Γ and the stable models of
`fms.map Fm.sem` - so concrete instances of the semantic side of every theorem are `decide`. -/
section tt
variable (fms : List Fm) (hv : ∀ f ∈ fms, NConc.atomsLt fms.length f)
include hv

theorem tt_lfp : IsLfp (fms.map Fm.sem)
    ((bioGrounded (ttLib fms.length) (fromFormulas (ttLib fms.length) fms)).map storeIsConst) := by
  have ⟨a, b, c, _⟩ := fromFormulas_spec fms (ttLawful fms.length) hv
  have := (bioGrounded_lfp (ttLawful fms.length) _ b a).2
  rw [c] at this; exact this

theorem tt_complete (w : I3) :
    w ∈ (bioComplete (ttLib fms.length) (fromFormulas (ttLib fms.length) fms)).map (fun v => v.map storeIsConst) ↔
      (w.length = fms.length ∧ Gam (fms.map Fm.sem) w = w) := by
  have ⟨a, b, c, _⟩ := fromFormulas_spec fms (ttLawful fms.length) hv
  have := (bioComplete_exact (ttLawful fms.length) _ b a).2.1 w
  rw [c] at this; exact this

theorem tt_stable (v : I3) :
    v ∈ (bioStable (ttLib fms.length) (fromFormulas (ttLib fms.length) fms)).map (fun v => v.map storeIsConst) ↔
      (v.length = fms.length ∧ StableExact.StableI (fms.map Fm.sem) v) := by
  have ⟨a, b, c, _⟩ := fromFormulas_spec fms (ttLawful fms.length) hv
  have := (bioStable_exact (ttLawful fms.length) _ b a).2 v
  rw [c] at this; exact this

end tt

def exMutual : List Fm := [.not (.atom 1), .not (.atom 0)]
def exChain : List Fm := [.top, .atom 0, .not (.atom 1)]
def exChain2 : List Fm := [.top, .atom 0]

theorem exMutual_ok : ∀ f ∈ exMutual, NConc.atomsLt exMutual.length f := by
  intro f hf
  simp only [exMutual, List.mem_cons, List.not_mem_nil, or_false] at hf
  rcases hf with rfl | rfl
  · exact (by decide : 1 < 2)
  · exact (by decide : 0 < 2)
theorem exChain_ok : ∀ f ∈ exChain, NConc.atomsLt exChain.length f := by
  intro f hf
  simp only [exChain, List.mem_cons, List.not_mem_nil, or_false] at hf
  rcases hf with rfl | rfl | rfl
  · trivial
  · exact (by decide : 0 < 3)
  · exact (by decide : 1 < 3)
theorem exChain2_ok : ∀ f ∈ exChain2, NConc.atomsLt exChain2.length f := by
  intro f hf
  simp only [exChain2, List.mem_cons, List.not_mem_nil, or_false] at hf
  rcases hf with rfl | rfl
  · trivial
  · exact (by decide : 0 < 2)

end Bio
#print axioms Bio.ttDump_spec
