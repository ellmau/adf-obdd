import AdfObdd.CliWorld
import AdfObdd.SortProofs
/-! # The order `--an` sorts by: `CliM.NatLex.le` (the model of `natural_lexical_cmp`, crate
    `lexical-sort` 0.3.1) is a total, transitive, antisymmetric comparison on ALL labels

The loop `cmpGo` advances both streams in lock step, so it is the three-way lexicographic comparison
of a sort KEY (`key`, a list of naturals): a maximal run of ASCII digits becomes `runMark, length,
value` (a longer run is greater whatever its leading zeros, `007 > 10`; equal length: the value
decides), a non-alphanumeric character its code point (below `runMark`), an alphanumeric non-digit
`runMark + 1 +` its code point (`ret_ordering`: non-alphanumeric before alphanumeric, then code
points; every alphanumeric non-digit is above `9`); a proper prefix is smaller (`cmpGo_key`). Hence
`le` is the lexicographic order on (key, bytes) (`le_iff`), and insertion sort with it leaves a
sorted permutation (`anSort_sorted`).

Outside U+0000-U+00FF the model's tables (`translit`, `isAlnumU`) do not follow the crates:
`any_ascii` transliterates EVERY alphanumeric code point (e.g. `ā` ↦ `a`, `Ω` ↦ `O`), the model keeps
code points above U+00FF as they are (and treats those above U+024F as non-alphanumeric). Example:
on `s("ā").s(b).s("Ω").s(z)` with `--an` the binary prints the order `ā b Ω z`,
the model `Ω b z ā`. So the agreement of `--an` between model and binary is limited to labels within
Latin-1 - in the correspondence runs: to the harness's label pool, which is ASCII.
A second limit: the crate accumulates digit runs in a wrapping `u64`, the model in `Nat`; labels with
a run of 20 or more digits can be ordered differently by the release binary (observed: `18446744073709551616` before
`10000000000000000000`).

(The theorems of this file are about the MODEL's comparison and hold for all labels; only the
agreement with the binary is limited as said.) -/

namespace CliM.NatLex
open ParserM SortModel

/-- the first number above every code point (`toNat_lt_runMark`) -/
def runMark : Nat := 0x110000

def code (c : Char) : Nat := if isAlnumU c then runMark + 1 + c.toNat else c.toNat

def keyGo : Option (Nat × Nat) → List Char → List Nat
  | none, [] => []
  | some (l, v), [] => [runMark, l, v]
  | none, c :: cs => if c.isDigit then keyGo (some (1, digitVal c)) cs else code c :: keyGo none cs
  | some (l, v), c :: cs =>
    if c.isDigit then keyGo (some (l + 1, v * 10 + digitVal c)) cs
    else runMark :: l :: v :: code c :: keyGo none cs

def key (l : Label) : List Nat := keyGo none (lexical l)

def cmp3 (x y : List Nat) : Option Ordering :=
  if lexLt x y then some .lt else if lexLt y x then some .gt else none

theorem cmp3_nil_nil : cmp3 [] [] = none := by simp [cmp3, lexLt]
theorem cmp3_cons_nil (x : Nat) (X : List Nat) : cmp3 (x :: X) [] = some .gt := by simp [cmp3, lexLt]
theorem cmp3_nil_cons (x : Nat) (X : List Nat) : cmp3 [] (x :: X) = some .lt := by simp [cmp3, lexLt]
theorem cmp3_cons_same (x : Nat) (X Y : List Nat) : cmp3 (x :: X) (x :: Y) = cmp3 X Y := by
  simp [cmp3, lexLt]
theorem cmp3_cons_lt (x y : Nat) (X Y : List Nat) (h : x < y) : cmp3 (x :: X) (y :: Y) = some .lt := by
  simp [cmp3, lexLt, h]
theorem cmp3_cons_gt (x y : Nat) (X Y : List Nat) (h : y < x) : cmp3 (x :: X) (y :: Y) = some .gt := by
  have h1 : ¬ x < y := by omega
  have h2 : ¬ x = y := by omega
  simp [cmp3, lexLt, h, h1, h2]

theorem isDigit_iff (c : Char) : c.isDigit = true ↔ 48 ≤ c.toNat ∧ c.toNat ≤ 57 := by
  simp [Char.isDigit, UInt32.le_iff_toNat_le]

theorem isAlpha_ge (c : Char) (h : c.isAlpha = true) : 65 ≤ c.toNat := by
  simp [Char.isAlpha, Char.isUpper, Char.isLower, UInt32.le_iff_toNat_le] at h
  omega

theorem isAlnumU_of_isDigit (c : Char) (h : c.isDigit = true) : isAlnumU c = true := by
  have h' := (isDigit_iff c).mp h
  have : c.toNat < 128 := by omega
  simp [isAlnumU, this, Char.isAlphanum, h]

theorem gt_of_isAlnumU_nondigit (c : Char) (h : isAlnumU c = true) (hd : c.isDigit = false) : 57 < c.toNat := by
  by_cases h128 : c.toNat < 128
  · simp [isAlnumU, h128, Char.isAlphanum, hd] at h
    have := isAlpha_ge c h
    omega
  · omega

theorem toNat_lt_runMark (c : Char) : c.toNat < runMark := char_toNat_lt c

/-- the first key entry of a stream that starts with `c` -/
def headKey (c : Char) : Nat := if c.isDigit then runMark else code c

/-- `ret_ordering` compares first key entries: `runMark` lies on the same side of a non-digit's code as a digit's code -/
theorem retOrdering_headKey (a b : Char) (hne : a ≠ b) (hd : (a.isDigit && b.isDigit) = false) :
    (headKey a < headKey b ∧ retOrdering a b = .lt) ∨ (headKey b < headKey a ∧ retOrdering a b = .gt) := by
  have ha' := toNat_lt_runMark a
  have hb' := toNat_lt_runMark b
  have hn : a.toNat ≠ b.toNat := fun h => hne (Char.toNat_inj.mp h)
  unfold retOrdering headKey code
  cases ha : a.isDigit <;> cases hb : b.isDigit
  · cases ea : isAlnumU a <;> cases eb : isAlnumU b <;> simp [Nat.compare_eq_lt, Nat.compare_eq_gt] <;> omega
  · have h1 := isAlnumU_of_isDigit b hb
    have h2 := (isDigit_iff b).mp hb
    cases ea : isAlnumU a
    · left; simp [h1]; omega
    · right
      have := gt_of_isAlnumU_nondigit a ea ha
      simp [h1, Nat.compare_eq_gt]; omega
  · have h1 := isAlnumU_of_isDigit a ha
    have h2 := (isDigit_iff a).mp ha
    cases eb : isAlnumU b
    · right; simp [h1]; omega
    · left
      have := gt_of_isAlnumU_nondigit b eb hb
      simp [h1, Nat.compare_eq_lt]; omega
  · simp [ha, hb] at hd

/-- inside a digit run the key is read off the way the loop reads the stream -/
theorem keyGo_some (l v : Nat) (as : List Char) : keyGo (some (l, v)) as =
    match as.head?.filter Char.isDigit with
    | some a => keyGo (some (l + 1, v * 10 + digitVal a)) as.tail
    | none => runMark :: l :: v :: keyGo none as := by
  cases as with
  | nil => rfl
  | cons c cs => cases e : c.isDigit <;> simp [keyGo, Option.filter, e]

theorem length_of_head {as : List Char} {a : Char} (h : as.head?.filter Char.isDigit = some a) :
    as.length = as.tail.length + 1 := by
  cases as with
  | nil => cases h
  | cons _ _ => rfl

theorem keyGo_some_shape : ∀ (as : List Char) (l v : Nat),
    ∃ l' v' r, keyGo (some (l, v)) as = runMark :: l' :: v' :: r ∧ l ≤ l' := by
  intro as
  induction as with
  | nil => intro l v; exact ⟨l, v, [], rfl, Nat.le_refl _⟩
  | cons c cs ih =>
    intro l v
    cases e : c.isDigit
    · exact ⟨l, v, code c :: keyGo none cs, by simp [keyGo, e], Nat.le_refl _⟩
    · obtain ⟨l', v', r, h1, h2⟩ := ih (l + 1) (v * 10 + digitVal c)
      exact ⟨l', v', r, by simp [keyGo, e, h1], by omega⟩

theorem keyGo_none_cons (a : Char) (as : List Char) : ∃ X, keyGo none (a :: as) = headKey a :: X := by
  cases e : a.isDigit
  · exact ⟨keyGo none as, by simp [keyGo, headKey, e]⟩
  · obtain ⟨l', v', r, h1, _⟩ := keyGo_some_shape as 1 (digitVal a)
    exact ⟨l' :: v' :: r, by simp [keyGo, headKey, e, h1]⟩

theorem cmpGo_key : ∀ fuel,
    (∀ as bs, 2 * as.length + 2 * bs.length + 1 ≤ fuel →
      cmpGo fuel none as bs = cmp3 (keyGo none as) (keyGo none bs)) ∧
    (∀ l n1 n2 as bs, 2 * as.length + 2 * bs.length + 2 ≤ fuel →
      cmpGo fuel (some (n1, n2)) as bs = cmp3 (keyGo (some (l, n1)) as) (keyGo (some (l, n2)) bs)) := by
  intro fuel
  induction fuel with
  | zero => constructor <;> intros <;> omega
  | succ f ih =>
    obtain ⟨ihN, ihD⟩ := ih
    constructor
    · intro as bs hf
      match as, bs with
      | [], [] => simp [cmpGo, keyGo, cmp3_nil_nil]
      | a :: as, [] =>
        obtain ⟨X, hx⟩ := keyGo_none_cons a as
        rw [hx]; simp [cmpGo, keyGo, cmp3_cons_nil]
      | [], b :: bs =>
        obtain ⟨X, hx⟩ := keyGo_none_cons b bs
        rw [hx]; simp [cmpGo, keyGo, cmp3_nil_cons]
      | a :: as, b :: bs =>
        simp only [List.length_cons] at hf
        cases hd : (a.isDigit && b.isDigit)
        · by_cases e : a = b
          · subst e
            have ha : a.isDigit = false := by simpa using hd
            simp only [cmpGo, keyGo, ha, Bool.false_and, bne_self_eq_false, if_false, Bool.false_eq_true]
            rw [cmp3_cons_same]
            exact ihN as bs (by omega)
          · have e' : (a != b) = true := by simp [e]
            obtain ⟨X, hx⟩ := keyGo_none_cons a as
            obtain ⟨Y, hy⟩ := keyGo_none_cons b bs
            rw [hx, hy]
            simp only [cmpGo, hd, e', if_false, if_true, Bool.false_eq_true]
            rcases retOrdering_headKey a b e hd with ⟨h1, h2⟩ | ⟨h1, h2⟩
            · rw [h2, cmp3_cons_lt _ _ _ _ h1]
            · rw [h2, cmp3_cons_gt _ _ _ _ h1]
        · have hab : a.isDigit = true ∧ b.isDigit = true := by simpa using hd
          simp only [cmpGo, keyGo, hab.1, hab.2, Bool.and_self, if_true]
          exact ihD 1 _ _ as bs (by omega)
    · intro l n1 n2 as bs hf
      rw [keyGo_some l n1 as, keyGo_some l n2 bs]
      simp only [cmpGo]
      match ha : as.head?.filter Char.isDigit, hb : bs.head?.filter Char.isDigit with
      | some a, some b =>
        have := length_of_head ha
        have := length_of_head hb
        exact ihD (l + 1) _ _ as.tail bs.tail (by omega)
      | some a, none =>
        obtain ⟨l', v', r, h1, h2⟩ := keyGo_some_shape as.tail (l + 1) (n1 * 10 + digitVal a)
        simp only [h1]
        rw [cmp3_cons_same, cmp3_cons_gt _ _ _ _ (by omega)]
      | none, some b =>
        obtain ⟨l', v', r, h1, h2⟩ := keyGo_some_shape bs.tail (l + 1) (n2 * 10 + digitVal b)
        simp only [h1]
        rw [cmp3_cons_same, cmp3_cons_lt _ _ _ _ (by omega)]
      | none, none =>
        simp only [cmp3_cons_same]
        by_cases e : n1 = n2
        · subst e
          simp only [bne_self_eq_false, if_false, Bool.false_eq_true, cmp3_cons_same]
          exact ihN as bs (by omega)
        · have e' : (n1 != n2) = true := by simp [e]
          simp only [e', if_true]
          rcases Nat.lt_or_gt_of_ne e with h | h
          · rw [cmp3_cons_lt _ _ _ _ h, Nat.compare_eq_lt.mpr h]
          · rw [cmp3_cons_gt _ _ _ _ h, Nat.compare_eq_gt.mpr h]

theorem le_eq_key (a b : Label) :
    le a b = (match cmp3 (key a) (key b) with
      | some o => o != .gt
      | none => byteLe a b) := by
  unfold le key
  rw [(cmpGo_key _).1 (lexical a) (lexical b) (by omega)]
  rfl

theorem le_iff (a b : Label) :
    le a b = true ↔ lexLt (key a) (key b) = true ∨ (key a = key b ∧ byteLe a b = true) := by
  rw [le_eq_key]
  cases h1 : lexLt (key a) (key b)
  · cases h2 : lexLt (key b) (key a)
    · have e := lexLt_trichotomy _ _ h1 h2
      have : cmp3 (key a) (key b) = none := by simp [cmp3, h1, h2]
      rw [this]; simp [e]
    · have hne : key a ≠ key b := by
        intro e; rw [e, lexLt_irrefl] at h2; cases h2
      simp [cmp3, h1, h2, hne]
  · simp [cmp3, h1]

theorem le_total (a b : Label) : le a b = true ∨ le b a = true := by
  rw [le_iff, le_iff]
  cases h1 : lexLt (key a) (key b)
  · cases h2 : lexLt (key b) (key a)
    · have e := lexLt_trichotomy _ _ h1 h2
      rcases byteLe_total a b with h | h
      · exact .inl (.inr ⟨e, h⟩)
      · exact .inr (.inr ⟨e.symm, h⟩)
    · exact .inr (.inl rfl)
  · exact .inl (.inl rfl)

theorem le_trans (a b c : Label) : le a b = true → le b c = true → le a c = true := by
  rw [le_iff, le_iff, le_iff]
  rintro (h1 | ⟨e1, h1⟩) (h2 | ⟨e2, h2⟩)
  · exact .inl (lexLt_trans _ _ _ h1 h2)
  · rw [← e2]; exact .inl h1
  · rw [e1]; exact .inl h2
  · exact .inr ⟨e1.trans e2, byteLe_trans a b c h1 h2⟩

/-- labels of ASCII letters and digits (the harness's label pool is inside this class) -/
def Plain (l : Label) : Prop := ∀ c ∈ l, c.toNat < 128 ∧ c.isAlphanum = true

/-- transitivity restricted to `Plain`; it holds without using `Plain` (`le_trans`) -/
def le_trans_plain_statement : Prop :=
  ∀ a b c, Plain a → Plain b → Plain c → le a b = true → le b c = true → le a c = true

theorem le_trans_plain_statement_holds : le_trans_plain_statement :=
  fun a b c _ _ _ => le_trans a b c

theorem lexical_plain (l : Label) (h : ∀ c ∈ l, c.toNat < 128) : lexical l = l.map lower := by
  induction l with
  | nil => rfl
  | cons c cs ih =>
    have hc : c.toNat < 128 := h c (List.mem_cons_self ..)
    have := ih fun d hd => h d (List.mem_cons_of_mem _ hd)
    simp only [lexical, List.flatMap_cons, List.map_cons] at this ⊢
    rw [this]
    simp [lexChar, hc]

theorem anSort_sorted_all (ns : List Label) :
    (anSort ns).Perm ns ∧ (anSort ns).Pairwise (fun a b => le a b = true) :=
  ⟨isort_perm le ns, isort_sorted le le_total le_trans ns⟩

theorem anSort_sorted (ns : List Label) (_h : ∀ l ∈ ns, Plain l) :
    (anSort ns).Perm ns ∧ (anSort ns).Pairwise (fun a b => le a b = true) :=
  anSort_sorted_all ns

/-- the conditional version through `isort_sorted_on`: transitivity is only needed on the members of `ns` -/
theorem anSort_sorted_of_trans (ns : List Label)
    (trans : ∀ a b c, a ∈ ns → b ∈ ns → c ∈ ns → le a b = true → le b c = true → le a c = true) :
    (anSort ns).Perm ns ∧ (anSort ns).Pairwise (fun a b => le a b = true) :=
  ⟨isort_perm le ns,
    isort_sorted_on le (· ∈ ns) (fun a b _ _ => le_total a b) trans ns (fun _ h => h)⟩

/-- `le` is antisymmetric: equal keys and `byteLe` both ways force equality; so the sorted
permutation of a duplicate-free name list is unique and STRICTLY ascending -/
theorem le_antisymm (a b : Label) (h1 : le a b = true) (h2 : le b a = true) : a = b := by
  rw [le_iff] at h1 h2
  rcases h1 with h1 | ⟨e1, h1⟩ <;> rcases h2 with h2 | ⟨e2, h2⟩
  · rw [lexLt_asymm _ _ h1] at h2; cases h2
  · rw [e2, lexLt_irrefl] at h1; cases h1
  · rw [e1, lexLt_irrefl] at h2; cases h2
  · exact bytes_injective a b (List.le_antisymm ((byteLe_iff a b).mp h1) ((byteLe_iff b a).mp h2))

/-- natural order, not byte order: `2 < 02 < a2 < a9 < a10 < B` (byte order: `02 2 B a10 a2 a9`) -/
example : anSort [['a','1','0'], ['a','9'], ['a','2'], ['B'], ['0','2'], ['2']]
    = [['2'], ['0','2'], ['a','2'], ['a','9'], ['a','1','0'], ['B']] := by decide

/-- the harness's pool: `argument1 < argument2 < argument10`, `neg < neg1 < negative`, case folded
(`B` between `a…` and `c`), `True`/`true` tie on the key and fall back to the byte order -/
example : anSort [['a','r','g','1','0'], ['t','r','u','e'], ['n','e','g','a','t','i','v','e'], ['a','r','g','2'],
      ['c'], ['n','e','g','1'], ['T','r','u','e'], ['B'], ['a','r','g','1'], ['n','e','g']]
    = [['a','r','g','1'], ['a','r','g','2'], ['a','r','g','1','0'], ['B'], ['c'], ['n','e','g'], ['n','e','g','1'],
       ['n','e','g','a','t','i','v','e'], ['T','r','u','e'], ['t','r','u','e']] := by decide

/-- on a duplicate-free name list (as `namelist` is) the result is STRICTLY ascending, hence the only
sorted permutation: any sorting algorithm with this comparison returns `anSort ns` -/
theorem anSort_strict (ns : List Label) (nd : ns.Nodup) :
    (anSort ns).Pairwise (fun a b => le a b = true ∧ le b a = false) := by
  have h1 := (anSort_sorted_all ns).2
  have h2 : (anSort ns).Nodup := (anSort_sorted_all ns).1.nodup_iff.mpr nd
  refine (h1.and h2).imp ?_
  rintro a b ⟨h, hne⟩
  refine ⟨h, ?_⟩
  cases e : le b a
  · rfl
  · exact absurd (le_antisymm a b h e) hne

end CliM.NatLex

#print axioms CliM.NatLex.cmpGo_key
#print axioms CliM.NatLex.le_total
#print axioms CliM.NatLex.le_trans
#print axioms CliM.NatLex.le_trans_plain_statement_holds
#print axioms CliM.NatLex.le_antisymm
#print axioms CliM.NatLex.anSort_sorted
#print axioms CliM.NatLex.anSort_sorted_of_trans
#print axioms CliM.NatLex.anSort_strict
