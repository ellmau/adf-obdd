import AdfObdd.PathsDepth
import Mathlib.Tactic.Ring
/-! model counts stand in the exact ratio of satisfying assignments (C13) -/

/-- Shannon count of the assignments to `vs` (others taken from `base`) that satisfy `f` -/
def sat (f : Asg → Bool) : Asg → List Nat → Nat
  | base, [] => if f base then 1 else 0
  | base, v :: vs => sat f (upd base v true) vs + sat f (upd base v false) vs

theorem sat_indep (f : Asg → Bool) (v : Nat) (hf : ∀ σ b, f (upd σ v b) = f σ) :
    ∀ (vs : List Nat) (base : Asg) (b : Bool), sat f (upd base v b) vs = sat f base vs := by
  intro vs
  induction vs with
  | nil => intro base b; simp [sat, hf]
  | cons w ws ih =>
    intro base b
    simp only [sat]
    by_cases e : w = v
    · subst e
      rw [MemoT.upd_upd, MemoT.upd_upd]
    · rw [upd_comm' base (Ne.symm e) b true, upd_comm' base (Ne.symm e) b false, ih, ih]

theorem sat_congr_on (f g : Asg → Bool) (v : Nat) (b : Bool) (h : ∀ σ, σ v = b → f σ = g σ) :
    ∀ (vs : List Nat) (base : Asg), v ∉ vs → base v = b → sat f base vs = sat g base vs := by
  intro vs
  induction vs with
  | nil => intro base _ hb; simp [sat, h base hb]
  | cons w ws ih =>
    intro base hv hb
    have hw : w ≠ v := fun e => hv (e ▸ List.mem_cons_self ..)
    have hws : v ∉ ws := fun m => hv (List.mem_cons_of_mem _ m)
    simp only [sat]
    rw [ih _ hws (by rw [upd_other base true (Ne.symm hw)]; exact hb),
        ih _ hws (by rw [upd_other base false (Ne.symm hw)]; exact hb)]

theorem split_arith (ml mh sl sh k dl dh D : Nat) (h1 : ml * 2 ^ k = sl * 2 ^ dl) (h2 : mh * 2 ^ k = sh * 2 ^ dh)
    (hl : dl ≤ D) (hh : dh ≤ D) :
    (ml * 2 ^ (D - dl) + mh * 2 ^ (D - dh)) * 2 ^ (k + 1) = (sh + sl) * 2 ^ (D + 1) := by
  have ea : ml * 2 ^ (D - dl) * 2 ^ k = sl * 2 ^ D := by
    rw [Nat.mul_right_comm, h1, Nat.mul_assoc, pow_split dl D hl]
  have eb : mh * 2 ^ (D - dh) * 2 ^ k = sh * 2 ^ D := by
    rw [Nat.mul_right_comm, h2, Nat.mul_assoc, pow_split dh D hh]
  calc (ml * 2 ^ (D - dl) + mh * 2 ^ (D - dh)) * 2 ^ (k + 1)
      = (ml * 2 ^ (D - dl) * 2 ^ k + mh * 2 ^ (D - dh) * 2 ^ k) * 2 := by
        rw [Nat.pow_succ, ← Nat.mul_assoc, Nat.add_mul]
    _ = (sl * 2 ^ D + sh * 2 ^ D) * 2 := by rw [ea, eb]
    _ = (sh + sl) * 2 ^ (D + 1) := by rw [Nat.pow_succ, ← Nat.mul_assoc, Nat.add_comm, ← Nat.add_mul]

theorem sat_true : ∀ (vs : List Nat) (base : Asg), sat (fun _ => true) base vs = 2 ^ vs.length := by
  intro vs
  induction vs with
  | nil => intro _; rfl
  | cons v vs ih => intro base; simp only [sat, ih, List.length_cons, Nat.pow_succ]; omega

theorem sat_false : ∀ (vs : List Nat) (base : Asg), sat (fun _ => false) base vs = 0 := by
  intro vs
  induction vs with
  | nil => intro _; rfl
  | cons v vs ih => intro base; simp only [sat, ih]

theorem models_val (s : Store) (h : TableWF s.nodes) : ∀ t, t < s.nodes.size →
    ∀ (vs : List Nat), vs.Pairwise (· < ·) → (∀ x ∈ depsF s (t+1) t, x ∈ vs) → ∀ base : Asg,
    (countF s (t+1) t).2.1 * 2 ^ vs.length = sat (eval s t) base vs * 2 ^ (countF s (t+1) t).2.2 := by
  refine h.ind ?_ ?_ ?_
  · intro vs _ _ base
    rw [countF_zero, show eval s 0 = fun _ => false from funext (eval_zero s), sat_false]; simp
  · intro vs _ _ base
    rw [countF_one, show eval s 1 = fun _ => true from funext (eval_one s), sat_true]; simp
  intro t n ht2 hn hc ih vs
  have ht := lt_of_get hn
  have hmem : ∀ {x}, x ∈ depsF s (t+1) t ↔ x = n.var ∨ ∃ b, x ∈ depsF s (n.child b + 1) (n.child b) :=
    mem_deps_node s h ht2 hn
  -- every listed variable is the node's own or a larger one
  have hge : ∀ y ∈ depsF s (t+1) t, n.var ≤ y := fun y hy => by
    rw [← topVar_of_get hn]; exact deps_ge s h t ht y hy
  induction vs with
  | nil => intro _ hd _; cases hd n.var (hmem.mpr (Or.inl rfl))
  | cons x vs' ihvs =>
    intro hsorted hd base
    have ⟨hxall, hs'⟩ := List.pairwise_cons.mp hsorted
    rcases Nat.lt_trichotomy x n.var with hlt | heq | hgt
    · -- a variable below the diagram: irrelevant, doubles the count
      have hindep : ∀ σ b, eval s t (upd σ x b) = eval s t σ := fun σ b =>
        Tab.eval_upd_of_lt s h t ht x b (by rw [topVar_of_get hn]; exact hlt) σ
      have hd' : ∀ y ∈ depsF s (t+1) t, y ∈ vs' := fun y hy =>
        (List.mem_cons.mp (hd y hy)).resolve_left fun e => Nat.lt_irrefl _ (Nat.lt_of_lt_of_le (e ▸ hlt) (hge y hy))
      have := ihvs hs' hd' base
      simp only [sat, List.length_cons]
      rw [sat_indep _ x hindep, sat_indep _ x hindep]
      rw [Nat.pow_succ, ← Nat.mul_assoc, this, Nat.add_mul]
      exact Nat.mul_two _
    · -- the top variable: split into the children
      subst heq
      have hnotin : n.var ∉ vs' := fun m => Nat.lt_irrefl _ (hxall _ m)
      have hdc : ∀ b, ∀ y ∈ depsF s (n.child b + 1) (n.child b), y ∈ vs' := fun b y hy =>
        (List.mem_cons.mp (hd y (hmem.mpr (Or.inr ⟨b, hy⟩)))).resolve_left
          (Nat.ne_of_gt (lt_of_mem_deps_child s h ht2 hn hy))
      have ec : ∀ b, sat (eval s t) (upd base n.var b) vs' = sat (eval s (n.child b)) (upd base n.var b) vs' :=
        fun b => sat_congr_on _ _ n.var b (fun σ hσ => Tab.eval_eq_child s h t n ht2 hn hσ) vs' _ hnotin
          (upd_same base n.var b)
      simp only [sat, List.length_cons]
      rw [ec true, ec false, count_node s h ht2 hn]
      exact split_arith _ _ _ _ _ _ _ _ (ih false vs' hs' (hdc false) _) (ih true vs' hs' (hdc true) _)
        (Nat.le_max_left _ _) (Nat.le_max_right _ _)
    · -- impossible: the top variable must be listed, and the list is ascending
      rcases List.mem_cons.mp (hd n.var (hmem.mpr (Or.inl rfl))) with h | h
      · exact absurd h (Nat.ne_of_lt hgt)
      · exact absurd (hxall _ h) (Nat.lt_asymm hgt)

/-- C13, model-count clause: `models(t) · 2^|vs| = #sat(vs) · 2^depth(t)` for every strictly
ascending variable list `vs` containing the variables of the diagram -/
theorem models_ratio (s : Store) (w : WF s) : ∀ (fuel t : Nat), t < s.nodes.size → t < fuel →
    ∀ (vs : List Nat), vs.Pairwise (· < ·) → (∀ x ∈ depsF s fuel t, x ∈ vs) → ∀ base : Asg,
    (countF s fuel t).2.1 * 2 ^ vs.length = sat (eval s t) base vs * 2 ^ (countF s fuel t).2.2 := by
  intro fuel t ht hf
  rw [countF_fuel s w.table t fuel hf, depsF_fuel s w.table t fuel hf]
  exact models_val s w.table t ht
#print axioms models_ratio
