import AdfObdd.PreGround2
/-! pre-grounding does not change the stability test (C03, pre-grounded hybrid
    pipeline): for `v` above the grounded interpretation `g`, the reduct of the
    pre-grounded conditions has exactly the fixpoints of the reduct of the original ones; `SameSem`
    collects what a theorem about answers needs of two presentations of a framework -/

theorem over_comm (σ : Asg) (g v : I3) (hgv : Le3 g v) :
    over (over σ 0 (falsePart v)) 0 g = over (over σ 0 g) 0 (falsePart v) := by
  funext x
  rw [over_zero_apply, over_zero_apply, over_zero_apply, over_zero_apply, falsePart_get]
  cases hgx : g[x]? with
  | none => rfl
  | some o =>
    cases o with
    | none => rfl
    | some b =>
      have := hgv x b hgx
      rw [this]
      cases b <;> simp

theorem redu_pre (D : List BoolFn) (g v : I3) (hgv : Le3 g v) : redu (pre D g) v = pre (redu D v) g := by
  simp only [redu, pre, List.map_map]
  apply List.map_congr_left
  intro f _
  funext σ
  simp only [Function.comp]
  rw [over_comm σ g v hgv]

theorem selfForced_redu {D : List BoolFn} {g v : I3} (sf : SelfForced D g) (hgv : Le3 g v) :
    SelfForced (redu D v) g := by
  intro i b f hg hf σ
  rw [redu_get] at hf
  obtain ⟨f0, hd, rfl⟩ := Option.map_eq_some_iff.mp hf
  simp only
  rw [← over_comm σ g v hgv]
  exact sf i b f0 hg hd _

/-- C03, pre-grounded pipeline: same fixpoints of the reduct's operator, hence the same least
fixpoint, hence (with `stable_check_iff`) the same verdict of the stability test -/
theorem pre_reduct_fix_iff (D : List BoolFn) (g v w : I3) (hg : IsLfp D g) (hgv : Le3 g v) :
    Gam (redu (pre D g) v) w = w ↔ Gam (redu D v) w = w := by
  have hl : g.length ≤ (redu D v).length := by
    rw [fix_length hg.1, redu, List.length_map]; exact Nat.le_refl _
  rw [redu_pre D g v hgv, pre_fix_iff (redu D v) g w hl (selfForced_redu (selfForced_of_fix hg.1) hgv)]
  exact ⟨fun x => x.1, fun x => ⟨x, lfp_le_reduct_fix D g v w hg hgv x⟩⟩

theorem pre_reduct_lfp_iff (D : List BoolFn) (g v L : I3) (hg : IsLfp D g) (hgv : Le3 g v) :
    IsLfp (redu (pre D g) v) L ↔ IsLfp (redu D v) L :=
  IsLfp.congr fun w => pre_reduct_fix_iff D g v w hg hgv
#print axioms pre_reduct_lfp_iff

/-- `D'` answers like `D` in every semantics: the same fixpoints of Γ and, at each of them, a reduct with the same
least fixpoint (what pre-grounding preserves) -/
structure SameSem (D D' : List BoolFn) : Prop where
  fix : ∀ w, Gam D' w = w ↔ Gam D w = w
  red : ∀ v, Gam D v = v → ∀ L, IsLfp (redu D' v) L ↔ IsLfp (redu D v) L

theorem SameSem.refl (D : List BoolFn) : SameSem D D := ⟨fun _ => Iff.rfl, fun _ _ _ => Iff.rfl⟩

theorem SameSem.pre {D : List BoolFn} {g : I3} (hg : IsLfp D g) : SameSem D (pre D g) :=
  ⟨fun w => pre_complete_iff D g w hg, fun v hv L => pre_reduct_lfp_iff D g v L hg (hg.2 v hv)⟩

theorem SameSem.lfp {D D' : List BoolFn} (h : SameSem D D') (g : I3) : IsLfp D' g ↔ IsLfp D g :=
  IsLfp.congr h.fix

theorem SameSem.stable_iff {D D' : List BoolFn} (h : SameSem D D') (v : I3) :
    StableExact.StableI D' v ↔ StableExact.StableI D v := by
  constructor
  · rintro ⟨b, c, d⟩
    have c' := (h.fix v).mp c
    exact ⟨b, c', fun w hw => d w ((h.red v c' w).mpr hw)⟩
  · rintro ⟨b, c, d⟩
    exact ⟨b, (h.fix v).mpr c, fun w hw => d w ((h.red v c w).mp hw)⟩
