import AdfObdd.CallHistoryProofs
import AdfObdd.Props.C13
import AdfObdd.NgOrder
/-! # Call histories: what a QUERY answers, and ORDER of the enumerations across histories (C11)

* `CallH.Exact … (.query _ _) := True` says nothing about queries.  `ExactQuery` gives the content: the
  numbers of `models / paths / max_depth / var_dependencies` of the condition of statement `i` are the
  truth-table-level numbers (`TT.sat / TT.unsat / TT.depth / TT.paths / TT.deps`, Spec/TT.lean) of ANY truth
  table `tt` over ANY `nv` variables that represents the condition's FUNCTION (`TT.Rep`), provided the function
  looks at the variables below `nv` only (`TT.DetBy`) - via the C13 exactness theorems.
* `stable` / `stable_with_prefilter` enumerate `TwoValuedInterpretationsIterator` over the grounded vector and
  keep the candidates that pass a test; both the candidates (vectors of the handles 0 / 1, a function of the
  DECIDED part of the grounded vector) and the verdict (a function of the conditions' functions) are
  independent of the diagrams: the ANSWER LISTS of two objects whose conditions denote the same functions are
  EQUAL (same vectors, same order) - `stable_order_independent`.  Likewise the decided parts `complete` lists
  (`complete_order_independent`) and those of the nogood-learning search (`NConc.Ord.joint_all`). -/
namespace CallH

/-- what the numbers of a query must be, in terms of a truth table `tt` over `nv` variables -/
def QuerySpec (nv tt : Nat) : Query → List Nat → Prop
  | .models, l => ∃ cm m, l = [cm, m] ∧ m * 2 ^ nv = TT.sat nv tt * 2 ^ TT.depth nv tt ∧
      cm * 2 ^ nv = TT.unsat nv tt * 2 ^ TT.depth nv tt
  | .paths, l => l = [(TT.paths nv tt).1, (TT.paths nv tt).2]
  | .depth, l => l = [TT.depth nv tt]
  | .deps, l => ∀ x, x ∈ l ↔ x ∈ TT.deps nv tt

theorem deps_lt_of_detBy (s : Store) (w : WF s) (t nv : Nat) (ht : t < s.nodes.size)
    (hdet : TT.DetBy nv (eval s t)) : ∀ x ∈ depsF s (t+1) t, x < nv :=
  fun x hx => TT.essential_lt hdet ((deps_exact s w t x ht).mp hx)

theorem runQuery_exact (s : Store) (w : WF s) (t : Nat) (ht : t < s.nodes.size) (nv tt : Nat)
    (hrep : TT.Rep nv tt (eval s t)) (hdet : TT.DetBy nv (eval s t)) (q : Query) :
    QuerySpec nv tt q (runQuery s t q) := by
  have hdeps := deps_lt_of_detBy s w t nv ht hdet
  have ⟨c1, c2, c3⟩ := C13.counts_vs_truth_table s w t ht nv tt hrep hdeps
  have hd := C13.depth_vs_truth_table s w t ht nv tt hrep hdeps
  have hp := (C13.paths_vs_truth_table s w t ht nv tt hrep hdeps).2
  cases q with
  | models => exact ⟨_, _, rfl, by rw [hd]; exact c1, by rw [hd]; exact c2⟩
  | paths => simp only [QuerySpec, runQuery]; rw [hp]
  | depth => simp only [QuerySpec, runQuery]; rw [hd]
  | deps => exact c3

/-- what the answer of a query must be, as a function of the functions `D` of the conditions: a list of
numbers that meets `QuerySpec` for every truth table representing `D[i]`; a statement index out of range is
rejected -/
def ExactQuery (D : List BoolFn) (i : Nat) (q : Query) : Answer → Prop
  | .nums l => i < D.length ∧ ∀ nv tt, TT.Rep nv tt (D.getD i (fun _ => false)) →
      TT.DetBy nv (D.getD i (fun _ => false)) → QuerySpec nv tt q l
  | .rejected => ¬ i < D.length
  | _ => False

/-- a written condition looks at the statements only, so `nv := number of statements` is admissible -/
theorem sem_detBy (fms : List Fm) (hv : ∀ f ∈ fms, NConc.atomsLt fms.length f) (i : Nat) :
    TT.DetBy fms.length ((fms.map Fm.sem).getD i (fun _ => false)) := by
  rw [List.getD_eq_getElem?_getD, List.getElem?_map]
  cases hf : fms[i]? with
  | none => exact fun _ _ _ => rfl
  | some f => exact NConc.sem_supp f (hv f (List.mem_of_getElem? hf))

/-- `stable` and `stable_with_prefilter` list the same vectors in the same order on every object whose
conditions denote the same functions (e.g. after any history vs. freshly built): the answer lists are EQUAL -/
theorem stable_order_independent (s s' : Store) (n : Nat) (ac ac' : List Nat) (w : WF s) (w' : WF s')
    (hl : ac.length = n) (hl' : ac'.length = n)
    (hv : ∀ t ∈ ac, t < s.nodes.size) (hv' : ∀ t ∈ ac', t < s'.nodes.size)
    (hsame : ac.map (eval s) = ac'.map (eval s')) :
    (stableAll s n ac).2 = (stableAll s' n ac').2 ∧ (Cli.stablePre s n ac).2 = (Cli.stablePre s' n ac').2 := by
  rw [(StableExact.stableAll_filter s n ac w hl hv).2, (StableExact.stableAll_filter s' n ac' w' hl' hv').2,
    (StableExact.stablePre_filter s n ac w hl hv).2, (StableExact.stablePre_filter s' n ac' w' hl' hv').2,
    StableExact.twoValAll_eq, StableExact.twoValAll_eq, grounded_dec_same w w' hl hl' hv hv' hsame, hsame]
  exact ⟨rfl, rfl⟩

theorem stable_answers_equal_after_history (st : AdfState) (hi : Inv st) (h : List Call) :
    answerAfter st h .stable = (runCall st .stable).2 ∧ answerAfter st h .stablePre = (runCall st .stablePre).2 := by
  have ⟨hi', hn, hl, hd⟩ := after_history st hi h
  have := stable_order_independent _ _ st.n _ _ hi'.wf hi.wf hl hi.len hi'.ac hi.ac hd
  rw [answerAfter, answerAfter, runCall_stable, runCall_stable, runCall_stablePre, runCall_stablePre, hn,
    this.1, this.2]
  exact ⟨rfl, rfl⟩

open Classical in
/-- `complete` lists the same decided parts in the same order on every object whose conditions denote the
same functions -/
theorem complete_order_independent (s s' : Store) (n : Nat) (ac ac' : List Nat) (w : WF s) (w' : WF s')
    (hl : ac.length = n) (hl' : ac'.length = n)
    (hv : ∀ t ∈ ac, t < s.nodes.size) (hv' : ∀ t ∈ ac', t < s'.nodes.size)
    (hsame : ac.map (eval s) = ac'.map (eval s')) :
    dec (completeAll s n ac).2.2 = dec (completeAll s' n ac').2.2 := by
  have key : ∀ (s : Store) (ac : List Nat), WF s → ac.length = n → (∀ t ∈ ac, t < s.nodes.size) →
      dec (completeAll s n ac).2.2 =
        (List.picks CompleteExact.opt3Of ((groundedLoop StoreRA (n + 1) s ac).2.map storeIsConst)).filter
          (fun d => decide (Gam (ac.map (eval s)) d = d)) := by
    intro s ac w hl hv
    rw [← CompleteExact.threeValAll_dec, dec, (CompleteExact.completeAll_spec s n ac w hl hv).2.2.2]
    exact CompleteExact.map_filter_dec fun v hv' =>
      CompleteExact.check_grounded_iff s n ac w hl hv v ((IterFull.mem_threeValAll _ v).mp hv')
  rw [key s ac w hl hv, key s' ac' w' hl' hv', grounded_dec_same w w' hl hl' hv hv' hsame, hsame]

end CallH
