import AdfObdd.CliModes
import AdfObdd.Props.C02
import AdfObdd.Props.C03
import AdfObdd.Props.C04
import AdfObdd.Props.C05
import AdfObdd.SpecSound
/-! # C15 — every block the CLI model prints is the specification's answer for its section

C01–C05 composed for the functions `Cli.run` is made of. The hybrid arm starts from the vector `grounded`
returns, which denotes the PRE-GROUNDED conditions `pre D g` (every condition with the decided statements
of the grounded interpretation `g` substituted, `grounded_is_pre`). These have the same grounded
interpretation, the same complete interpretations / two-valued models, and for every model the same least
fixpoint of the reduct (`Same.pre`), so a section is proved once, for handles that denote any `D'` with
`Same n D D'` (`section_exact`). What one section hands to the next is `Denotes` (Fold.lean), threaded by
`CliM.runWith_thread`.

The two sections that run the nogood-learning search (`twoval`, `stmng`) do so with a bound on the
number of loop iterations (`Cli.runSection`: 1 000 000). C05 proves that the loop halts within
`NConc.ngBound n = 2^(n+3)` iterations; for a framework with more than a million two-valued models the
bounded model necessarily emits fewer lines than the specification. The statement therefore carries the
hypothesis "no search of the invocation hit the bound" (`Halted`); `haltedF_within` shows that it holds
for every invocation once the bound is `≥ 2^(n+3)`, and it is `true` by evaluation for every
invocation without those two flags. `runF fuel` is the model with the bound as a parameter
(`Cli.run` is `runF 1000000`, `C15.run_is_bound_instance`); the naive arm of the text-level model (`CliM.secNaive`, `CliM.runWith`)
is the same function (`secNaive_eq_F`, `runWith_naive_eq_F`). -/
namespace CliF
open Cli

def runSectionF (fuel : Nat) (heu : SM.Heu) (sec : Section) (s : Store) (n : Nat) (ac : List Nat) :
    Store × List (List Nat) :=
  match sec with
  | .twoval => let r := SM.ngSearch heu fuel s n ac false; (r.1, r.2.1)
  | .stmng => let r := SM.ngSearch heu fuel s n ac true; (r.1, r.2.1)
  | sec => runSection heu sec s n ac

def runFromF (fuel : Nat) (heu : SM.Heu) (n : Nat) (ac : List Nat) :
    List Section → Store × List (Section × List (List Nat)) → Store × List (Section × List (List Nat))
  | [], acc => acc
  | sec :: rest, acc =>
    let r := runSectionF fuel heu sec acc.1 n ac
    runFromF fuel heu n ac rest (r.1, acc.2 ++ [(sec, r.2)])

def runF (fuel : Nat) (m : Mode) (f : Flags) (heu : SM.Heu) (s : Store) (n : Nat) (ac : List Nat) :
    List (Section × List (List Nat)) :=
  let start := startOf m s n ac
  (runFromF fuel heu n start.2 (sections m f) (start.1, [])).2

section equations
variable (fuel : Nat) (heu : SM.Heu) (s : Store) (n : Nat) (ac : List Nat)

theorem runSectionF_grd : runSectionF fuel heu .grd s n ac =
    ((groundedLoop StoreRA (n + 1) s ac).1, [(groundedLoop StoreRA (n + 1) s ac).2]) := rfl
theorem runSectionF_com : runSectionF fuel heu .com s n ac = ((completeAll s n ac).1, (completeAll s n ac).2.2) := rfl
theorem runSectionF_twoval : runSectionF fuel heu .twoval s n ac =
    ((SM.ngSearch heu fuel s n ac false).1, (SM.ngSearch heu fuel s n ac false).2.1) := rfl
theorem runSectionF_stm : runSectionF fuel heu .stm s n ac = stableAll s n ac := rfl
theorem runSectionF_stmca : runSectionF fuel heu .stmca s n ac = countAll s n ac true := rfl
theorem runSectionF_stmcb : runSectionF fuel heu .stmcb s n ac = countAll s n ac false := rfl
theorem runSectionF_stmpre : runSectionF fuel heu .stmpre s n ac = stablePre s n ac := rfl
theorem runSectionF_stmrew : runSectionF fuel heu .stmrew s n ac = stableAll s n ac := rfl
theorem runSectionF_stmng : runSectionF fuel heu .stmng s n ac =
    ((SM.ngSearch heu fuel s n ac true).1, (SM.ngSearch heu fuel s n ac true).2.1) := rfl

end equations

theorem runSectionF_eq (heu : SM.Heu) (sec : Section) (s : Store) (n : Nat) (ac : List Nat) :
    runSectionF 1000000 heu sec s n ac = runSection heu sec s n ac := by
  cases sec <;> rfl

theorem runFromF_eq (heu : SM.Heu) (n : Nat) (ac : List Nat) : ∀ (l : List Section)
    (acc : Store × List (Section × List (List Nat))), runFromF 1000000 heu n ac l acc = runFrom heu n ac l acc := by
  intro l
  induction l with
  | nil => intro acc; rfl
  | cons x xs ih => intro acc; simp only [runFromF, runFrom, runSectionF_eq]; exact ih _

/-- did the section's search (if it runs one) halt within the bound? -/
def sectionHaltsF (fuel : Nat) (heu : SM.Heu) (sec : Section) (s : Store) (n : Nat) (ac : List Nat) : Bool :=
  match sec with
  | .twoval => (SM.ngSearch heu fuel s n ac false).2.2.2
  | .stmng => (SM.ngSearch heu fuel s n ac true).2.2.2
  | _ => true

def haltsFromF (fuel : Nat) (heu : SM.Heu) (n : Nat) (ac : List Nat) : List Section → Store → Bool
  | [], _ => true
  | sec :: rest, s =>
    sectionHaltsF fuel heu sec s n ac && haltsFromF fuel heu n ac rest (runSectionF fuel heu sec s n ac).1

/-- no nogood-learning search of the invocation hit the iteration bound -/
def HaltedF (fuel : Nat) (m : Mode) (f : Flags) (heu : SM.Heu) (s : Store) (n : Nat) (ac : List Nat) : Prop :=
  haltsFromF fuel heu n (startOf m s n ac).2 (sections m f) (startOf m s n ac).1 = true

/-- `HaltedF` at the bound `Cli.runSection` gives the searches -/
def Halted (m : Mode) (f : Flags) (heu : SM.Heu) (s : Store) (n : Nat) (ac : List Nat) : Prop :=
  HaltedF 1000000 m f heu s n ac

theorem secNaive_eq_F (fuel : Nat) (heu : SM.Heu) (n : Nat) (ac : List Nat) (sec : Section) (s : Store) :
    CliM.secNaive fuel heu n ac sec s = runSectionF fuel heu sec s n ac := by
  cases sec <;> rfl

theorem secHalts_eq_F (fuel : Nat) (heu : SM.Heu) (n : Nat) (ac : List Nat) (sec : Section) (s : Store) :
    CliM.secHalts fuel heu n ac sec s = sectionHaltsF fuel heu sec s n ac := by
  cases sec <;> rfl

theorem runWith_naive_eq_F (fuel : Nat) (heu : SM.Heu) (n : Nat) (ac : List Nat) :
    ∀ (l : List Section) (acc : Store × List CliM.Block),
      CliM.runWith (CliM.secNaive fuel heu n ac) l acc = runFromF fuel heu n ac l acc := by
  intro l
  induction l with
  | nil => intro acc; rfl
  | cons x xs ih => intro acc; simp only [CliM.runWith, runFromF, secNaive_eq_F]; exact ih _

theorem haltsWith_naive_eq_F (fuel : Nat) (heu : SM.Heu) (n : Nat) (ac : List Nat) :
    ∀ (l : List Section) (s : Store),
      CliM.haltsWith (CliM.secHalts fuel heu n ac) (CliM.secNaive fuel heu n ac) l s = haltsFromF fuel heu n ac l s := by
  intro l
  induction l with
  | nil => intro s; rfl
  | cons x xs ih => intro s; simp only [CliM.haltsWith, haltsFromF, secNaive_eq_F, secHalts_eq_F, ih]

theorem haltsWith_no_search (fuel : Nat) (heu : SM.Heu) (n : Nat) (ac : List Nat)
    (R : Section → Store → Store × List (List Nat)) (m : Mode) (f : Flags) (h1 : f.twoval = false)
    (h2 : f.stmng = false) (s : Store) :
    CliM.haltsWith (CliM.secHalts fuel heu n ac) R (sections m f) s = true := by
  refine CliM.haltsWith_thread (P := fun _ => True) _ (fun sec hsec s _ => ⟨?_, trivial⟩) s trivial
  have := (List.mem_filter.mp hsec).2
  cases sec <;> first | rfl | simp [wanted, h1, h2] at this

theorem halted_of_no_search (fuel : Nat) (m : Mode) (f : Flags) (heu : SM.Heu) (s : Store) (n : Nat) (ac : List Nat)
    (h1 : f.twoval = false) (h2 : f.stmng = false) : HaltedF fuel m f heu s n ac := by
  unfold HaltedF
  rw [← haltsWith_naive_eq_F]
  exact haltsWith_no_search fuel heu n _ _ m f h1 h2 _

theorem ngSearch_mono (h : SM.Heu) (s : Store) (n : Nat) (ac : List Nat) (stable : Bool) {a b : Nat}
    (ha : (SM.ngSearch h a s n ac stable).2.2.2 = true) (hab : a ≤ b) :
    SM.ngSearch h b s n ac stable = SM.ngSearch h a s n ac stable := by
  rw [NConc.ngSearch_eq] at ha
  rw [NConc.ngSearch_eq, NConc.ngSearch_eq]
  exact NConc.cSearch_mono _ a b s n ac stable ha hab

theorem ngSearch_done_mono (h : SM.Heu) (s : Store) (n : Nat) (ac : List Nat) (stable : Bool) {a b : Nat}
    (ha : (SM.ngSearch h a s n ac stable).2.2.2 = true) (hab : a ≤ b) :
    (SM.ngSearch h b s n ac stable).2.2.2 = true := by
  rw [ngSearch_mono h s n ac stable ha hab]; exact ha

section ngstore
open NConc NSem

theorem ngSearch_store (h : SM.Heu) (F : Nat) (s : Store) (n : Nat) (ac : List Nat) (stable : Bool)
    (w0 : WF s) (hn : ac.length = n) (hac0 : ∀ t ∈ ac, t < s.nodes.size) :
    WF (SM.ngSearch h F s n ac stable).1 ∧ Ext s (SM.ngSearch h F s n ac stable).1 := by
  rw [ngSearch_eq]
  have := After.cState_store (SM.heuCall h) (heuOK_builtin h) s n ac stable w0 hac0 hn F
  exact ⟨this.1, this.2.1⟩

theorem ng_facts (h : SM.Heu) (s : Store) (n : Nat) (ac : List Nat) (stable : Bool) (w0 : WF s) (hn : ac.length = n)
    (hac0 : ∀ t ∈ ac, t < s.nodes.size)
    (hsup : stable = false → ∀ t ∈ ac, ∀ σ τ : Asg, (∀ i, i < n → σ i = τ i) → eval s t σ = eval s t τ) :
    (∃ F0, ∀ F, F0 ≤ F → (SM.ngSearch h F s n ac stable).2.2.2 = true) ∧
    ∀ F, (SM.ngSearch h F s n ac stable).2.2.2 = true →
      WF (SM.ngSearch h F s n ac stable).1 ∧ Ext s (SM.ngSearch h F s n ac stable).1 ∧
      ((SM.ngSearch h F s n ac stable).2.1.map (fun v => v.map storeIsConst)).Nodup ∧
      ∀ v : I3, v ∈ (SM.ngSearch h F s n ac stable).2.1.map (fun v => v.map storeIsConst) ↔
        (v.length = n ∧ TotalI v ∧ Gam (ac.map (eval s)) v = v ∧
          (stable = true → ∀ w : I3, IsLfp (redu (ac.map (eval s)) v) w →
            ∀ i : Nat, v[i]? = some (some true) → w[i]? = some (some true))) := by
  refine ⟨⟨ngBound n, ngSearch_halts_within h s n ac stable w0 hn hac0⟩, fun F dF => ?_⟩
  have st := ngSearch_store h F s n ac stable w0 hn hac0
  obtain ⟨f1, d1, ex1⟩ := C05.ng_search_exact h s n ac stable w0 hn hac0 hsup
  refine ⟨st.1, st.2, ?_⟩
  rw [ngSearch_eq_of_done h s n ac stable d1 dF]
  exact ex1

end ngstore

theorem countAll_store (s : Store) (n : Nat) (ac : List Nat) (useA : Bool) (w : WF s) (hn : ac.length = n)
    (hv : ∀ t ∈ ac, t < s.nodes.size) :
    WF (countAll s n ac useA).1 ∧ Ext s (countAll s n ac useA).1 :=
  have r := CI.countAll_filter s n ac useA w hn hv
  ⟨r.1, r.2.1⟩

/-- **`grounded` on the store returns the pre-grounded framework**: a well-formed extension of the
store, valid handles, and their functions are the conditions with the decided statements of the
grounded interpretation `g` (= the decided part of the vector, the least fixpoint of Γ) substituted -/
theorem grounded_is_pre (s : Store) (n : Nat) (ac : List Nat) (w : WF s) (hn : ac.length = n)
    (hv : ∀ t ∈ ac, t < s.nodes.size) :
    let r := groundedLoop StoreRA (n + 1) s ac
    WF r.1 ∧ Ext s r.1 ∧ (∀ t ∈ r.2, t < r.1.nodes.size) ∧ r.2.length = n ∧
    ∃ g : I3, IsLfp (ac.map (eval s)) g ∧ r.2.map (eval r.1) = pre (ac.map (eval s)) g := by
  have ⟨w1, e1, v1, d1⟩ := groundedLoop_store (n + 1) s ac w hv
  have ⟨hp, hg⟩ := semLoop_pre_lfp (ac.map (eval s)) (n + 1) (by simp [hn])
  have e := d1.trans hp
  refine ⟨w1, e1, v1, ?_, _, hg, e⟩
  simpa [_root_.pre, hn] using congrArg List.length e

/-- `D'` has the same answers as `D` in every semantics of the CLI, and looks at the statements only -/
structure Same (n : Nat) (D D' : List BoolFn) : Prop extends SameSem D D' where
  det : ∀ f ∈ D', TT.DetBy n f

theorem Same.refl {n : Nat} {D : List BoolFn} (hd : ∀ f ∈ D, TT.DetBy n f) : Same n D D :=
  ⟨SameSem.refl D, hd⟩

theorem Same.pre {n : Nat} {D : List BoolFn} (hd : ∀ f ∈ D, TT.DetBy n f) {g : I3}
    (hg : IsLfp D g) : Same n D (pre D g) :=
  ⟨SameSem.pre hg, hyb_detBy true hd⟩

theorem runSectionF_store (fuel : Nat) (heu : SM.Heu) (sec : Section) (s : Store) (n : Nat) (ac : List Nat)
    (w : WF s) (hn : ac.length = n) (hv : ∀ t ∈ ac, t < s.nodes.size) :
    WF (runSectionF fuel heu sec s n ac).1 ∧ Ext s (runSectionF fuel heu sec s n ac).1 := by
  cases sec with
  | grd =>
    have ⟨w1, e1, _⟩ := groundedLoop_store (n + 1) s ac w hv
    simp only [runSectionF_grd]
    exact ⟨w1, e1⟩
  | com =>
    have ⟨w1, e1, _⟩ := C02.complete_store s n ac w hn hv
    simp only [runSectionF_com]
    exact ⟨w1, e1⟩
  | twoval => simp only [runSectionF_twoval]; exact ngSearch_store heu fuel s n ac false w hn hv
  | stmng => simp only [runSectionF_stmng]; exact ngSearch_store heu fuel s n ac true w hn hv
  | stm => rw [runSectionF_stm]; exact (C03.stable_store s n ac w hn hv).1
  | stmrew => rw [runSectionF_stmrew]; exact (C03.stable_store s n ac w hn hv).1
  | stmpre => rw [runSectionF_stmpre]; exact (C03.stable_store s n ac w hn hv).2
  | stmca => rw [runSectionF_stmca]; exact countAll_store s n ac true w hn hv
  | stmcb => rw [runSectionF_stmcb]; exact countAll_store s n ac false w hn hv

section sections
variable {n : Nat} {tts : List Nat} {D D' : List BoolFn}

theorem grounded_perm (R : SpecSound.Reps n tts D) (hD : D.length = n) (hs : Same n D D') {g : I3}
    (hg : IsLfp D' g) : [g].Perm (specSection n tts .grd) := by
  rw [((hs.lfp g).mp hg).unique (SpecSound.grounded_spec R hD)]
  exact List.Perm.refl _

theorem complete_perm (R : SpecSound.Reps n tts D) (hs : Same n D D') {out : List I3} (hnd : out.Nodup)
    (hm : ∀ v : I3, v ∈ out ↔ (v.length = n ∧ Gam D' v = v)) : out.Perm (Spec.completeAll n tts) := by
  refine (List.perm_ext_iff_of_nodup hnd (SpecSound.completeAll_nodup n tts)).mpr fun v => ?_
  rw [hm v, hs.fix v, SpecSound.completeAll_spec R v]

theorem stable_perm (R : SpecSound.Reps n tts D) (hs : Same n D D') {out : List I3}
    (h : out.Nodup ∧ ∀ v : I3, v ∈ out ↔ (v.length = n ∧ StableExact.StableI D' v)) :
    out.Perm (Spec.stableAll n tts) :=
  (List.perm_ext_iff_of_nodup h.1 (SpecSound.stableAll_nodup n tts)).mpr fun v =>
    (h.2 v).trans ((and_congr_right' (hs.toSameSem.stable_iff v)).trans (SpecSound.stable_spec R v).symm)

theorem section_exact (R : SpecSound.Reps n tts D) (hD : D.length = n) (hs : Same n D D')
    (fuel : Nat) (heu : SM.Heu) (sec : Section) (s : Store) (ac : List Nat) (w : WF s)
    (hn : ac.length = n) (hv : ∀ t ∈ ac, t < s.nodes.size) (hden : ac.map (eval s) = D')
    (hh : sectionHaltsF fuel heu sec s n ac = true) :
    WF (runSectionF fuel heu sec s n ac).1 ∧ Ext s (runSectionF fuel heu sec s n ac).1 ∧
    ((runSectionF fuel heu sec s n ac).2.map (fun v => v.map storeIsConst)).Perm (specSection n tts sec) := by
  have st := runSectionF_store fuel heu sec s n ac w hn hv
  refine ⟨st.1, st.2, ?_⟩
  subst hden
  have hsup : ∀ t ∈ ac, ∀ σ τ : Asg, (∀ i, i < n → σ i = τ i) → eval s t σ = eval s t τ :=
    fun t ht => hs.det (eval s t) (List.mem_map_of_mem ht)
  cases sec with
  | grd =>
    rw [runSectionF_grd]
    exact grounded_perm R hD hs (grounded_native (n + 1) s ac w hv (by omega))
  | com =>
    have ⟨nd, hm, _⟩ := C02.complete_exact s n ac w hn hv
    simp only [runSectionF_com]
    exact complete_perm R hs nd hm
  | twoval =>
    have ⟨_, nd, hm⟩ := ((ng_facts heu s n ac false w hn hv (fun _ => hsup)).2 fuel hh).2
    simp only [runSectionF_twoval]
    refine (List.perm_ext_iff_of_nodup nd (SpecSound.models2_nodup n tts)).mpr fun v => ?_
    show _ ↔ v ∈ Spec.models2 n tts
    rw [hm v, hs.fix v, SpecSound.models2_spec R v]
    exact ⟨fun ⟨a, b, c, _⟩ => ⟨a, b, c⟩, fun ⟨a, b, c⟩ => ⟨a, b, c, fun h => by cases h⟩⟩
  | stmng =>
    have ⟨_, nd, hm⟩ := ((ng_facts heu s n ac true w hn hv (fun h => by cases h)).2 fuel hh).2
    simp only [runSectionF_stmng]
    refine stable_perm R hs ⟨nd, fun v => (hm v).trans ?_⟩
    exact ⟨fun ⟨a, b, c, d⟩ => ⟨a, b, c, d rfl⟩, fun ⟨a, b, c, d⟩ => ⟨a, b, c, fun _ => d⟩⟩
  | stm => rw [runSectionF_stm]; exact stable_perm R hs (C03.stable_exact s n ac w hn hv)
  | stmrew => rw [runSectionF_stmrew]; exact stable_perm R hs (C03.stable_exact s n ac w hn hv)
  | stmpre => rw [runSectionF_stmpre]; exact stable_perm R hs (C03.stablepre_exact s n ac w hn hv)
  | stmca => rw [runSectionF_stmca]; exact stable_perm R hs (C04.count_search_exact s n ac true w hn hv)
  | stmcb => rw [runSectionF_stmcb]; exact stable_perm R hs (C04.count_search_exact s n ac false w hn hv)

/-- halting does not need the support hypothesis of the two-valued mode -/
theorem section_halts_within (heu : SM.Heu) (sec : Section) (s : Store) (n : Nat) (ac : List Nat) (w : WF s)
    (hn : ac.length = n) (hv : ∀ t ∈ ac, t < s.nodes.size) :
    ∀ F, NConc.ngBound n ≤ F → sectionHaltsF F heu sec s n ac = true := by
  intro F hF
  cases sec with
  | twoval => exact NConc.ngSearch_halts_within heu s n ac false w hn hv F hF
  | stmng => exact NConc.ngSearch_halts_within heu s n ac true w hn hv F hF
  | _ => rfl

theorem runSectionF_halted_mono (heu : SM.Heu) (sec : Section) (s : Store) (n : Nat) (ac : List Nat) {a b : Nat}
    (ha : sectionHaltsF a heu sec s n ac = true) (hab : a ≤ b) :
    runSectionF b heu sec s n ac = runSectionF a heu sec s n ac := by
  cases sec with
  | twoval => rw [runSectionF_twoval, runSectionF_twoval, ngSearch_mono heu s n ac false ha hab]
  | stmng => rw [runSectionF_stmng, runSectionF_stmng, ngSearch_mono heu s n ac true ha hab]
  | _ => rfl

theorem sectionHaltsF_mono (heu : SM.Heu) (sec : Section) (s : Store) (n : Nat) (ac : List Nat) {a b : Nat}
    (ha : sectionHaltsF a heu sec s n ac = true) (hab : a ≤ b) : sectionHaltsF b heu sec s n ac = true := by
  cases sec with
  | twoval => exact ngSearch_done_mono heu s n ac false ha hab
  | stmng => exact ngSearch_done_mono heu s n ac true ha hab
  | _ => rfl

end sections

def Faithful (n : Nat) (tts : List Nat) (blk : Section × List (List Nat)) : Prop :=
  (blk.2.map (fun v => v.map storeIsConst)).Perm (specSection n tts blk.1)

theorem Faithful.perm {n : Nat} {tts : List Nat} {blk blk' : Section × List (List Nat)}
    (h : Faithful n tts blk) (h' : Faithful n tts blk') (hs : blk.1 = blk'.1) :
    (blk.2.map (fun v => v.map storeIsConst)).Perm (blk'.2.map (fun v => v.map storeIsConst)) := by
  unfold Faithful at h h'
  rw [hs] at h
  exact h.trans h'.symm

section threading
variable {n : Nat} {tts : List Nat} {D D' : List BoolFn} {ac : List Nat}

theorem secNaive_step (R : SpecSound.Reps n tts D) (hD : D.length = n) (hs : Same n D D')
    (fuel : Nat) (heu : SM.Heu) (hn : ac.length = n) (sec : Section) (s : Store) (h : Denotes s ac D')
    (hh : CliM.secHalts fuel heu n ac sec s = true) :
    Denotes (CliM.secNaive fuel heu n ac sec s).1 ac D' ∧
    Faithful n tts (sec, (CliM.secNaive fuel heu n ac sec s).2) := by
  rw [secHalts_eq_F] at hh
  rw [secNaive_eq_F]
  have ⟨w2, e2, pm⟩ := section_exact R hD hs fuel heu sec s ac h.wf hn h.valid h.den hh
  exact ⟨h.ext w2 e2, pm⟩

theorem secNaive_halts_step (heu : SM.Heu) (hn : ac.length = n) {F : Nat} (hF : NConc.ngBound n ≤ F)
    (sec : Section) (s : Store) (h : Denotes s ac D) :
    CliM.secHalts F heu n ac sec s = true ∧ Denotes (CliM.secNaive F heu n ac sec s).1 ac D := by
  rw [secHalts_eq_F, secNaive_eq_F]
  have st := runSectionF_store F heu sec s n ac h.wf hn h.valid
  exact ⟨section_halts_within heu sec s n ac h.wf hn h.valid F hF, h.ext st.1 st.2⟩

end threading

/-- the truth tables handed to the specification: one table per written condition, over the `n`
statements -/
def tablesOf (n : Nat) (fms : List Fm) : List Nat :=
  fms.map (fun φ => TT.ofFn n (fun a => φ.sem (fun v => a.testBit v)))

/-- `D'`: the compiled conditions themselves (naive, biodivine) or the pre-grounded ones (hybrid) -/
theorem start_facts (m : Mode) {s : Store} {n : Nat} {ac : List Nat} {D : List BoolFn} (h : Denotes s ac D)
    (hn : ac.length = n) (hdet : ∀ f ∈ D, TT.DetBy n f) :
    (startOf m s n ac).2.length = n ∧
    ∃ D', Same n D D' ∧ Denotes (startOf m s n ac).1 (startOf m s n ac).2 D' := by
  cases m with
  | naive | biodivine => exact ⟨hn, D, Same.refl hdet, h⟩
  | hybrid =>
    have ⟨w1, _, v1, l1, g, hg, hp⟩ := grounded_is_pre s n ac h.wf hn h.valid
    rw [h.den] at hg hp
    exact ⟨l1, pre D g, Same.pre hdet hg, w1, v1, hp⟩

theorem built_start (m : Mode) (n : Nat) (fms : List Fm) (hl : fms.length = n) (hn : n ≤ VBOT)
    (ha : ∀ φ ∈ fms, NConc.atomsLt n φ) :
    SpecSound.Reps n (tablesOf n fms) (fms.map Fm.sem) ∧
    (startOf m (buildNative n fms).1 n (buildNative n fms).2).2.length = n ∧
    ∃ D', Same n (fms.map Fm.sem) D' ∧
      Denotes (startOf m (buildNative n fms).1 n (buildNative n fms).2).1
        (startOf m (buildNative n fms).1 n (buildNative n fms).2).2 D' := by
  subst hl
  have ⟨w, hlen, hvalid, e, _⟩ := NConc.compiled_facts fms hn ha
  have hdet : ∀ f ∈ fms.map Fm.sem, TT.DetBy fms.length f := by
    intro f hf
    obtain ⟨φ, hφ, rfl⟩ := List.mem_map.mp hf
    exact NConc.sem_supp φ (ha φ hφ)
  have R := SpecSound.reps_ofFn fms.length (fms.map Fm.sem) hdet
  rw [List.map_map] at R
  exact ⟨R, start_facts m ⟨w, hvalid, e⟩ hlen hdet⟩

/-- **C15, every bound**: for EVERY library mode, flag set and heuristic, on the framework compiled
from the written conditions (every atom a statement of the framework): if no nogood-learning search
of the invocation hit the iteration bound, then EVERY block of the output is, as a multiset of
three-valued interpretations, the specification's answer for its section -/
theorem runF_faithful (fuel : Nat) (m : Mode) (f : Flags) (heu : SM.Heu) (n : Nat) (fms : List Fm)
    (hl : fms.length = n) (hn : n ≤ VBOT) (ha : ∀ φ ∈ fms, NConc.atomsLt n φ)
    (hh : HaltedF fuel m f heu (buildNative n fms).1 n (buildNative n fms).2) :
    ∀ blk ∈ runF fuel m f heu (buildNative n fms).1 n (buildNative n fms).2, Faithful n (tablesOf n fms) blk := by
  obtain ⟨R, l1, D', hs, h1⟩ := built_start m n fms hl hn ha
  unfold HaltedF at hh
  rw [← haltsWith_naive_eq_F] at hh
  simp only [runF, ← runWith_naive_eq_F]
  exact (CliM.runWith_thread (secNaive_step R (by simp [hl]) hs fuel heu l1) (sections m f) (_, []) h1 hh
    (fun _ h => by cases h)).2

/-- **the fuel hypothesis of `runF_faithful` from the explicit bound on**: every invocation on a
framework compiled from `n` written conditions runs no search that hits a bound `≥ 2^(n+3)` -/
theorem haltedF_within (m : Mode) (f : Flags) (heu : SM.Heu) (n : Nat) (fms : List Fm)
    (hl : fms.length = n) (hn : n ≤ VBOT) (ha : ∀ φ ∈ fms, NConc.atomsLt n φ) :
    ∀ fuel, NConc.ngBound n ≤ fuel → HaltedF fuel m f heu (buildNative n fms).1 n (buildNative n fms).2 := by
  obtain ⟨_, l1, D', _, h1⟩ := built_start m n fms hl hn ha
  intro fuel hf
  unfold HaltedF
  rw [← haltsWith_naive_eq_F]
  exact CliM.haltsWith_thread (sections m f) (fun sec _ => secNaive_halts_step heu l1 hf sec) _ h1

end CliF
#print axioms CliF.runF_faithful
#print axioms CliF.haltedF_within
