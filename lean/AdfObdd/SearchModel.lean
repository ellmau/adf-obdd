import AdfObdd.NgModel
import AdfObdd.CountModel
/-! Executable, fuel-based models of `Adf::nogood_internal` for every built-in heuristic and for
    scripted custom heuristics, and of `two_val_model_counts_logic` — what the driver runs for
    the handle-exact correspondence of C04/C05. -/

namespace SM

/-- splitmix64, shared with the Rust harness for scripted heuristics -/
def splitmix (x : UInt64) : UInt64 :=
  let z := x + 0x9E3779B97F4A7C15
  let z := (z ^^^ (z >>> 30)) * 0xBF58476D1CE4E5B9
  let z := (z ^^^ (z >>> 27)) * 0x94D049BB133111EB
  z ^^^ (z >>> 31)

inductive Heu where
  | simple
  | minPathsMaxVarImp      -- `MinModMinPathsMaxVarImp`
  | maxVarImpMinPaths      -- `MinModMaxVarImpMinPaths`
  | script (seed : Nat)    -- custom heuristic: PRNG-chosen undecided statement and value per call
deriving Repr

def undecided (v : List Nat) : List (Nat × Nat) :=
  (v.zipIdx.filter (fun (t, _) => !isTV t)).map (fun (t, i) => (i, t))

def cmpMinPathsImp (s : Store) (interp : List Nat) (l r : Nat × Nat) : Ordering :=
  match compare (minPaths s l.2) (minPaths s r.2) with
  | .eq => compare (passive s l.1 interp) (passive s r.1 interp)
  | o => o

def cmpImpMinPaths (s : Store) (interp : List Nat) (l r : Nat × Nat) : Ordering :=
  match compare (passive s l.1 interp) (passive s r.1 interp) with
  | .eq => compare (minPaths s l.2) (minPaths s r.2)
  | o => o

/-- the heuristic call: statement and proposed handle (0/1); `time` = number of earlier calls -/
def heuCall (h : Heu) (s : Store) (v : List Nat) (time : Nat) : Option (Nat × Nat) :=
  match h with
  | .simple => (undecided v).head?.map (fun (i, _) => (i, 1))
  | .minPathsMaxVarImp =>
    (minBy (cmpMinPathsImp s v) (undecided v)).map (fun (i, t) => (i, if moreModels (paths s t) then 1 else 0))
  | .maxVarImpMinPaths =>
    (minBy (cmpImpMinPaths s v) (undecided v)).map (fun (i, t) => (i, if moreModels (paths s t) then 1 else 0))
  | .script seed =>
    let u := undecided v
    let r := (splitmix (UInt64.ofNat seed + UInt64.ofNat time * 0x2545F4914F6CDD1D)).toNat
    match u[r % u.length]? with
    | some (i, _) => some (i, (r / 2 ^ 33) % 2)
    | none => none

/-- `heuCall` with the keys of all undecided statements computed once per call (path counts and
dependency sets with shared memos) — what the compiled driver runs -/
def heuCallM (h : Heu) (s : Store) (v : List Nat) (time : Nat) : Option (Nat × Nat) :=
  match h with
  | .simple => (undecided v).head?.map (fun (i, _) => (i, 1))
  | .minPathsMaxVarImp =>
    (Memo.minByK Memo.cmpPI (Memo.keysPI s v (undecided v))).map (fun (i, t) => (i, if moreModels (paths s t) then 1 else 0))
  | .maxVarImpMinPaths =>
    (Memo.minByK Memo.cmpIP (Memo.keysPI s v (undecided v))).map (fun (i, t) => (i, if moreModels (paths s t) then 1 else 0))
  | .script seed =>
    let u := undecided v
    let r := (splitmix (UInt64.ofNat seed + UInt64.ofNat time * 0x2545F4914F6CDD1D)).toNat
    match u[r % u.length]? with
    | some (i, _) => some (i, (r / 2 ^ 33) % 2)
    | none => none

@[csimp] theorem heuCall_eq_heuCallM : @heuCall = @heuCallM := by
  funext h s v time
  cases h with
  | simple | script _ => rfl
  | minPathsMaxVarImp =>
    simp only [heuCall, heuCallM, Memo.keysPI_eq]
    rw [minBy_keyed (fun p => (minPaths s p.2, passive s p.1 v)) (cmpMinPathsImp s v) Memo.cmpPI (fun _ _ => rfl)]
  | maxVarImpMinPaths =>
    simp only [heuCall, heuCallM, Memo.keysPI_eq]
    rw [minBy_keyed (fun p => (minPaths s p.2, passive s p.1 v)) (cmpImpMinPaths s v) Memo.cmpIP (fun _ _ => rfl)]

/-- `conclusion_closure` with an explicit bound on the number of rounds (each round decides at
least one more position, so `length + 1` rounds suffice) -/
def closureRounds (buckets : List (List PA)) : Nat → List Nat → ClosT
  | 0, r => ClosT.update r
  | fuel+1, r =>
    match conclusions buckets (toPA r) with
    | none => ClosT.inconsistent
    | some val =>
      let u := updateTerms val r
      if u.2 then closureRounds buckets fuel u.1 else ClosT.update u.1

def closureF (buckets : List (List PA)) (interp : List Nat) : ClosT :=
  match conclusions buckets (toPA interp) with
  | none => ClosT.inconsistent
  | some val =>
    let u := updateTerms val interp
    if !u.2 then ClosT.noUpdate else closureRounds buckets (interp.length + 1) u.1

structure NgS where
  s : Store
  cur : List Nat
  buckets : List (List PA)
  stack : List (Bool × PA)
  hist : List (List Nat)
  backtrack : Bool := false
  choice : Bool := false
  out : List (List Nat) := []
  trace : List (List Nat) := []
  time : Nat := 0
  done : Bool := false

/-- the pop loop of the backtrack step -/
def popLoop (buckets : List (List PA)) (cur : List Nat) (hist : List (List Nat)) :
    List (Bool × PA) → List (List PA) × List (Bool × PA) × List Nat × List (List Nat)
  | [] => (buckets, [], cur, hist)
  | (ch, g) :: rest =>
    let buckets := addNg buckets g
    if ch then (buckets, rest, hist.headD cur, hist.tail) else popLoop buckets cur hist rest

/-- one iteration of the `loop` of `nogood_internal` -/
def ngIter (h : Heu) (n : Nat) (ac : List Nat) (stable : Bool) (st : NgS) : NgS :=
  -- choice
  let st := if st.choice then
      match heuCall h st.s st.cur st.time with
      | some (v, t) =>
        let cur' := st.cur.set v t
        { st with choice := false, hist := st.cur :: st.hist, cur := cur', stack := (true, toPA cur') :: st.stack,
                  trace := st.trace ++ [st.cur], time := st.time + 1 }
      | none => { st with choice := false, backtrack := true, trace := st.trace ++ [st.cur], time := st.time + 1 }
    else st
  -- backtrack
  if st.backtrack && st.stack.isEmpty then { st with done := true } else
  let st := if st.backtrack then
      let p := popLoop st.buckets st.cur st.hist st.stack
      { st with backtrack := false, buckets := p.1, stack := p.2.1, cur := p.2.2.1, hist := p.2.2.2 }
    else st
  -- closure under the learned nogoods
  match closureF st.buckets st.cur with
  | ClosT.inconsistent => { st with backtrack := true }
  | cl =>
    let (st, updNg) := match cl with
      | ClosT.update r => ({ st with cur := r, stack := (false, toPA r) :: st.stack }, true)
      | _ => (st, false)
    -- consistency with the acceptance conditions
    let acr := applyInterp st.s st.cur ac
    let st := { st with s := acr.1 }
    let bad := (st.cur.zip acr.2).any (fun (c, a) => isTV c && isTV a && (c != a))
    if bad then { st with backtrack := true } else
    -- one propagation step
    let upd := applyInterp st.s st.cur st.cur
    let st := { st with s := upd.1 }
    let updFp := upd.2 != st.cur
    let st := { st with cur := upd.2 }
    if updFp then st
    else if updNg then st
    else if !(st.cur.all isTV) then { st with choice := true }
    else
      let chk := if stable then stabilityCheck st.s n ac st.cur else (st.s, true)
      let st := { st with s := chk.1 }
      if chk.2 then
        { st with stack := (false, toPA st.cur) :: st.stack, out := st.out ++ [st.cur], backtrack := true }
      else
        { st with stack := (false, toPA st.cur) :: st.stack, backtrack := true }

def ngRun (h : Heu) (n : Nat) (ac : List Nat) (stable : Bool) : Nat → NgS → NgS
  | 0, st => st
  | fuel+1, st => if st.done then st else ngRun h n ac stable fuel (ngIter h n ac stable st)

/-- `stable_nogood(heu)` / `two_val_nogood_channel(heu)`: (store, emitted vectors in order,
interpretations shown to the heuristic in order, halted within the fuel) -/
def ngSearch (h : Heu) (fuel : Nat) (s : Store) (n : Nat) (ac : List Nat) (stable : Bool) :
    Store × List (List Nat) × List (List Nat) × Bool :=
  let g := groundedLoop StoreRA (n + 1) s ac
  let r := ngRun h n ac stable fuel
    { s := g.1, cur := g.2, buckets := List.replicate (n + 1) [], stack := [], hist := [] }
  (r.s, r.out, r.trace, r.done)

end SM
