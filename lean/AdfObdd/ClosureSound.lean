import AdfObdd.ClosureFacts
/-! the closure loop in big steps (`Rounds`, `closure_cases`): what a round preserves the closure preserves -
    soundness (`cl_upd` / `cl_inc` of the abstract search), growth (`upd_sub`), the length (`closure_length`) -/

theorem avoidsAll_of_flat {n : Nat} {flat : List PA} {σ : Asg} (h : AvoidsL flat σ) :
    AvoidsAll (bucketsOf n flat) σ :=
  fun _ hb g hg => h g (mem_bucketsOf hb g hg)

theorem matches_updateVec {val v : PA} {σ : Asg} (h1 : Matches val σ) (h2 : Matches v σ) :
    Matches (updateVec val v).1 σ := by
  intro i b hi
  have hlt : i < (updateVec val v).1.length := pget_lt hi
  rw [updateVec_length] at hlt
  rw [pget_updateVec val v i hlt] at hi
  cases hv : pget val i with
  | some c => rw [hv] at hi; simp only [Option.some.injEq] at hi; subst hi; exact h1 i c hv
  | none => rw [hv] at hi; exact h2 i b hi

theorem psub_updateVec {val r : PA} (h : PSub r val) : PSub r (updateVec val r).1 := by
  intro i b hi
  rw [pget_updateVec val r i (pget_lt hi), h i b hi]

theorem size_updateVec_lt {val r : PA} (h : PSub r val) (hf : (updateVec val r).2 = true) :
    size r < size (updateVec val r).1 := by
  apply size_lt _ _ (updateVec_length val r).symm (psub_updateVec h)
  unfold updateVec at hf
  simp only [List.any_eq_true, List.mem_range, Bool.and_eq_true] at hf
  obtain ⟨i, hi, h1, h2⟩ := hf
  refine ⟨i, by simpa using h2, ?_⟩
  rw [pget_updateVec val r i hi]
  cases hv : pget val i with
  | none => rw [hv] at h1; cases h1
  | some b => rfl

theorem conclusions_keep {buckets : List (List PA)} {r val : PA} (h : conclusions buckets r = some val) :
    PSub r val := ((conclusions_sound buckets r).1 val h).keep

theorem undecided_updateVec {val r : PA} (hk : PSub r val) (hf : (updateVec val r).2 = true) :
    (updateVec val r).1.length - size (updateVec val r).1 < r.length - size r := by
  have h1 := size_updateVec_lt hk hf
  have h2 := updateVec_length val r
  have h3 := size_le_length (updateVec val r).1
  omega

theorem updateVec_noflag {val r : PA} (hk : PSub r val) (hf : (updateVec val r).2 = false) :
    (updateVec val r).1 = r := by
  apply list_ext_pget (updateVec_length val r)
  intro i hi
  rw [updateVec_length] at hi
  rw [pget_updateVec val r i hi]
  cases hv : pget val i with
  | none => rfl
  | some b =>
    cases hr : pget r i with
    | some c => rw [hk i c hr] at hv; exact hv.symm
    | none =>
      -- an undecided position of `r` decided in `val` would have raised the flag
      have := List.any_eq_false.mp hf i (List.mem_range.mpr hi)
      rw [hv, hr] at this
      exact absurd rfl this

/-- reached by rounds of `conclusions` + write-back -/
inductive Rounds (bs : List (List PA)) : PA → PA → Prop
  | refl (r : PA) : Rounds bs r r
  | step {r val R : PA} : conclusions bs r = some val → Rounds bs (updateVec val r).1 R → Rounds bs r R

theorem Rounds.grows {bs : List (List PA)} {r R : PA} (h : Rounds bs r R) :
    PSub r R ∧ size r ≤ size R ∧ R.length = r.length := by
  induction h with
  | refl r => exact ⟨PSub.refl r, Nat.le_refl _, rfl⟩
  | @step r val _ hc _ ih =>
    have hs := psub_updateVec (conclusions_keep hc)
    have hl := updateVec_length val r
    exact ⟨hs.trans ih.1, Nat.le_trans (size_mono _ _ hl.symm hs) ih.2.1, ih.2.2.trans hl⟩

theorem Rounds.matches {bs : List (List PA)} {r R : PA} {σ : Asg} (h : Rounds bs r R) (ha : AvoidsAll bs σ)
    (hm : Matches r σ) : Matches R σ := by
  induction h with
  | refl => exact hm
  | step hc _ ih => exact ih (matches_updateVec (((conclusions_sound bs _).1 _ hc).forced σ hm ha) hm)

/-- every round that continues decides one more position: with fuel beyond the number of undecided ones an `Update`
answer is a fixed point of `conclusions`, the fuel did not run out -/
theorem closureLoop_rounds (bs : List (List PA)) (fuel : Nat) (r : PA) :
    (∀ R, closureLoop bs fuel r = Closure.update R → Rounds bs r R ∧
      (r.length - size r < fuel → ∃ val, conclusions bs R = some val ∧ (updateVec val R).2 = false)) ∧
    (closureLoop bs fuel r = Closure.inconsistent → ∃ R, Rounds bs r R ∧ conclusions bs R = none) ∧
    closureLoop bs fuel r ≠ Closure.noUpdate := by
  fun_induction closureLoop bs fuel r with
  | case1 r => exact ⟨fun R h => by cases h; exact ⟨.refl r, fun h => absurd h (Nat.not_lt_zero _)⟩, nofun, nofun⟩
  | case2 fuel r hc => exact ⟨nofun, fun _ => ⟨r, .refl r, hc⟩, nofun⟩
  | case3 fuel r val hc u hflag ih =>
    have hlt := undecided_updateVec (conclusions_keep hc) hflag
    refine ⟨fun R h => ?_, fun h => ?_, ih.2.2⟩
    · have ⟨a, b⟩ := ih.1 R h
      exact ⟨.step hc a, fun h => b (Nat.lt_of_lt_of_le hlt (Nat.le_of_lt_succ h))⟩
    · have ⟨R, a, b⟩ := ih.2.1 h
      exact ⟨R, .step hc a, b⟩
  | case4 fuel r val hc u hflag =>
    have hf : (updateVec val r).2 = false := Bool.eq_false_iff.mpr hflag
    refine ⟨fun R h => ?_, nofun, nofun⟩
    cases h
    rw [updateVec_noflag (conclusions_keep hc) hf]
    exact ⟨.refl r, fun _ => ⟨val, hc, hf⟩⟩

/-- `conclusion_closure` in big steps, on any buckets; the fuel `length + 1` of the model is enough -/
theorem closure_cases (bs : List (List PA)) (A : PA) :
    (∀ R, conclusionClosure bs A = Closure.update R → Rounds bs A R ∧ size A < size R ∧
      ∃ val, conclusions bs R = some val ∧ (updateVec val R).2 = false) ∧
    (conclusionClosure bs A = Closure.inconsistent → ∃ R, Rounds bs A R ∧ conclusions bs R = none) ∧
    (conclusionClosure bs A = Closure.noUpdate → ∃ val, conclusions bs A = some val) := by
  fun_cases conclusionClosure bs A with
  | case1 hc => exact ⟨nofun, fun _ => ⟨A, .refl A, hc⟩, nofun⟩
  | case2 val hc u hflag => exact ⟨nofun, nofun, fun _ => ⟨val, hc⟩⟩
  | case3 val hc u hflag =>
    have hf : (updateVec val A).2 = true := by simpa using hflag
    have hk := conclusions_keep hc
    have ⟨l1, l2, l3⟩ := closureLoop_rounds bs (A.length + 1) (updateVec val A).1
    refine ⟨fun R h => ?_, fun h => ?_, fun h => absurd h l3⟩
    · have ⟨a, b⟩ := l1 R h
      exact ⟨.step hc a, Nat.lt_of_lt_of_le (size_updateVec_lt hk hf) a.grows.2.1,
        b (Nat.lt_of_lt_of_le (undecided_updateVec hk hf) (Nat.le_succ_of_le (Nat.sub_le _ _)))⟩
    · have ⟨R, a, b⟩ := l2 h
      exact ⟨R, .step hc a, b⟩

/-- **termination of the closure loop**: once the fuel exceeds the number of undecided positions
the answer does not depend on it — every round that continues decides a new position, so the
`while update` loop of the code runs at most `length - size + 1` rounds and the model's fuel
(`length + 1`) is never exhausted -/
theorem closureLoop_fuel (buckets : List (List PA)) : ∀ (fuel : Nat) (r : PA), r.length - size r < fuel →
    ∀ fuel', fuel ≤ fuel' → closureLoop buckets fuel' r = closureLoop buckets fuel r := by
  intro fuel
  induction fuel with
  | zero => intro r h; omega
  | succ f ih =>
    intro r hlt fuel' hle
    obtain ⟨f', rfl⟩ : ∃ f', fuel' = f' + 1 := ⟨fuel' - 1, by omega⟩
    rw [closureLoop, closureLoop]
    cases hc : conclusions buckets r with
    | none => rfl
    | some val =>
      dsimp only
      split
      next hflag =>
        exact ih _ (Nat.lt_of_lt_of_le (undecided_updateVec (conclusions_keep hc) hflag) (Nat.le_of_lt_succ hlt))
          f' (Nat.le_of_succ_le_succ hle)
      next => rfl

theorem closure_length {buckets : List (List PA)} {A R : PA}
    (h : conclusionClosure buckets A = Closure.update R) : R.length = A.length :=
  ((closure_cases buckets A).1 R h).1.grows.2.2

/-- `cl_upd` / `cl_inc` on arbitrary buckets -/
theorem closure_sound_gen (buckets : List (List PA)) (A : PA) (σ : Asg) (hm : Matches A σ)
    (ha : AvoidsAll buckets σ) :
    (∀ R, conclusionClosure buckets A = Closure.update R → Matches R σ) ∧
    conclusionClosure buckets A ≠ Closure.inconsistent :=
  have ⟨c1, c2, _⟩ := closure_cases buckets A
  ⟨fun R h => (c1 R h).1.matches ha hm, fun h =>
    have ⟨R, a, b⟩ := c2 h
    (conclusions_sound buckets R).2 b σ (a.matches ha hm) ha⟩

/-- `cl_upd` and `cl_inc` for the concrete closure -/
theorem closure_sound (n : Nat) (flat : List PA) (A : PA) (σ : Asg) (hm : Matches A σ) (ha : AvoidsL flat σ) :
    (∀ R, conclusionClosure (bucketsOf n flat) A = Closure.update R → Matches R σ) ∧
    conclusionClosure (bucketsOf n flat) A ≠ Closure.inconsistent :=
  closure_sound_gen _ A σ hm (avoidsAll_of_flat ha)
#print axioms closure_sound

theorem closure_no (n : Nat) (flat : List PA) (A : PA) (hn : size A ≤ n)
    (h : conclusionClosure (bucketsOf n flat) A = Closure.noUpdate) : ∀ g ∈ flat, g ≠ A := by
  intro g hg e
  subst e
  have := closure_direct n flat g g hg rfl (PSub.refl _) hn
  rw [this] at h; cases h

/-- `upd_sub` for the concrete closure, with `mu = size` -/
theorem closure_upd_sub (buckets : List (List PA)) (A R : PA)
    (h : conclusionClosure buckets A = Closure.update R) : PSub A R ∧ size A < size R :=
  have ⟨a, b, _⟩ := (closure_cases buckets A).1 R h
  ⟨a.grows.1, b⟩
#print axioms closure_no
#print axioms closure_upd_sub
