import Std.Data.HashSet
import AdfObdd.WfCheck
/-! A linear-time version of the verified table checker `wfCheck` (`WfCheck.lean`): the same
    per-node test `nodeOK`, one pass over the inner positions, duplicates detected with a hash
    set of the nodes seen so far instead of the quadratic `noDupFrom`. It is sound
    (`wfCheckFast_sound`), complete (`wfCheckFast_complete`: no false alarm on a well-formed
    table), and equal to `wfCheck` as a function (`wfCheckFast_eq_wfCheck`; `wfCheck` is complete
    as well, `wfCheck_complete`). Core + Std only, so that the test driver can call it on dumped
    real tables with 100 000+ nodes. -/

/-- the pass: `k` positions are left, `i` is the next one, `seen` holds the nodes at the inner
positions before `i`. Tail recursive; the set is used linearly (updated in place when compiled). -/
def wfLoop (ns : Array Node) : Nat → Nat → Std.HashSet Node → Bool
  | 0, _, _ => true
  | k+1, i, seen =>
    match ns[i]? with
    | none => true
    | some n =>
      if nodeOK ns i n && !seen.contains n then wfLoop ns k (i+1) (seen.insert n) else false

def wfCheckFast (ns : Array Node) : Bool :=
  decide (2 ≤ ns.size) && decide (ns[0]? = some ⟨VBOT, 0, 0⟩) && decide (ns[1]? = some ⟨VTOP, 1, 1⟩) &&
  wfLoop ns (ns.size - 2) 2 (Std.HashSet.emptyWithCapacity ns.size)

theorem wfLoop_iff (ns : Array Node) : ∀ (k i : Nat) (seen : Std.HashSet Node),
    wfLoop ns k i seen = true ↔
    ∀ j n, i ≤ j → j < i + k → ns[j]? = some n →
      nodeOK ns j n = true ∧ seen.contains n = false ∧
      ∀ j', i ≤ j' → j' < j → ns[j']? ≠ some n := by
  intro k
  induction k with
  | zero => intro i seen; exact ⟨fun _ j n h1 h2 => by omega, fun _ => rfl⟩
  | succ k ih =>
    intro i seen
    unfold wfLoop
    cases hi : ns[i]? with
    | none =>
      -- position `i` is beyond the table, so is every later one
      have h1 : ns.size ≤ i := Array.getElem?_eq_none_iff.mp hi
      exact ⟨fun _ j n hij _ hn => by have := lt_of_get hn; omega, fun _ => rfl⟩
    | some ni =>
      -- a later position is not in `seen.insert ni` iff it is not in `seen` and differs from position `i`
      have ins : ∀ n, (seen.insert ni).contains n = false ↔ ns[i]? ≠ some n ∧ seen.contains n = false := fun n => by
        rw [Std.HashSet.contains_insert, Bool.or_eq_false_iff, beq_eq_false_iff_ne, hi]
        simp only [ne_eq, Option.some.injEq]
      simp only [Bool.if_false_right, Bool.and_eq_true, decide_eq_true_eq, Bool.not_eq_true', ih, ins]
      constructor
      · intro ⟨⟨a, b⟩, hrec⟩ j n hij hjk hn
        rcases Nat.eq_or_lt_of_le hij with rfl | hlt
        · obtain rfl : ni = n := Option.some.inj (hi.symm.trans hn)
          exact ⟨a, b, fun j' h1 h2 => absurd h2 (Nat.not_lt_of_le h1)⟩
        · have ⟨a', ⟨d, b'⟩, c'⟩ := hrec j n hlt (by omega) hn
          exact ⟨a', b', fun j' h1 h2 => (Nat.eq_or_lt_of_le h1).elim (fun e => e ▸ d) fun h1 => c' j' h1 h2⟩
      · intro h
        have ⟨a, b, _⟩ := h i ni (Nat.le_refl _) (by omega) hi
        refine ⟨⟨a, b⟩, fun j n hij hjk hn => ?_⟩
        have ⟨a', b', c'⟩ := h j n (by omega) (by omega) hn
        exact ⟨a', ⟨c' i (Nat.le_refl _) hij, b'⟩, fun j' h1 h2 => c' j' (by omega) h2⟩

theorem wfCheckFast_sound (ns : Array Node) (h : wfCheckFast ns = true) : TableWF ns := by
  unfold wfCheckFast at h
  simp only [Bool.and_eq_true, decide_eq_true_eq] at h
  obtain ⟨⟨⟨h1, h2⟩, h3⟩, h4⟩ := h
  have key := (wfLoop_iff ns (ns.size - 2) 2 _).mp h4
  refine ⟨h1, h2, h3, ?_, ?_⟩
  · intro i n hi hn
    have hlt := lt_of_get hn
    exact nodeOK_sound (key i n hi (by omega) hn).1
  · intro i j n hi hj hni hnj
    have hli := lt_of_get hni
    have hlj := lt_of_get hnj
    rcases Nat.lt_trichotomy i j with hlt | heq | hgt
    · exact absurd hni ((key j n hj (by omega) hnj).2.2 i hi hlt)
    · exact heq
    · exact absurd hnj ((key i n hi (by omega) hni).2.2 j hj hgt)

theorem nodeOK_complete (ns : Array Node) (h : TableWF ns) (i : Nat) (n : Node) (hi : 2 ≤ i)
    (hn : ns[i]? = some n) : nodeOK ns i n = true := by
  have ⟨a, b, c, d, e, f⟩ := h.inner i n hi hn
  have hlt := lt_of_get hn
  obtain ⟨ml, hml⟩ := get_of_lt (ns := ns) (i := n.lo) (by omega)
  obtain ⟨mh, hmh⟩ := get_of_lt (ns := ns) (i := n.hi) (by omega)
  unfold nodeOK
  simp only [hml, hmh, Bool.and_eq_true, decide_eq_true_eq]
  exact ⟨⟨⟨⟨⟨a, b⟩, c⟩, d⟩, e ml hml⟩, f mh hmh⟩

theorem wfCheckFast_complete (ns : Array Node) (h : TableWF ns) : wfCheckFast ns = true := by
  unfold wfCheckFast
  simp only [Bool.and_eq_true, decide_eq_true_eq]
  refine ⟨⟨⟨h.len, h.bot⟩, h.top⟩, (wfLoop_iff ns _ 2 _).mpr fun j n hj _ hn => ?_⟩
  exact ⟨nodeOK_complete ns h j n hj hn, Std.HashSet.contains_emptyWithCapacity,
    fun j' h1 h2 hn' => absurd (h.nodup j j' n hj h1 hn hn') (Nat.ne_of_gt h2)⟩

theorem wfCheckFast_iff (ns : Array Node) : wfCheckFast ns = true ↔ TableWF ns :=
  ⟨wfCheckFast_sound ns, wfCheckFast_complete ns⟩


theorem wfCheck_complete (ns : Array Node) (h : TableWF ns) : wfCheck ns = true := by
  unfold wfCheck
  simp only [Bool.and_eq_true, decide_eq_true_eq]
  refine ⟨⟨⟨⟨h.len, h.bot⟩, h.top⟩, ?_⟩, ?_⟩
  · apply List.all_eq_true.mpr
    intro i hi
    have hlt := List.mem_range.mp hi
    simp only [Bool.or_eq_true, decide_eq_true_eq]
    rcases Nat.lt_or_ge i 2 with h2 | h2
    · exact Or.inl h2
    · right
      obtain ⟨n, hn⟩ := get_of_lt hlt
      rw [hn]
      exact nodeOK_complete ns h i n h2 hn
  · unfold noDupFrom
    apply List.all_eq_true.mpr
    intro i hi
    apply List.all_eq_true.mpr
    intro j hj
    have hli := List.mem_range.mp hi
    have hlj := List.mem_range.mp hj
    simp only [Bool.or_eq_true, decide_eq_true_eq]
    rcases Nat.lt_or_ge i 2 with hi2 | hi2
    · exact Or.inl (Or.inl (Or.inl hi2))
    rcases Nat.lt_or_ge j 2 with hj2 | hj2
    · exact Or.inl (Or.inl (Or.inr hj2))
    by_cases hij : i = j
    · exact Or.inl (Or.inr hij)
    · right
      obtain ⟨n, hn⟩ := get_of_lt hli
      intro e
      exact hij (h.nodup i j n hi2 hj2 hn (e ▸ hn))

theorem wfCheck_iff (ns : Array Node) : wfCheck ns = true ↔ TableWF ns :=
  ⟨wfCheck_sound ns, wfCheck_complete ns⟩

theorem wfCheckFast_eq_wfCheck (ns : Array Node) : wfCheckFast ns = wfCheck ns :=
  Bool.eq_iff_iff.mpr ((wfCheckFast_iff ns).trans (wfCheck_iff ns).symm)

#print axioms wfCheckFast_sound
#print axioms wfCheckFast_complete
#print axioms wfCheckFast_eq_wfCheck
