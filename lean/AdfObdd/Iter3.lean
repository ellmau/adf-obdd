
namespace Iter3M
/-! the three-valued odometer (`decrement_vec`) enumerates all `3^k` digit vectors,
    starting with "keep everywhere", in the reference order -/

/-- `decrement_vec`: first digit > 0 is decremented, the zeros before it become 2 -/
def pred3 : List Nat → Option (List Nat)
  | [] => none
  | d :: rest => if 0 < d then some ((d - 1) :: rest) else (pred3 rest).map (fun r => 2 :: r)

def collect3 : Nat → List Nat → List (List Nat)
  | 0, _ => []
  | fuel+1, cur => cur :: (match pred3 cur with | none => [] | some nxt => collect3 fuel nxt)

/-- reference enumeration of digit vectors of length k (fastest digit first) -/
def enumD : Nat → List (List Nat)
  | 0 => [[]]
  | k+1 => (enumD k).map (· ++ [2]) ++ ((enumD k).map (· ++ [1]) ++ (enumD k).map (· ++ [0]))

theorem enumD_length (k : Nat) : (enumD k).length = 3 ^ k := by
  induction k with
  | zero => rfl
  | succ k ih => simp [enumD, ih, Nat.pow_succ]; omega

theorem replicate_snoc (k : Nat) (outer : List Nat) :
    List.replicate (k+1) 2 ++ outer = List.replicate k 2 ++ (2 :: outer) := by
  rw [List.replicate_succ', List.append_assoc]; rfl

theorem map_snoc_append (l : List (List Nat)) (d : Nat) (outer : List Nat) :
    (l.map (· ++ [d])).map (· ++ outer) = l.map (· ++ d :: outer) := by
  rw [List.map_map]
  apply List.map_congr_left
  intro x _
  exact List.append_assoc x [d] outer

/-- the odometer over `k` fast digits followed by the slower digits `outer`: it runs through the
`3^k` values of the fast digits, then decrements `outer` and goes on with what fuel is left -/
theorem chain3 : ∀ (k : Nat) (outer : List Nat) (r : Nat),
    collect3 (3 ^ k + r) (List.replicate k 2 ++ outer) =
      (enumD k).map (· ++ outer) ++
        (match pred3 outer with
         | none => []
         | some o' => collect3 r (List.replicate k 2 ++ o')) := by
  intro k
  induction k with
  | zero =>
    intro outer r
    rw [Nat.pow_zero, Nat.add_comm]
    simp [collect3, enumD]
  | succ k ih =>
    intro outer r
    have hpow : 3 ^ (k+1) + r = 3 ^ k + (3 ^ k + (3 ^ k + r)) := by rw [Nat.pow_succ]; omega
    have p2 : pred3 (2 :: outer) = some (1 :: outer) := rfl
    have p1 : pred3 (1 :: outer) = some (0 :: outer) := rfl
    have p0 : pred3 (0 :: outer) = (pred3 outer).map (fun r => 2 :: r) := rfl
    -- the slowest of the k+1 digits runs through 2, 1, 0; below it the k faster ones, thrice
    rw [hpow, replicate_snoc, ih (2 :: outer), p2]
    dsimp only
    rw [ih (1 :: outer), p1]
    dsimp only
    rw [ih (0 :: outer), p0, enumD, List.map_append, List.map_append,
      map_snoc_append, map_snoc_append, map_snoc_append, List.append_assoc, List.append_assoc]
    congr 3
    cases pred3 outer with
    | none => rfl
    | some o' => exact congrArg (collect3 r) (replicate_snoc k o').symm

/-- C20 (three-valued): started at "keep everywhere" the odometer yields exactly the reference
enumeration of all `3^k` digit vectors, the first being all-keep -/
theorem collect3_eq (k fuel : Nat) (hf : 3 ^ k ≤ fuel) :
    collect3 fuel (List.replicate k 2) = enumD k := by
  obtain ⟨r, rfl⟩ := Nat.le.dest hf
  have := chain3 k [] r
  simpa [pred3] using this
#print axioms collect3_eq

end Iter3M
