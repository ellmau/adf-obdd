import AdfObdd.ServerStale
/-! # C16 / C17 — provenance of everything stored, for EVERY history (any environment)

`Prov` (an invariant along the effects of an event, `stepEv_effect` of `ServerReach.lean`):
whatever the history - deletions, account removals and renames included - every stored framework is the environment's parse result, and every stored strategy result
the environment's answer, for some (parsing, code) RECORDED FOR THE DOCUMENT'S KEY (user name, problem
name); recorded for a key are the codes of all documents that ever carried the key and, after a
rename `u → u'`, what was recorded for the old key (`subsStep` / `subsRun`). -/
namespace ServerM
section
variable {T H A R : Type} [DecidableEq T]

def FromSubs (E : Env T H A R) (S : List (Parsing × T)) (a : A) : Prop := ∃ x ∈ S, ∃ r, E.parse x.1 x.2 = .ok (a, r)

/-- what a document stores comes from the recorded codes `S` -/
def DocP (E : Env T H A R) (S : List (Parsing × T)) (p : Problem T A R) : Prop :=
  (p.parsing, p.code) ∈ S ∧ (∀ a, p.adf = .some a → FromSubs E S a) ∧
  (∀ s res, p.res.get s = .some res → ∃ a, FromSubs E S a ∧ E.solve a s = .ok res)

def TaskP (E : Env T H A R) (S : List (Parsing × T)) : TaskInput T A → Prop
  | .parse c pg => (pg, c) ∈ S
  | .solve a _ => FromSubs E S a

theorem FromSubs.mono {E : Env T H A R} {S S' : List (Parsing × T)} (h : ∀ x ∈ S, x ∈ S') {a : A} (ha : FromSubs E S a) :
    FromSubs E S' a := by
  obtain ⟨x, hx, r⟩ := ha; exact ⟨x, h x hx, r⟩

theorem DocP.mono {E : Env T H A R} {S S' : List (Parsing × T)} (h : ∀ x ∈ S, x ∈ S') {p : Problem T A R} (hp : DocP E S p) :
    DocP E S' p :=
  ⟨h _ hp.1, fun a ha => (hp.2.1 a ha).mono h, fun s res hr => by
    obtain ⟨a, h1, h2⟩ := hp.2.2 s res hr; exact ⟨a, h1.mono h, h2⟩⟩

theorem TaskP.mono {E : Env T H A R} {S S' : List (Parsing × T)} (h : ∀ x ∈ S, x ∈ S') {i : TaskInput T A} (hp : TaskP E S i) :
    TaskP E S' i := by
  cases i with
  | parse c pg => exact h _ hp
  | solve a s => exact FromSubs.mono h hp

theorem docP_write (E : Env T H A R) (S : List (Parsing × T)) (i : TaskInput T A) (w : Write A R)
    (hw : w = taskWrite E i ∨ w = timeoutWrite i) (p : Problem T A R) (hd : DocP E S p) (hok : TaskP E S i) :
    DocP E S (w.apply p) := by
  cases i with
  | parse code pg =>
    obtain ⟨oa, po, rfl, hoa⟩ := parseWrite_cases E code pg w hw
    exact ⟨hd.1, fun a ha => ⟨(pg, code), hok, hoa a ha⟩, hd.2.2⟩
  | solve a s =>
    obtain ⟨v, rfl, hv⟩ := solveWrite_cases E a s w hw
    refine ⟨hd.1, hd.2.1, fun s' res hr => ?_⟩
    rcases Results.get_set_some hr with ⟨rfl, h⟩ | h
    · exact ⟨a, hok, hv res h⟩
    · exact hd.2.2 s' res h

theorem docP_rename (E : Env T H A R) (S : List (Parsing × T)) (u u' : T) (p : Problem T A R) :
    DocP E S (renameDoc u u' p) ↔ DocP E S p := by
  unfold renameDoc
  split <;> exact Iff.rfl

/-- the (parsing, code) pairs recorded for the key `(u, n)` after one event: what was recorded before,
the codes of the documents that carry the key now, and - if the event is a rename request `v → u` - what
was recorded for `(v, n)` -/
def subsStep (E : Env T H A R) (st : State T H A R) (e : Event T) (sb : T → T → List (Parsing × T)) :
    T → T → List (Parsing × T) := fun u n =>
  sb u n ++ ((stepEv E st e).1.db.problems.filter (isProb u n)).map (fun p => (p.parsing, p.code)) ++
  (match renameOf st e with
   | some (v, v') => if v' = u then sb v n else []
   | none => [])

def subsRun (E : Env T H A R) : State T H A R → (T → T → List (Parsing × T)) → List (Event T) → T → T → List (Parsing × T)
  | _, sb, [] => sb
  | st, sb, e :: es => subsRun E (stepEv E st e).1 (subsStep E st e sb) es

theorem subsStep_old (E : Env T H A R) (st : State T H A R) (e : Event T) (sb : T → T → List (Parsing × T)) (u n : T) :
    ∀ x ∈ sb u n, x ∈ subsStep E st e sb u n := by
  intro x hx
  unfold subsStep
  simp only [List.mem_append]
  exact Or.inl (Or.inl hx)

theorem subsStep_doc (E : Env T H A R) (st : State T H A R) (e : Event T) (sb : T → T → List (Parsing × T))
    (p : Problem T A R) (hp : p ∈ (stepEv E st e).1.db.problems) :
    (p.parsing, p.code) ∈ subsStep E st e sb p.username p.name := by
  unfold subsStep
  simp only [List.mem_append]
  refine Or.inl (Or.inr ?_)
  exact List.mem_map.mpr ⟨p, List.mem_filter.mpr ⟨hp, isProb_self p⟩, rfl⟩

theorem subsStep_rename (E : Env T H A R) (st : State T H A R) (e : Event T) (sb : T → T → List (Parsing × T))
    (u u' n : T) (hr : renameOf st e = some (u, u')) : ∀ x ∈ sb u n, x ∈ subsStep E st e sb u' n := by
  intro x hx
  unfold subsStep
  simp only [List.mem_append, hr, if_true]
  exact Or.inr hx

structure Prov (E : Env T H A R) (db : Db T H A R) (sb : T → T → List (Parsing × T)) : Prop where
  docs : ∀ p ∈ db.problems, DocP E (sb p.username p.name) p
  tasks : ∀ t ∈ db.tasks, TaskP E (sb t.username t.name) t.input

theorem Prov.init (E : Env T H A R) (sb : T → T → List (Parsing × T)) : Prov E ({} : Db T H A R) sb :=
  ⟨fun p hp => (by cases hp), fun t ht => (by cases ht)⟩

theorem Prov.step (E : Env T H A R) {st : State T H A R} {sb : T → T → List (Parsing × T)} (h : Prov E st.db sb)
    (e : Event T) : Prov E (stepEv E st e).1.db (subsStep E st e sb) := by
  have old := subsStep_old E st e sb
  have tasksFrom : TasksFrom (stepEv E st e).1.db.tasks st.db.tasks →
      ∀ t ∈ (stepEv E st e).1.db.tasks, TaskP E (subsStep E st e sb t.username t.name) t.input := by
    intro ht t' ht'
    obtain ⟨t, htm, e1, e2, e3, _⟩ := ht t' ht'
    rw [e1, e2, e3]
    exact (h.tasks t htm).mono (old _ _)
  have docsSub : (∀ p ∈ (stepEv E st e).1.db.problems, p ∈ st.db.problems) →
      ∀ p ∈ (stepEv E st e).1.db.problems, DocP E (subsStep E st e sb p.username p.name) p :=
    fun hs p hp => (h.docs p (hs p hp)).mono (old _ _)
  cases stepEv_effect E st e with
  | same hp ht => exact ⟨docsSub (fun p hp' => hp ▸ hp'), tasksFrom (ht ▸ TasksFrom.refl _)⟩
  | finish j n _ _ _ _ hp ht => exact ⟨docsSub (fun p hp' => hp ▸ hp'), tasksFrom (ht ▸ tasksFrom_done j n _)⟩
  | write j n t w htn _ he hp ht =>
    have hw := he.imp (·.2.2) (·.2.2)
    have htm := (nthOf_mem j n _ t htn).1
    refine ⟨fun p' hp' => ?_, tasksFrom (ht ▸ tasksFrom_written j n _)⟩
    rw [hp] at hp'
    rcases mem_updFirst_r _ _ _ _ hp' with h1 | ⟨x, hx, rfl⟩
    · exact (h.docs p' h1).mono (old _ _)
    · have hk := isProb_key (List.find?_some hx)
      rw [Write.apply_username, Write.apply_name]
      refine DocP.mono (old _ _) (docP_write E _ t.input w hw x (h.docs x (List.mem_of_find?_eq_some hx)) ?_)
      rw [hk.1, hk.2]; exact h.tasks t htm
  | add u n c pg t0 _ hnone h0 hp ht =>
    subst h0
    refine ⟨fun p' hp' => ?_, fun t ht' => ?_⟩
    · have hin := subsStep_doc E st e sb p' hp'
      rw [hp, List.mem_append, List.mem_singleton] at hp'
      rcases hp' with h' | rfl
      · exact (h.docs p' h').mono (old _ _)
      · refine ⟨hin, fun a ha => (by cases ha), fun s res hr => ?_⟩
        have : (({} : Results R).get s) = .some res := hr
        rw [Results.get_empty] at this; cases this
    · rw [ht, List.mem_append, List.mem_singleton] at ht'
      rcases ht' with h' | rfl
      · exact (h.tasks t h').mono (old _ _)
      · have : ({ name := n, username := u, code := c, parsing := pg } : Problem T A R) ∈ (ServerM.stepEv E st e).1.db.problems := by
          rw [hp]; simp
        exact subsStep_doc E st e sb _ this
  | solve u n p a s t0 hf ha h0 hp ht =>
    subst h0
    refine ⟨docsSub (fun p hp' => hp ▸ hp'), fun t ht' => ?_⟩
    rw [ht, List.mem_append, List.mem_singleton] at ht'
    rcases ht' with h' | rfl
    · exact (h.tasks t h').mono (old _ _)
    · have hk := isProb_key (List.find?_some hf)
      have := (h.docs p (List.mem_of_find?_eq_some hf)).2.1 a ha
      rw [hk.1, hk.2] at this
      exact FromSubs.mono (old _ _) this
  | del u n _ hp ht =>
    exact ⟨docsSub (fun p hp' => mem_delFirst _ _ _ (hp ▸ hp')), tasksFrom (ht ▸ TasksFrom.refl _)⟩
  | delAll u _ hp ht =>
    exact ⟨docsSub (fun p hp' => (List.mem_filter.mp (hp ▸ hp')).1), tasksFrom (ht ▸ TasksFrom.refl _)⟩
  | rename u u' _ hr hp ht =>
    refine ⟨fun p' hp' => ?_, tasksFrom (ht ▸ TasksFrom.refl _)⟩
    rw [hp] at hp'
    obtain ⟨p, hpm, rfl⟩ := List.mem_map.mp hp'
    rw [docP_rename]
    have hd := h.docs p hpm
    by_cases ho : p.username = u
    · rw [renameDoc_moved u u' p ho]
      rw [ho] at hd
      exact hd.mono (subsStep_rename E st e sb u u' p.name hr)
    · rw [renameDoc_fix u u' p ho]
      exact hd.mono (old _ _)

theorem Prov.run (E : Env T H A R) : ∀ (es : List (Event T)) (st : State T H A R) (sb : T → T → List (Parsing × T)),
    Prov E st.db sb → Prov E (runAll E st es).1.db (subsRun E st sb es) := by
  intro es
  induction es with
  | nil => intro st sb h; exact h
  | cons e es ih => intro st sb h; exact ih _ _ (h.step E e)

/-- for ALL histories: in every state reached from the empty server,
every stored framework is the parse result, and every stored strategy result the environment's answer
`E.solve a s` for a framework `a = E.parse parsing code`, of a (parsing, code) pair recorded for the
document's key; the document's own (parsing, code) is among them -/
theorem reachable_results_have_provenance (E : Env T H A R) (es : List (Event T)) (p : Problem T A R)
    (hp : p ∈ (runAll E {} es).1.db.problems) :
    (p.parsing, p.code) ∈ subsRun E {} (fun _ _ => []) es p.username p.name ∧
    (∀ a, p.adf = .some a → ∃ x ∈ subsRun E {} (fun _ _ => []) es p.username p.name, ∃ r, E.parse x.1 x.2 = .ok (a, r)) ∧
    (∀ s res, p.res.get s = .some res → ∃ x ∈ subsRun E {} (fun _ _ => []) es p.username p.name,
      ∃ a r, E.parse x.1 x.2 = .ok (a, r) ∧ E.solve a s = .ok res) := by
  have h := (Prov.run E es {} (fun _ _ => []) (Prov.init E _)).docs p hp
  refine ⟨h.1, h.2.1, fun s res hr => ?_⟩
  obtain ⟨a, ⟨x, hx, r, hr'⟩, hs⟩ := h.2.2 s res hr
  exact ⟨x, hx, a, r, hr', hs⟩

end
end ServerM
