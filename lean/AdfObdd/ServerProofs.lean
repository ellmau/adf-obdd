import AdfObdd.ServerModel
/-! The web-service model (C17), command by command: first-match list operations under filters; what
    every command of a handler program looks like (`AllCmds`, `Shape`, `Owned`) and what its atomic run
    inherits from that; the view `Db.view` of a set of account names and jars, with which a command inside it
    commutes (`exec_view`) and which a command outside it does not touch (`exec_out`); the tasks of one jar as a
    list, which `nthOf` indexes and `updNth` modifies (`ofJar`, `nthOf_eq`, `updNth_ofJar`); the three
    background-task events as one case distinction (`dbEv_task`). -/
namespace ServerM

section lists
variable {α : Type}

theorem delFirst_eq_eraseP (q : α → Bool) (l : List α) : delFirst q l = l.eraseP q := by
  induction l with
  | nil => rfl
  | cons x xs ih => simp only [delFirst, List.eraseP_cons, ih, Bool.cond_eq_ite]

theorem mem_delFirst (q : α → Bool) (l : List α) (x : α) (h : x ∈ delFirst q l) : x ∈ l :=
  List.mem_of_mem_eraseP (delFirst_eq_eraseP q l ▸ h)

theorem delFirst_none (q : α → Bool) (l : List α) (h : ∀ x ∈ l, q x = false) : delFirst q l = l :=
  (delFirst_eq_eraseP q l).trans (List.eraseP_of_forall_not fun x hx => Bool.eq_false_iff.mp (h x hx))

theorem updFirst_none (q : α → Bool) (f : α → α) : ∀ l : List α, (∀ x ∈ l, q x = false) → updFirst q f l = l := by
  intro l
  induction l with
  | nil => intro _; rfl
  | cons x xs ih =>
    intro h
    simp only [updFirst, h x (List.mem_cons_self ..), Bool.false_eq_true, if_false]
    rw [ih (fun y hy => h y (List.mem_cons_of_mem _ hy))]

theorem mem_updFirst_r (q : α → Bool) (f : α → α) : ∀ (l : List α) (y : α), y ∈ updFirst q f l →
    y ∈ l ∨ ∃ x, l.find? q = some x ∧ y = f x := by
  intro l y
  fun_induction updFirst q f l with
  | case1 => intro h; cases h
  | case2 x xs hq =>
    intro h
    rcases List.mem_cons.mp h with rfl | h
    · exact Or.inr ⟨x, by simp [hq], rfl⟩
    · exact Or.inl (List.mem_cons_of_mem _ h)
  | case3 x xs hq ih =>
    intro h
    rcases List.mem_cons.mp h with rfl | h
    · exact Or.inl (List.mem_cons_self ..)
    · rcases ih h with h' | ⟨z, hz, rfl⟩
      · exact Or.inl (List.mem_cons_of_mem _ h')
      · exact Or.inr ⟨z, by simp [hq, hz], rfl⟩

theorem filter_updFirst_out (S : α → Bool) (q : α → Bool) (f : α → α)
    (hq : ∀ x, q x = true → S x = false) (hf : ∀ x, q x = true → S (f x) = false) :
    ∀ l : List α, (updFirst q f l).filter S = l.filter S := by
  intro l
  fun_induction updFirst q f l with
  | case1 => rfl
  | case2 x xs h => simp [hq x h, hf x h]
  | case3 x xs h ih => simp [List.filter_cons, ih]

theorem filter_updFirst_in (S : α → Bool) (q : α → Bool) (f : α → α)
    (hq : ∀ x, q x = true → S x = true) (hf : ∀ x, q x = true → S (f x) = true) :
    ∀ l : List α, (updFirst q f l).filter S = updFirst q f (l.filter S) := by
  intro l
  fun_induction updFirst q f l with
  | case1 => rfl
  | case2 x xs h => simp [updFirst, h, hq x h, hf x h]
  | case3 x xs h ih => cases hs : S x <;> simp [updFirst, h, hs, ih]

theorem filter_delFirst_out (S : α → Bool) (q : α → Bool) (hq : ∀ x, q x = true → S x = false) :
    ∀ l : List α, (delFirst q l).filter S = l.filter S := by
  intro l
  fun_induction delFirst q l with
  | case1 => rfl
  | case2 x xs h => simp [hq x h]
  | case3 x xs h ih => simp [List.filter_cons, ih]

theorem filter_delFirst_in (S : α → Bool) (q : α → Bool) (hq : ∀ x, q x = true → S x = true) :
    ∀ l : List α, (delFirst q l).filter S = delFirst q (l.filter S) := by
  intro l
  fun_induction delFirst q l with
  | case1 => rfl
  | case2 x xs h => simp [delFirst, h, hq x h]
  | case3 x xs h ih => cases hs : S x <;> simp [delFirst, h, hs, ih]

theorem find_filter_in (S : α → Bool) (q : α → Bool) (hq : ∀ x, q x = true → S x = true) :
    ∀ l : List α, (l.filter S).find? q = l.find? q := by
  intro l
  rw [List.find?_filter]
  congr 1
  funext x
  cases h : q x with
  | false => simp
  | true => simp [hq x h]

theorem any_filter_in (S : α → Bool) (q : α → Bool) (hq : ∀ x, q x = true → S x = true) :
    ∀ l : List α, (l.filter S).any q = l.any q := by
  intro l
  rw [List.any_filter]
  congr 1
  funext x
  cases h : q x with
  | false => simp
  | true => simp [hq x h]

theorem filter_filter_in (S : α → Bool) (q : α → Bool) (hq : ∀ x, q x = true → S x = true) (l : List α) :
    (l.filter S).filter q = l.filter q := by
  rw [List.filter_filter]
  apply List.filter_congr
  intro x _
  cases hqv : q x with
  | false => simp
  | true => simp [hq x hqv]

end lists

section progs
variable {T H A R : Type} [DecidableEq T]

/-- what `exec` guarantees about the result of a command, whatever the state -/
def Rok : (c : Cmd T H A R) → c.Res → Prop
  | .pFindOne u n, r => ∀ p, r = some p → p.username = u ∧ p.name = n
  | .pFindAll u, r => ∀ p ∈ r, p.username = u
  | .uFind n, r => ∀ x, r = some x → x.username = n
  | _, _ => True

theorem exec_rok (db : Db T H A R) (c : Cmd T H A R) : Rok c (exec db c).2 := by
  cases c with
  | pFindOne u n =>
    intro p hp
    have h := List.find?_some hp
    simp only [isProb, Bool.and_eq_true, decide_eq_true_eq] at h
    exact ⟨h.2, h.1⟩
  | pFindAll u =>
    intro p hp
    simp only [exec, List.mem_filter, ownedP, decide_eq_true_eq] at hp
    exact hp.2
  | uFind n =>
    intro x hx
    have h := List.find?_some hx
    simpa [isUser] using h
  | _ => trivial

/-- every command the program can issue — along every path of results that `exec` can produce —
satisfies `Q` -/
inductive AllCmds {α : Type} (Q : Cmd T H A R → Prop) (P : α → Prop) : Prog T H A R α → Prop where
  | ret (a : α) : P a → AllCmds Q P (.ret a)
  | cmd (c : Cmd T H A R) (k : c.Res → Prog T H A R α) :
      Q c → (∀ r, Rok c r → AllCmds Q P (k r)) → AllCmds Q P (.cmd c k)

theorem AllCmds.mono {α : Type} {Q Q' : Cmd T H A R → Prop} {P P' : α → Prop} (h : ∀ c, Q c → Q' c)
    (h' : ∀ a, P a → P' a) :
    ∀ {p : Prog T H A R α}, AllCmds Q P p → AllCmds Q' P' p := by
  intro p hp
  induction hp with
  | ret a ha => exact .ret a (h' a ha)
  | cmd c k hq _ ih => exact .cmd c k (h c hq) ih

theorem run_ret {α : Type} {Q : Cmd T H A R → Prop} {P : α → Prop} :
    ∀ {p : Prog T H A R α}, AllCmds Q P p → ∀ db, P (run p db).2.1 := by
  intro p hp
  induction hp with
  | ret a ha => intro db; exact ha
  | cmd c k _ _ ih => intro db; exact ih _ (exec_rok db c) _

theorem run_trace {α : Type} {Q : Cmd T H A R → Prop} {P : α → Prop} :
    ∀ {p : Prog T H A R α}, AllCmds Q P p → ∀ db, ∀ c ∈ (run p db).2.2, Q c := by
  intro p hp
  induction hp with
  | ret a _ => intro db c hc; simp [run] at hc
  | cmd c k hq _ ih =>
    intro db c' hc'
    simp only [run, List.mem_cons] at hc'
    rcases hc' with h | h
    · subst h; exact hq
    · exact ih _ (exec_rok db c) _ c' h

theorem run_replay {α : Type} : ∀ (p : Prog T H A R α) (db : Db T H A R),
    (run p db).1 = (run p db).2.2.foldl (fun d c => (exec d c).1) db := by
  intro p
  induction p with
  | ret a => intro db; rfl
  | cmd c k ih => intro db; simp only [run, List.foldl_cons]; exact ih _ _

theorem run_inv {α : Type} {Q : Cmd T H A R → Prop} {P : α → Prop} (I : Db T H A R → Prop)
    (hstep : ∀ db c, Q c → I db → I (exec db c).1) :
    ∀ {p : Prog T H A R α}, AllCmds Q P p → ∀ db, I db → I (run p db).1 := by
  intro p hp
  induction hp with
  | ret a _ => intro db h; exact h
  | cmd c k hq _ ih => intro db h; exact ih _ (exec_rok db c) _ (hstep db c hq h)

/-- the identity a request acts for: the account named in the session cookie; for an
unauthenticated `add`, the temporary account it creates -/
def addUser (id : Option T) (fu : T) : T := match id with | some u => u | none => fu

def actor (id : Option T) : Req T → Option T
  | .add _ _ _ _ fu _ => some (addUser id fu)
  | _ => id

/-- the account names a request itself mentions -/
def reqNames : Req T → List T
  | .register u _ _ => [u]
  | .login u _ => [u]
  | .update u _ _ => [u]
  | .add _ _ _ _ fu _ => [fu]
  | _ => []

/-- exactly which commands the handler of a request can issue (for a session naming `id`) -/
def Shape (E : Env T H A R) (jar : Nat) (id : Option T) : Req T → Cmd T H A R → Prop
  | .register u p salt, c => c = .uFind u ∨ c = .uInsert ⟨u, some (E.hash salt p)⟩
  | .login u _, c => c = .uFind u
  | .logout, c => ∃ v, id = some v ∧ c = .uFind v
  | .info, c => ∃ v, id = some v ∧ c = .uFind v
  | .update u' p' salt, c => ∃ v, id = some v ∧
      (c = .uFind u' ∨ c = .uReplace v ⟨u', some (E.hash salt p')⟩ ∨ c = .pRename v u')
  | .deleteAccount, c => ∃ v, id = some v ∧ (c = .pDeleteAll v ∨ c = .uDelete v)
  | .add _ _ _ _ fu _, c =>
      (id = none ∧ (c = .uFind fu ∨ c = .uInsert ⟨fu, none⟩)) ∨
      ((∃ n, c = .pFindOne (addUser id fu) n) ∨ (∃ p, c = .pInsert p ∧ p.username = addUser id fu) ∨
       (∃ t, c = .spawn t ∧ t.username = addUser id fu ∧ t.jar = jar))
  | .solve name s, c => ∃ v, id = some v ∧
      (c = .pFindOne v name ∨ c = .rContains ⟨v, name, .solve s⟩ ∨ ∃ t, c = .spawn t ∧ t.username = v ∧ t.jar = jar)
  | .get name, c => ∃ v, id = some v ∧ (c = .pFindOne v name ∨ ∃ n, c = .rTasks v n)
  | .delete name, c => ∃ v, id = some v ∧ c = .pDeleteOne v name
  | .list, c => ∃ v, id = some v ∧ (c = .pFindAll v ∨ ∃ n, c = .rTasks v n)
  | .malformed, _ => False

/-- problem data in a response body -/
def infos : Body T R → List (Info T R)
  | .problem i => [i]
  | .problems l => l
  | _ => []

/-- what a handler can answer: problem data only from `get` / `list` of an authenticated session -/
def RetShape (id : Option T) (rq : Req T) (r : Resp T R) : Prop :=
  (match rq with
   | .get _ => id = none → infos r.body = []
   | .list => id = none → infos r.body = []
   | _ => infos r.body = []) ∧
  -- a session is only ever set to an account name the request mentions
  (∀ u, r.cookie = .login u → u ∈ reqNames rq)

omit [DecidableEq T] in
theorem RetShape.of_noData {id : Option T} {rq : Req T} {r : Resp T R} (hb : infos r.body = [])
    (hc : ∀ u, r.cookie ≠ .login u) : RetShape id rq r :=
  ⟨by cases rq <;> first | exact hb | exact fun _ => hb, fun u h => absurd h (hc u)⟩

omit [DecidableEq T] in
theorem RetShape.of_login {id : Option T} {rq : Req T} {s : Nat} {u : T} {b : Body T R} (hb : infos b = [])
    (hu : u ∈ reqNames rq) : RetShape id rq ⟨s, .login u, b⟩ :=
  ⟨by cases rq <;> first | exact hb | exact fun _ => hb, fun v h => by cases h; exact hu⟩

omit [DecidableEq T] in
theorem RetShape.noData {id : Option T} {rq : Req T} {r : Resp T R} (h : RetShape id rq r)
    (hq : id = none ∨ ((∀ n, rq ≠ .get n) ∧ rq ≠ .list)) : infos r.body = [] := by
  cases rq with
  | get n => exact hq.elim h.1 (fun hq => absurd rfl (hq.1 n))
  | list => exact hq.elim h.1 (fun hq => absurd rfl hq.2)
  | _ => exact h.1

omit [DecidableEq T] in
theorem reply_shape {Q : Cmd T H A R → Prop} {id : Option T} {rq : Req T} (s : Nat) (m : Msg T) :
    AllCmds Q (RetShape id rq) (reply s m : P T H A R) := .ret _ (.of_noData rfl nofun)

theorem hRegister_shape (jar : Nat) (id : Option T) (E : Env T H A R) (u p : T) (salt : Nat) :
    AllCmds (Shape E jar id (.register u p salt)) (RetShape id (.register u p salt)) (hRegister E u p salt) := by
  unfold hRegister
  split
  · exact reply_shape _ _
  · refine .cmd _ _ (Or.inl rfl) ?_
    intro r _
    cases r with
    | some _ => exact reply_shape _ _
    | none =>
      refine .cmd _ _ (Or.inr rfl) ?_
      intro ok _
      cases ok <;> exact reply_shape _ _

theorem hLogin_shape (jar : Nat) (E : Env T H A R) (id : Option T) (u p : T) :
    AllCmds (Shape E jar id (.login u p)) (RetShape id (.login u p)) (hLogin E u p) := by
  unfold hLogin
  split
  · exact reply_shape _ _
  · refine .cmd _ _ rfl ?_
    intro r _
    cases r with
    | none => exact reply_shape _ _
    | some rec =>
      simp only
      split
      · exact reply_shape _ _
      · split
        · exact .ret _ (.of_login rfl (List.mem_singleton.mpr rfl))
        · exact reply_shape _ _

theorem hLogout_shape (jar : Nat) (E : Env T H A R) (id : Option T) :
    AllCmds (Shape E jar id .logout) (RetShape id .logout) (hLogout id : P T H A R) := by
  unfold hLogout
  cases id with
  | none => exact reply_shape _ _
  | some u =>
    refine .cmd _ _ ⟨u, rfl, rfl⟩ ?_
    intro r _
    cases r with
    | none => exact reply_shape _ _
    | some rec =>
      simp only
      split
      · exact reply_shape _ _
      · exact .ret _ (.of_noData rfl nofun)

theorem hInfo_shape (jar : Nat) (E : Env T H A R) (id : Option T) :
    AllCmds (Shape E jar id .info) (RetShape id .info) (hInfo id : P T H A R) := by
  unfold hInfo
  cases id with
  | none => exact reply_shape _ _
  | some u =>
    refine .cmd _ _ ⟨u, rfl, rfl⟩ ?_
    intro r _
    cases r <;> exact .ret _ (.of_noData rfl nofun)

theorem hUpdate_shape (jar : Nat) (E : Env T H A R) (id : Option T) (u' p' : T) (salt : Nat) :
    AllCmds (Shape E jar id (.update u' p' salt)) (RetShape id (.update u' p' salt)) (hUpdate E id u' p' salt) := by
  unfold hUpdate
  split
  · exact reply_shape _ _
  · cases id with
    | none => exact reply_shape _ _
    | some u =>
      have hgo : AllCmds (Shape E jar (some u) (.update u' p' salt)) (RetShape (some u) (.update u' p' salt))
          (.cmd (.uReplace u ⟨u', some (E.hash salt p')⟩) fun m => match m with
            | none => reply 500 .dbError
            | some 0 => reply 500 .accountNotUpdated
            | some _ => .cmd (.pRename u u') fun _ => .ret ⟨200, .login u', .userInfo u' false⟩ : P T H A R) := by
        refine .cmd _ _ ⟨u, rfl, Or.inr (Or.inl rfl)⟩ ?_
        intro m _
        cases m with
        | none => exact reply_shape _ _
        | some k =>
          cases k with
          | zero => exact reply_shape _ _
          | succ k =>
            refine .cmd _ _ ⟨u, rfl, Or.inr (Or.inr rfl)⟩ ?_
            intro _ _; exact .ret _ (.of_login rfl (List.mem_singleton.mpr rfl))
      simp only
      split
      · refine .cmd _ _ ⟨u, rfl, Or.inl rfl⟩ ?_
        intro r _
        cases r with
        | some _ => exact reply_shape _ _
        | none => exact hgo
      · exact hgo

theorem hDeleteAccount_shape (jar : Nat) (E : Env T H A R) (id : Option T) :
    AllCmds (Shape E jar id .deleteAccount) (RetShape id .deleteAccount) (hDeleteAccount id : P T H A R) := by
  unfold hDeleteAccount
  cases id with
  | none => exact reply_shape _ _
  | some u =>
    refine .cmd _ _ ⟨u, rfl, Or.inl rfl⟩ ?_
    intro _ _
    refine .cmd _ _ ⟨u, rfl, Or.inr rfl⟩ ?_
    intro n _
    split
    · exact reply_shape _ _
    · exact .ret _ (.of_noData rfl nofun)

theorem addFor_shape (E : Env T H A R) (jar : Nat) (id : Option T) (ck : Cookie T) (u name code : T) (parsing : Parsing)
    (emp fu fp : T) (co fi : Option T) (hu : addUser id fu = u) (hck : ∀ x, ck = .login x → x = fu) :
    AllCmds (Shape E jar id (.add name co fi parsing fu fp)) (RetShape id (.add name co fi parsing fu fp)) (addFor jar ck u name code parsing emp fp : P T H A R) := by
  have hret : ∀ (s : Nat) (m : Msg T), RetShape id (.add name co fi parsing fu fp) (⟨s, ck, .msg m⟩ : Resp T R) :=
    fun s m => ⟨rfl, fun x hx => List.mem_singleton.mpr (hck x hx)⟩
  have hfind : ∀ n : T, Shape E jar id (.add name co fi parsing fu fp) (.pFindOne u n) :=
    fun n => Or.inr (Or.inl ⟨n, by rw [hu]⟩)
  have hins : ∀ n : T, AllCmds (Shape E jar id (.add name co fi parsing fu fp)) (RetShape id (.add name co fi parsing fu fp))
      (.cmd (.pInsert { name := n, username := u, code := code, parsing := parsing }) fun _ =>
       .cmd (.spawn { jar := jar, username := u, name := n, input := .parse code parsing }) fun _ =>
       .ret ⟨200, ck, .msg .parsingStarted⟩ : P T H A R) := by
    intro n
    refine .cmd _ _ (Or.inr (Or.inr (Or.inl ⟨_, rfl, hu.symm⟩))) ?_
    intro _ _
    refine .cmd _ _ (Or.inr (Or.inr (Or.inr ⟨_, rfl, hu.symm, rfl⟩))) ?_
    intro _ _; exact .ret _ (hret _ _)
  unfold addFor
  simp only
  split
  · refine .cmd _ _ (hfind _) ?_
    intro r _
    cases r with
    | some _ => exact .ret _ (hret _ _)
    | none => exact hins _
  · refine .cmd _ _ (hfind _) ?_
    intro r _
    cases r with
    | some _ => exact .ret _ (hret _ _)
    | none => exact hins _

theorem hAdd_shape (E : Env T H A R) (jar : Nat) (id : Option T) (name : T) (code file : Option T) (parsing : Parsing)
    (fu fp : T) :
    AllCmds (Shape E jar id (.add name code file parsing fu fp)) (RetShape id (.add name code file parsing fu fp)) (hAdd E jar id name code file parsing fu fp) := by
  unfold hAdd
  split
  · exact reply_shape _ _
  · split
    · exact reply_shape _ _
    · cases id with
      | some u => exact addFor_shape E jar (some u) _ u name _ parsing _ fu fp code file rfl nofun
      | none =>
        refine .cmd _ _ (Or.inl ⟨rfl, Or.inl rfl⟩) ?_
        intro r _
        cases r with
        | some _ => exact reply_shape _ _
        | none =>
          refine .cmd _ _ (Or.inl ⟨rfl, Or.inr rfl⟩) ?_
          intro ok _
          cases ok
          · exact reply_shape _ _
          · exact addFor_shape E jar none _ fu name _ parsing _ fu fp code file rfl (fun x hx => (Cookie.login.inj hx).symm)

theorem hSolve_shape (E : Env T H A R) (jar : Nat) (id : Option T) (name : T) (s : Strategy) :
    AllCmds (Shape E jar id (.solve name s)) (RetShape id (.solve name s)) (hSolve jar id name s : P T H A R) := by
  unfold hSolve
  cases id with
  | none => exact reply_shape _ _
  | some u =>
    refine .cmd _ _ ⟨u, rfl, Or.inl rfl⟩ ?_
    intro r _
    cases r with
    | none => exact reply_shape _ _
    | some p =>
      simp only
      split
      · exact reply_shape _ _
      · exact reply_shape _ _
      · refine .cmd _ _ ⟨u, rfl, Or.inr (Or.inl rfl)⟩ ?_
        intro busy _
        split
        · exact reply_shape _ _
        · refine .cmd _ _ ⟨u, rfl, Or.inr (Or.inr ⟨_, rfl, rfl, rfl⟩)⟩ ?_
          intro _ _; exact reply_shape _ _

theorem hGet_shape (E : Env T H A R) (jar : Nat) (id : Option T) (name : T) :
    AllCmds (Shape E jar id (.get name)) (RetShape id (.get name)) (hGet id name : P T H A R) := by
  unfold hGet
  cases id with
  | none => exact reply_shape _ _
  | some u =>
    refine .cmd _ _ ⟨u, rfl, Or.inl rfl⟩ ?_
    intro r hr
    cases r with
    | none => exact reply_shape _ _
    | some p =>
      -- the document found carries the user name of the filter
      refine .cmd _ _ ⟨u, rfl, Or.inr ⟨p.name, by rw [(hr p rfl).1]⟩⟩ ?_
      intro _ _; exact .ret _ ⟨nofun, nofun⟩

theorem hDelete_shape (E : Env T H A R) (jar : Nat) (id : Option T) (name : T) :
    AllCmds (Shape E jar id (.delete name)) (RetShape id (.delete name)) (hDelete id name : P T H A R) := by
  unfold hDelete
  cases id with
  | none => exact reply_shape _ _
  | some u =>
    refine .cmd _ _ ⟨u, rfl, rfl⟩ ?_
    intro n _
    split <;> exact reply_shape _ _

omit [DecidableEq T] in
theorem listInfos_shape (E : Env T H A R) (jar : Nat) (u : T) : ∀ (ps : List (Problem T A R)) (acc : List (Info T R)),
    (∀ p ∈ ps, p.username = u) → AllCmds (Shape E jar (some u) .list) (RetShape (some u) .list) (listInfos acc ps : P T H A R) := by
  intro ps
  induction ps with
  | nil => intro acc _; exact .ret _ ⟨nofun, nofun⟩
  | cons p ps ih =>
    intro acc h
    refine .cmd _ _ ⟨u, rfl, Or.inr ⟨p.name, by rw [h p (List.mem_cons_self ..)]⟩⟩ ?_
    intro ts _
    exact ih _ (fun q hq => h q (List.mem_cons_of_mem _ hq))

theorem hList_shape (E : Env T H A R) (jar : Nat) (id : Option T) :
    AllCmds (Shape E jar id .list) (RetShape id .list) (hList id : P T H A R) := by
  unfold hList
  cases id with
  | none => exact reply_shape _ _
  | some u =>
    refine .cmd _ _ ⟨u, rfl, Or.inl rfl⟩ ?_
    intro ps hps
    exact listInfos_shape E jar u ps [] hps

theorem handler_shape (E : Env T H A R) (jar : Nat) (id : Option T) (rq : Req T) :
    AllCmds (Shape E jar id rq) (RetShape id rq) (handler E jar id rq) := by
  cases rq with
  | register u p salt => exact hRegister_shape jar id E u p salt
  | login u p => exact hLogin_shape jar E id u p
  | logout => exact hLogout_shape jar E id
  | info => exact hInfo_shape jar E id
  | update u p salt => exact hUpdate_shape jar E id u p salt
  | deleteAccount => exact hDeleteAccount_shape jar E id
  | add name code file parsing fu fp => exact hAdd_shape E jar id name code file parsing fu fp
  | solve name s => exact hSolve_shape E jar id name s
  | get name => exact hGet_shape E jar id name
  | delete name => exact hDelete_shape E jar id name
  | list => exact hList_shape E jar id
  | malformed => exact reply_shape _ _

/-- a command issued for identity `U` by a request mentioning the account names `names`:
every access to the problem collection and to the running set carries `U` as user name; in the
user collection only `U`'s record is replaced or deleted, a record is created only under a name
the request mentions, and a record is looked up only for `U` or for a name the request mentions
(existence / credential check) -/
def Owned (jar : Nat) (U : Option T) (names : List T) : Cmd T H A R → Prop
  | .uFind n => some n = U ∨ n ∈ names
  | .uInsert u => u.username ∈ names
  | .uReplace n u => some n = U ∧ u.username ∈ names
  | .uDelete n => some n = U
  | .pFindOne u _ => some u = U
  | .pFindAll u => some u = U
  | .pInsert p => some p.username = U
  | .pSet u _ _ => some u = U
  | .pDeleteOne u _ => some u = U
  | .pDeleteAll u => some u = U
  | .pRename u u' => some u = U ∧ u' ∈ names
  | .rContains i => some i.username = U
  | .rTasks u _ => some u = U
  | .spawn t => some t.username = U ∧ t.jar = jar

theorem Shape.owned (E : Env T H A R) (jar : Nat) (id : Option T) (rq : Req T) (c : Cmd T H A R)
    (h : Shape E jar id rq c) : Owned jar (actor id rq) (reqNames rq) c := by
  cases rq with
  | register u p salt => rcases h with h | h <;> subst h <;> simp [Owned, reqNames]
  | login u p => subst h; simp [Owned, reqNames]
  | logout => obtain ⟨v, hv, h⟩ := h; subst h; simp [Owned, actor, hv]
  | info => obtain ⟨v, hv, h⟩ := h; subst h; simp [Owned, actor, hv]
  | update u p salt =>
    obtain ⟨v, hv, h⟩ := h
    rcases h with h | h | h <;> subst h <;> simp [Owned, actor, reqNames, hv]
  | deleteAccount =>
    obtain ⟨v, hv, h⟩ := h
    rcases h with h | h <;> subst h <;> simp [Owned, actor, hv]
  | add name code file parsing fu fp =>
    rcases h with ⟨_, h | h⟩ | ⟨n, h⟩ | ⟨p, h, hp⟩ | ⟨t, h, ht, hj⟩
    · subst h; simp [Owned, reqNames]
    · subst h; simp [Owned, reqNames]
    · subst h; simp [Owned, actor]
    · subst h; simp [Owned, actor, hp]
    · subst h; simp [Owned, actor, ht, hj]
  | solve name s =>
    obtain ⟨v, hv, h⟩ := h
    rcases h with h | h | ⟨t, h, ht, hj⟩ <;> subst h <;> simp [Owned, actor, *]
  | get name =>
    obtain ⟨v, hv, h⟩ := h
    rcases h with h | ⟨n, h⟩ <;> subst h <;> simp [Owned, actor, hv]
  | delete name => obtain ⟨v, hv, h⟩ := h; subst h; simp [Owned, actor, hv]
  | list =>
    obtain ⟨v, hv, h⟩ := h
    rcases h with h | ⟨n, h⟩ <;> subst h <;> simp [Owned, actor, hv]
  | malformed => exact h.elim

theorem handler_owned (E : Env T H A R) (jar : Nat) (id : Option T) (rq : Req T) :
    AllCmds (Owned jar (actor id rq) (reqNames rq)) (RetShape id rq) (handler E jar id rq) :=
  (handler_shape E jar id rq).mono (Shape.owned E jar id rq) (fun _ h => h)

/-- all account names a command carries lie in `S`; a spawned task is tagged with a jar in `J` -/
def CmdIn (S : T → Bool) (J : Nat → Bool) : Cmd T H A R → Prop
  | .uFind n => S n = true
  | .uInsert u => S u.username = true
  | .uReplace n u => S n = true ∧ S u.username = true
  | .uDelete n => S n = true
  | .pFindOne u _ => S u = true
  | .pFindAll u => S u = true
  | .pInsert p => S p.username = true
  | .pSet u _ _ => S u = true
  | .pDeleteOne u _ => S u = true
  | .pDeleteAll u => S u = true
  | .pRename u u' => S u = true ∧ S u' = true
  | .rContains i => S i.username = true
  | .rTasks u _ => S u = true
  | .spawn t => S t.username = true ∧ J t.jar = true

theorem Owned.cmdIn {jar : Nat} {U : Option T} {names : List T} {S : T → Bool} {J : Nat → Bool}
    (hU : ∀ u, U = some u → S u = true) (hn : ∀ n ∈ names, S n = true) (hj : J jar = true) :
    ∀ c : Cmd T H A R, Owned jar U names c → CmdIn S J c := by
  intro c h
  cases c with
  | uFind n => rcases h with h | h; exact hU n h.symm; exact hn n h
  | uInsert u => exact hn _ h
  | uReplace n u => exact ⟨hU n h.1.symm, hn _ h.2⟩
  | uDelete n => exact hU n h.symm
  | pFindOne u n => exact hU u h.symm
  | pFindAll u => exact hU u h.symm
  | pInsert p => exact hU _ h.symm
  | pSet u n w => exact hU u h.symm
  | pDeleteOne u n => exact hU u h.symm
  | pDeleteAll u => exact hU u h.symm
  | pRename u u' => exact ⟨hU u h.1.symm, hn _ h.2⟩
  | rContains i => exact hU _ h.symm
  | rTasks u n => exact hU u h.symm
  | spawn t => exact ⟨hU _ h.1.symm, by rw [h.2]; exact hj⟩

/-- `d` and `a` agree on what belongs to the accounts in `S` and on the tasks of the jars in `J`
(`dbSim_iff_view`) -/
structure DbSim (S : T → Bool) (J : Nat → Bool) (d a : Db T H A R) : Prop where
  users : d.users.filter (fun u => S u.username) = a.users.filter (fun u => S u.username)
  probs : d.problems.filter (fun p => S p.username) = a.problems.filter (fun p => S p.username)
  running : d.running.filter (fun i => S i.username) = a.running.filter (fun i => S i.username)
  tasks : d.tasks.filter (fun t => J t.jar) = a.tasks.filter (fun t => J t.jar)

theorem DbSim.refl (S : T → Bool) (J : Nat → Bool) (d : Db T H A R) : DbSim S J d d := ⟨rfl, rfl, rfl, rfl⟩

theorem DbSim.trans {S : T → Bool} {J : Nat → Bool} {a b c : Db T H A R} (h1 : DbSim S J a b) (h2 : DbSim S J b c) :
    DbSim S J a c :=
  ⟨h1.users.trans h2.users, h1.probs.trans h2.probs, h1.running.trans h2.running, h1.tasks.trans h2.tasks⟩

theorem isUser_S {S : T → Bool} {n : T} (h : S n = true) : ∀ x : User T H, isUser n x = true → S x.username = true := by
  intro x hx; simp only [isUser, decide_eq_true_eq] at hx; rw [hx]; exact h

theorem isProb_S {S : T → Bool} {u n : T} (h : S u = true) :
    ∀ x : Problem T A R, isProb u n x = true → S x.username = true := by
  intro x hx; simp only [isProb, Bool.and_eq_true, decide_eq_true_eq] at hx; rw [hx.2]; exact h

theorem ownedP_S {S : T → Bool} {u : T} (h : S u = true) :
    ∀ x : Problem T A R, ownedP u x = true → S x.username = true := by
  intro x hx; simp only [ownedP, decide_eq_true_eq] at hx; rw [hx]; exact h

theorem isInfo_S {S : T → Bool} {i : RInfo T} (h : S i.username = true) :
    ∀ x : RInfo T, isInfo i x = true → S x.username = true := by
  intro x hx; simp only [isInfo, Bool.and_eq_true, decide_eq_true_eq] at hx; rw [hx.1.1]; exact h

theorem any_view {α : Type} (S q : α → Bool) (hq : ∀ x, q x = true → S x = true) {l l' : List α}
    (h : l.filter S = l'.filter S) : l.any q = l'.any q := by
  rw [← any_filter_in S q hq l, ← any_filter_in S q hq l', h]

theorem find_view {α : Type} (S q : α → Bool) (hq : ∀ x, q x = true → S x = true) {l l' : List α}
    (h : l.filter S = l'.filter S) : l.find? q = l'.find? q := by
  rw [← find_filter_in S q hq l, ← find_filter_in S q hq l', h]

theorem Write.apply_username (w : Write A R) (p : Problem T A R) : (w.apply p).username = p.username := by
  cases w <;> rfl

theorem Write.apply_name (w : Write A R) (p : Problem T A R) : (w.apply p).name = p.name := by
  cases w <;> rfl

/-- what the database holds of the accounts in `S` and the tasks of the jars in `J`: the database a user
with these accounts and jars would see if nobody else existed.  `DbSim S J d a` says that `d` and `a` have the
same view. -/
def Db.view (S : T → Bool) (J : Nat → Bool) (d : Db T H A R) : Db T H A R :=
  { users := d.users.filter (fun u => S u.username), problems := d.problems.filter (fun p => S p.username),
    running := d.running.filter (fun i => S i.username), tasks := d.tasks.filter (fun t => J t.jar) }

omit [DecidableEq T] in
theorem dbSim_iff_view {S : T → Bool} {J : Nat → Bool} {d a : Db T H A R} :
    DbSim S J d a ↔ d.view S J = a.view S J :=
  ⟨fun h => by simp only [Db.view, h.users, h.probs, h.running, h.tasks],
   fun h => by simp only [Db.view, Db.mk.injEq] at h; exact ⟨h.1, h.2.1, h.2.2.1, h.2.2.2⟩⟩

/-- a command inside the view commutes with it: same result, and the view of the new database is the
command's effect on the view.  Every first-match predicate `q` of such a command implies `S`, and such a `q`
commutes with `filter S` (`find_filter_in`, `any_filter_in`, `filter_updFirst_in`, `filter_delFirst_in`). -/
theorem exec_view {S : T → Bool} {J : Nat → Bool} (d : Db T H A R) (c : Cmd T H A R) (hc : CmdIn S J c) :
    exec (d.view S J) c = ((exec d c).1.view S J, (exec d c).2) := by
  cases c with
  | uFind n => exact Prod.ext rfl (find_filter_in _ _ (isUser_S hc) _)
  | uInsert u =>
    simp only [exec, Db.view, any_filter_in _ _ (isUser_S hc)]
    split
    · rfl
    · simp only [List.filter_append, show S u.username = true from hc, List.filter_cons_of_pos, List.filter_nil]
  | uReplace n u =>
    simp only [exec, Db.view, any_filter_in _ _ (isUser_S hc.1), any_filter_in _ _ (isUser_S hc.2)]
    split
    · rfl
    · simp only [filter_updFirst_in _ _ _ (isUser_S hc.1) (fun _ _ => hc.2)]
  | uDelete n =>
    simp only [exec, Db.view, any_filter_in _ _ (isUser_S hc), filter_delFirst_in _ _ (isUser_S hc)]
  | pFindOne u n => exact Prod.ext rfl (find_filter_in _ _ (isProb_S hc) _)
  | pFindAll u => exact Prod.ext rfl (filter_filter_in _ _ (ownedP_S hc) _)
  | pInsert p => simp only [exec, Db.view, List.filter_append, List.filter_cons, show S p.username = true from hc, if_true, List.filter_nil]
  | pSet u n w =>
    have hf : ∀ x : Problem T A R, isProb u n x = true → S (w.apply x).username = true :=
      fun x hx => by rw [Write.apply_username]; exact isProb_S hc x hx
    simp only [exec, Db.view, any_filter_in _ _ (isProb_S hc), filter_updFirst_in _ _ _ (isProb_S hc) hf]
  | pDeleteOne u n =>
    simp only [exec, Db.view, any_filter_in _ _ (isProb_S hc), filter_delFirst_in _ _ (isProb_S hc)]
  | pDeleteAll u =>
    simp only [exec, Db.view, List.filter_filter, Bool.and_comm]
  | pRename u u' =>
    simp only [exec, Db.view, Prod.mk.injEq, Db.mk.injEq, and_true, true_and]
    induction d.problems with
    | nil => rfl
    | cons x xs ih =>
      by_cases ho : ownedP u x = true
      · simp only [ownedP_S hc.1 x ho, List.filter_cons_of_pos, List.map_cons, ho, ↓reduceIte, ih, hc.2]
      · by_cases hx : S x.username = true <;>
          simp only [List.filter_cons, List.map_cons, ho, hx, Bool.false_eq_true, ↓reduceIte, ih]
  | rContains i => exact Prod.ext rfl (any_filter_in _ _ (isInfo_S hc) _)
  | rTasks u n =>
    refine Prod.ext rfl (congrArg (List.map RInfo.task) (filter_filter_in (fun x : RInfo T => S x.username) _ ?_ _))
    intro x hx
    simp only [Bool.and_eq_true, decide_eq_true_eq] at hx
    rw [hx.2]; exact hc
  | spawn t =>
    simp only [exec, Db.view, any_filter_in _ _ (isInfo_S (i := t.info) hc.1)]
    split <;> simp only [List.filter_append, List.filter_cons, List.filter_nil, hc.2, ↓reduceIte,
      show S t.info.username = true from hc.1]

theorem exec_out {S : T → Bool} {J : Nat → Bool} (d : Db T H A R) :
    ∀ c : Cmd T H A R, CmdIn (fun x => !S x) (fun j => !J j) c → DbSim S J (exec d c).1 d := by
  intro c hc
  have neg : ∀ {b : Bool}, (!b) = true → b = false := fun h => (Bool.not_eq_true' _).mp h
  cases c with
  | uInsert u =>
    simp only [exec]
    split
    · exact DbSim.refl ..
    · refine ⟨?_, rfl, rfl, rfl⟩
      simp [List.filter_append, neg hc]
  | uReplace n u =>
    simp only [exec]
    split
    · exact DbSim.refl ..
    · exact ⟨filter_updFirst_out _ _ _ (fun x hx => neg (isUser_S (S := (!S ·)) hc.1 x hx)) (fun _ _ => neg hc.2) _, rfl, rfl, rfl⟩
  | uDelete n => exact ⟨filter_delFirst_out _ _ (fun x hx => neg (isUser_S (S := (!S ·)) hc x hx)) _, rfl, rfl, rfl⟩
  | pInsert p =>
    refine ⟨rfl, ?_, rfl, rfl⟩
    simp [exec, List.filter_append, neg hc]
  | pSet u n w =>
    exact ⟨rfl, filter_updFirst_out _ _ _ (fun x hx => neg (isProb_S (S := (!S ·)) hc x hx))
      (fun x hx => by rw [Write.apply_username]; exact neg (isProb_S (S := (!S ·)) hc x hx)) _, rfl, rfl⟩
  | pDeleteOne u n => exact ⟨rfl, filter_delFirst_out _ _ (fun x hx => neg (isProb_S (S := (!S ·)) hc x hx)) _, rfl, rfl⟩
  | pDeleteAll u =>
    refine ⟨rfl, ?_, rfl, rfl⟩
    simp only [exec]
    rw [List.filter_filter]
    apply List.filter_congr
    intro x _
    cases ho : ownedP u x with
    | false => simp
    | true => simp [neg (ownedP_S (S := (!S ·)) hc x ho)]
  | pRename u u' =>
    refine ⟨rfl, ?_, rfl, rfl⟩
    simp only [exec]
    induction d.problems with
    | nil => rfl
    | cons x xs ih =>
      cases ho : ownedP u x with
      | true => simp [ho, neg (ownedP_S (S := (!S ·)) hc.1 x ho), neg hc.2, ih]
      | false => simp [ho, List.filter_cons, ih]
  | spawn t =>
    refine ⟨rfl, rfl, ?_, ?_⟩
    · simp only [exec]
      split
      · rfl
      · simp [List.filter_append, TaskRec.info, neg hc.1]
    · simp [exec, List.filter_append, neg hc.2]
  | _ => exact DbSim.refl ..

theorem run_view {α : Type} {S : T → Bool} {J : Nat → Bool} :
    ∀ {p : Prog T H A R α} {P : α → Prop}, AllCmds (CmdIn S J) P p → ∀ d : Db T H A R,
      (run p (d.view S J)).1 = (run p d).1.view S J ∧ (run p (d.view S J)).2.1 = (run p d).2.1 := by
  intro p P hp
  induction hp with
  | ret x _ => intro d; exact ⟨rfl, rfl⟩
  | cmd c k hq _ ih =>
    intro d
    simp only [run, exec_view d c hq]
    exact ih _ (exec_rok d c) _

theorem run_out {α : Type} {S : T → Bool} {J : Nat → Bool} :
    ∀ {p : Prog T H A R α} {P : α → Prop}, AllCmds (CmdIn (fun x => !S x) (fun j => !J j)) P p →
      ∀ d, DbSim S J (run p d).1 d := by
  intro p P hp
  induction hp with
  | ret x _ => intro d; exact DbSim.refl ..
  | cmd c k hq _ ih =>
    intro d
    simp only [run]
    exact (ih _ (exec_rok d c) _).trans (exec_out d c hq)

omit [DecidableEq T] in
theorem state_ext {s t : State T H A R} (h1 : s.db = t.db) (h2 : s.sess = t.sess) : s = t := by
  cases s; cases t; simp_all

theorem step_db (E : Env T H A R) (st : State T H A R) (rq : Request T) :
    (step E st rq).1.db = (run (handler E rq.jar (st.sess rq.jar) rq.req) st.db).1 := rfl

theorem step_resp (E : Env T H A R) (st : State T H A R) (rq : Request T) :
    (step E st rq).2 = (run (handler E rq.jar (st.sess rq.jar) rq.req) st.db).2.1 := rfl

theorem step_sess (E : Env T H A R) (st : State T H A R) (rq : Request T) (k : Nat) :
    (step E st rq).1.sess k =
      if k = rq.jar then applyCookie (st.sess rq.jar) (step E st rq).2.cookie else st.sess k := rfl

theorem actor_in {S : T → Bool} {id : Option T} {rq : Req T} (hid : ∀ u, id = some u → S u = true)
    (hn : ∀ n ∈ reqNames rq, S n = true) : ∀ u, actor id rq = some u → S u = true := by
  intro u hu
  cases rq with
  | add name code file parsing fu fp =>
    cases id with
    | none => cases hu; exact hn fu (List.mem_singleton.mpr rfl)
    | some v => cases hu; exact hid v rfl
  | _ => exact hid u hu

theorem Owned.outside {jar : Nat} {U : Option T} {names : List T} {c : Cmd T H A R} (h : Owned jar U names c)
    {v : T} (hU : U ≠ some v) (hn : v ∉ names) : CmdIn (fun x => !decide (x = v)) (fun _ => true) c :=
  Owned.cmdIn (S := fun x => !decide (x = v))
    (fun u hu => by have : u ≠ v := fun huv => hU (by rw [hu, huv]); simp [this])
    (fun n hn' => by have : n ≠ v := fun hnv => hn (hnv ▸ hn'); simp [this]) rfl c h

/-- the tasks spawned from jar `j`, in spawn order -/
def ofJar (j : Nat) (l : List (TaskRec T A)) : List (TaskRec T A) := l.filter (fun t => decide (t.jar = j))

theorem nthOf_eq (j : Nat) : ∀ (n : Nat) (l : List (TaskRec T A)), nthOf j n l = (ofJar j l)[n]? := by
  intro n l
  fun_induction nthOf j n l with
  | case1 => rfl
  | case2 t ts h => simp only [ofJar, h, if_true, List.filter_cons, decide_true]; rfl
  | case3 t ts h k ih => simp only [ofJar, h, if_true, List.filter_cons, decide_true]; exact ih
  | case4 n t ts h ih => simp only [ofJar, h, if_false, List.filter_cons, decide_false, Bool.false_eq_true]; exact ih

theorem updNth_filter_in (J : Nat → Bool) (k : Nat) (hk : J k = true) (f : TaskRec T A → TaskRec T A)
    (hf : ∀ t, (f t).jar = t.jar) : ∀ (n : Nat) (l : List (TaskRec T A)),
    (updNth k f n l).filter (fun t => J t.jar) = updNth k f n (l.filter (fun t => J t.jar)) := by
  intro n l
  fun_induction updNth k f n l with
  | case1 => rfl
  | case2 t ts h => simp [updNth, h, hf, hk]
  | case3 t ts h m ih => simp [updNth, h, hk, ih]
  | case4 n t ts h ih => cases hJ : J t.jar <;> simp [updNth, h, hJ, ih]

theorem updNth_filter_out (J : Nat → Bool) (k : Nat) (hk : J k = false) (f : TaskRec T A → TaskRec T A)
    (hf : ∀ t, (f t).jar = t.jar) : ∀ (n : Nat) (l : List (TaskRec T A)),
    (updNth k f n l).filter (fun t => J t.jar) = l.filter (fun t => J t.jar) := by
  intro n l
  fun_induction updNth k f n l with
  | case1 => rfl
  | case2 t ts h => simp [h, hf, hk]
  | case3 t ts h m ih => simp [h, hk, ih]
  | case4 n t ts h ih => rw [List.filter_cons, List.filter_cons, ih]

theorem updNth_ofJar (j : Nat) (f : TaskRec T A → TaskRec T A) (hf : ∀ t, (f t).jar = t.jar) :
    ∀ (n : Nat) (l : List (TaskRec T A)), ofJar j (updNth j f n l) = (ofJar j l).modify n f := by
  intro n l
  fun_induction updNth j f n l with
  | case1 => simp [ofJar]
  | case2 t ts h => simp [ofJar, h, hf]
  | case3 t ts h m ih => simpa [h, ofJar] using ih
  | case4 n t ts h ih => simpa [h, ofJar] using ih

theorem ofJar_append (j : Nat) (l l' : List (TaskRec T A)) : ofJar j (l ++ l') = ofJar j l ++ ofJar j l' :=
  List.filter_append ..

theorem nthOf_filter (J : Nat → Bool) (k : Nat) (hk : J k = true) (n : Nat) (l : List (TaskRec T A)) :
    nthOf k n (l.filter (fun t => J t.jar)) = nthOf k n l := by
  rw [nthOf_eq, nthOf_eq, ofJar, ofJar, List.filter_filter]
  congr 1
  exact List.filter_congr fun t _ => by by_cases h : t.jar = k <;> simp [h, hk]

theorem nthOf_mem (j n : Nat) (l : List (TaskRec T A)) (t : TaskRec T A) (h : nthOf j n l = some t) :
    t ∈ l ∧ t.jar = j := by
  rw [nthOf_eq] at h
  simpa [ofJar] using List.mem_of_getElem? h

theorem mem_updNth (jar : Nat) (f : TaskRec T A → TaskRec T A) : ∀ (n : Nat) (l : List (TaskRec T A)) (x : TaskRec T A),
    x ∈ updNth jar f n l → x ∈ l ∨ ∃ y ∈ l, x = f y := by
  intro n l
  induction l generalizing n with
  | nil => intro x hx; cases hx
  | cons t ts ih =>
    intro x hx
    have tail : ∀ m, x ∈ updNth jar f m ts → x ∈ t :: ts ∨ ∃ y ∈ t :: ts, x = f y := fun m h =>
      (ih m x h).imp (List.mem_cons_of_mem _) (fun ⟨y, hy, e⟩ => ⟨y, List.mem_cons_of_mem _ hy, e⟩)
    have head : x = t → x ∈ t :: ts ∨ ∃ y ∈ t :: ts, x = f y := fun h => Or.inl (h ▸ List.mem_cons_self ..)
    unfold updNth at hx
    split at hx
    · cases n with
      | zero =>
        rcases List.mem_cons.mp hx with h | h
        · exact Or.inr ⟨t, List.mem_cons_self .., h⟩
        · exact Or.inl (List.mem_cons_of_mem _ h)
      | succ k => exact (List.mem_cons.mp hx).elim head (tail k)
    · exact (List.mem_cons.mp hx).elim head (tail n)

theorem forall_updNth {P : TaskRec T A → Prop} (jar n : Nat) (f : TaskRec T A → TaskRec T A) (hf : ∀ t, P t → P (f t))
    {l : List (TaskRec T A)} (h : ∀ t ∈ l, P t) : ∀ t ∈ updNth jar f n l, P t := by
  intro t ht
  rcases mem_updNth jar f n l t ht with h' | ⟨y, hy, rfl⟩
  · exact h t h'
  · exact hf y (h y hy)

/-- the blocking part of task `t`, the `n`-th of jar `j`, has ended: its guard leaves the running set -/
def taskDone (db : Db T H A R) (j n : Nat) (t : TaskRec T A) : Db T H A R :=
  { db with running := eraseInfo t.info db.running,
            tasks := updNth j (fun t => { t with blockingDone := true }) n db.tasks }

/-- task `t`, the `n`-th of jar `j`, issues its `update_one` with the `$set` document `w` -/
def taskSet (db : Db T H A R) (j n : Nat) (t : TaskRec T A) (w : Write A R) : Db T H A R :=
  { (exec db (.pSet t.username t.name w)).1 with
    tasks := updNth j (fun t => { t with written := true }) n (exec db (.pSet t.username t.name w)).1.tasks }

def Event.num : Event T → Nat
  | .req _ => 0
  | .finish _ n => n
  | .write _ n => n
  | .timeout _ n => n

/-- what a task event does, on two databases in which it finds the same task.  The callers destructure the
result by position, `h0 | ⟨t, ht, ⟨hb, hd, ha, he⟩ | ⟨hw, w, hd, ha, he⟩⟩`, the branches in this order: nothing
happens; the task, not yet done, is marked done by its `finish`; the task, not yet written, writes `w` (its result
after the blocking part, a timeout error before).  Which of the three, and what is written, depends only on the
event and the task; that is why one statement serves two databases (`dbEv_view_in` of `ServerNonintJ.lean` takes a
database and its view, every other caller `d d rfl`). -/
theorem dbEv_task (E : Env T H A R) (d a : Db T H A R) (e : Event T)
    (hn : nthOf e.jar e.num d.tasks = nthOf e.jar e.num a.tasks) :
    (dbEv E d e = d ∧ dbEv E a e = a) ∨
    ∃ t, nthOf e.jar e.num d.tasks = some t ∧
      ((t.blockingDone = false ∧ dbEv E d e = taskDone d e.jar e.num t ∧ dbEv E a e = taskDone a e.jar e.num t ∧
          e = .finish e.jar e.num) ∨
       (t.written = false ∧
         ∃ w, dbEv E d e = taskSet d e.jar e.num t w ∧ dbEv E a e = taskSet a e.jar e.num t w ∧
           ((e = .write e.jar e.num ∧ t.blockingDone = true ∧ w = taskWrite E t.input) ∨
            (e = .timeout e.jar e.num ∧ t.blockingDone = false ∧ w = timeoutWrite t.input)))) := by
  cases e with
  | req rq => exact Or.inl ⟨rfl, rfl⟩
  | finish j n =>
    have h : nthOf j n a.tasks = nthOf j n d.tasks := hn.symm
    simp only [dbEv, h]
    cases ht : nthOf j n d.tasks with
    | none => exact Or.inl ⟨rfl, rfl⟩
    | some t =>
      simp only
      cases hb : t.blockingDone with
      | true => exact Or.inl ⟨rfl, rfl⟩
      | false => exact Or.inr ⟨t, ht, Or.inl ⟨hb, rfl, rfl, rfl⟩⟩
  | write j n =>
    have h : nthOf j n a.tasks = nthOf j n d.tasks := hn.symm
    simp only [dbEv, h]
    cases ht : nthOf j n d.tasks with
    | none => exact Or.inl ⟨rfl, rfl⟩
    | some t =>
      simp only
      cases hw : t.written with
      | true => rw [Bool.not_true, Bool.and_false]; exact Or.inl ⟨rfl, rfl⟩
      | false =>
        cases hb : t.blockingDone with
        | false => exact Or.inl ⟨rfl, rfl⟩
        | true => exact Or.inr ⟨t, ht, Or.inr ⟨hw, _, rfl, rfl, Or.inl ⟨rfl, hb, rfl⟩⟩⟩
  | timeout j n =>
    have h : nthOf j n a.tasks = nthOf j n d.tasks := hn.symm
    simp only [dbEv, h]
    cases ht : nthOf j n d.tasks with
    | none => exact Or.inl ⟨rfl, rfl⟩
    | some t =>
      simp only
      cases hw : t.written with
      | true => rw [Bool.not_true, Bool.and_false]; exact Or.inl ⟨rfl, rfl⟩
      | false =>
        cases hb : t.blockingDone with
        | true => exact Or.inl ⟨rfl, rfl⟩
        | false => exact Or.inr ⟨t, ht, Or.inr ⟨hw, _, rfl, rfl, Or.inr ⟨rfl, hb, rfl⟩⟩⟩

theorem filter_erase_in (S : T → Bool) (i : RInfo T) (l : List (RInfo T)) :
    (eraseInfo i l).filter (fun x => S x.username) = eraseInfo i (l.filter (fun x => S x.username)) := by
  simp only [eraseInfo, List.filter_filter]
  apply List.filter_congr
  intro x _
  exact Bool.and_comm _ _

theorem filter_erase_out (S : T → Bool) (i : RInfo T) (hi : S i.username = false) (l : List (RInfo T)) :
    (eraseInfo i l).filter (fun x => S x.username) = l.filter (fun x => S x.username) := by
  simp only [eraseInfo, List.filter_filter]
  apply List.filter_congr
  intro x _
  by_cases hx : isInfo i x = true
  · have : x.username = i.username := by
      simp only [isInfo, Bool.and_eq_true, decide_eq_true_eq] at hx; exact hx.1.1
    simp [this, hi]
  · simp [hx]

theorem taskDone_view {S : T → Bool} {J : Nat → Bool} (d : Db T H A R) {j : Nat} (hj : J j = true) (n : Nat)
    (t : TaskRec T A) : taskDone (d.view S J) j n t = (taskDone d j n t).view S J := by
  simp only [taskDone, Db.view, filter_erase_in,
    updNth_filter_in J j hj (fun t => { t with blockingDone := true }) (fun _ => rfl)]

theorem taskSet_view {S : T → Bool} {J : Nat → Bool} (d : Db T H A R) {j : Nat} (hj : J j = true) (n : Nat)
    {t : TaskRec T A} (ht : S t.username = true) (w : Write A R) :
    taskSet (d.view S J) j n t w = (taskSet d j n t w).view S J := by
  simp only [taskSet, exec_view d (.pSet t.username t.name w) ht]
  simp only [Db.view, updNth_filter_in J j hj (fun t => { t with written := true }) (fun _ => rfl)]

theorem taskDone_out {S : T → Bool} {J : Nat → Bool} (d : Db T H A R) {j : Nat} (hj : J j = false) (n : Nat)
    {t : TaskRec T A} (ht : S t.username = false) : DbSim S J (taskDone d j n t) d :=
  ⟨rfl, rfl, filter_erase_out S t.info ht d.running,
   updNth_filter_out J j hj (fun t => { t with blockingDone := true }) (fun _ => rfl) n d.tasks⟩

theorem taskSet_out {S : T → Bool} {J : Nat → Bool} (d : Db T H A R) {j : Nat} (hj : J j = false) (n : Nat)
    {t : TaskRec T A} (ht : S t.username = false) (w : Write A R) : DbSim S J (taskSet d j n t w) d := by
  have hx := exec_out (S := S) (J := J) d (.pSet t.username t.name w) (by simp [CmdIn, ht])
  refine ⟨hx.users, hx.probs, hx.running, ?_⟩
  show (updNth j _ n _).filter _ = _
  rw [updNth_filter_out J j hj (fun t => { t with written := true }) (fun _ => rfl)]
  exact hx.tasks

/-- `_view` here in the sense of `exec_out`, not of `exec_view`: the event of somebody else's task does not show
in the view of `v`. -/
theorem dbEv_view (E : Env T H A R) (d : Db T H A R) (e : Event T) (v : T)
    (h : ∀ t, nthOf e.jar e.num d.tasks = some t → t.username ≠ v) :
    DbSim (fun x => decide (x = v)) (fun _ => false) (dbEv E d e) d := by
  rcases dbEv_task E d d e rfl with h0 | ⟨t, ht, ⟨_, h1, _⟩ | ⟨_, w, h1, _⟩⟩
  · rw [h0.1]; exact DbSim.refl ..
  · rw [h1]; exact taskDone_out d rfl _ (decide_eq_false (h t ht))
  · rw [h1]; exact taskSet_out d rfl _ (decide_eq_false (h t ht)) w

theorem dbEv_finish_problems (E : Env T H A R) (d : Db T H A R) (j n : Nat) :
    (dbEv E d (.finish j n)).problems = d.problems := by
  simp only [dbEv]
  cases nthOf j n d.tasks with
  | none => rfl
  | some t => simp only; split <;> rfl

theorem dbEv_users (E : Env T H A R) (d : Db T H A R) (e : Event T) : (dbEv E d e).users = d.users := by
  rcases dbEv_task E d d e rfl with h0 | ⟨t, _, ⟨_, h1, _⟩ | ⟨_, w, h1, _⟩⟩
  · rw [h0.1]
  · rw [h1]; rfl
  · rw [h1]; rfl

end progs
end ServerM
