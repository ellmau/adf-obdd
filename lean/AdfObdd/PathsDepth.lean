import AdfObdd.CountsDef
/-! C13, path and depth clauses: the unfolding of a diagram into its list of root-to-leaf paths
    (`pathsList`), the relation "is a root-to-leaf path" (`IsPath`), and the facts that
    * `pathsList` enumerates exactly the root-to-leaf paths, each once;
    * `pathsF` (the path component of `modelcount_naive`) counts the paths that end in ⊥ / ⊤;
    * the depth component of `countF` is the length of a longest path.
    No Mathlib in the import closure. -/

/-- a path: the decisions taken (variable, branch) from the root, and the terminal reached -/
abbrev DPath := List (Nat × Bool) × Bool

/-- all root-to-leaf paths of the unfolding of the diagram rooted at `t` (lo subtree first) -/
def pathsList (s : Store) : Nat → Nat → List DPath
  | 0, _ => []
  | fuel+1, t =>
    if t = 1 then [([], true)] else if t = 0 then [([], false)] else
    match s.nodes[t]? with
    | none => []
    | some n =>
      (pathsList s fuel n.lo).map (fun p => ((n.var, false) :: p.1, p.2)) ++
      (pathsList s fuel n.hi).map (fun p => ((n.var, true) :: p.1, p.2))

/-- `IsPath s t p b`: following the decisions `p` from handle `t` ends in the terminal `b` -/
inductive IsPath (s : Store) : Nat → List (Nat × Bool) → Bool → Prop
  | bot : IsPath s 0 [] false
  | top : IsPath s 1 [] true
  | lo {t : Nat} {n : Node} {p : List (Nat × Bool)} {b : Bool} :
      2 ≤ t → s.nodes[t]? = some n → IsPath s n.lo p b → IsPath s t ((n.var, false) :: p) b
  | hi {t : Nat} {n : Node} {p : List (Nat × Bool)} {b : Bool} :
      2 ≤ t → s.nodes[t]? = some n → IsPath s n.hi p b → IsPath s t ((n.var, true) :: p) b

def Follows (σ : Asg) (p : List (Nat × Bool)) : Prop := ∀ d ∈ p, σ d.1 = d.2

theorem pathsList_one (s : Store) (f : Nat) : pathsList s (f+1) 1 = [([], true)] := by
  simp [pathsList]
theorem pathsList_zero (s : Store) (f : Nat) : pathsList s (f+1) 0 = [([], false)] := by
  simp [pathsList]
theorem pathsList_node (s : Store) (f t : Nat) (n : Node) (ht : 2 ≤ t) (hn : s.nodes[t]? = some n) :
    pathsList s (f+1) t =
      (pathsList s f n.lo).map (fun p => ((n.var, false) :: p.1, p.2)) ++
      (pathsList s f n.hi).map (fun p => ((n.var, true) :: p.1, p.2)) := by
  conv => lhs; unfold pathsList
  rw [if_neg (Nat.ne_of_gt ht), if_neg (Nat.ne_of_gt (Nat.lt_of_lt_of_le Nat.zero_lt_two ht))]; simp only [hn]

def Memo.listG : Memo.Meas (List DPath) where
  z := []
  l0 := [([], false)]
  l1 := [([], true)]
  nn := []
  node := fun n l h => l.map (fun p => ((n.var, false) :: p.1, p.2)) ++ h.map (fun p => ((n.var, true) :: p.1, p.2))

theorem pathsList_eq_F (s : Store) : ∀ (fuel t : Nat), pathsList s fuel t = Memo.listG.F s fuel t :=
  Memo.F_unique Memo.listG s (pathsList s) (fun _ => rfl) (fun _ _ => rfl)

theorem pathsList_fuel (s : Store) (h : TableWF s.nodes) :
    ∀ (t fuel : Nat), t < fuel → pathsList s fuel t = pathsList s (t+1) t := by
  intro t fuel hlt
  rw [pathsList_eq_F, pathsList_eq_F]; exact Memo.F_fuel _ s h t fuel hlt

theorem pathsList_congr {s s' : Store} (hn : s'.nodes = s.nodes) (f t : Nat) :
    pathsList s' f t = pathsList s f t := by
  rw [pathsList_eq_F, pathsList_eq_F]; exact Memo.F_congr _ hn f t

theorem pathsList_sound (s : Store) : ∀ (fuel t : Nat) (p : DPath),
    p ∈ pathsList s fuel t → IsPath s t p.1 p.2 := by
  intro fuel t
  rw [pathsList_eq_F]
  refine Memo.F_ind Memo.listG s (fun t l => ∀ p ∈ l, IsPath s t p.1 p.2) ?_ ?_ ?_ ?_ ?_ fuel t
  · intro _ p hp; cases hp
  · intro p hp; rw [List.mem_singleton.mp hp]; exact IsPath.top
  · intro p hp; rw [List.mem_singleton.mp hp]; exact IsPath.bot
  · intro _ p hp; cases hp
  · intro t n l h ht hn hl hh p hp
    rcases List.mem_append.mp hp with hp | hp
    · obtain ⟨q, hq, rfl⟩ := List.mem_map.mp hp
      exact IsPath.lo ht hn (hl q hq)
    · obtain ⟨q, hq, rfl⟩ := List.mem_map.mp hp
      exact IsPath.hi ht hn (hh q hq)

theorem pathsList_complete (s : Store) (h : TableWF s.nodes) : ∀ (t : Nat) (p : List (Nat × Bool)) (b : Bool),
    IsPath s t p b → (p, b) ∈ pathsList s (t+1) t := by
  intro t p b hp
  induction hp with
  | bot => rw [pathsList_zero]; exact List.mem_singleton.mpr rfl
  | top => rw [pathsList_one]; exact List.mem_singleton.mpr rfl
  | @lo t n p b ht hn _ ih =>
    have ⟨_, hlo, _, _, _, _⟩ := h.inner t n ht hn
    rw [pathsList_node s t t n ht hn, pathsList_fuel s h n.lo t hlo]
    exact List.mem_append_left _ (List.mem_map.mpr ⟨(p, b), ih, rfl⟩)
  | @hi t n p b ht hn _ ih =>
    have ⟨_, _, hhi, _, _, _⟩ := h.inner t n ht hn
    rw [pathsList_node s t t n ht hn, pathsList_fuel s h n.hi t hhi]
    exact List.mem_append_right _ (List.mem_map.mpr ⟨(p, b), ih, rfl⟩)

theorem mem_pathsList_iff (s : Store) (h : TableWF s.nodes) (t : Nat) (p : DPath) :
    p ∈ pathsList s (t+1) t ↔ IsPath s t p.1 p.2 :=
  ⟨pathsList_sound s (t+1) t p, fun hp => pathsList_complete s h t p.1 p.2 hp⟩

theorem pathsList_nodup (s : Store) : ∀ (fuel t : Nat), (pathsList s fuel t).Nodup := by
  intro fuel t
  rw [pathsList_eq_F]
  refine Memo.F_ind Memo.listG s (fun _ l => l.Nodup) (fun _ => List.nodup_nil) (List.pairwise_singleton _ _)
    (List.pairwise_singleton _ _) (fun _ => List.nodup_nil) ?_ fuel t
  intro _ n l h _ _ hl hh
  -- prefixing a decision is injective, and the two prefixes differ
  have inj : ∀ (c : Bool) (a b : DPath),
      (((n.var, c) :: a.1, a.2) : DPath) = ((n.var, c) :: b.1, b.2) → a = b := by
    intro c a b hab
    cases a; cases b; simp_all
  refine List.nodup_append.mpr ⟨?_, ?_, ?_⟩
  · exact List.pairwise_map.mpr (hl.imp (fun hne hab => hne (inj false _ _ hab)))
  · exact List.pairwise_map.mpr (hh.imp (fun hne hab => hne (inj true _ _ hab)))
  · intro a ha b hb hab
    obtain ⟨q, _, rfl⟩ := List.mem_map.mp ha
    obtain ⟨r, _, rfl⟩ := List.mem_map.mp hb
    simp at hab

theorem path_eval (s : Store) (h : TableWF s.nodes) (t : Nat) (p : List (Nat × Bool)) (b : Bool)
    (hp : IsPath s t p b) (σ : Asg) (hσ : Follows σ p) : eval s t σ = b := by
  induction hp with
  | bot => exact eval_zero s σ
  | top => exact eval_one s σ
  | @lo t n p b ht hn _ ih =>
    rw [Tab.eval_node s h t n ht hn, hσ (n.var, false) (List.mem_cons_self ..)]
    simp only [Bool.false_eq_true, if_false]
    exact ih (fun d hd => hσ d (List.mem_cons_of_mem _ hd))
  | @hi t n p b ht hn _ ih =>
    rw [Tab.eval_node s h t n ht hn, hσ (n.var, true) (List.mem_cons_self ..)]
    simp only [if_true]
    exact ih (fun d hd => hσ d (List.mem_cons_of_mem _ hd))

theorem pathsF_counts (s : Store) : ∀ (fuel t : Nat),
    pathsF s fuel t = ((pathsList s fuel t).countP (fun p => !p.2), (pathsList s fuel t).countP (fun p => p.2)) := by
  intro fuel t
  rw [Memo.pathsF_eq_F, pathsList_eq_F]
  refine Memo.F_rel Memo.pathG Memo.listG s (fun _ c l => c = (l.countP (fun p => !p.2), l.countP (fun p => p.2)))
    (fun _ => rfl) rfl rfl (fun _ => rfl) ?_ fuel t
  rintro _ n _ _ l h _ _ rfl rfl
  show (_, _) = (List.countP _ (_ ++ _), List.countP _ (_ ++ _))
  rw [List.countP_append, List.countP_append, List.countP_map, List.countP_map, List.countP_map, List.countP_map]
  rfl

theorem depth_upper (s : Store) : ∀ (fuel t : Nat),
    ∀ p ∈ pathsList s fuel t, p.1.length ≤ (countF s fuel t).2.2 := by
  intro fuel t
  rw [pathsList_eq_F, Memo.countF_eq_F]
  refine Memo.F_rel Memo.listG Memo.cntG s (fun _ l c => ∀ p ∈ l, p.1.length ≤ c.2.2) ?_ ?_ ?_ ?_ ?_ fuel t
  · intro _ p hp; cases hp
  · intro p hp; rw [List.mem_singleton.mp hp]; exact Nat.le_refl _
  · intro p hp; rw [List.mem_singleton.mp hp]; exact Nat.le_refl _
  · intro _ p hp; cases hp
  · intro _ n l h cl ch _ _ hl hh p hp
    rcases List.mem_append.mp hp with hp | hp
    · obtain ⟨q, hq, rfl⟩ := List.mem_map.mp hp
      exact Nat.succ_le_succ (Nat.le_trans (hl q hq) (Nat.le_max_left _ _))
    · obtain ⟨q, hq, rfl⟩ := List.mem_map.mp hp
      exact Nat.succ_le_succ (Nat.le_trans (hh q hq) (Nat.le_max_right _ _))

/-- some path is exactly as long as the depth component: through the deeper child -/
theorem depth_attained (s : Store) (h : TableWF s.nodes) : ∀ (fuel t : Nat), t < s.nodes.size → t < fuel →
    ∃ p ∈ pathsList s fuel t, p.1.length = (countF s fuel t).2.2 := by
  intro fuel t
  rw [pathsList_eq_F, Memo.countF_eq_F]
  refine Memo.F_rel_wf Memo.listG Memo.cntG s h (fun _ l c => ∃ p ∈ l, p.1.length = c.2.2)
    ⟨_, List.mem_singleton.mpr rfl, rfl⟩ ⟨_, List.mem_singleton.mpr rfl, rfl⟩ ?_ fuel t
  rintro _ n l h cl ch _ _ ⟨q, hq, el⟩ ⟨r, hr, eh⟩
  show ∃ p : DPath, p ∈ List.map _ l ++ List.map _ h ∧ p.1.length = max cl.2.2 ch.2.2 + 1
  rcases Nat.le_total ch.2.2 cl.2.2 with hle | hle
  · exact ⟨_, List.mem_append_left _ (List.mem_map_of_mem hq), by
      rw [Nat.max_eq_left hle]; exact congrArg (· + 1) el⟩
  · exact ⟨_, List.mem_append_right _ (List.mem_map_of_mem hr), by
      rw [Nat.max_eq_right hle]; exact congrArg (· + 1) eh⟩

theorem pow_split (d D : Nat) (h : d ≤ D) : 2 ^ d * 2 ^ (D - d) = 2 ^ D := by
  rw [← Nat.pow_add, Nat.add_sub_cancel' h]

theorem total_arith (cl ml ch mh dl dh D : Nat) (h1 : cl + ml = 2 ^ dl) (h2 : ch + mh = 2 ^ dh)
    (hl : dl ≤ D) (hh : dh ≤ D) :
    (cl * 2 ^ (D - dl) + ch * 2 ^ (D - dh)) + (ml * 2 ^ (D - dl) + mh * 2 ^ (D - dh)) = 2 ^ (D + 1) := by
  have e1 : cl * 2 ^ (D - dl) + ml * 2 ^ (D - dl) = 2 ^ D := by
    rw [← Nat.add_mul, h1, pow_split dl D hl]
  have e2 : ch * 2 ^ (D - dh) + mh * 2 ^ (D - dh) = 2 ^ D := by
    rw [← Nat.add_mul, h2, pow_split dh D hh]
  rw [Nat.add_add_add_comm, e1, e2, Nat.pow_succ, Nat.mul_two]

theorem counts_total_fuel (s : Store) (h : TableWF s.nodes) : ∀ (fuel t : Nat), t < s.nodes.size → t < fuel →
    (countF s fuel t).1 + (countF s fuel t).2.1 = 2 ^ (countF s fuel t).2.2 := by
  intro fuel t
  rw [Memo.countF_eq_F]
  exact Memo.F_ind_wf Memo.cntG s h (fun _ c => c.1 + c.2.1 = 2 ^ c.2.2) rfl rfl
    (fun _ _ _ _ _ _ hl hh => total_arith _ _ _ _ _ _ _ hl hh (Nat.le_max_left _ _) (Nat.le_max_right _ _)) fuel t

#print axioms mem_pathsList_iff
#print axioms pathsList_nodup
#print axioms pathsF_counts
#print axioms depth_upper
#print axioms depth_attained
#print axioms counts_total_fuel
