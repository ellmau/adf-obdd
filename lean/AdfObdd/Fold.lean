import AdfObdd.MeasMemo
/-! Folds over the node table. A diagram is read by structural recursion from a handle: a value for each of the
    two terminals, and at an inner node a value computed from the node and the values of its two children.
    `Memo.Meas` is that interface and `Meas.F` the fuel recursion by which the model writes such a reading; with
    functions as values the denotation `eval` is a fold like the counts, the path lists and the dependency lists.

    On a structurally well-formed table (`TableWF`: children have smaller indices) the fuel is irrelevant and a fold
    has a value per handle, `Meas.val`, with the equations `val_zero`, `val_one`, `val_node`; facts about handles are
    proved by `TableWF.ind`. A fold reads the node table below the handle only: `F_congr`, `F_ext`. -/

theorem TableWF.ind {ns : Array Node} (h : TableWF ns) {P : Nat → Prop} (h0 : P 0) (h1 : P 1)
    (hnode : ∀ t n, 2 ≤ t → ns[t]? = some n → (∀ b, n.child b < t) → (∀ b, P (n.child b)) → P t) :
    ∀ t, t < ns.size → P t := by
  intro t
  induction t using Nat.strongRecOn with
  | _ t ih =>
    intro ht
    match t, ht with
    | 0, _ => exact h0
    | 1, _ => exact h1
    | t+2, ht =>
      obtain ⟨n, hn⟩ := get_of_lt ht
      have ⟨_, hlo, hhi, _⟩ := h.inner (t+2) n (Nat.le_add_left 2 t) hn
      have hc : ∀ b, n.child b < t + 2 := fun b => by cases b; exact hlo; exact hhi
      exact hnode _ n (Nat.le_add_left 2 t) hn hc fun b => ih _ (hc b) (Nat.lt_trans (hc b) ht)

namespace Memo

variable {α : Type}

/-- on a structurally well-formed table every fold is independent of the fuel -/
theorem F_fuel (G : Meas α) (s : Store) (h : TableWF s.nodes) (t : Nat) : Good G s t := by
  rcases Nat.lt_or_ge t s.nodes.size with ht | ht
  · exact h.ind (good_zero G s) (good_one G s)
      (fun t n ht2 hn hc ih => good_node G s t n (by omega) (by omega) hn (hc false) (hc true) (ih false) (ih true)) t ht
  · intro fuel hf
    obtain ⟨f, rfl⟩ : ∃ f, fuel = f + 1 := ⟨fuel - 1, by omega⟩
    have h2 := h.len
    rw [F_none G s f t (by omega) (by omega) (Array.getElem?_eq_none_iff.mpr ht),
      F_none G s t t (by omega) (by omega) (Array.getElem?_eq_none_iff.mpr ht)]

theorem F_ext (G : Meas α) {s s' : Store} (h : TableWF s.nodes)
    (he : ∀ (i : Nat) (n : Node), s.nodes[i]? = some n → s'.nodes[i]? = some n) :
    ∀ (fuel t : Nat), t < s.nodes.size → G.F s' fuel t = G.F s fuel t
  | 0, _, _ => rfl
  | f + 1, 0, _ => by rw [F_zero, F_zero]
  | f + 1, 1, _ => by rw [F_one, F_one]
  | f + 1, t + 2, ht => by
    obtain ⟨n, hn⟩ := get_of_lt ht
    have ⟨_, hlo, hhi, _⟩ := h.inner (t + 2) n (by omega) hn
    rw [F_node G s' f _ n (by omega) (by omega) (he _ n hn), F_node G s f _ n (by omega) (by omega) hn,
      F_ext G h he f n.lo (by omega), F_ext G h he f n.hi (by omega)]

def Meas.val (G : Meas α) (s : Store) (t : Nat) : α := G.F s (t+1) t

theorem F_eq_val (G : Meas α) (s : Store) (h : TableWF s.nodes) {t fuel : Nat} (hf : t < fuel) :
    G.F s fuel t = G.val s t := F_fuel G s h t fuel hf

theorem val_zero (G : Meas α) (s : Store) : G.val s 0 = G.l0 := F_zero G s 0
theorem val_one (G : Meas α) (s : Store) : G.val s 1 = G.l1 := F_one G s 1

theorem val_node (G : Meas α) (s : Store) (h : TableWF s.nodes) {t : Nat} {n : Node} (ht : 2 ≤ t)
    (hn : s.nodes[t]? = some n) : G.val s t = G.node n (G.val s n.lo) (G.val s n.hi) := by
  have ⟨_, hlo, hhi, _⟩ := h.inner t n ht hn
  rw [Meas.val, F_node G s t t n (by omega) (by omega) hn, F_eq_val G s h hlo, F_eq_val G s h hhi]

/-- `F_rel` for a handle of a well-formed table and enough fuel: the cases `z` (out of fuel) and `nn` (outside the
table) do not occur -/
theorem F_rel_wf {β : Type} (G : Meas α) (H : Meas β) (s : Store) (h : TableWF s.nodes) (R : Nat → α → β → Prop)
    (h1 : R 1 G.l1 H.l1) (h0 : R 0 G.l0 H.l0)
    (hnode : ∀ t n a b a' b', 2 ≤ t → s.nodes[t]? = some n → R n.lo a a' → R n.hi b b' →
      R t (G.node n a b) (H.node n a' b')) :
    ∀ f t, t < s.nodes.size → t < f → R t (G.F s f t) (H.F s f t) := by
  intro f t ht hf
  rw [F_eq_val G s h hf, F_eq_val H s h hf]
  refine h.ind (P := fun t => R t (G.val s t) (H.val s t)) ?_ ?_ (fun t n ht hn _ ih => ?_) t ht
  · rw [val_zero, val_zero]; exact h0
  · rw [val_one, val_one]; exact h1
  · rw [val_node G s h ht hn, val_node H s h ht hn]; exact hnode t n _ _ _ _ ht hn (ih false) (ih true)

theorem F_ind_wf (G : Meas α) (s : Store) (h : TableWF s.nodes) (P : Nat → α → Prop) (h1 : P 1 G.l1) (h0 : P 0 G.l0)
    (hnode : ∀ t n a b, 2 ≤ t → s.nodes[t]? = some n → P n.lo a → P n.hi b → P t (G.node n a b)) :
    ∀ f t, t < s.nodes.size → t < f → P t (G.F s f t) :=
  F_rel_wf G G s h (fun t a _ => P t a) h1 h0 (fun t n a b _ _ ht hn => hnode t n a b ht hn)

def evalG : Meas BoolFn where
  z := fun _ => false
  l0 := fun _ => false
  l1 := fun _ => true
  nn := fun _ => false
  node := fun n l h σ => if σ n.var then h σ else l σ

theorem evalF_eq_F (s : Store) : ∀ (fuel t : Nat), evalF s.nodes fuel t = evalG.F s fuel t :=
  F_unique evalG s (evalF s.nodes) (fun _ => rfl) fun f t => by
    funext σ
    rw [evalF]
    by_cases h0 : t = 0
    · subst h0; rfl
    by_cases h1 : t = 1
    · subst h1; rfl
    rw [if_neg h0, if_neg h1, if_neg h1, if_neg h0]
    cases s.nodes[t]? <;> rfl

theorem eval_eq_val (s : Store) (t : Nat) : eval s t = evalG.val s t := evalF_eq_F s (t+1) t

end Memo

theorem eval_ext {s s' : Store} (w : WF s) (he : Ext s s') (t : Nat) (σ : Asg)
    (ht : t < s.nodes.size) : eval s' t σ = eval s t σ := by
  unfold eval
  rw [Memo.evalF_eq_F, Memo.evalF_eq_F, Memo.F_ext _ w.table he.2 (t+1) t ht]

theorem map_eval_ext {s s' : Store} (w : WF s) (he : Ext s s') {v : List Nat} (hv : ∀ t ∈ v, t < s.nodes.size) :
    v.map (eval s') = v.map (eval s) :=
  List.map_congr_left fun t ht => funext fun σ => eval_ext w he t σ (hv t ht)

theorem topVar_ext {s s' : Store} (he : Ext s s') (t : Nat) (ht : t < s.nodes.size) :
    topVar s' t = topVar s t := by
  obtain ⟨n, hn⟩ := get_of_lt ht
  rw [topVar_of_get hn, topVar_of_get (he.2 t n hn)]

theorem minVar_congr {s s' : Store} (h : s'.nodes = s.nodes) (i t e : Nat) : minVar s' i t e = minVar s i t e := by
  unfold minVar; rw [topVar_congr h, topVar_congr h, topVar_congr h]

theorem minVar_ext {s s' : Store} (he : Ext s s') {i t e : Nat} (hi : i < s.nodes.size) (ht : t < s.nodes.size)
    (hb : e < s.nodes.size) : minVar s' i t e = minVar s i t e := by
  unfold minVar; rw [topVar_ext he i hi, topVar_ext he t ht, topVar_ext he e hb]

/-- a well-formed store in which the handles `ac` are valid and denote `D`: what a construction (compilation,
bridge, native pre-grounding) hands to the algorithms, and what every algorithm hands on (it only extends the
store, so handles keep their functions) -/
structure Denotes (s : Store) (ac : List Nat) (D : List BoolFn) : Prop where
  wf : WF s
  valid : ∀ t ∈ ac, t < s.nodes.size
  den : ac.map (eval s) = D

theorem Denotes.ext {s s' : Store} {ac : List Nat} {D : List BoolFn} (h : Denotes s ac D) (w' : WF s')
    (e : Ext s s') : Denotes s' ac D :=
  ⟨w', fun t ht => Nat.lt_of_lt_of_le (h.valid t ht) e.1, (map_eval_ext h.wf e h.valid).trans h.den⟩
