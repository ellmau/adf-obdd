import AdfObdd.TTSpec
import AdfObdd.PathsDepth
import AdfObdd.CountsMore
/-! `TT.depth` / `TT.paths` — depth and path counts of
    the reduced ordered diagram of a function, computed from the truth table alone under the
    variable order 0 < 1 < … — ARE the depth component of `countF` (= `modelcount_naive`) and the
    path counts `pathsF` of any diagram of a structurally well-formed table (`TableWF`: ordered,
    reduced, no duplicate node) whose function the table represents.

    The recursion `depthFrom nv fuel k tt` walks the variables `k, k+1, …`; at level `k`
    * if the diagram `t` is a terminal or its top variable is above `k`, the function does not
      depend on `k` (`Tab.eval_upd_of_lt`), both cofactor tables equal `tt` (`rep_restrict`,
      `rep_unique`) and the recursion skips the level;
    * if the top variable is `k`, the cofactor tables represent the children (`Tab.eval_child`) and
      differ, because equal tables of functions of the first `nv` variables mean equal functions
      (`rep_inj`), and an inner node depends on its variable (`Tab.inner_depends`). -/
namespace TT

theorem rep_inj {nv t : Nat} {f g : BoolFn} (hf : Rep nv t f) (hg : Rep nv t g)
    (df : DetBy nv f) (dg : DetBy nv g) (σ : Asg) : f σ = g σ := by
  rw [detBy_numOf df σ, detBy_numOf dg σ]
  have h1 := hf (numOf nv σ)
  have h2 := hg (numOf nv σ)
  rw [h1] at h2
  simpa [numOf_lt] using h2

theorem mask_ne_zero (nv : Nat) : mask nv ≠ 0 := by
  intro e
  have := mask_testBit nv 0
  rw [e] at this
  simp at this

theorem detBy_eval (s : Store) (h : TableWF s.nodes) (t nv : Nat) (ht : t < s.nodes.size)
    (hdeps : ∀ x ∈ depsF s (t+1) t, x < nv) : DetBy nv (eval s t) :=
  fun σ σ' hag => eval_agree_on_deps s h t ht σ σ' (fun x hx => hag x (hdeps x hx))

/-- a table that represents a terminal is `0` (⊥) or the full mask (⊤): depth 0, one path -/
theorem terminal_values (s : Store) (nv tt t : Nat) (ht : t < 2) (hrep : Rep nv tt (eval s t)) :
    (countF s (t+1) t).2.2 = 0 ∧ (if tt == 0 then ((1, 0) : Nat × Nat) else (0, 1)) = pathsF s (t+1) t := by
  rcases (by omega : t = 0 ∨ t = 1) with rfl | rfl
  · obtain rfl : tt = 0 := rep_unique hrep (rep_const nv false) fun a _ => eval_zero s _
    rw [countF_zero, pathsF_zero]
    exact ⟨rfl, rfl⟩
  · obtain rfl : tt = mask nv := rep_unique hrep (rep_const nv true) fun a _ => eval_one s _
    rw [countF_one, pathsF_one, if_neg (by simpa using mask_ne_zero nv)]
    exact ⟨rfl, rfl⟩

theorem depthFrom_succ (nv fuel k t : Nat) (hk : k < nv) :
    depthFrom nv (fuel+1) k t =
      if restrict nv t k false == restrict nv t k true then depthFrom nv fuel (k+1) t
      else 1 + max (depthFrom nv fuel (k+1) (restrict nv t k false)) (depthFrom nv fuel (k+1) (restrict nv t k true)) := by
  conv => lhs; unfold depthFrom
  rw [if_neg (Nat.not_le_of_lt hk)]

theorem depthFrom_ge (nv fuel k t : Nat) (hk : nv ≤ k) : depthFrom nv fuel k t = 0 := by
  cases fuel with
  | zero => rfl
  | succ f => unfold depthFrom; rw [if_pos hk]

theorem pathsFrom_succ (nv fuel k t : Nat) (hk : k < nv) :
    pathsFrom nv (fuel+1) k t =
      if restrict nv t k false == restrict nv t k true then pathsFrom nv fuel (k+1) t
      else ((pathsFrom nv fuel (k+1) (restrict nv t k false)).1 + (pathsFrom nv fuel (k+1) (restrict nv t k true)).1,
            (pathsFrom nv fuel (k+1) (restrict nv t k false)).2 + (pathsFrom nv fuel (k+1) (restrict nv t k true)).2) := by
  conv => lhs; unfold pathsFrom
  rw [if_neg (Nat.not_le_of_lt hk)]

theorem pathsFrom_ge (nv fuel k t : Nat) (hk : nv ≤ k) :
    pathsFrom nv fuel k t = if t == 0 then (1, 0) else (0, 1) := by
  cases fuel with
  | zero => rfl
  | succ f => unfold pathsFrom; rw [if_pos hk]

/-- walking the variables from level `k` on a table that represents the diagram `t`, all of whose variables are
in `[k, nv)`, with enough fuel -/
theorem from_eq (s : Store) (h : TableWF s.nodes) (nv : Nat) :
    ∀ (fuel k t tt : Nat), t < s.nodes.size → nv < fuel + k →
      (∀ n, 2 ≤ t → s.nodes[t]? = some n → k ≤ n.var) →
      (∀ x ∈ depsF s (t+1) t, x < nv) → Rep nv tt (eval s t) →
      depthFrom nv fuel k tt = (countF s (t+1) t).2.2 ∧ pathsFrom nv fuel k tt = pathsF s (t+1) t := by
  -- beyond the last variable only terminals are left
  have beyond : ∀ (fuel k t tt : Nat), t < s.nodes.size → nv ≤ k →
      (∀ n, 2 ≤ t → s.nodes[t]? = some n → k ≤ n.var) →
      (∀ x ∈ depsF s (t+1) t, x < nv) → Rep nv tt (eval s t) →
      depthFrom nv fuel k tt = (countF s (t+1) t).2.2 ∧ pathsFrom nv fuel k tt = pathsF s (t+1) t := by
    intro fuel k t tt ht hk hge hdeps hrep
    have ht2 : t < 2 := Nat.lt_of_not_le fun h2 => by
      obtain ⟨n, hn⟩ := get_of_lt ht
      have hv := hdeps n.var (by rw [depsF_node' s h t n h2 hn]; exact List.mem_cons_self ..)
      exact Nat.lt_irrefl _ (Nat.lt_of_lt_of_le hv (Nat.le_trans hk (hge n h2 hn)))
    have ⟨a, b⟩ := terminal_values s nv tt t ht2 hrep
    rw [depthFrom_ge nv fuel k tt hk, pathsFrom_ge nv fuel k tt hk]
    exact ⟨a.symm, b⟩
  intro fuel
  induction fuel with
  | zero =>
    intro k t tt ht hf
    exact beyond 0 k t tt ht (Nat.le_of_lt (Nat.zero_add k ▸ hf))
  | succ f ih =>
    intro k t tt ht hf hge hdeps hrep
    by_cases hk : nv ≤ k
    · exact beyond (f+1) k t tt ht hk hge hdeps hrep
    have hk' : k < nv := Nat.lt_of_not_le hk
    have hfk : nv < f + (k + 1) := by rw [← Nat.add_assoc, Nat.add_right_comm]; exact hf
    rw [depthFrom_succ nv f k tt hk', pathsFrom_succ nv f k tt hk']
    -- does the diagram test variable `k` at its root?
    by_cases htop : ∃ n, 2 ≤ t ∧ s.nodes[t]? = some n ∧ n.var = k
    · -- yes: the cofactor tables are the tables of the children, one level down, and they differ
      obtain ⟨n, ht2, hn, rfl⟩ := htop
      have lt : ∀ b, n.child b < t := Tab.child_lt s h ht2 hn
      have below : ∀ b, ∀ x ∈ depsF s (n.child b + 1) (n.child b), x < nv := fun b x hx =>
        hdeps x ((mem_deps_node s h ht2 hn).mpr (Or.inr ⟨b, hx⟩))
      have rep : ∀ b, Rep nv (restrict nv tt n.var b) (eval s (n.child b)) := fun b =>
        have e : (fun σ => eval s t (upd σ n.var b)) = eval s (n.child b) :=
          funext fun σ => (Tab.eval_child s h t n ht2 hn b σ).symm
        e ▸ rep_restrict hrep n.var b hk'
      -- an inner node depends on its variable, so the cofactors differ as functions, hence as tables
      have det := detBy_eval s h t nv ht hdeps
      have hcne : restrict nv tt n.var false ≠ restrict nv tt n.var true := fun e =>
        Tab.inner_depends s h ht2 hn (rep_inj (e ▸ rep_restrict hrep n.var false hk')
          (rep_restrict hrep n.var true hk') (detBy_upd det n.var false) (detBy_upd det n.var true))
      have child := fun b => ih (n.var + 1) (n.child b) _ (Nat.lt_trans (lt b) ht) hfk
        (fun m _ hm => by rw [← topVar_of_get hm]; exact Tab.lt_topVar_child s h ht2 hn b) (below b) (rep b)
      rw [if_neg (fun e => hcne (beq_iff_eq.mp e)), if_neg (fun e => hcne (beq_iff_eq.mp e)),
          (child false).1, (child false).2, (child true).1, (child true).2,
          count_node s h ht2 hn, paths_node s h ht2 hn]
      exact ⟨Nat.add_comm 1 _, rfl⟩
    · -- no: the function does not depend on `k`, the level is skipped
      have hgt : ∀ n, 2 ≤ t → s.nodes[t]? = some n → k + 1 ≤ n.var := fun n ht2 hn =>
        Nat.lt_of_le_of_ne (hge n ht2 hn) fun e => htop ⟨n, ht2, hn, e.symm⟩
      have hind : ∀ σ b, eval s t (upd σ k b) = eval s t σ := by
        intro σ b
        rcases Nat.lt_or_ge t 2 with ht2 | ht2
        · rw [eval_lt2 s t ht2, eval_lt2 s t ht2]
        · obtain ⟨n, hn⟩ := get_of_lt ht
          exact Tab.eval_upd_of_lt s h t ht k b (by rw [topVar_of_get hn]; exact hgt n ht2 hn) σ
      rw [rep_unique (rep_restrict hrep k false hk') hrep (fun a _ => hind _ _),
          rep_unique (rep_restrict hrep k true hk') hrep (fun a _ => hind _ _)]
      simp only [beq_self_eq_true, if_true]
      exact ih (k+1) t tt ht hfk hgt hdeps hrep

theorem depth_eq (s : Store) (h : TableWF s.nodes) (t : Nat) (ht : t < s.nodes.size) (nv tt : Nat)
    (hrep : Rep nv tt (eval s t)) (hdeps : ∀ x ∈ depsF s (t+1) t, x < nv) :
    depth nv tt = (countF s (t+1) t).2.2 :=
  (from_eq s h nv (nv+1) 0 t tt ht (by omega) (fun _ _ _ => Nat.zero_le _) hdeps hrep).1

theorem paths_eq (s : Store) (h : TableWF s.nodes) (t : Nat) (ht : t < s.nodes.size) (nv tt : Nat)
    (hrep : Rep nv tt (eval s t)) (hdeps : ∀ x ∈ depsF s (t+1) t, x < nv) :
    paths nv tt = pathsF s (t+1) t :=
  (from_eq s h nv (nv+1) 0 t tt ht (by omega) (fun _ _ _ => Nat.zero_le _) hdeps hrep).2

end TT

#print axioms TT.rep_inj
#print axioms TT.depth_eq
#print axioms TT.paths_eq
