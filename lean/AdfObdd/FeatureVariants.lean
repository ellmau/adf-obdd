import AdfObdd.CountsDef
/-! # Both bodies of every `cfg(feature = …)` split of `obdd.rs` (C12) — executable model

The cargo features `adhoccounting`, `adhoccountmodels` (which enables `adhoccounting`),
`variablelist` and `frontend` select alternative bodies in `Bdd::{new, restrict, node, models,
paths, max_depth, fix_import, generate_var_dependencies, var_dependencies}`. Here the feature
set is a value (`Cfg`) and the store carries the two feature-dependent tables next to the proved
`Store`: `deps` (= `var_deps`, present with `variablelist`) and `cnt` (= `count_cache`).
`frontend` sends each freshly created node over a channel that is `None` unless a client
installs one (`FStore.sender`); the sent nodes are recorded in `FStore.log`, which no function reads.

No Mathlib in the import closure; everything here is executable. -/

structure Cfg where
  adhoccounting : Bool
  adhoccountmodels : Bool
  variablelist : Bool
  frontend : Bool := false
deriving DecidableEq, Repr

/-- cargo: `adhoccountmodels = ["adhoccounting"]` -/
def Cfg.valid (c : Cfg) : Prop := c.adhoccountmodels = true → c.adhoccounting = true
/-- cargo: `default = ["adhoccounting", "variablelist", "frontend"]` -/
def Cfg.default : Cfg := { adhoccounting := true, adhoccountmodels := false, variablelist := true, frontend := true }
def Cfg.none : Cfg := { adhoccounting := false, adhoccountmodels := false, variablelist := false }
def Cfg.all : Cfg := { adhoccounting := true, adhoccountmodels := true, variablelist := true, frontend := true }
/-- the documented exception: paths are counted ad hoc, models are not -/
def Cfg.exc (c : Cfg) : Bool := c.adhoccounting && !c.adhoccountmodels
/-- are the model components of cache entries meaningful under this feature set? -/
def Cfg.exactModels (c : Cfg) : Bool := !c.exc

/-- `CountNode = (ModelCounts, ModelCounts, usize)`: (counter-models, models), (paths to ⊥, paths to ⊤), depth -/
structure CN where
  cm : Nat
  m : Nat
  pcm : Nat
  pm : Nat
  depth : Nat
deriving DecidableEq, Repr

def CN.zero : CN := ⟨0, 0, 0, 0, 0⟩
/-- `(ModelCounts::top(), ModelCounts::top(), 0)` -/
def CN.top : CN := ⟨0, 1, 0, 1, 0⟩
/-- `(ModelCounts::bot(), ModelCounts::bot(), 0)` -/
def CN.bot : CN := ⟨1, 0, 1, 0, 0⟩

/-- the tuple `modelcount_naive` / `modelcount_memoization` build from the children's tuples
(literal transcription: `lo_exp`, `hi_exp` start at 0 and one of them is set) -/
def CN.combine (l h : CN) : CN :=
  let lo_exp := if l.depth > h.depth then 0 else h.depth - l.depth
  let hi_exp := if l.depth > h.depth then l.depth - h.depth else 0
  ⟨l.cm * 2 ^ lo_exp + h.cm * 2 ^ hi_exp, l.m * 2 ^ lo_exp + h.m * 2 ^ hi_exp,
   l.pcm + h.pcm, l.pm + h.pm, max l.depth h.depth + 1⟩

/-- the tuple `Bdd::node` builds ad hoc; without `adhoccountmodels` both factors are 0 -/
def CN.adhoc (countmodels : Bool) (l h : CN) : CN :=
  let e : Nat × Nat :=
    if countmodels then
      (if l.depth > h.depth then (1, 2 ^ (l.depth - h.depth)) else (2 ^ (h.depth - l.depth), 1))
    else (0, 0)
  ⟨l.cm * e.1 + h.cm * e.2, l.m * e.1 + h.m * e.2, l.pcm + h.pcm, l.pm + h.pm, max l.depth h.depth + 1⟩

abbrev CntCache := Std.HashMap Nat CN

/-- `modelcount_naive`, all five numbers at once -/
def naiveCN (s : Store) : Nat → Nat → CN
  | 0, _ => CN.zero
  | fuel+1, t =>
    if t = 1 then CN.top else if t = 0 then CN.bot else
    match s.nodes[t]? with
    | none => CN.zero
    | some n => CN.combine (naiveCN s fuel n.lo) (naiveCN s fuel n.hi)

def naive (s : Store) (t : Nat) : CN := naiveCN s (t+1) t

/-- `modelcount_memoization`: the cache is consulted for inner nodes and filled on the way back -/
def memoCN (s : Store) : Nat → CntCache → Nat → CN × CntCache
  | 0, c, _ => (CN.zero, c)
  | fuel+1, c, t =>
    if t = 1 then (CN.top, c) else if t = 0 then (CN.bot, c) else
    match c[t]? with
    | some r => (r, c)
    | none =>
    match s.nodes[t]? with
    | none => (CN.zero, c)
    | some n =>
      let l := memoCN s fuel c n.lo
      let h := memoCN s fuel l.2 n.hi
      let r := CN.combine l.1 h.1
      (r, h.2.insert t r)

/-- `max_depth` without `adhoccounting`: cache entry if present, else recursion; `repaired = false`
is the body before the `+ 1` fix (D3) -/
def maxDepthC (repaired : Bool) (s : Store) (c : CntCache) : Nat → Nat → Nat
  | 0, _ => 0
  | fuel+1, t =>
    match c[t]? with
    | some r => r.depth
    | none =>
      if t < 2 then 0 else
      match s.nodes[t]? with
      | none => 0
      | some n => max (maxDepthC repaired s c fuel n.hi) (maxDepthC repaired s c fuel n.lo) + (if repaired then 1 else 0)

/-! ### sets of variables (`HashSet<Var>`) as duplicate-free lists -/

def setUnion (a b : List Nat) : List Nat := a ++ b.filter (fun x => !a.contains x)
def setInsert (v : Nat) (a : List Nat) : List Nat := if a.contains v then a else v :: a
/-- `var_deps[lo] ∪ var_deps[hi] ∪ {var}` -/
def depsEntry (tbl : Array (List Nat)) (v lo hi : Nat) : List Nat :=
  setInsert v (setUnion (tbl.getD lo []) (tbl.getD hi []))

/-- one step of the loop of `generate_var_dependencies` -/
def genDepsStep (tbl : Array (List Nat)) (n : Node) : Array (List Nat) :=
  if n.var ≥ VBOT then tbl.push [] else tbl.push (depsEntry tbl n.var n.lo n.hi)
/-- `generate_var_dependencies` (the table is `serde(skip)`, hence empty after an import) -/
def genDeps (tbl0 : Array (List Nat)) (ns : Array Node) : Array (List Nat) := ns.foldl genDepsStep tbl0

/-! ### the store with its feature-dependent tables -/

structure FStore where
  base : Store
  deps : Array (List Nat)
  cnt : CntCache
  /-- `frontend`: is a `crossbeam_channel::Sender` attached (`set_sender` / `with_sender`)? The field
  exists only under the feature; without it the flag is never read. -/
  sender : Bool := false
  /-- `frontend`: the nodes handed to `send` so far, oldest first (the channel is unbounded and
  write-only for the store; a failed `send` is logged and ignored by the code, so the list records
  the calls of `send`) -/
  log : List Node := []

/-- `Bdd::new` -/
def newC (c : Cfg) : FStore :=
  { base := Store.init
    deps := if c.variablelist then #[[], []] else #[]
    cnt := if c.adhoccounting then ((∅ : CntCache).insert 1 CN.top).insert 0 CN.bot else ∅ }

/-- `Bdd::node`. The `expect("Cache corrupted")` of the ad-hoc bookkeeping is unreachable under
the invariant (`FInv.tab.full`); the model leaves the cache unchanged there. -/
def nodeC (c : Cfg) (fs : FStore) (v lo hi : Nat) : FStore × Nat :=
  if lo = hi then (fs, lo) else
  match fs.base.uniq[(⟨v, lo, hi⟩ : Node)]? with
  | some t => (fs, t)
  | none =>
    ({ base := { fs.base with nodes := fs.base.nodes.push ⟨v, lo, hi⟩,
                              uniq := fs.base.uniq.insert ⟨v, lo, hi⟩ fs.base.nodes.size }
       deps := if c.variablelist then fs.deps.push (depsEntry fs.deps v lo hi) else fs.deps
       cnt := if c.adhoccounting then
                match fs.cnt[lo]?, fs.cnt[hi]? with
                | some l, some h => fs.cnt.insert fs.base.nodes.size (CN.adhoc c.adhoccountmodels l h)
                | _, _ => fs.cnt
              else fs.cnt
       sender := fs.sender
       log := if c.frontend && fs.sender then fs.log ++ [⟨v, lo, hi⟩] else fs.log },
     fs.base.nodes.size)

def FStore.insRes (fs : FStore) (k : Nat × Nat × Bool) (r : Nat) : FStore :=
  { fs with base := { fs.base with resC := fs.base.resC.insert k r } }
def FStore.insIte (fs : FStore) (k : Nat × Nat × Nat) (r : Nat) : FStore :=
  { fs with base := { fs.base with iteC := fs.base.iteC.insert k r } }

/-- `Bdd::restrict`, with the `variablelist` shortcut when the feature is on -/
def restrictC (c : Cfg) : Nat → FStore → Nat → Nat → Bool → FStore × Nat
  | 0, fs, t, _, _ => (fs, t)
  | fuel+1, fs, t, v, b =>
    match fs.base.resC[(t, v, b)]? with
    | some r => (fs, r)
    | none =>
    match fs.base.nodes[t]? with
    | none => (fs, t)
    | some n =>
      if (c.variablelist && !(fs.deps.getD t []).contains v) = true then (fs, t)
      else if n.var > v ∨ n.var ≥ VBOT then (fs, t)
      else if n.var < v then
        let r1 := restrictC c fuel fs n.lo v b
        let r2 := restrictC c fuel r1.1 n.hi v b
        let r3 := nodeC c r2.1 n.var r1.2 r2.2
        (r3.1.insRes (t, v, b) r3.2, r3.2)
      else
        let r := if b then restrictC c fuel fs n.hi v b else restrictC c fuel fs n.lo v b
        (r.1.insRes (t, v, b) r.2, r.2)

/-- `Bdd::if_then_else` on top of `restrictC` / `nodeC` -/
def iteCfg (c : Cfg) : Nat → FStore → Nat → Nat → Nat → FStore × Nat
  | 0, fs, i, _, _ => (fs, i)
  | fuel+1, fs, i, t, e =>
    if i = 1 then (fs, t) else if i = 0 then (fs, e) else if t = e then (fs, t)
    else if t = 1 ∧ e = 0 then (fs, i) else
    match fs.base.iteC[(i, t, e)]? with
    | some r => (fs, r)
    | none =>
    let mv := minVar fs.base i t e
    let r1 := restrictC c (i+1) fs i mv true
    let r2 := restrictC c (t+1) r1.1 t mv true
    let r3 := restrictC c (e+1) r2.1 e mv true
    let r4 := restrictC c (i+1) r3.1 i mv false
    let r5 := restrictC c (t+1) r4.1 t mv false
    let r6 := restrictC c (e+1) r5.1 e mv false
    let top := iteCfg c fuel r6.1 r1.2 r2.2 r3.2
    let bot := iteCfg c fuel top.1 r4.2 r5.2 r6.2
    let m := nodeC c bot.1 mv bot.2 top.2
    (m.1.insIte (i, t, e) m.2, m.2)

/-- a cache lookup that the code guards with `.expect(…)`; the default is unreachable under `FInv.tab.full` -/
def lookupCN (c : CntCache) (t : Nat) : CN := (c[t]?).getD CN.zero

/-- `Bdd::paths(term, memoization)`; the cache is behind a `RefCell`, so the query may fill it -/
def pathsC (c : Cfg) (fs : FStore) (t : Nat) (memo : Bool) : (Nat × Nat) × FStore :=
  if c.adhoccounting then (((lookupCN fs.cnt t).pcm, (lookupCN fs.cnt t).pm), fs)
  else if memo then
    let r := memoCN fs.base (t+1) fs.cnt t
    ((r.1.pcm, r.1.pm), { fs with cnt := r.2 })
  else (((naive fs.base t).pcm, (naive fs.base t).pm), fs)

/-- `Bdd::models(term, memoization)` -/
def modelsC (c : Cfg) (fs : FStore) (t : Nat) (memo : Bool) : (Nat × Nat) × FStore :=
  if c.adhoccountmodels then (((lookupCN fs.cnt t).cm, (lookupCN fs.cnt t).m), fs)
  else if memo then
    let r := memoCN fs.base (t+1) fs.cnt t
    ((r.1.cm, r.1.m), { fs with cnt := r.2 })
  else (((naive fs.base t).cm, (naive fs.base t).m), fs)

/-- `Bdd::max_depth` (repaired body) -/
def maxDepthCfg (c : Cfg) (fs : FStore) (t : Nat) : Nat :=
  if c.adhoccounting then (lookupCN fs.cnt t).depth else maxDepthC true fs.base fs.cnt (t+1) t

/-- `Bdd::var_dependencies` -/
def varDepsC (c : Cfg) (fs : FStore) (t : Nat) : List Nat :=
  if c.variablelist then fs.deps.getD t [] else depsOf fs.base t

/-- the count-cache part of `fix_import` under `adhoccounting` -/
def fixCounts (s : Store) (cnt : CntCache) : CntCache :=
  (List.range s.nodes.size).foldl (fun c i => (memoCN s (i+1) c i).2) ((cnt.insert 1 CN.top).insert 0 CN.bot)

/-- `Bdd::fix_import` -/
def fixImportC (c : Cfg) (fs : FStore) : FStore :=
  { fs with deps := if c.variablelist then genDeps fs.deps fs.base.nodes else fs.deps
            cnt := if c.adhoccounting then fixCounts fs.base fs.cnt else fs.cnt }

/-- what deserialisation produces: node table and unique table from the file, every
`serde(skip)` table empty -/
def importC (nodes : Array Node) (uniq : Std.HashMap Node Nat) : FStore :=
  { base := { nodes := nodes, uniq := uniq, resC := ∅, iteC := ∅ }, deps := #[], cnt := ∅ }

/-! ### the same operations on the bare `Store`, with the shortcut as an oracle

`restrictS sc` is `restrictF` with an extra early return when `sc s t v` holds; `restrictF` is the
instance `sc = fun _ _ _ => false`, the `variablelist` body is the instance `scDeps`. -/

def restrictS (sc : Store → Nat → Nat → Bool) : Nat → Store → Nat → Nat → Bool → Store × Nat
  | 0, s, t, _, _ => (s, t)
  | fuel+1, s, t, v, b =>
    match s.resC[(t, v, b)]? with
    | some r => (s, r)
    | none =>
    match s.nodes[t]? with
    | none => (s, t)
    | some n =>
      if sc s t v = true then (s, t)
      else if n.var > v ∨ n.var ≥ VBOT then (s, t)
      else if n.var < v then
        let r1 := restrictS sc fuel s n.lo v b
        let r2 := restrictS sc fuel r1.1 n.hi v b
        let r3 := mkNode r2.1 n.var r1.2 r2.2
        ({ r3.1 with resC := r3.1.resC.insert (t, v, b) r3.2 }, r3.2)
      else
        let r := if b then restrictS sc fuel s n.hi v b else restrictS sc fuel s n.lo v b
        ({ r.1 with resC := r.1.resC.insert (t, v, b) r.2 }, r.2)

def iteS (sc : Store → Nat → Nat → Bool) : Nat → Store → Nat → Nat → Nat → Store × Nat
  | 0, s, i, _, _ => (s, i)
  | fuel+1, s, i, t, e =>
    if i = 1 then (s, t) else if i = 0 then (s, e) else if t = e then (s, t)
    else if t = 1 ∧ e = 0 then (s, i) else
    match s.iteC[(i, t, e)]? with
    | some r => (s, r)
    | none =>
    let mv := minVar s i t e
    let r1 := restrictS sc (i+1) s i mv true
    let r2 := restrictS sc (t+1) r1.1 t mv true
    let r3 := restrictS sc (e+1) r2.1 e mv true
    let r4 := restrictS sc (i+1) r3.1 i mv false
    let r5 := restrictS sc (t+1) r4.1 t mv false
    let r6 := restrictS sc (e+1) r5.1 e mv false
    let top := iteS sc fuel r6.1 r1.2 r2.2 r3.2
    let bot := iteS sc fuel top.1 r4.2 r5.2 r6.2
    let m := mkNode bot.1 mv bot.2 top.2
    ({ m.1 with iteC := m.1.iteC.insert (i, t, e) m.2 }, m.2)

def scNone : Store → Nat → Nat → Bool := fun _ _ _ => false
/-- the shortcut of the `variablelist` body, read off the recursive dependency set -/
def scDeps : Store → Nat → Nat → Bool := fun s t v => !(depsOf s t).contains v
def scOf (c : Cfg) : Store → Nat → Nat → Bool := fun s t v => c.variablelist && scDeps s t v
