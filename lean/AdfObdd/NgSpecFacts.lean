import AdfObdd.NgStore
import AdfObdd.Spec.Ng
/-! what the executable specification `NgSpec` (brute force over all total assignments) means
    in terms of `Matches` / `AvoidsL` / `PSub` — the vocabulary of the C18 theorems -/
namespace NgSpec

/-- a value list as a total assignment (variables beyond the list are `false`) -/
def asg (t : List Bool) : Asg := fun i => t.getD i false

/-- the first `n` values of a total assignment -/
def cut (n : Nat) (σ : Asg) : List Bool := (List.range n).map σ

theorem mem_totals_succ {n : Nat} {t : List Bool} : t ∈ totals (n + 1) ↔ ∃ b t', t' ∈ totals n ∧ t = b :: t' := by
  simp only [totals, List.mem_flatMap, List.mem_cons, List.not_mem_nil, or_false]
  constructor
  · rintro ⟨t', ht', rfl | rfl⟩ <;> exact ⟨_, t', ht', rfl⟩
  · rintro ⟨b, t', ht', rfl⟩
    exact ⟨t', ht', by cases b <;> simp⟩

theorem totals_length : ∀ (n : Nat) (t : List Bool), t ∈ totals n → t.length = n := by
  intro n
  induction n with
  | zero => intro t h; rw [List.mem_singleton.mp h]; rfl
  | succ n ih =>
    intro t h
    obtain ⟨b, t', ht', rfl⟩ := mem_totals_succ.mp h
    rw [List.length_cons, ih t' ht']

theorem totals_complete : ∀ (n : Nat) (t : List Bool), t.length = n → t ∈ totals n
  | 0, [], _ => List.mem_singleton_self _
  | n + 1, b :: t, h => mem_totals_succ.mpr ⟨b, t, totals_complete n t (Nat.succ.inj h), rfl⟩

theorem matchesT_iff (g : PA) (t : List Bool) : matchesT g t = true ↔ Matches g (asg t) :=
  matchesB_iff g (asg t)

theorem asg_cut {n : Nat} (σ : Asg) {i : Nat} (hi : i < n) : asg (cut n σ) i = σ i := by
  unfold asg cut
  simp [hi]

theorem matches_cut {n : Nat} {g : PA} (hg : g.length ≤ n) (σ : Asg) :
    Matches g (asg (cut n σ)) ↔ Matches g σ := by
  unfold Matches
  exact forall_congr' fun i => forall_congr' fun b => imp_congr_right fun hi => by
    rw [asg_cut σ (Nat.lt_of_lt_of_le (pget_lt hi) hg)]

theorem cut_mem_totals (n : Nat) (σ : Asg) : cut n σ ∈ totals n :=
  totals_complete n _ (by simp [cut])

theorem excludedT_iff (gs : List PA) (t : List Bool) : excludedT gs t = true ↔ ExcludedBy gs (asg t) := by
  unfold excludedT ExcludedBy
  rw [List.any_eq_true]
  exact exists_congr fun g => and_congr_right fun _ => matchesT_iff g t

theorem subPA_iff (g A : PA) : subPA g A = true ↔ PSub g A := violating_iff g A

theorem direct_iff (gs : List PA) (A : PA) : direct gs A = true ↔ ∃ g ∈ gs, PSub g A := by
  unfold direct
  rw [List.any_eq_true]
  exact exists_congr fun g => and_congr_right fun _ => subPA_iff g A

theorem mem_exts {n : Nat} {gs : List PA} {A : PA} {t : List Bool} :
    t ∈ exts n gs A ↔ t ∈ totals n ∧ Matches A (asg t) ∧ AvoidsL gs (asg t) := by
  unfold exts
  rw [List.mem_filter, Bool.and_eq_true, matchesT_iff, avoidsL_iff, ← excludedT_iff]
  simp

/-- the enumeration is exhaustive: an avoiding total extension exists among the `2^n` value lists
iff one exists at all -/
theorem exts_of_asg {n : Nat} {gs : List PA} {A : PA} (hgs : ∀ g ∈ gs, g.length ≤ n) (hA : A.length ≤ n)
    (σ : Asg) (hm : Matches A σ) (ha : AvoidsL gs σ) : cut n σ ∈ exts n gs A := by
  rw [mem_exts]
  refine ⟨cut_mem_totals n σ, (matches_cut hA σ).mpr hm, ?_⟩
  intro g hg hmg
  exact ha g hg ((matches_cut (hgs g hg) σ).mp hmg)

theorem exts_empty_iff {n : Nat} {gs : List PA} {A : PA} (hgs : ∀ g ∈ gs, g.length ≤ n) (hA : A.length ≤ n) :
    (exts n gs A).isEmpty = true ↔ ∀ σ, Matches A σ → ¬ AvoidsL gs σ := by
  rw [List.isEmpty_iff]
  constructor
  · intro h σ hm ha
    have := exts_of_asg hgs hA σ hm ha
    rw [h] at this; cases this
  · intro h
    cases he : exts n gs A with
    | nil => rfl
    | cons t ts =>
      have ht : t ∈ exts n gs A := by rw [he]; exact List.mem_cons_self ..
      have ⟨_, h1, h2⟩ := mem_exts.mp ht
      exact absurd h2 (h _ h1)

theorem forcedBy_iff {n : Nat} {gs : List PA} {A r : PA} (hgs : ∀ g ∈ gs, g.length ≤ n) (hA : A.length ≤ n)
    (hr : r.length ≤ n) :
    forcedBy n gs A r = true ↔ ∀ σ, Matches A σ → AvoidsL gs σ → Matches r σ := by
  unfold forcedBy
  rw [List.all_eq_true]
  constructor
  · intro h σ hm ha
    have := h _ (exts_of_asg hgs hA σ hm ha)
    exact (matches_cut hr σ).mp ((matchesT_iff r _).mp this)
  · intro h t ht
    have ⟨_, h1, h2⟩ := mem_exts.mp ht
    exact (matchesT_iff r t).mpr (h _ h1 h2)

theorem clause_nil (ok : Bool) (name : String) : clause ok name = [] ↔ ok = true := by
  unfold clause; cases ok <;> simp

theorem not_direct_iff (gs : List PA) (A : PA) : (!direct gs A) = true ↔ ¬ ∃ g ∈ gs, PSub g A := by
  rw [Bool.not_eq_true', ← Bool.not_eq_true, direct_iff]

theorem extends_iff (A r : PA) : (r.length == A.length && subPA A r) = true ↔ r.length = A.length ∧ PSub A r := by
  rw [Bool.and_eq_true, beq_iff_eq, subPA_iff]

theorem conclViolations_none {n : Nat} {gs : List PA} {A : PA} (hgs : ∀ g ∈ gs, g.length ≤ n) (hA : A.length ≤ n) :
    conclViolations n gs A none = [] ↔ ∀ σ, Matches A σ → ¬ AvoidsL gs σ := by
  rw [conclViolations, clause_nil, exts_empty_iff hgs hA]

theorem conclViolations_some {n : Nat} {gs : List PA} {A r : PA} (hgs : ∀ g ∈ gs, g.length ≤ n)
    (hA : A.length ≤ n) (hr : r.length ≤ n) :
    conclViolations n gs A (some r) = [] ↔
      (¬ ∃ g ∈ gs, PSub g A) ∧ (r.length = A.length ∧ PSub A r) ∧
      ∀ σ, Matches A σ → AvoidsL gs σ → Matches r σ := by
  simp only [conclViolations, List.append_eq_nil_iff, clause_nil, not_direct_iff, extends_iff,
    forcedBy_iff hgs hA hr, and_assoc]

theorem closureViolations_inconsistent {n : Nat} {gs : List PA} {A : PA} (hgs : ∀ g ∈ gs, g.length ≤ n)
    (hA : A.length ≤ n) :
    closureViolations n gs A .inconsistent = [] ↔
      (∀ σ, Matches A σ → ¬ AvoidsL gs σ) ∧ flipOK n gs A .inconsistent = true := by
  rw [closureViolations, List.append_eq_nil_iff, clause_nil, clause_nil, exts_empty_iff hgs hA]

theorem closureViolations_noUpdate {n : Nat} {gs : List PA} {A : PA} :
    closureViolations n gs A .noUpdate = [] ↔ (¬ ∃ g ∈ gs, PSub g A) ∧ flipOK n gs A .noUpdate = true := by
  rw [closureViolations, List.append_eq_nil_iff, clause_nil, clause_nil, not_direct_iff]

theorem closureViolations_update {n : Nat} {gs : List PA} {A r : PA} (hgs : ∀ g ∈ gs, g.length ≤ n)
    (hA : A.length ≤ n) (hr : r.length ≤ n) :
    closureViolations n gs A (.update r) = [] ↔
      (¬ ∃ g ∈ gs, PSub g A) ∧ (r.length = A.length ∧ PSub A r) ∧ size A < size r ∧
      (∀ σ, Matches A σ → AvoidsL gs σ → Matches r σ) ∧ (¬ ∃ g ∈ gs, PSub g r) ∧
      flipOK n gs A (.update r) = true := by
  simp only [closureViolations, List.append_eq_nil_iff, clause_nil, not_direct_iff, extends_iff,
    forcedBy_iff hgs hA hr, decide_eq_true_eq, and_assoc]

theorem closedBy_iff (g A : PA) : closedBy g A = true ↔ Closed g A := mismatch_iff g A

/-- **meaning of the unit-flip clause**: an answer the specification mandates is mandated by the
law `cl_flip` — its premise `FlipPre` holds for the literal found -/
theorem flipDue_sound {n : Nat} {gs : List PA} {A R : PA} (hgs : ∀ g ∈ gs, g.length = n) (hA : A.length = n)
    (h : flipDue n gs A = some R) : ∃ v b, FlipPre n gs A v b ∧ R = setAt A v (!b) := by
  unfold flipDue at h
  obtain ⟨⟨v, b⟩, hmem, hf⟩ := List.exists_of_findSome?_eq_some h
  simp only at hf
  split at hf
  · rename_i hc
    simp only [Bool.and_eq_true] at hc
    obtain ⟨⟨h1, h2⟩, h3⟩ := hc
    refine ⟨v, b, ⟨hA, ?_, by simpa using h1, hgs, List.contains_iff_mem.mp h2, ?_⟩, (Option.some.inj hf).symm⟩
    · simp only [List.mem_flatMap, List.mem_range] at hmem
      obtain ⟨w, hw, hin⟩ := hmem
      simp only [List.mem_cons, Prod.mk.injEq, List.not_mem_nil, or_false] at hin
      rcases hin with ⟨rfl, _⟩ | ⟨rfl, _⟩ <;> exact hw
    · intro g hg
      rw [List.all_eq_true] at h3
      have := h3 g hg
      rw [Bool.or_eq_true] at this
      rcases this with hcl | hsub
      · exact Or.inl ((closedBy_iff g A).mp hcl)
      · exact Or.inr ((subPA_iff _ g).mp hsub)
  · cases hf

/-- **meaning of the store check**: the stored nogoods exclude exactly the total assignments the
added ones exclude -/
theorem storeViolations_nil {n : Nat} {gs stored : List PA} (hgs : ∀ g ∈ gs, g.length ≤ n)
    (hst : ∀ g ∈ stored, g.length ≤ n) :
    storeViolations n gs stored = [] ↔ ∀ σ, ExcludedBy stored σ ↔ ExcludedBy gs σ := by
  have hcut : ∀ (l : List PA), (∀ g ∈ l, g.length ≤ n) → ∀ σ, ExcludedBy l (asg (cut n σ)) ↔ ExcludedBy l σ :=
    fun l hl σ => exists_congr fun g => and_congr_right fun hg => matches_cut (hl g hg) σ
  unfold storeViolations
  constructor
  · intro h σ
    cases hf : (totals n).find? (fun t => excludedT stored t != excludedT gs t) with
    | some t => rw [hf] at h; simp at h
    | none =>
      rw [List.find?_eq_none] at hf
      have := hf _ (cut_mem_totals n σ)
      have heq : excludedT stored (cut n σ) = excludedT gs (cut n σ) := by simpa using this
      rw [← hcut stored hst σ, ← hcut gs hgs σ, ← excludedT_iff, ← excludedT_iff, heq]
  · intro h
    have : (totals n).find? (fun t => excludedT stored t != excludedT gs t) = none := by
      rw [List.find?_eq_none]
      intro t _
      have := h (asg t)
      rw [← excludedT_iff, ← excludedT_iff] at this
      have heq : excludedT stored t = excludedT gs t := by rw [Bool.eq_iff_iff]; exact this
      simp [heq]
    rw [this]

/-- the model's answer in the vocabulary of the specification -/
def ofClosure : Closure → ClosureAns
  | .update r => .update r
  | .noUpdate => .noUpdate
  | .inconsistent => .inconsistent

theorem excludedBy_flatten (bs : List (List PA)) (σ : Asg) : ExcludedBy bs.flatten σ ↔ Excluded bs σ :=
  exists_congr fun _ => and_congr_left fun _ => stored_iff_flatten.symm

/-- **a store reached by a history passes the specification**: for every interpretation the answers of
`conclusions` and `conclusion_closure` and the contents of the store are accepted by the three checks -/
theorem passes_spec {n : Nat} {st : NgStore} {gs : List PA} (h : NgStore.Reach n st gs)
    (hgs : ∀ g ∈ gs, g.length = n) {A : PA} (hA : A.length = n) :
    conclViolations n gs A (st.conclusions A) = [] ∧
    closureViolations n gs A (ofClosure (st.closure A)) = [] ∧
    storeViolations n gs st.buckets.flatten = [] := by
  have hgs' : ∀ g ∈ gs, g.length ≤ n := fun g hg => Nat.le_of_eq (hgs g hg)
  have hA' : A.length ≤ n := Nat.le_of_eq hA
  refine ⟨?_, ?_, ?_⟩
  · cases hc : st.conclusions A with
    | none => exact (conclViolations_none hgs' hA').mpr (h.conflict_sound hc)
    | some r =>
      have ⟨h1, h2, h3⟩ := h.conclusions_sound hA hc
      refine (conclViolations_some hgs' hA' (Nat.le_of_eq h2)).mpr ⟨fun ⟨g, hg, hp⟩ => ?_, ⟨h2.trans hA.symm, h1⟩, h3⟩
      rw [h.conflict_direct hA hg hp] at hc; cases hc
  · have ⟨c1, c2, c3⟩ := h.closure_sound hA
    -- where the specification mandates an answer, the unit-flip law makes the model give it
    have hflip : flipOK n gs A (ofClosure (st.closure A)) = true := by
      unfold flipOK
      cases hd : flipDue n gs A with
      | none => rfl
      | some R =>
        obtain ⟨v, b, hpre, rfl⟩ := flipDue_sound hgs hA hd
        rw [h.closure_flip hpre]
        exact beq_self_eq_true _
    cases hc : st.closure A with
    | inconsistent => rw [hc] at hflip; exact (closureViolations_inconsistent hgs' hA').mpr ⟨c2 hc, hflip⟩
    | noUpdate => rw [hc] at hflip; exact closureViolations_noUpdate.mpr ⟨fun ⟨g, hg, hp⟩ => c3 hc g hg hp, hflip⟩
    | update R =>
      rw [hc] at hflip
      have ⟨h1, h2, h3, h4, h5⟩ := c1 R hc
      refine (closureViolations_update hgs' hA' (Nat.le_of_eq h3)).mpr
        ⟨fun ⟨g, hg, hp⟩ => ?_, ⟨h3.trans hA.symm, h1⟩, h2, h4, fun ⟨g, hg, hp⟩ => h5 g hg hp, hflip⟩
      rw [h.closure_direct hA hg hp] at hc; cases hc
  · refine (storeViolations_nil hgs' fun g hg => Nat.le_of_eq (h.inv.width (stored_iff_flatten.mpr hg))).mpr fun σ => ?_
    rw [excludedBy_flatten]; exact h.excl σ

end NgSpec
