import AdfObdd.CallHistoryProofs
import AdfObdd.FeatureNg
/-! # Lock step: store-threading computations do not depend on memo contents

`restrictS_lock` (StoreOps.lean) says that `restrict` issues the same handle number and builds the
same node table on two well-formed stores with the same node table, whatever their memo tables hold. That makes
`Lk` a simulation of the restriction algebra `StoreRA` by itself (`lk_sim`), and every routine that is generic in
the restriction algebra - `grounded`, `complete`, `stable`, `stable_with_prefilter`, the stability filter, the steps
of the two searches - respects `Lk` by the same `_sim` theorems that compare a feature set with the reference
(FeatureSemantics.lean, FeatureSearch.lean). A routine that is not generic in the restriction algebra but is compared
with the reference under every feature set respects `Lk` by that comparison at the empty feature set (`Lk.of_cfg`).
The two searches are in `SearchLock.lean`, the calls of `runCall` in `CallHistoryMemoFull.lean`. -/
namespace CallH

/-- two well-formed stores with the same node table (memo tables arbitrary) -/
structure Lk (s s' : Store) : Prop where
  w : WF s
  w' : WF s'
  nodes : s'.nodes = s.nodes

theorem Lk.refl {s : Store} (w : WF s) : Lk s s := ⟨w, w, rfl⟩

/-- `restrict` cannot tell two such stores apart. No validity is asked of the handle: `restrictS_lock` holds for
every handle (outside the node table the call returns its arguments), so nothing above has to thread validity. -/
theorem lk_sim : RASim StoreRA StoreRA Lk where
  isConst := fun _ => rfl
  restrict := fun s s' t v b h => by
    show (restrictF (t + 1) s t v b).2 = (restrictF (t + 1) s' t v b).2 ∧
      Lk (restrictF (t + 1) s t v b).1 (restrictF (t + 1) s' t v b).1
    rw [← restrictS_none, ← restrictS_none]
    have hf := Nat.lt_succ_self t
    have ⟨n1, r1⟩ := restrictS_lock scNone_sound scNone_sound (t + 1) s s' t v b h.w h.w' h.nodes hf
    exact ⟨r1.symm, restrictS_wf scNone_sound _ s t v b h.w hf, restrictS_wf scNone_sound _ s' t v b h.w' hf, n1⟩

/-- what a routine does alike on the feature-free configured store and on the reference store, it does alike on two
stores with the same node table: both are related to the configured store over the first -/
theorem Lk.of_cfg {O : Type} {f : FStore → FStore × O} {g : Store → Store × O}
    (h : ∀ fs s, RelP Cfg.none false (fun _ => True) False fs s →
      (f fs).2 = (g s).2 ∧ RelP Cfg.none false (fun _ => True) False (f fs).1 (g s).1)
    {s s' : Store} (l : Lk s s') : (g s).2 = (g s').2 ∧ Lk (g s).1 (g s').1 :=
  have a := h (MemoT.bare s) s ⟨MemoT.bare_rel l.w l.w rfl, trivial⟩
  have b := h (MemoT.bare s) s' ⟨MemoT.bare_rel l.w l.w' l.nodes, trivial⟩
  ⟨a.1.symm.trans b.1, a.2.1.wf, b.2.1.wf, b.2.1.nodes.symm.trans a.2.1.nodes⟩

theorem stableAll_lock (s s' : Store) (n : Nat) (ac : List Nat) (h : Lk s s') :
    (stableAll s n ac).2 = (stableAll s' n ac).2 ∧ Lk (stableAll s n ac).1 (stableAll s' n ac).1 := by
  have := stableAllG_sim lk_sim s s' n ac h
  rwa [stableAllG_store, stableAllG_store] at this

theorem stablePre_lock (s s' : Store) (n : Nat) (ac : List Nat) (h : Lk s s') :
    (Cli.stablePre s n ac).2 = (Cli.stablePre s' n ac).2 ∧ Lk (Cli.stablePre s n ac).1 (Cli.stablePre s' n ac).1 := by
  have := stablePreG_sim lk_sim s s' n ac h
  rwa [stablePreG_store, stablePreG_store] at this

end CallH
