import AdfObdd.Equivar
import AdfObdd.Stable
import AdfObdd.PreGround2
/-! presentation independence for the grounded and the stable semantics: `Renamed` is symmetric (swap `p` and `q`), hence least
    fixpoints correspond (grounded) and — the reduct commuting with renaming — stable models
    correspond (C10, specification level) -/

namespace EquivarMore

theorem Renamed.symm {p q : Nat → Nat} {D D' : List BoolFn} (h : Renamed p q D D') : Renamed q p D' D := by
  refine ⟨h.inv2, h.inv1, h.len.symm, ?_, ?_, ?_⟩
  · intro i hi; rw [h.len] at hi ⊢; exact h.rangeq i hi
  · intro j hj; rw [h.len] at hj ⊢; exact h.range j hj
  · intro i f' hf'
    have hi : i < D.length := h.len ▸ lt_length_of_get? hf'
    have hq := h.rangeq i hi
    have hf : D[q i]? = some D[q i] := List.getElem?_eq_getElem hq
    have := h.fn (q i) _ hf
    rw [h.inv2 i, hf'] at this
    cases this
    rw [hf]
    congr 1
    funext σ
    simp only [h.inv1]

theorem Renamed.symmI {p q : Nat → Nat} {D D' : List BoolFn} {w w' : I3} (h : Renamed p q D D')
    (hw : RenamedI p D.length w w') : RenamedI q D'.length w' w := by
  rw [h.len]; exact RenamedI.symm h.inv2 h.rangeq hw

def pull (p : Nat → Nat) (n : Nat) (w' : I3) : I3 := (List.range n).map (fun i => (w'[p i]?).getD none)

theorem pull_spec (p : Nat → Nat) (n : Nat) (w' : I3) (hl : w'.length = n) (range : ∀ i, i < n → p i < n) :
    RenamedI p n (pull p n w') w' := by
  refine ⟨hl, by simp [pull], ?_⟩
  intro i hi
  have hp : p i < w'.length := by rw [hl]; exact range i hi
  simp [pull, List.getElem?_map, List.getElem?_range hi, List.getElem?_eq_getElem hp]

theorem RenamedI.transfer {p q : Nat → Nat} {n : Nat} {g g' w w' : I3} {x y : Option Bool}
    (inv2 : ∀ k, p (q k) = k) (rangeq : ∀ j, j < n → q j < n) (hg : RenamedI p n g g')
    (hw : RenamedI p n w w') (h : ∀ i : Nat, g[i]? = some x → w[i]? = some y) :
    ∀ j : Nat, g'[j]? = some x → w'[j]? = some y := by
  intro j hj
  have hjn : j < n := hg.1 ▸ lt_length_of_get? hj
  rw [← (RenamedI.symm inv2 rangeq hw).2.2 j hjn]
  apply h
  rw [(RenamedI.symm inv2 rangeq hg).2.2 j hjn]
  exact hj

theorem totalI_renamed {p q : Nat → Nat} {n : Nat} {v v' : I3} (inv2 : ∀ k, p (q k) = k)
    (rangeq : ∀ j, j < n → q j < n) (h : RenamedI p n v v') (ht : TotalI v) : TotalI v' := by
  intro j hj
  have hjn : j < n := h.1 ▸ hj
  rw [← (RenamedI.symm inv2 rangeq h).2.2 j hjn]
  exact ht (q j) (h.2.1.symm ▸ rangeq j hjn)

/-- C10, grounded: least fixpoints correspond -/
theorem lfp_renamed (p q : Nat → Nat) (D D' : List BoolFn) (g g' : I3) (h : Renamed p q D D')
    (hg : RenamedI p D.length g g') (hl : IsLfp D g) : IsLfp D' g' := by
  refine ⟨complete_renamed p q D D' g g' h hg hl.1, ?_⟩
  intro w' hw'
  have hwl : w'.length = D.length := by rw [fix_length hw', h.len]
  have hw := pull_spec p D.length w' hwl h.range
  have hfix : Gam D (pull p D.length w') = pull p D.length w' :=
    complete_renamed q p D' D w' _ (Renamed.symm h) (Renamed.symmI h hw) hw'
  exact fun j b => RenamedI.transfer h.inv2 h.rangeq hg hw (fun i => hl.2 _ hfix i b) j

theorem falsePart_renamed {p : Nat → Nat} {n : Nat} {v v' : I3} (h : RenamedI p n v v') :
    RenamedI p n (falsePart v) (falsePart v') := by
  refine ⟨by simp [falsePart, h.1], by simp [falsePart, h.2.1], ?_⟩
  intro i hi
  rw [falsePart_get, falsePart_get, h.2.2 i hi]

theorem redu_renamed (p q : Nat → Nat) (D D' : List BoolFn) (v v' : I3) (h : Renamed p q D D')
    (hv : RenamedI p D.length v v') : Renamed p q (redu D v) (redu D' v') := by
  have hl : (redu D v).length = D.length := by simp [redu]
  have hl' : (redu D' v').length = D'.length := by simp [redu]
  refine ⟨h.inv1, h.inv2, by rw [hl, hl', h.len], ?_, ?_, ?_⟩
  · intro i hi; rw [hl] at hi ⊢; exact h.range i hi
  · intro j hj; rw [hl] at hj ⊢; exact h.rangeq j hj
  · intro i f hf
    rw [redu_get] at hf
    obtain ⟨f0, hd, rfl⟩ := Option.map_eq_some_iff.mp hf
    rw [redu_get, h.fn i f0 hd]
    simp only [Option.map_some, Option.some.injEq]
    funext σ'
    congr 1
    funext k
    exact over_rename p q D.length (falsePart v) (falsePart v') h.inv1 h.rangeq
      (falsePart_renamed hv) σ' k

/-- C10, stable: stable models correspond -/
theorem stable_renamed (p q : Nat → Nat) (D D' : List BoolFn) (v v' : I3) (h : Renamed p q D D')
    (hv : RenamedI p D.length v v') (hs : StableExact.StableI D v) : StableExact.StableI D' v' := by
  obtain ⟨ht, hm, htr⟩ := hs
  refine ⟨totalI_renamed h.inv2 h.rangeq hv ht, complete_renamed p q D D' v v' h hv hm, ?_⟩
  intro w' hw'
  have hr := redu_renamed p q D D' v v' h hv
  have hrl : (redu D v).length = D.length := by simp [redu]
  have hwl : w'.length = D.length := by
    rw [fix_length hw'.1]; simp [redu, h.len]
  have hw := pull_spec p D.length w' hwl h.range
  have hlfp : IsLfp (redu D v) (pull p D.length w') :=
    lfp_renamed q p (redu D' v') (redu D v) w' _ (Renamed.symm hr)
      (Renamed.symmI hr (by rw [hrl]; exact hw)) hw'
  exact RenamedI.transfer h.inv2 h.rangeq hv hw (htr _ hlfp)

theorem renamed_iff {P : List BoolFn → I3 → Prop}
    (imp : ∀ (p q : Nat → Nat) (D D' : List BoolFn) (w w' : I3), Renamed p q D D' →
      RenamedI p D.length w w' → P D w → P D' w')
    {p q : Nat → Nat} {D D' : List BoolFn} {w w' : I3} (h : Renamed p q D D')
    (hw : RenamedI p D.length w w') : P D w ↔ P D' w' :=
  ⟨imp p q D D' w w' h hw, imp q p D' D w' w (Renamed.symm h) (Renamed.symmI h hw)⟩

theorem complete_renamed_iff (p q : Nat → Nat) (D D' : List BoolFn) (w w' : I3) (h : Renamed p q D D')
    (hw : RenamedI p D.length w w') : Gam D w = w ↔ Gam D' w' = w' :=
  renamed_iff (P := fun D w => Gam D w = w) complete_renamed h hw

theorem lfp_renamed_iff (p q : Nat → Nat) (D D' : List BoolFn) (g g' : I3) (h : Renamed p q D D')
    (hg : RenamedI p D.length g g') : IsLfp D g ↔ IsLfp D' g' :=
  renamed_iff lfp_renamed h hg

theorem stable_renamed_iff (p q : Nat → Nat) (D D' : List BoolFn) (v v' : I3) (h : Renamed p q D D')
    (hv : RenamedI p D.length v v') : StableExact.StableI D v ↔ StableExact.StableI D' v' :=
  renamed_iff stable_renamed h hv

end EquivarMore
