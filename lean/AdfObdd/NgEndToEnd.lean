import AdfObdd.NgSimulation
import AdfObdd.AdfPipeline
/-! # C05 end to end: the concrete nogood-learning search terminates and is exact

`sim_run` carries a halting run of the semantic machine (`NSem.sem_halts`, `NSem.sem_exact`) to the
concrete loop `SM.ngRun` through the lock-step simulation `sim_iter`; the heuristic oracle of the
semantic machine is read off the concrete run itself (`rawOf`: the answer the concrete heuristic
gives in iteration `k`). `ng_end_to_end` is the statement about `SM.ngSearch`. -/
namespace NConc
open NSem

/-- the loop of `nogood_internal` with an arbitrary heuristic function in the place of `SM.heuCall h` -/
def cRun (hc : CHeu) (n : Nat) (ac : List Nat) (stable : Bool) : Nat → SM.NgS → SM.NgS
  | 0, st => st
  | fuel+1, st => if st.done then st else cRun hc n ac stable fuel (cIter hc n ac stable st)

theorem ngRun_eq (h : SM.Heu) (n : Nat) (ac : List Nat) (stable : Bool) : ∀ (k : Nat) (st : SM.NgS),
    SM.ngRun h n ac stable k st = cRun (SM.heuCall h) n ac stable k st := by
  intro k
  induction k with
  | zero => intro st; rfl
  | succ k ih =>
    intro st
    unfold SM.ngRun cRun
    rw [ngIter_eq, ih]

theorem cRun_succ (hc : CHeu) (n : Nat) (ac : List Nat) (stable : Bool) : ∀ (k : Nat) (st : SM.NgS),
    cRun hc n ac stable (k + 1) st =
      (if (cRun hc n ac stable k st).done then cRun hc n ac stable k st
       else cIter hc n ac stable (cRun hc n ac stable k st)) := by
  intro k st
  fun_induction cRun hc n ac stable k st with
  | case1 st => rfl
  | case2 k st hd => rw [cRun, if_pos hd, if_pos hd]
  | case3 k st hd ih => rw [cRun, if_neg hd]; exact ih

/-- the start state of `SM.ngSearch` -/
def initC (s : Store) (n : Nat) (ac : List Nat) : SM.NgS :=
  { s := (groundedLoop StoreRA (n + 1) s ac).1, cur := (groundedLoop StoreRA (n + 1) s ac).2,
    buckets := List.replicate (n + 1) [], stack := [], hist := [] }

/-- `SM.ngSearch` with an arbitrary heuristic function -/
def cSearch (hc : CHeu) (fuel : Nat) (s : Store) (n : Nat) (ac : List Nat) (stable : Bool) :
    Store × List (List Nat) × List (List Nat) × Bool :=
  ((cRun hc n ac stable fuel (initC s n ac)).s, (cRun hc n ac stable fuel (initC s n ac)).out,
   (cRun hc n ac stable fuel (initC s n ac)).trace, (cRun hc n ac stable fuel (initC s n ac)).done)

theorem ngSearch_eq (h : SM.Heu) (fuel : Nat) (s : Store) (n : Nat) (ac : List Nat) (stable : Bool) :
    SM.ngSearch h fuel s n ac stable = cSearch (SM.heuCall h) fuel s n ac stable := by
  have e : SM.ngSearch h fuel s n ac stable =
      ((SM.ngRun h n ac stable fuel (initC s n ac)).s, (SM.ngRun h n ac stable fuel (initC s n ac)).out,
       (SM.ngRun h n ac stable fuel (initC s n ac)).trace, (SM.ngRun h n ac stable fuel (initC s n ac)).done) := rfl
  rw [e, ngRun_eq]
  rfl

def cState (hc : CHeu) (s : Store) (n : Nat) (ac : List Nat) (stable : Bool) (k : Nat) : SM.NgS :=
  cRun hc n ac stable k (initC s n ac)

/-- the heuristic oracle: what the concrete heuristic answers in iteration `k` of the concrete run -/
def rawOf (hc : CHeu) (s : Store) (n : Nat) (ac : List Nat) (stable : Bool) (k : Nat) : Option (Nat × Bool) :=
  conv (hc (cState hc s n ac stable k).s (cState hc s n ac stable k).cur (cState hc s n ac stable k).time)

section run
variable (h : CHeu) (s : Store) (n : Nat) (ac : List Nat) (stable : Bool)

theorem cState_succ (k : Nat) : cState h s n ac stable (k + 1) =
    (if (cState h s n ac stable k).done then cState h s n ac stable k else cIter h n ac stable (cState h s n ac stable k)) :=
  cRun_succ h n ac stable k _

theorem cState_succ_running {k : Nat} (hd : (cState h s n ac stable k).done = false) :
    cState h s n ac stable (k + 1) = cIter h n ac stable (cState h s n ac stable k) := by
  rw [cState_succ, hd]; rfl

theorem cState_succ_done {k : Nat} (hd : (cState h s n ac stable k).done = true) :
    cState h s n ac stable (k + 1) = cState h s n ac stable k := by
  rw [cState_succ, if_pos hd]

/-- the bound `m ≤ k + fuel` is what `NgFuelBound.lean` turns into an explicit fuel -/
theorem sim_run (hok : HeuOK h) (w0 : WF s) (hac0 : ∀ t ∈ ac, t < s.nodes.size) (hn : ac.length = n) :
    ∀ (fuel k : Nat) (a a' : ASt), Rel (cState h s n ac stable k) a → CInv s n (cState h s n ac stable k) →
    NGen.run (PP s n ac stable (rawOf h s n ac stable)) k fuel a = some a' →
    ∃ m, m ≤ k + fuel ∧ (cState h s n ac stable m).done = true ∧ (cState h s n ac stable m).out.map toPA = a'.out := by
  intro fuel
  induction fuel with
  | zero => intro k a a' _ _ hr; cases hr
  | succ f ih =>
    intro k a a' hr hi hrun
    have hnext := cState_succ_running h s n ac stable hi.nd
    have hsim := (sim_iter ac stable (rawOf h s n ac stable) w0 hac0 hn hok k hr hi rfl).1
    unfold NGen.run at hrun
    cases hit : NGen.iter (PP s n ac stable (rawOf h s n ac stable)) k a with
    | done a1 =>
      rw [hit] at hrun hsim
      cases hrun
      exact ⟨k + 1, by omega, hnext ▸ hsim.1, hnext ▸ hsim.2⟩
    | cont a1 =>
      rw [hit] at hrun hsim
      obtain ⟨m, hm, hd⟩ := ih (k + 1) a1 a' (hnext ▸ hsim.1) (hnext ▸ hsim.2) hrun
      exact ⟨m, by omega, hd⟩

end run

theorem okV_of_reach {D : List BoolFn} {n : Nat} {stable : Bool} (hD : D.length = n) {V : List BoolFn}
    (r : Reach D V) : OkV D n stable V ∧ ∀ σ, Target D n stable σ → Matches (cv V) σ := by
  refine ⟨⟨by rw [r.len, hD], ?_⟩, ?_⟩
  · intro σ hT hm i f hf
    have hi : i < D.length := r.len ▸ lt_length_of_get? hf
    have hg : D[i]? = some D[i] := List.getElem?_eq_getElem hi
    rw [r.res i f D[i] hf hg σ (matches_iff_agree.mp hm)]
    exact target_model hD hT hg
  · intro σ hT
    apply matches_iff_agree.mpr
    exact (agree_vOf n σ).mono (r.snd _ (Le3.of_eq hT.1))

theorem initC_den (s : Store) (n : Nat) (ac : List Nat) (w0 : WF s) (hac0 : ∀ t ∈ ac, t < s.nodes.size) :
    (initC s n ac).cur.map (eval (initC s n ac).s) = semLoop (n + 1) (ac.map (eval s)) :=
  (groundedLoop_store (n + 1) s ac w0 hac0).2.2.2

theorem init_facts (s : Store) (n : Nat) (ac : List Nat) (stable : Bool) (w0 : WF s)
    (hac0 : ∀ t ∈ ac, t < s.nodes.size) (hn : ac.length = n) :
    Rel (initC s n ac) (initSt ((initC s n ac).cur.map (eval (initC s n ac).s)) n) ∧ CInv s n (initC s n ac) ∧
    OkV (ac.map (eval s)) n stable ((initC s n ac).cur.map (eval (initC s n ac).s)) ∧
    (∀ σ, Target (ac.map (eval s)) n stable σ → Matches (cv ((initC s n ac).cur.map (eval (initC s n ac).s))) σ) := by
  have ⟨i1, l1, v1, _⟩ := groundedLoop_store (n + 1) s ac w0 hac0
  have hDl : (ac.map (eval s)).length = n := by simp [hn]
  have hreach := reach_semLoop (ac.map (eval s)) (n + 1) (by omega)
  have hV := initC_den s n ac w0 hac0
  have ⟨o1, o2⟩ := okV_of_reach (stable := stable) hDl hreach
  refine ⟨⟨rfl, rfl, StackRel.nil _, rfl, rfl, rfl⟩, ⟨i1, l1, v1, ?_, (fun _ hx => by cases hx), rfl⟩, by rw [hV]; exact o1,
    by rw [hV]; exact o2⟩
  have := congrArg List.length hV
  rw [List.length_map, hreach.len, hDl] at this
  exact this

/-- the assignment read off a total interpretation -/
def sigOf (v : I3) : Asg := fun i => (pget v i).getD false

theorem matches_sigOf (v : I3) : Matches v (sigOf v) := by
  intro i b h; simp [sigOf, h]

theorem target_of_model {D : List BoolFn} {n : Nat} {stable : Bool} (hDl : D.length = n) {v : I3}
    (hl : v.length = n) (ht : TotalI v) (hfix : Gam D v = v)
    (hcond : stable = true → ∀ w : I3, IsLfp (redu D v) w → ∀ i : Nat, v[i]? = some (some true) → w[i]? = some (some true)) :
    Target D n stable (sigOf v) := by
  rw [Target, vOf_of_matches hl (twoV_of_total ht) (matches_sigOf v)]
  exact ⟨hfix, fun hs w hw => (stable_check_iff _ v w (by rw [hl, hDl]) ht hw).mpr ⟨hfix, hcond hs w hw⟩⟩

/-- **C05 for the concrete loop with ANY heuristic function** that always proposes an undecided
statement with a truth value (`HeuOK`): the loop halts within some fuel and the emitted
interpretations are, without repetition, exactly the two-valued models (`stable = false`) resp. the
stable models (`stable = true`) -/
theorem search_exact_any_heuristic (hc : CHeu) (hok : HeuOK hc) (s : Store) (n : Nat) (ac : List Nat) (stable : Bool)
    (w0 : WF s) (hn : ac.length = n) (hac0 : ∀ t ∈ ac, t < s.nodes.size)
    (hsup : stable = false → ∀ t ∈ ac, ∀ σ τ : Asg, (∀ i, i < n → σ i = τ i) → eval s t σ = eval s t τ) :
    ∃ fuel, (cSearch hc fuel s n ac stable).2.2.2 = true ∧
      let D := ac.map (eval s)
      let out := (cSearch hc fuel s n ac stable).2.1.map (fun v => v.map storeIsConst)
      out.Nodup ∧ ∀ v : I3, v ∈ out ↔
        (v.length = n ∧ TotalI v ∧ Gam D v = v ∧
          (stable = true → ∀ w : I3, IsLfp (redu D v) w → ∀ i : Nat, v[i]? = some (some true) → w[i]? = some (some true))) := by
  have hDl : (ac.map (eval s)).length = n := by simp [hn]
  have hS : stable = false → ∀ f ∈ ac.map (eval s), Supp n f := by
    intro hst f hf
    obtain ⟨t, ht, rfl⟩ := List.mem_map.mp hf
    exact hsup hst t ht
  have ⟨hrel, hinv, hokv, hg⟩ := init_facts s n ac stable w0 hac0 hn
  obtain ⟨fuel, a', hrun⟩ := sem_halts (D := ac.map (eval s)) (stable := stable) (rawOf hc s n ac stable) _ hokv
  have ⟨e1, e2, e3, e4⟩ := sem_exact hDl hS (rawOf hc s n ac stable) _ hokv hg fuel a' hrun
  obtain ⟨m, -, hdone, hout⟩ := sim_run hc s n ac stable hok w0 hac0 hn fuel 0 _ a' hrel hinv hrun
  refine ⟨m, hdone, ?_⟩
  have hout' : (cSearch hc m s n ac stable).2.1.map (fun v => v.map storeIsConst) = a'.out := hout
  simp only [hout']
  refine ⟨e3, fun v => ⟨fun hv => ?_, fun ⟨hl, ht, hfix, hcond⟩ => ?_⟩⟩
  · have ⟨t1, t2⟩ := e4 v hv
    have hT := e2 v hv (sigOf v) (matches_sigOf v)
    rw [Target, vOf_of_matches t2 t1 (matches_sigOf v)] at hT
    exact ⟨t2, twoV_true t1, hT.1, fun hs w hw i hi => by rw [hT.2 hs w hw]; exact hi⟩
  · -- the output that covers the assignment read off `v` is `v` itself
    obtain ⟨o, ho, hm⟩ := e1 (sigOf v) (target_of_model hDl hl ht hfix hcond)
    have ⟨o1, o2⟩ := e4 o ho
    have := vOf_of_matches o2 o1 hm
    rw [vOf_of_matches hl (twoV_of_total ht) (matches_sigOf v)] at this
    rw [this]; exact ho

/-- **C05 for the concrete model**: for every heuristic of `SM.Heu`, every well-formed store and every
valid vector of acceptance conditions over the statements `0 … n-1`, `SM.ngSearch` halts within some
fuel and the emitted interpretations are, without repetition, exactly the two-valued models
(`stable = false`) resp. the stable models (`stable = true`). -/
theorem ng_end_to_end (h : SM.Heu) (s : Store) (n : Nat) (ac : List Nat) (stable : Bool)
    (w0 : WF s) (hn : ac.length = n) (hac0 : ∀ t ∈ ac, t < s.nodes.size)
    (hsup : stable = false → ∀ t ∈ ac, ∀ σ τ : Asg, (∀ i, i < n → σ i = τ i) → eval s t σ = eval s t τ) :
    ∃ fuel, (SM.ngSearch h fuel s n ac stable).2.2.2 = true ∧
      let D := ac.map (eval s)
      let out := (SM.ngSearch h fuel s n ac stable).2.1.map (fun v => v.map storeIsConst)
      out.Nodup ∧ ∀ v : I3, v ∈ out ↔
        (v.length = n ∧ TotalI v ∧ Gam D v = v ∧
          (stable = true → ∀ w : I3, IsLfp (redu D v) w → ∀ i : Nat, v[i]? = some (some true) → w[i]? = some (some true))) := by
  have := search_exact_any_heuristic (SM.heuCall h) (heuOK_builtin h) s n ac stable w0 hn hac0 hsup
  simp only [← ngSearch_eq] at this
  exact this

/-- every atom of the formula is one of the statements `0 … n-1` (what "every atom is declared"
means after `from_parser` has numbered the statements) -/
def atomsLt (n : Nat) : Fm → Prop
  | .top => True | .bot => True
  | .atom v => v < n
  | .not f => atomsLt n f
  | .and a b => atomsLt n a ∧ atomsLt n b | .or a b => atomsLt n a ∧ atomsLt n b
  | .imp a b => atomsLt n a ∧ atomsLt n b | .xor a b => atomsLt n a ∧ atomsLt n b
  | .iff a b => atomsLt n a ∧ atomsLt n b

theorem atomsOK_of_lt {n : Nat} (hn : n ≤ VBOT) : ∀ f : Fm, atomsLt n f → f.atomsOK := by
  intro f
  induction f with
  | top | bot => intro _; trivial
  | atom v => intro h; exact Nat.lt_of_lt_of_le h hn
  | not f ih => intro h; exact ih h
  | and a b iha ihb | or a b iha ihb | imp a b iha ihb | xor a b iha ihb | iff a b iha ihb =>
    intro h; exact ⟨iha h.1, ihb h.2⟩

theorem sem_supp {n : Nat} : ∀ f : Fm, atomsLt n f → Supp n f.sem := by
  intro f
  induction f with
  | top | bot => intro _ σ τ _; rfl
  | atom v => intro h σ τ e; exact e v h
  | not f ih => intro h σ τ e; simp only [Fm.sem, ih h σ τ e]
  | and a b iha ihb | or a b iha ihb | imp a b iha ihb | xor a b iha ihb | iff a b iha ihb =>
    intro h σ τ e; simp only [Fm.sem, iha h.1 σ τ e, ihb h.2 σ τ e]

/-- what `buildNative` (the `from_parser` model) guarantees for the searches -/
theorem compiled_facts (fms : List Fm) (hn : fms.length ≤ VBOT) (hv : ∀ f ∈ fms, atomsLt fms.length f) :
    WF (buildNative fms.length fms).1 ∧ (buildNative fms.length fms).2.length = fms.length ∧
    (∀ t ∈ (buildNative fms.length fms).2, t < (buildNative fms.length fms).1.nodes.size) ∧
    (buildNative fms.length fms).2.map (eval (buildNative fms.length fms).1) = fms.map Fm.sem ∧
    (∀ t ∈ (buildNative fms.length fms).2, ∀ σ τ : Asg,
      (∀ i, i < fms.length → σ i = τ i) → eval (buildNative fms.length fms).1 t σ = eval (buildNative fms.length fms).1 t τ) := by
  have ⟨w, hl, hc⟩ := buildNative_correct fms.length fms hn (fun f hf => atomsOK_of_lt hn f (hv f hf))
  have hget : ∀ t ∈ (buildNative fms.length fms).2, ∃ i, ∃ hi : i < fms.length,
      t < (buildNative fms.length fms).1.nodes.size ∧ ∀ σ, eval (buildNative fms.length fms).1 t σ = fms[i].sem σ := by
    intro t ht
    obtain ⟨i, hi, rfl⟩ := List.getElem_of_mem ht
    have hi' : i < fms.length := by omega
    exact ⟨i, hi', hc i _ _ (List.getElem?_eq_getElem hi) (List.getElem?_eq_getElem hi')⟩
  refine ⟨w, hl, fun t ht => ?_, map_eval_eq_sem _ _ fms hl (fun i t f a c => (hc i t f a c).2), fun t ht σ τ hst => ?_⟩
  · obtain ⟨_, _, h, _⟩ := hget t ht
    exact h
  · obtain ⟨i, hi, _, hev⟩ := hget t ht
    rw [hev σ, hev τ]
    exact sem_supp _ (hv _ (List.getElem_mem hi)) σ τ hst

end NConc
#print axioms NConc.search_exact_any_heuristic
#print axioms NConc.ng_end_to_end
