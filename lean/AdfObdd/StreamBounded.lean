import AdfObdd.StreamChain
/-! # C19 with BOUNDED forwarding channels: model, safety proved, liveness not

`StreamC` models every channel of the relay chain as an unbounded FIFO list: `recv` of store `i`
pushes and forwards until it stops, whatever the length of the inbox of store `i+1`. The channels
are supplied by the caller (`with_sender_receiver(sender, receiver)`); with
`crossbeam_channel::bounded(cap)` the `send` in `Bdd::recv` (frontend.rs:74) BLOCKS while the next
inbox is full. The relay is then stuck inside `recv` between `self.nodes.push(node)` and the
completion of `send`: the node is in its table but in neither the table nor the inbox of the next
store. `StreamC.RInv` (`tbl_{i+1} ++ q_{i+1} = tbl_i`) is FALSE in such a state; this file gives
the bounded chain, the adjusted invariant `BInv` (conservation up to the node in flight), its proof
for every schedule (`bounded_forwarding`), and a concrete schedule exhibiting the state. The other
C19 theorems (found-iff-present, drain equality, independence of downstream) are proved for the
unbounded model only. Still idealised here: the producer's own `send` in `Bdd::node` never blocks
(`pend` is unbounded; `deliver` moves at most what fits the first inbox), and LIVENESS is not
treated (a chain whose last store stops polling deadlocks the relays before it once the inboxes
are full). -/
namespace StreamB

variable {α : Type}

/-- a store of the chain; `blocked = some (x, t)`: the thread is inside `recv(Term(t))`, has pushed
`x` and waits in `send(x)` for room in the next inbox -/
structure BRelay (α : Type) where
  q : List α
  tbl : List α
  blocked : Option (α × Nat)
deriving DecidableEq, Repr

structure BChain (α : Type) where
  prod : List α
  pend : List α
  relays : List (BRelay α)
deriving DecidableEq, Repr

inductive Ev (α : Type) where
  | create (ns : List α)
  | deliver (k : Nat)      -- at most as many as fit the first inbox
  | poll (i t : Nat)       -- `store_i.recv(Term(t))`; ignored while store `i` is blocked
  | resume (i : Nat)       -- the pending `send` of store `i` completes if there is room now

def BChain.init (c : List α) (k : Nat) : BChain α :=
  { prod := c, pend := [], relays := List.replicate k { q := [], tbl := c, blocked := none } }

/-- the loop of `Bdd::recv` from the point after the entry test, one message per iteration, with the
inbox `nq` of the next store (`none`: nobody behind, a failing `send` is ignored). Returns the
store, the next inbox and `some found`, or `none` when the thread got stuck in `send` -/
def loopB (cap : Nat) : Nat → BRelay α → Option (List α) → Nat → BRelay α × Option (List α) × Option Bool
  | 0, r, nq, _ => (r, nq, some false)
  | fuel+1, r, nq, t =>
    match r.q with
    | [] => (r, nq, some false)
    | x :: q' =>
      let newTerm := r.tbl.length
      let r1 : BRelay α := { q := q', tbl := r.tbl ++ [x], blocked := none }
      match nq with
      | none => if newTerm = t then (r1, none, some true) else loopB cap fuel r1 none t
      | some inbox =>
        if inbox.length < cap then
          if newTerm = t then (r1, some (inbox ++ [x]), some true)
          else loopB cap fuel r1 (some (inbox ++ [x])) t
        else ({ r1 with blocked := some (x, t) }, some inbox, none)

/-- `recv(Term(t))` on a store that is not blocked -/
def recvB (cap : Nat) (r : BRelay α) (nq : Option (List α)) (t : Nat) : BRelay α × Option (List α) × Option Bool :=
  if r.blocked.isSome then (r, nq, none)
  else if t < r.tbl.length then (r, nq, some true)
  else loopB cap r.q.length r nq t

/-- the pending `send` completes (if the inbox has room) and the interrupted `recv` continues -/
def resumeB (cap : Nat) (r : BRelay α) (nq : Option (List α)) : BRelay α × Option (List α) × Option Bool :=
  match r.blocked, nq with
  | some (x, t), some inbox =>
    if inbox.length < cap then
      let r1 : BRelay α := { r with blocked := none }
      if r.tbl.length = t + 1 then (r1, some (inbox ++ [x]), some true)
      else loopB cap r.q.length r1 (some (inbox ++ [x])) t
    else (r, nq, none)
  | _, _ => (r, nq, none)

def nextInbox : List (BRelay α) → Option (List α)
  | [] => none
  | r :: _ => some r.q

def setInbox : List (BRelay α) → Option (List α) → List (BRelay α)
  | r :: rest, some q => { r with q := q } :: rest
  | rs, _ => rs

/-- apply `f` (a `recvB` or `resumeB`) at store `i` -/
def atStore (f : BRelay α → Option (List α) → BRelay α × Option (List α) × Option Bool) :
    List (BRelay α) → Nat → List (BRelay α) × Option Bool
  | [], _ => ([], none)
  | r :: rest, 0 => let p := f r (nextInbox rest); (p.1 :: setInbox rest p.2.1, p.2.2)
  | r :: rest, i+1 => let p := atStore f rest i; (r :: p.1, p.2)

def stepEv (cap : Nat) (s : BChain α) : Ev α → BChain α × Option Bool
  | .create ns => ({ s with prod := s.prod ++ ns, pend := s.pend ++ ns }, none)
  | .deliver k =>
    match s.relays with
    | [] => ({ s with pend := s.pend.drop k }, none)
    | r :: rest =>
      let m := min k (cap - r.q.length)
      ({ s with pend := s.pend.drop m, relays := { r with q := r.q ++ s.pend.take m } :: rest }, none)
  | .poll i t => let p := atStore (fun r nq => recvB cap r nq t) s.relays i; ({ s with relays := p.1 }, p.2)
  | .resume i => let p := atStore (resumeB cap) s.relays i; ({ s with relays := p.1 }, p.2)

def run (cap : Nat) (evs : List (Ev α)) (s : BChain α) : BChain α := evs.foldl (fun s e => (stepEv cap s e).1) s

def inflight (r : BRelay α) : List α := match r.blocked with | some (x, _) => [x] | none => []

/-- the conservation invariant of the bounded chain: table ++ inbox of each store, PLUS the node in
flight of the store before it, is the table of the store before it; every inbox respects the bound -/
def BInv (cap : Nat) : List α → List α → List (BRelay α) → Prop
  | _, _, [] => True
  | up, fl, r :: rest => r.tbl ++ r.q ++ fl = up ∧ r.q.length ≤ cap ∧ BInv cap r.tbl (inflight r) rest

/-- the statement of `bounded_forwarding`: with forwarding channels of any capacity `cap ≥ 1`, under every
schedule, conservation holds up to the nodes in flight, every table is a prefix of the producer's
table, and no inbox exceeds the bound. (Liveness — that a blocked relay is eventually resumed — needs
the store behind it to keep polling; a chain whose last store never polls deadlocks all relays before
it once the inboxes are full, which the unbounded model cannot show.) -/
def bounded_forwarding_statement : Prop :=
  ∀ (α : Type) (cap : Nat), 1 ≤ cap → ∀ (c : List α) (k : Nat) (evs : List (Ev α)),
    let s := run cap evs (BChain.init c k)
    (∃ up, up ++ s.pend = s.prod ∧ BInv cap up [] s.relays) ∧
    ∀ r ∈ s.relays, ∃ rest, r.tbl ++ rest = s.prod

/-- what a `recv` / `resume` call may do to a store `r` and the inbox `nq` behind it: messages move from the own
inbox to the table, and each of them goes on into the inbox behind or stays in flight; stated as what the call
preserves, so that it composes: `P` stands for the table of the store behind -/
def Step (cap : Nat) (r : BRelay α) (nq : Option (List α)) (r' : BRelay α) (nq' : Option (List α)) : Prop :=
  r'.tbl ++ r'.q = r.tbl ++ r.q ∧ r'.q.length ≤ r.q.length ∧
  match nq with
  | none => nq' = none
  | some inbox => ∃ inbox', nq' = some inbox' ∧ (inbox.length ≤ cap → inbox'.length ≤ cap) ∧
      ∀ P, P ++ inbox ++ inflight r = r.tbl → P ++ inbox' ++ inflight r' = r'.tbl

theorem Step.refl (cap : Nat) (r : BRelay α) (nq : Option (List α)) : Step cap r nq r nq :=
  ⟨rfl, Nat.le_refl _, by cases nq with
    | none => rfl
    | some inbox => exact ⟨inbox, rfl, id, fun _ h => h⟩⟩

theorem Step.trans {cap : Nat} {r r' r'' : BRelay α} {nq nq' nq'' : Option (List α)}
    (a : Step cap r nq r' nq') (b : Step cap r' nq' r'' nq'') : Step cap r nq r'' nq'' := by
  refine ⟨b.1.trans a.1, Nat.le_trans b.2.1 a.2.1, ?_⟩
  cases nq with
  | none => have := a.2.2; subst this; exact b.2.2
  | some inbox =>
    obtain ⟨i', rfl, c', p'⟩ := a.2.2
    obtain ⟨i'', e, c'', p''⟩ := b.2.2
    exact ⟨i'', e, fun h => c'' (c' h), fun P h => p'' P (p' P h)⟩

theorem Step.move {cap : Nat} {r : BRelay α} {x : α} {q' : List α} (nq : Option (List α)) (hb : r.blocked = none)
    (hq : r.q = x :: q') (room : ∀ inbox, nq = some inbox → inbox.length < cap) :
    Step cap r nq ⟨q', r.tbl ++ [x], none⟩ (nq.map (· ++ [x])) := by
  refine ⟨by simp [hq], by simp [hq], ?_⟩
  cases nq with
  | none => rfl
  | some inbox =>
    refine ⟨_, rfl, fun _ => by have := room inbox rfl; simp; omega, fun P h => ?_⟩
    simp only [inflight, hb, List.append_nil] at h ⊢
    rw [← List.append_assoc, h]

theorem Step.block {cap : Nat} {r : BRelay α} {x : α} {q' : List α} (inbox : List α) (t : Nat) (hb : r.blocked = none)
    (hq : r.q = x :: q') : Step cap r (some inbox) ⟨q', r.tbl ++ [x], some (x, t)⟩ (some inbox) := by
  refine ⟨by simp [hq], by simp [hq], inbox, rfl, id, fun P h => ?_⟩
  simp only [inflight, hb, List.append_nil] at h ⊢
  rw [h]

theorem Step.unblock {cap : Nat} {r : BRelay α} {x : α} {t : Nat} (inbox : List α) (hb : r.blocked = some (x, t))
    (room : inbox.length < cap) : Step cap r (some inbox) { r with blocked := none } (some (inbox ++ [x])) := by
  refine ⟨rfl, Nat.le_refl _, _, rfl, fun _ => by simp; omega, fun P h => ?_⟩
  simp only [inflight, hb, List.append_nil] at h ⊢
  rw [← List.append_assoc, h]

theorem loopB_step (cap : Nat) : ∀ (fuel : Nat) (r : BRelay α) (nq : Option (List α)) (t : Nat), r.blocked = none →
    Step cap r nq (loopB cap fuel r nq t).1 (loopB cap fuel r nq t).2.1 := by
  intro fuel r nq t hb
  fun_induction loopB cap fuel r nq t with
  | case1 r nq | case2 _ r nq => exact Step.refl cap r nq
  | case3 _ r x q' hq => exact Step.move (cap := cap) none hb hq (fun _ h => by cases h)
  | case4 _ r t x q' hq _ _ _ ih => exact (Step.move (cap := cap) none hb hq (fun _ h => by cases h)).trans (ih rfl)
  | case5 _ r x q' hq _ _ inbox hroom => exact Step.move (some inbox) hb hq (fun _ h => by cases h; exact hroom)
  | case6 _ r t x q' hq _ _ inbox hroom _ ih =>
    exact (Step.move (some inbox) hb hq (fun _ h => by cases h; exact hroom)).trans (ih rfl)
  | case7 _ r t x q' hq _ inbox => exact Step.block inbox t hb hq

def FSpec (cap : Nat) (f : BRelay α → Option (List α) → BRelay α × Option (List α) × Option Bool) : Prop :=
  ∀ r nq, Step cap r nq (f r nq).1 (f r nq).2.1

theorem recvB_spec (cap t : Nat) : FSpec (α := α) cap (fun r nq => recvB cap r nq t) := by
  intro r nq
  dsimp only
  fun_cases recvB cap r nq t with
  | case1 | case2 => exact Step.refl cap r nq
  | case3 hb => exact loopB_step cap _ r nq t (Option.not_isSome_iff_eq_none.mp hb)

theorem resumeB_spec (cap : Nat) : FSpec (α := α) cap (resumeB cap) := by
  intro r nq
  fun_cases resumeB cap r nq with
  | case1 x t inbox hb hroom => exact Step.unblock inbox hb hroom
  | case2 x t inbox hb hroom => exact (Step.unblock inbox hb hroom).trans (loopB_step cap _ _ _ t rfl)
  | case3 | case4 => exact Step.refl cap r _

theorem atStore_inv (cap : Nat) (f : BRelay α → Option (List α) → BRelay α × Option (List α) × Option Bool)
    (hf : FSpec cap f) : ∀ (rs : List (BRelay α)) (i : Nat) (up fl : List α),
    BInv cap up fl rs → BInv cap up fl (atStore f rs i).1
  | [], _, _, _, _ => trivial
  | r :: rest, 0, up, fl, h => by
    obtain ⟨h1, h2, h3⟩ := h
    have ⟨a, b, d⟩ := hf r (nextInbox rest)
    show BInv cap up fl ((f r (nextInbox rest)).1 :: setInbox rest (f r (nextInbox rest)).2.1)
    refine ⟨by rw [a]; exact h1, Nat.le_trans b h2, ?_⟩
    cases rest with
    | nil => cases (f r (nextInbox [])).2.1 <;> trivial
    | cons r2 rest2 =>
      obtain ⟨g1, g2, g3⟩ := h3
      obtain ⟨inbox', e, c, p⟩ := d
      rw [show (f r (nextInbox (r2 :: rest2))).2.1 = some inbox' from e]
      exact ⟨p r2.tbl g1, c g2, g3⟩
  | r :: rest, i+1, up, fl, h => by
    obtain ⟨h1, h2, h3⟩ := h
    exact ⟨h1, h2, atStore_inv cap f hf rest i r.tbl (inflight r) h3⟩

def SInv (cap : Nat) (s : BChain α) : Prop := ∃ up, up ++ s.pend = s.prod ∧ BInv cap up [] s.relays

theorem binv_replicate (cap : Nat) (c : List α) : ∀ k, BInv cap c [] (List.replicate k (⟨[], c, none⟩ : BRelay α))
  | 0 => trivial
  | k+1 => ⟨by simp, Nat.zero_le _, binv_replicate cap c k⟩

theorem step_inv (cap : Nat) (s : BChain α) (e : Ev α) (h : SInv cap s) : SInv cap (stepEv cap s e).1 := by
  obtain ⟨up, h1, h2⟩ := h
  fun_cases stepEv cap s e with
  | case1 ns => exact ⟨up, by show up ++ (s.pend ++ ns) = s.prod ++ ns; rw [← List.append_assoc, h1], h2⟩
  | case2 k hr =>
    refine ⟨up ++ s.pend.take k, ?_, hr ▸ trivial⟩
    show up ++ s.pend.take k ++ s.pend.drop k = s.prod
    rw [List.append_assoc, List.take_append_drop, h1]
  | case3 k r rest hr m =>
    rw [hr] at h2
    obtain ⟨g1, g2, g3⟩ := h2
    refine ⟨up ++ s.pend.take m, ?_, ?_, ?_, g3⟩
    · show up ++ s.pend.take _ ++ s.pend.drop _ = s.prod
      rw [List.append_assoc, List.take_append_drop, h1]
    · show r.tbl ++ (r.q ++ s.pend.take _) ++ [] = _
      rw [← g1]; simp
    · show (r.q ++ s.pend.take _).length ≤ cap
      rw [List.length_append, List.length_take]
      omega
  | case4 i t => exact ⟨up, h1, atStore_inv cap _ (recvB_spec cap t) s.relays i up [] h2⟩
  | case5 i => exact ⟨up, h1, atStore_inv cap _ (resumeB_spec cap) s.relays i up [] h2⟩

theorem run_inv (cap : Nat) (evs : List (Ev α)) : ∀ s : BChain α, SInv cap s → SInv cap (run cap evs s) :=
  fun _ h => List.foldlRecOn (motive := SInv cap) evs _ h fun s hs e _ => step_inv cap s e hs

theorem binv_prefix (cap : Nat) : ∀ (rs : List (BRelay α)) (up fl : List α), BInv cap up fl rs →
    ∀ r ∈ rs, ∃ rest, r.tbl ++ rest = up
  | [], _, _, _, r, hr => by cases hr
  | r0 :: rest, up, fl, h, r, hr => by
    obtain ⟨h1, _, h3⟩ := h
    rcases List.mem_cons.mp hr with rfl | hr
    · exact ⟨r.q ++ fl, by rw [← List.append_assoc]; exact h1⟩
    · obtain ⟨x, hx⟩ := binv_prefix cap rest r0.tbl (inflight r0) h3 r hr
      exact ⟨x ++ (r0.q ++ fl), by rw [← List.append_assoc, hx, ← List.append_assoc]; exact h1⟩

/-- the hypothesis `1 ≤ cap` of the statement is not used: safety holds for capacity 0 too -/
theorem bounded_forwarding : bounded_forwarding_statement := by
  intro α cap _ c k evs s
  have h : SInv cap s := run_inv cap evs _ ⟨c, by simp [BChain.init], binv_replicate cap c k⟩
  obtain ⟨up, h1, h2⟩ := h
  refine ⟨⟨up, h1, h2⟩, ?_⟩
  intro r hr
  obtain ⟨x, hx⟩ := binv_prefix cap _ up [] h2 r hr
  exact ⟨x ++ s.pend, by rw [← List.append_assoc, hx, h1]⟩

/-- the state the unbounded model cannot represent: capacity 1, two relays, the producer creates
nodes 7, 8 (tables start as `[0, 1]`), both are delivered one at a time and store 0 polls for
handle 3: it pushes 7, forwards it, pushes 8 and blocks in `send` because store 1's inbox (holding
7) is full. Then `tbl₀ = [0,1,7,8]` but `tbl₁ ++ q₁ = [0,1,7]`: the unbounded invariant
`tbl₁ ++ q₁ = tbl₀` fails, the bounded one (with the node in flight) holds; after store 1 polls and
store 0 is resumed, the poll of store 0 completes with `found = true` and both invariants hold -/
def exSched : List (Ev Nat) := [.create [7, 8], .deliver 1, .poll 0 2, .deliver 1, .poll 0 3]

theorem blocked_state_example :
    let s := run 1 exSched (BChain.init [0, 1] 2)
    s.relays = [⟨[], [0, 1, 7, 8], some (8, 3)⟩, ⟨[7], [0, 1], none⟩] ∧
    (∀ r0 r1, s.relays = [r0, r1] → r1.tbl ++ r1.q ≠ r0.tbl) ∧
    (stepEv 1 (run 1 (exSched ++ [.poll 1 2]) (BChain.init [0, 1] 2)) (.resume 0)).2 = some true ∧
    (run 1 (exSched ++ [.poll 1 2, .resume 0]) (BChain.init [0, 1] 2)).relays =
      [⟨[], [0, 1, 7, 8], none⟩, ⟨[8], [0, 1, 7], none⟩] := by
  have e : run 1 exSched (BChain.init [0, 1] 2) =
      ⟨[0, 1, 7, 8], [], [⟨[], [0, 1, 7, 8], some (8, 3)⟩, ⟨[7], [0, 1], none⟩]⟩ := by decide
  refine ⟨by rw [e], ?_, by decide, by decide⟩
  intro r0 r1 h
  rw [e] at h
  simp only [List.cons.injEq, and_true] at h
  obtain ⟨rfl, rfl⟩ := h
  decide

example : BInv 1 [0, 1, 7, 8] [] (run 1 exSched (BChain.init [0, 1] 2)).relays := by
  rw [blocked_state_example.1]
  exact ⟨rfl, by decide, rfl, by decide, trivial⟩

end StreamB

#print axioms StreamB.blocked_state_example
#print axioms StreamB.bounded_forwarding
