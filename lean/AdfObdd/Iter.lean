
namespace Iter2M
/-! the two-valued interpretation odometer enumerates every completion once -/

/-- terms as handles: 0 = ⊥, 1 = ⊤, ≥ 2 undecided -/
abbrev Vec := List Nat

/-- pure successor used by `TwoValuedInterpretationsIterator::next` once started:
`idxs` lists the undecided positions, fastest first -/
def succ2 : (idxs : List Nat) → Vec → Option Vec
  | [], _ => none
  | i :: rest, cur =>
    if cur[i]? = some 0 then some (cur.set i 1)
    else (succ2 rest (cur.set i 0))   -- carry: reset this digit and continue

/-- reference enumeration, slowest digit first -/
def enum2 : (slow : List Nat) → Vec → List Vec
  | [], base => [base]
  | i :: rest, base => enum2 rest (base.set i 0) ++ enum2 rest (base.set i 1)

def collectFrom (idxs : List Nat) : Nat → Vec → List Vec
  | 0, _ => []
  | fuel+1, cur => cur :: (match succ2 idxs cur with | none => [] | some nxt => collectFrom idxs fuel nxt)

def zeros (sl : List Nat) (base : Vec) : Vec := sl.foldl (fun b i => b.set i 0) base

theorem zeros_cons (i : Nat) (rest : List Nat) (base : Vec) :
    zeros (i :: rest) base = zeros rest (base.set i 0) := rfl

theorem zeros_length (sl : List Nat) (base : Vec) : (zeros sl base).length = base.length := by
  induction sl generalizing base with
  | nil => rfl
  | cons i rest ih => rw [zeros_cons, ih]; simp

theorem zeros_set_comm (sl : List Nat) (base : Vec) (i v : Nat) (h : i ∉ sl) :
    (zeros sl base).set i v = zeros sl (base.set i v) := by
  induction sl generalizing base with
  | nil => rfl
  | cons j rest ih =>
    have hj : i ≠ j := fun e => h (e ▸ List.mem_cons_self ..)
    have hr : i ∉ rest := fun m => h (List.mem_cons_of_mem _ m)
    rw [zeros_cons, zeros_cons, ih _ hr, List.set_comm _ _ (Ne.symm hj)]

theorem zeros_get_notin (sl : List Nat) (base : Vec) (i : Nat) (h : i ∉ sl) :
    (zeros sl base)[i]? = base[i]? := by
  induction sl generalizing base with
  | nil => rfl
  | cons j rest ih =>
    have hj : i ≠ j := fun e => h (e ▸ List.mem_cons_self ..)
    have hr : i ∉ rest := fun m => h (List.mem_cons_of_mem _ m)
    rw [zeros_cons, ih _ hr, List.getElem?_set_ne (Ne.symm hj)]

theorem enum2_length (sl : List Nat) (base : Vec) : (enum2 sl base).length = 2 ^ sl.length := by
  induction sl generalizing base with
  | nil => rfl
  | cons i rest ih => simp [enum2, ih, Nat.pow_succ]; omega

/-- running the odometer over the inner digits `sl` (fastest last in `sl`)
followed by slower digits `outer` first produces the reference enumeration of the inner digits
and then carries into `outer`, going on with what fuel is left. -/
theorem collect_chain : ∀ (sl : List Nat) (outer : List Nat) (base : Vec) (r : Nat),
    sl.Nodup → (∀ i ∈ sl, i < base.length) →
    collectFrom (sl.reverse ++ outer) (2 ^ sl.length + r) (zeros sl base) =
      enum2 sl base ++
        (match succ2 outer (zeros sl base) with
         | none => []
         | some y => collectFrom (sl.reverse ++ outer) r y) := by
  intro sl
  induction sl with
  | nil =>
    intro outer base r _ _
    rw [List.length_nil, Nat.pow_zero, Nat.add_comm]
    rfl
  | cons i rest ih =>
    intro outer base r hnd hlt
    have hi : i ∉ rest := (List.nodup_cons.mp hnd).1
    have hnr : rest.Nodup := (List.nodup_cons.mp hnd).2
    have hil : i < base.length := hlt i (List.mem_cons_self ..)
    have hrl : ∀ b : Nat, ∀ j ∈ rest, j < (base.set i b).length :=
      fun b j hj => by rw [List.length_set]; exact hlt j (List.mem_cons_of_mem _ hj)
    have hpow : 2 ^ (i :: rest).length + r = 2 ^ rest.length + (2 ^ rest.length + r) := by
      rw [List.length_cons, Nat.pow_succ]; omega
    have hidx : (i :: rest).reverse ++ outer = rest.reverse ++ (i :: outer) := by simp
    -- the carry out of the inner digits: digit i goes from 0 to 1, then on to `outer`
    have hs : ∀ b : Nat, succ2 (i :: outer) (zeros rest (base.set i b)) =
        if b = 0 then some (zeros rest (base.set i 1)) else succ2 outer (zeros rest (base.set i 0)) := by
      intro b
      rw [succ2, zeros_get_notin _ _ _ hi, List.getElem?_set_self hil, zeros_set_comm _ _ _ _ hi,
        zeros_set_comm _ _ _ _ hi, List.set_set, List.set_set]
      simp only [Option.some.injEq]
    rw [hidx, hpow, zeros_cons, ih (i :: outer) (base.set i 0) _ hnr (hrl 0), hs 0, if_pos rfl]
    dsimp only
    rw [ih (i :: outer) (base.set i 1) _ hnr (hrl 1), hs 1, if_neg Nat.one_ne_zero, enum2,
      List.append_assoc]

/-- C20 (two-valued): the odometer started at the all-⊥ completion yields exactly the
reference enumeration of all `2^k` completions, in order. -/
theorem collect2_eq (sl : List Nat) (base : Vec) (fuel : Nat) (hnd : sl.Nodup)
    (hlt : ∀ i ∈ sl, i < base.length) (hf : 2 ^ sl.length ≤ fuel) :
    collectFrom sl.reverse fuel (zeros sl base) = enum2 sl base := by
  obtain ⟨r, rfl⟩ := Nat.le.dest hf
  have := collect_chain sl [] base r hnd hlt
  simpa [succ2] using this
#print axioms collect2_eq

end Iter2M
