import AdfObdd.CliWorld
import AdfObdd.CliModesProofs
import AdfObdd.HybridModel
/-! # The driver's world satisfies the assumptions of the text-level CLI theorems

`WorldOK` and `DumpOKW` for `CliM.drvWorld` and `CliM.storeWorld`, so that `C15.cli_text_faithful` /
`three_modes_print_same_sets` apply to exactly the world the model driver executes
(`C15.driver_world_faithful`). -/
namespace Bio
open TT (numOf bitsAsg)

/-- `Valid` of the tagged library includes "carries the library's tag": `drvWorld_dump` reads the number
of variables of a valid diagram off it -/
def Lawful.tag {T K : Type} {L : Lib T} {nv : Nat} (W : Lawful L nv) (k : K) : Lawful (L.tag k) nv where
  Valid := fun p => p.1 = k ∧ W.Valid p.2
  den := fun p => W.den p.2
  evalExpr_spec := fun e he => ⟨⟨rfl, (W.evalExpr_spec e he).1⟩, (W.evalExpr_spec e he).2⟩
  mkFalse_spec := ⟨⟨rfl, W.mkFalse_spec.1⟩, W.mkFalse_spec.2⟩
  isTrue_spec := fun p hp => W.isTrue_spec p.2 hp.2
  isFalse_spec := fun p hp => W.isFalse_spec p.2 hp.2
  select_spec := fun p l hp hl => ⟨⟨rfl, (W.select_spec p.2 l hp.2 hl).1⟩, (W.select_spec p.2 l hp.2 hl).2⟩
  exist_spec := fun p vs hp hv => ⟨⟨rfl, (W.exist_spec p.2 vs hp.2 hv).1⟩, (W.exist_spec p.2 vs hp.2 hv).2⟩
  restrict_spec := fun p l hp hl hnd => ⟨⟨rfl, (W.restrict_spec p.2 l hp.2 hl hnd).1⟩, (W.restrict_spec p.2 l hp.2 hl hnd).2⟩
  and_spec := fun p q hp hq => ⟨⟨rfl, (W.and_spec p.2 q.2 hp.2 hq.2).1⟩, (W.and_spec p.2 q.2 hp.2 hq.2).2⟩
  iff_spec := fun p q hp hq => ⟨⟨rfl, (W.iff_spec p.2 q.2 hp.2 hq.2).1⟩, (W.iff_spec p.2 q.2 hp.2 hq.2).2⟩
  sat_spec := fun p hp => W.sat_spec p.2 hp.2

end Bio

namespace CliMP
open CliM

/-- `DumpSpec` (HybridModel.lean) is the assumption `DumpLaw` of the CLI theorems -/
theorem dumpLaw_of_spec {T : Type} {L : Bio.Lib T} {n : Nat} {W : Bio.Lawful L n} {dump : T → List Node}
    (h : Bio.DumpSpec W dump) : DumpLaw W dump := h.ok

def drvWorldOK : WorldOK drvWorld where
  law := fun nv _ => (Bio.ttLawful nv).tag nv
  an := fun ns => SortModel.isort_perm NatLex.le ns

/-- a valid diagram of the variable set `nv` carries the tag `nv`, so its dump is the decision tree over
`nv` variables and `Bio.ttDump_spec` applies -/
theorem drvWorld_dump : DumpOKW drvWorld drvWorldOK := by
  intro nv hnv p hv h1 h0
  obtain ⟨k, t⟩ := p
  obtain ⟨hk, hv⟩ := hv
  simp only at hk
  subst hk
  exact (Bio.ttDump_spec k hnv).ok t hv h1 h0

/-- the hybrid-arm theorems also hold for a world whose dumps are reduced, shared diagrams -/
def storeWorldOK : WorldOK storeWorld where
  law := fun nv h => Bio.storeLawful nv h
  an := fun ns => SortModel.isort_perm NatLex.le ns

theorem storeWorld_dump : DumpOKW storeWorld storeWorldOK :=
  fun nv h => (Bio.storeDump_spec nv h).ok

end CliMP
#print axioms CliMP.drvWorldOK
#print axioms CliMP.drvWorld_dump
