import AdfObdd.PersistAnswers
import AdfObdd.CallHistoryMemoFull
/-! # C14: list equality of the answers after a round trip, and a two-statement object

(a) `C14.*_after_roundtrip` state `SameAnswers` (no duplicates + same members). After BOTH round
trips the NODE TABLE is the original's (`Persist.roundtrips_nodes`), and C11's
`CallH.answers_depend_on_node_table` says every answer — order included — is a function of the
node table, `n`, `ac`: composed here to LIST EQUALITY for every history of calls and for each
search separately.
(b) a two-statement object (`a ↦ ¬b`, `b ↦ ¬a`; two stable models) for non-vacuity instead of the
one-statement `x0Adf`.
What the C14 theorems do not cover is said in the header of `Props/C14.lean`. -/
namespace C14More
open Persist CallH

/-- the object as a call-history state (nothing issued yet) -/
def stateOf (st : Store) (ac : List Nat) : AdfState := { s := st, n := ac.length, ac := ac, issued := [] }

/-- C11's `answers_depend_on_node_table` for an object on which nothing has been issued yet -/
theorem history_same_nodes {s s' : Store} {ac : List Nat} (w : WF s) (w' : WF s') (hn : s'.nodes = s.nodes)
    (hv : ∀ t ∈ ac, t < s.nodes.size) (h : List Call) :
    (runCalls (stateOf s' ac) h).2 = (runCalls (stateOf s ac) h).2 ∧
    (runCalls (stateOf s' ac) h).1.s.nodes = (runCalls (stateOf s ac) h).1.s.nodes :=
  have i : Inv (stateOf s ac) := ⟨w, rfl, hv, fun _ ht => by cases ht⟩
  have i' : Inv (stateOf s' ac) := ⟨w', rfl, fun t ht => hn ▸ hv t ht, fun _ ht => by cases ht⟩
  have A := answers_depend_on_node_table h (stateOf s ac) (stateOf s' ac) i i' hn rfl rfl rfl
  ⟨A.1, A.2.1⟩

/-- **every history, both round trips**: any sequence of calls (grounded, complete,
stable, stable with pre-filter, both counting searches, the nogood search in both modes with any
heuristic and bound, queries, extra formulas) run on the object after `export → import →
fix_import` resp. after `Bdd::from(nodes)` returns the SAME LIST of answers as on the never-exported
original, and leaves the same node table. No halting or support hypothesis. -/
theorem history_after_roundtrip (a : PAdf) (w : WF a.bdd.st) (hv : ∀ t ∈ a.ac, t < a.bdd.st.nodes.size)
    (h : List Call) :
    let j := fixImportA (importA (exportA a))
    let r := rebuildP a.bdd.st.nodes
    ((runCalls (stateOf j.bdd.st j.ac) h).2 = (runCalls (stateOf a.bdd.st a.ac) h).2 ∧
      (runCalls (stateOf j.bdd.st j.ac) h).1.s.nodes = (runCalls (stateOf a.bdd.st a.ac) h).1.s.nodes) ∧
    ((runCalls (stateOf r.st a.ac) h).2 = (runCalls (stateOf a.bdd.st a.ac) h).2 ∧
      (runCalls (stateOf r.st a.ac) h).1.s.nodes = (runCalls (stateOf a.bdd.st a.ac) h).1.s.nodes) := by
  intro j r
  have ⟨⟨wj, nj⟩, ⟨wr, nr⟩⟩ := roundtrips_nodes a.bdd w
  rw [roundtripA_ac]
  exact ⟨history_same_nodes w wj nj hv h, history_same_nodes w wr nr hv h⟩

/-- **each search separately, list equality** (what `SameAnswers` does not say: the ORDER): on two
well-formed stores with the same node table — in particular the original and either round trip —
complete, stable, stable with pre-filter, both counting searches return the same list of vectors,
and the nogood search (any heuristic, mode and bound) the same emitted list and the same verdict
on the bound -/
theorem searches_same_nodes {s s' : Store} {ac : List Nat} (w : WF s) (w' : WF s') (hn : s'.nodes = s.nodes) :
    (completeAll s' ac.length ac).2.2 = (completeAll s ac.length ac).2.2 ∧
    (stableAll s' ac.length ac).2 = (stableAll s ac.length ac).2 ∧
    (Cli.stablePre s' ac.length ac).2 = (Cli.stablePre s ac.length ac).2 ∧
    (∀ useA, (countAll s' ac.length ac useA).2 = (countAll s ac.length ac useA).2) ∧
    (∀ heu fuel stable, (SM.ngSearch heu fuel s' ac.length ac stable).2.2.2 =
        (SM.ngSearch heu fuel s ac.length ac stable).2.2.2 ∧
      ((SM.ngSearch heu fuel s ac.length ac stable).2.2.2 = true →
        (SM.ngSearch heu fuel s' ac.length ac stable).2.1 = (SM.ngSearch heu fuel s ac.length ac stable).2.1)) :=
  have h : Lk s s' := ⟨w, w', hn⟩
  ⟨(congrArg (·.2) (completeAllG_sim lk_sim s s' _ ac h).1).symm, (stableAll_lock s s' _ ac h).1.symm,
    (stablePre_lock s s' _ ac h).1.symm, fun useA => (countAll_sim s s' _ ac useA h).1.symm,
    fun heu fuel stable =>
      have e := (ngSearch_sim heu fuel s s' _ ac stable h).1
      ⟨(congrArg (·.2.2) e).symm, fun _ => (congrArg (·.1) e).symm⟩⟩

theorem searches_after_roundtrip (a : PAdf) (w : WF a.bdd.st) :
    let j := fixImportA (importA (exportA a))
    let r := rebuildP a.bdd.st.nodes
    let n := a.ac.length
    ((completeAll j.bdd.st n j.ac).2.2 = (completeAll a.bdd.st n a.ac).2.2 ∧
     (stableAll j.bdd.st n j.ac).2 = (stableAll a.bdd.st n a.ac).2 ∧
     (Cli.stablePre j.bdd.st n j.ac).2 = (Cli.stablePre a.bdd.st n a.ac).2 ∧
     (∀ useA, (countAll j.bdd.st n j.ac useA).2 = (countAll a.bdd.st n a.ac useA).2)) ∧
    ((completeAll r.st n a.ac).2.2 = (completeAll a.bdd.st n a.ac).2.2 ∧
     (stableAll r.st n a.ac).2 = (stableAll a.bdd.st n a.ac).2 ∧
     (Cli.stablePre r.st n a.ac).2 = (Cli.stablePre a.bdd.st n a.ac).2 ∧
     (∀ useA, (countAll r.st n a.ac useA).2 = (countAll a.bdd.st n a.ac useA).2)) := by
  intro j r n
  have ⟨⟨wj, nj⟩, ⟨wr, nr⟩⟩ := roundtrips_nodes a.bdd w
  have A := searches_same_nodes (ac := a.ac) w wj nj
  have B := searches_same_nodes (ac := a.ac) w wr nr
  rw [roundtripA_ac]
  exact ⟨⟨A.1, A.2.1, A.2.2.1, A.2.2.2.1⟩, ⟨B.1, B.2.1, B.2.2.1, B.2.2.2.1⟩⟩

/-- `s(a). s(b). ac(a, neg(b)). ac(b, neg(a)).` as a persisted object: handle 2 = ¬x0 (node
`(0, ⊤, ⊥)`), handle 3 = ¬x1 (node `(1, ⊤, ⊥)`), `ac = [3, 2]`; `var_deps` as `node` maintains it -/
def negStore : Store := (mkNode (mkNode Store.init 0 1 0).1 1 1 0).1

def negAdf : PAdf :=
  { names := ["a", "b"], bdd := ⟨negStore, #[[], [], [0], [1]], {}⟩, ac := [3, 2] }

theorem negStore_nodes : negStore.nodes = #[⟨VBOT, 0, 0⟩, ⟨VTOP, 1, 1⟩, ⟨0, 1, 0⟩, ⟨1, 1, 0⟩] := by
  simp [negStore, mkNode, Store.init]

theorem negStore_WF : WF negStore := by
  have w1 := (mkNode_spec Store.init WF_init 0 1 0 (by decide) (by decide) (by decide) (by decide) (by decide)).1
  have n1 : (mkNode Store.init 0 1 0).1.nodes = #[⟨VBOT, 0, 0⟩, ⟨VTOP, 1, 1⟩, ⟨0, 1, 0⟩] := by
    simp [mkNode, Store.init]
  exact (mkNode_spec _ w1 1 1 0 (by rw [n1]; decide) (by rw [n1]; decide) (by decide)
    (by rw [topVar, n1]; decide) (by rw [topVar, n1]; decide)).1

theorem negAdf_ok : WF negAdf.bdd.st ∧ ∀ t ∈ negAdf.ac, t < negAdf.bdd.st.nodes.size := by
  refine ⟨negStore_WF, ?_⟩
  intro t ht
  have : t = 3 ∨ t = 2 := by simpa [negAdf] using ht
  show t < negStore.nodes.size
  rw [negStore_nodes]
  rcases this with h | h <;> subst h <;> decide

/-- the object is not degenerate: its two conditions are the functions `¬x1` and `¬x0` -/
theorem negAdf_denotes : ∀ σ, eval negStore 3 σ = !σ 1 ∧ eval negStore 2 σ = !σ 0 := by
  intro σ
  rw [eval, eval, negStore_nodes]
  simp [evalF]

/-! what the model computes on it (evaluator checks): two stable models `a ↦ T, b ↦ F` and
`a ↦ F, b ↦ T`, three complete interpretations, grounded = undecided -/
#guard dec3 (stableAll negStore 2 [3, 2]).2 == [[some true, some false], [some false, some true]] ||
       dec3 (stableAll negStore 2 [3, 2]).2 == [[some false, some true], [some true, some false]]
#guard (dec3 (completeAll negStore 2 [3, 2]).2.2).length == 3
#guard (groundedLoop StoreRA 3 negStore [3, 2]).2.map storeIsConst == [none, none]

/-- non-vacuity of the list-equality theorems AND of `C14.*_after_roundtrip` on the two-statement
object: hypotheses hold; stable / counting-search lists after the JSON round trip and after the
node-list rebuild EQUAL the original's, `SameAnswers` follows, every history answers the same -/
example :
    (stableAll (fixImportA (importA (exportA negAdf))).bdd.st 2 [3, 2]).2 = (stableAll negStore 2 [3, 2]).2 ∧
    (countAll (rebuildP negStore.nodes).st 2 [3, 2] true).2 = (countAll negStore 2 [3, 2] true).2 ∧
    SameAnswers (dec3 (stableAll (fixImportA (importA (exportA negAdf))).bdd.st 2 [3, 2]).2)
                (dec3 (stableAll negStore 2 [3, 2]).2) ∧
    SameAnswers (dec3 (countAll (rebuildP negStore.nodes).st 2 [3, 2] false).2)
                (dec3 (countAll negStore 2 [3, 2] true).2) ∧
    (∀ h, (runCalls (stateOf (rebuildP negStore.nodes).st [3, 2]) h).2 =
          (runCalls (stateOf negStore [3, 2]) h).2) := by
  have S := searches_after_roundtrip negAdf negAdf_ok.1
  have F := roundtrip_sameFns negAdf negAdf_ok.1 negAdf_ok.2
  exact ⟨S.1.2.1, S.2.2.2.2 true, F.1.stable 2 rfl, F.2.count 2 rfl true false,
    fun h => (history_after_roundtrip negAdf negAdf_ok.1 negAdf_ok.2 h).2.1⟩

/-- `SameAnswers` is implied by list equality of the undecoded lists together with `Nodup` of one
side (so the C14 theorems are corollaries of the ones above plus the exactness theorems' `Nodup`) -/
theorem sameAnswers_of_eq {l l' : List (List Nat)} (e : l' = l) (nd : (dec3 l).Nodup) :
    SameAnswers (dec3 l') (dec3 l) := by
  subst e; exact ⟨nd, nd, fun _ => Iff.rfl⟩

end C14More

#print axioms C14More.history_after_roundtrip
#print axioms C14More.searches_same_nodes
#print axioms C14More.searches_after_roundtrip
#print axioms C14More.negAdf_ok
#print axioms C14More.negAdf_denotes
