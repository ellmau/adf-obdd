import AdfObdd.AdfModel
import AdfObdd.Stable
/-! The stability test of the native back-end (`Adf::stable`, `stability_check` of both searches,
    `stable_bdd_representation`): restrict every condition by the candidate's false statements, ground
    the result, compare information values. It decides "the candidate is the least fixpoint of its own
    reduct", which for a total candidate is the definition of a stable model. -/

theorem sameInfo_iff {a b : Nat} : sameInfo a b = true ↔ storeIsConst a = storeIsConst b := by
  unfold sameInfo; simp

theorem zip_all_iff_map_eq {α β γ : Type} {F : α × β → Bool} {f : α → γ} {g : β → γ}
    (h : ∀ a b, F (a, b) = true ↔ f a = g b) : ∀ (l1 : List α) (l2 : List β), l1.length = l2.length →
    ((l1.zip l2).all F = true ↔ l1.map f = l2.map g)
  | [], [], _ => by simp
  | x :: l1, y :: l2, hl => by
    simp only [List.zip_cons_cons, List.all_cons, Bool.and_eq_true, h,
      zip_all_iff_map_eq h l1 l2 (Nat.succ.inj hl), List.map_cons, List.cons.injEq]

theorem zip_all_sameInfo (a b : List Nat) (hl : a.length = b.length) :
    ((a.zip b).all (fun (x, y) => sameInfo x y) = true ↔ a.map storeIsConst = b.map storeIsConst) :=
  zip_all_iff_map_eq (fun _ _ => sameInfo_iff) a b hl

/-- restricting by the false statements of `cs` is `restrictBy` with every other entry blanked; the blank `2` stands for
any non-terminal (`restrictBy` only asks `isConst` of it, it need not be a handle of the store) -/
theorem restrictFalse_eq : ∀ (cs : List Nat) (k : Nat) (s : Store) (t : Nat),
    restrictFalse s t k cs = restrictBy StoreRA s t k (cs.map fun c => if c == 0 then 0 else 2)
  | [], _, _, _ => rfl
  | c :: cs, k, s, t => by
    rw [restrictFalse, List.map_cons, restrictBy]
    cases c == 0
    · exact restrictFalse_eq cs (k+1) s t
    · exact restrictFalse_eq cs (k+1) _ _

theorem asg3_blank (cs : List Nat) :
    asg3 StoreRA (cs.map fun c => if c == 0 then 0 else 2) = falsePart (cs.map storeIsConst) := by
  rw [asg3, falsePart, List.map_map, List.map_map]
  exact List.map_congr_left fun c _ => by rcases c with _ | _ | c <;> simp [StoreRA, storeIsConst]

theorem mapFalse_eq (cand : List Nat) : ∀ (xs : List Nat) (s : Store),
    mapFalse s cand xs = mapS (fun s t => restrictFalse s t 0 cand) s xs
  | [], _ => rfl
  | x :: xs, s => by simp only [mapFalse, mapS, mapFalse_eq cand xs]

theorem computes_restrictFalse (cand : List Nat) :
    StoreRA.Computes (fun s t => restrictFalse s t 0 cand)
      (fun g σ => g (over σ 0 (falsePart (cand.map storeIsConst)))) := by
  intro s t hi hv
  have h := restrictBy_spec StoreRA (cand.map fun c => if c == 0 then 0 else 2) 0 s t hi hv
  rw [← restrictFalse_eq, asg3_blank] at h
  exact h

theorem mapFalse_spec (cand acs : List Nat) (s : Store) (hw : WF s) (hv : ∀ t ∈ acs, t < s.nodes.size) :
    WF (mapFalse s cand acs).1 ∧ Ext s (mapFalse s cand acs).1 ∧
    (∀ t ∈ (mapFalse s cand acs).2, t < (mapFalse s cand acs).1.nodes.size) ∧
    (mapFalse s cand acs).2.map (eval (mapFalse s cand acs).1) =
      redu (acs.map (eval s)) (cand.map storeIsConst) := by
  rw [mapFalse_eq]
  exact mapS_spec StoreRA (computes_restrictFalse cand) acs s hw hv

theorem mapFalse_length (cand acs : List Nat) (s : Store) : (mapFalse s cand acs).2.length = acs.length := by
  rw [mapFalse_eq, mapS_length]

/-- C01 for `n` conditions in the vocabulary of the store -/
theorem grounded_store (s : Store) (n : Nat) (ac : List Nat) (hw : WF s) (hn : ac.length = n)
    (hv : ∀ t ∈ ac, t < s.nodes.size) :
    let g := groundedLoop StoreRA (n + 1) s ac
    WF g.1 ∧ Ext s g.1 ∧ (∀ t ∈ g.2, t < g.1.nodes.size) ∧ g.2.length = n ∧
    IsLfp (ac.map (eval s)) (g.2.map storeIsConst) := by
  intro g
  have ⟨gw, gle, gv, _⟩ := groundedLoop_store (n + 1) s ac hw hv
  have lfp : IsLfp (ac.map (eval s)) (g.2.map storeIsConst) :=
    grounded_native (n + 1) s ac hw hv (by omega)
  have hl := fix_length lfp.1
  rw [List.length_map, List.length_map] at hl
  exact ⟨gw, gle, gv, by omega, lfp⟩

/-- the decided part of the grounded interpretation is the least fixpoint of the conditions' functions, hence unique -/
theorem grounded_dec_same {s s' : Store} {n : Nat} {ac ac' : List Nat} (w : WF s) (w' : WF s')
    (hl : ac.length = n) (hl' : ac'.length = n)
    (hv : ∀ t ∈ ac, t < s.nodes.size) (hv' : ∀ t ∈ ac', t < s'.nodes.size)
    (hsame : ac.map (eval s) = ac'.map (eval s')) :
    (groundedLoop StoreRA (n + 1) s ac).2.map storeIsConst =
    (groundedLoop StoreRA (n + 1) s' ac').2.map storeIsConst :=
  (grounded_store s n ac w hl hv).2.2.2.2.unique (hsame ▸ (grounded_store s' n ac' w' hl' hv').2.2.2.2)

/-- both ways round of the comparison occur in the code; `red`, `grd` are variables so that unification at a use
does not unfold the loop -/
theorem reductTest_spec (s : Store) (n : Nat) (ac cand : List Nat) (hw : WF s) (hn : ac.length = n)
    (hv : ∀ t ∈ ac, t < s.nodes.size) (hc : cand.length = n) {red : Store × List Nat}
    (hr : mapFalse s cand ac = red) {grd : Store × List Nat}
    (hg : groundedLoop StoreRA (n + 1) red.1 red.2 = grd) :
    WF grd.1 ∧ Ext s grd.1 ∧
    ((grd.2.zip cand).all (fun (a, b) => sameInfo a b) = true ↔
      SelfLfp (ac.map (eval s)) (cand.map storeIsConst)) ∧
    ((cand.zip grd.2).all (fun (a, b) => sameInfo a b) = true ↔
      SelfLfp (ac.map (eval s)) (cand.map storeIsConst)) := by
  have ⟨w1, l1, v1, d1⟩ := mapFalse_spec cand ac s hw hv
  have hl := (mapFalse_length cand ac s).trans hn
  rw [hr] at w1 l1 v1 d1 hl
  have ⟨gw, gle, _, gl, hL⟩ := grounded_store red.1 n red.2 w1 hl v1
  rw [hg] at gw gle gl hL
  rw [d1] at hL
  refine ⟨gw, Ext.trans l1 gle, ?_, ?_⟩
  · rw [zip_all_sameInfo _ _ (gl.trans hc.symm)]
    exact hL.eq_iff
  · rw [zip_all_sameInfo _ _ (hc.trans gl.symm)]
    exact eq_comm.trans hL.eq_iff
