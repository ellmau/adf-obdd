/-! Ownership isolation of the web service's problem store in a small model of its own, at the level
    of the database commands the handlers issue (every command carries the session's user name). -/
namespace IsolationM

structure Problem where
  name : Nat
  owner : Nat
  content : Nat
deriving DecidableEq, Repr

/-- the commands of `server/src/adf.rs` and `server/src/user.rs` on the `adf-problems`
collection; the first argument is always the user name taken from the identity cookie -/
inductive Cmd where
  | findOne (u name : Nat)                 -- find_one {name, username}
  | findAll (u : Nat)                      -- find {username}
  | insert (u name content : Nat)          -- insert_one (after the existence check)
  | update (u name content : Nat)          -- update_one {name, username} $set …
  | deleteOne (u name : Nat)               -- delete_one {name, username}
  | deleteAll (u : Nat)                    -- delete_many {username}
  | rename (u u' : Nat)                    -- update_many {username: u} $set {username: u'}

def Cmd.user : Cmd → Nat
  | .findOne u _ => u | .findAll u => u | .insert u _ _ => u | .update u _ _ => u
  | .deleteOne u _ => u | .deleteAll u => u | .rename u _ => u

/-- first match only, like `update_one` / `delete_one` -/
def updFirst (p : Problem → Bool) (f : Problem → Problem) : List Problem → List Problem
  | [] => []
  | x :: xs => if p x then f x :: xs else x :: updFirst p f xs

def delFirst (p : Problem → Bool) : List Problem → List Problem
  | [] => []
  | x :: xs => if p x then xs else x :: delFirst p xs

def exec (db : List Problem) : Cmd → List Problem × List Problem
  | .findOne u n => (db, (db.find? (fun p => p.name == n && p.owner == u)).toList)
  | .findAll u => (db, db.filter (fun p => p.owner == u))
  | .insert u n c => (db ++ [⟨n, u, c⟩], [])
  | .update u n c => (updFirst (fun p => p.name == n && p.owner == u) (fun p => { p with content := c }) db, [])
  | .deleteOne u n => (delFirst (fun p => p.name == n && p.owner == u) db, [])
  | .deleteAll u => (db.filter (fun p => !(p.owner == u)), [])
  | .rename u u' => (db.map (fun p => if p.owner == u then { p with owner := u' } else p), [])

def ownedBy (v : Nat) (db : List Problem) : List Problem := db.filter (fun p => p.owner == v)

theorem owner_of_match {n u : Nat} {p : Problem} (h : (p.name == n && p.owner == u) = true) : p.owner = u := by
  simp only [Bool.and_eq_true, beq_iff_eq] at h
  exact h.2

/-- a response only ever contains problems of the session's user -/
theorem resp_owned (db : List Problem) (c : Cmd) : ∀ p ∈ (exec db c).2, p.owner = c.user := by
  intro p hp
  cases c with
  | findOne u n =>
    simp only [exec, Option.mem_toList] at hp
    have h := List.find?_some hp
    exact owner_of_match h
  | findAll u =>
    simp only [exec, List.mem_filter, beq_iff_eq] at hp
    exact hp.2
  | _ => cases hp

theorem other_owner {v u : Nat} (hv : v ≠ u) {p : Problem} (hp : p.owner = u) : (p.owner == v) = false :=
  beq_false_of_ne fun h => hv (h.symm.trans hp)

theorem ownedBy_updFirst (v : Nat) (q : Problem → Bool) (f : Problem → Problem) (u : Nat)
    (hq : ∀ p, q p = true → p.owner = u) (hf : ∀ p, (f p).owner = p.owner) (hv : v ≠ u) :
    ∀ db, ownedBy v (updFirst q f db) = ownedBy v db := by
  intro db
  fun_induction updFirst q f db with
  | case1 => rfl
  | case2 x xs h =>
    simp only [ownedBy, List.filter_cons, hf x, other_owner hv (hq x h), Bool.false_eq_true, if_false]
  | case3 x xs h ih =>
    simp only [ownedBy, List.filter_cons] at ih ⊢
    rw [ih]

theorem ownedBy_delFirst (v : Nat) (q : Problem → Bool) (u : Nat)
    (hq : ∀ p, q p = true → p.owner = u) (hv : v ≠ u) :
    ∀ db, ownedBy v (delFirst q db) = ownedBy v db := by
  intro db
  fun_induction delFirst q db with
  | case1 => rfl
  | case2 x xs h =>
    simp only [ownedBy, List.filter_cons, other_owner hv (hq x h), Bool.false_eq_true, if_false]
  | case3 x xs h ih =>
    simp only [ownedBy, List.filter_cons] at ih ⊢
    rw [ih]

/-- C17 core: a command issued for user `u` leaves the problems of every other user `v`
exactly as they were (for a rename, `v` must also differ from the new name — account names are
unique, which the handler checks before renaming) -/
theorem others_untouched (db : List Problem) (c : Cmd) (v : Nat) (hv : v ≠ c.user)
    (hr : ∀ u u', c = Cmd.rename u u' → v ≠ u') :
    ownedBy v (exec db c).1 = ownedBy v db := by
  cases c with
  | findOne _ _ => rfl
  | findAll _ => rfl
  | insert u n cnt =>
    have : ((⟨n, u, cnt⟩ : Problem).owner == v) = false := other_owner hv rfl
    simp [exec, ownedBy, List.filter_append, this]
  | update u n cnt =>
    exact ownedBy_updFirst v (fun p => p.name == n && p.owner == u) (fun p => { p with content := cnt }) u
      (fun _ => owner_of_match) (fun _ => rfl) hv db
  | deleteOne u n =>
    exact ownedBy_delFirst v (fun p => p.name == n && p.owner == u) u (fun _ => owner_of_match) hv db
  | deleteAll u =>
    simp only [exec, ownedBy, List.filter_filter]
    apply List.filter_congr
    intro p _
    by_cases h : p.owner = u
    · rw [other_owner hv h]
      rfl
    · rw [beq_false_of_ne h]
      simp only [Bool.not_false, Bool.and_true]
  | rename u u' =>
    have h3 : (u' == v) = false := beq_false_of_ne (Ne.symm (hr u u' rfl))
    simp only [exec, ownedBy]
    induction db with
    | nil => rfl
    | cons x xs ih =>
      simp only [List.map_cons, List.filter_cons]
      by_cases hx : x.owner = u
      · have h1 : (x.owner == u) = true := beq_iff_eq.mpr hx
        simp only [h1, if_true, other_owner hv hx, h3]
        exact ih
      · simp only [beq_false_of_ne hx, Bool.false_eq_true, if_false]
        rw [ih]

/-- every interleaving of the other users' requests is such a sequence of commands -/
theorem others_untouched_run (v : Nat) : ∀ (cs : List Cmd) (db : List Problem),
    (∀ c ∈ cs, v ≠ c.user ∧ ∀ u u', c = Cmd.rename u u' → v ≠ u') →
    ownedBy v (cs.foldl (fun d c => (exec d c).1) db) = ownedBy v db := by
  intro cs
  induction cs with
  | nil => intro db _; rfl
  | cons c cs ih =>
    intro db h
    simp only [List.foldl_cons]
    rw [ih _ (fun c' hc' => h c' (List.mem_cons_of_mem _ hc'))]
    exact others_untouched db c v (h c (List.mem_cons_self ..)).1 (h c (List.mem_cons_self ..)).2
#print axioms others_untouched_run
#print axioms resp_owned

end IsolationM
