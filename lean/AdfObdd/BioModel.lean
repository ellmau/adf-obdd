import AdfObdd.AdfModel
import AdfObdd.Spec.TT
/-! # The second back-end: `adfbiodivine.rs` (`Adf` on top of the external crate `biodivine_lib_bdd`)

Only the back-end's OWN logic is modelled: `from_parser`, `stm_rewriting`, `var_list`,
`var_list_from_term`, `ac.restrict(..)` (= the LIBRARY's inherent `Bdd::restrict`; the file's own
`impl BddRestrict` = `select` then `exists` is dead code, kept as `restrictSE`), `grounded_internal`,
`complete`, `stable`, `stable_representation`, `stable_model_candidates`,
`stable_bdd_representation`, `cmp_information`, and the native
`Adf::stable_bdd_representation(&biodivine)` of `adf.rs`.

The external library is an INTERFACE (`Bio.Lib`: the operations the file calls) with LAWS
(`Bio.Lawful`: the library represents Boolean functions over the declared variables faithfully).
Two instances: the ideal one (`fnLib`, terms are Boolean functions, noncomputable) and a
computable one on truth tables (`ttLib`, `Spec/TT.lean`; its laws are proved in BioProofs.lean,
because the table lemmas live in a file that imports a Mathlib tactic). This file is Mathlib-free,
the model driver can import it (`Bio.runTT`).

Statement `i` is library variable `i` (`vars[i]` is created from `namelist[i]`), vectors of
`Term`s are lists of numbers (`0` = ⊥, `1` = ⊤, `2` = `Term::UND`), exactly as for the two
interpretation iterators (`twoValAll` / `threeValAll`, C20). -/
namespace Bio

/-! ## the library's expressions and the semantic operations the laws speak about -/

/-- `BooleanExpression` with the variable names already resolved to variable indices
(`Formula::to_boolean_expr` is a constructor-for-constructor translation) -/
inductive BExpr where
  | const (b : Bool)
  | var (i : Nat)
  | not (a : BExpr)
  | and (a b : BExpr)
  | or (a b : BExpr)
  | xor (a b : BExpr)
  | imp (a b : BExpr)
  | iff (a b : BExpr)
deriving Repr, DecidableEq

def BExpr.sem : BExpr → BoolFn
  | .const b => fun _ => b
  | .var i => fun σ => σ i
  | .not a => fun σ => !a.sem σ
  | .and a b => fun σ => a.sem σ && b.sem σ
  | .or a b => fun σ => a.sem σ || b.sem σ
  | .xor a b => fun σ => a.sem σ != b.sem σ
  | .imp a b => fun σ => !a.sem σ || b.sem σ
  | .iff a b => fun σ => a.sem σ == b.sem σ

/-- every variable of the expression is declared (otherwise `eval_expression` panics) -/
def BExpr.closed (nv : Nat) : BExpr → Bool
  | .const _ => true
  | .var i => decide (i < nv)
  | .not a => a.closed nv
  | .and a b => a.closed nv && b.closed nv
  | .or a b => a.closed nv && b.closed nv
  | .xor a b => a.closed nv && b.closed nv
  | .imp a b => a.closed nv && b.closed nv
  | .iff a b => a.closed nv && b.closed nv

/-- `Bdd::select`: conjunction with the given literals -/
def sel (f : BoolFn) (l : List (Nat × Bool)) : BoolFn := fun σ => f σ && l.all (fun p => σ p.1 == p.2)
/-- existential quantification of one variable -/
def ex1 (f : BoolFn) (v : Nat) : BoolFn := fun σ => f (upd σ v false) || f (upd σ v true)
/-- `Bdd::exists`: projection = existential quantification of every listed variable -/
def exL (f : BoolFn) (vs : List Nat) : BoolFn := vs.foldl ex1 f
/-- successive updates, the first pair of the list applied last (for pairwise different variables
the order does not matter): `σ[variables := values]` -/
def updL (σ : Asg) : List (Nat × Bool) → Asg
  | [] => σ
  | p :: l => upd (updL σ l) p.1 p.2
/-- the assignment given by a valuation of the declared variables -/
def asgOf (val : List Bool) : Asg := fun i => val.getD i false

/-! `select` and the cofactor by a list are, like `exL`, iterations of their one-literal forms; an
implementation that iterates a lawful one-literal step is therefore lawful on lists (`foldl_lawful`).
A conjunction folded over a list is the conjunction with `List.all` (`foldl_and_eq_all`). -/

/-- conjunction with a test of the element `a` -/
def andWith {α : Type} (q : α → Asg → Bool) (g : BoolFn) (a : α) : BoolFn := fun σ => g σ && q a σ
/-- conjunction with one literal -/
def sel1 : BoolFn → Nat × Bool → BoolFn := andWith fun p σ => σ p.1 == p.2
/-- cofactor by one literal -/
def cof1 (f : BoolFn) (p : Nat × Bool) : BoolFn := fun σ => f (upd σ p.1 p.2)

theorem foldl_and_eq_all {α : Type} (q : α → Asg → Bool) (l : List α) (f : BoolFn) :
    l.foldl (andWith q) f = fun σ => f σ && l.all (q · σ) := by
  induction l generalizing f with
  | nil => funext σ; simp
  | cons a l ih => rw [List.foldl_cons, ih]; funext σ; simp [andWith, Bool.and_assoc]

theorem sel_eq_foldl (f : BoolFn) (l : List (Nat × Bool)) : sel f l = l.foldl sel1 f :=
  (foldl_and_eq_all (fun (p : Nat × Bool) σ => σ p.1 == p.2) l f).symm

theorem cofactor_eq_foldl (f : BoolFn) (l : List (Nat × Bool)) :
    (fun σ => f (updL σ l)) = l.foldl cof1 f := by
  induction l generalizing f with
  | nil => rfl
  | cons p l ih => rw [List.foldl_cons, ← ih]; rfl

theorem foldl_lawful {T α : Type} {Valid : T → Prop} {den : T → BoolFn} {step : T → α → T}
    {sem : BoolFn → α → BoolFn} {ok : α → Prop}
    (h : ∀ t a, Valid t → ok a → Valid (step t a) ∧ den (step t a) = sem (den t) a) :
    ∀ (l : List α) (t : T), Valid t → (∀ a ∈ l, ok a) →
      Valid (l.foldl step t) ∧ den (l.foldl step t) = l.foldl sem (den t) := by
  intro l
  induction l with
  | nil => intro t vt _; exact ⟨vt, rfl⟩
  | cons a l ih =>
    intro t vt hl
    have ⟨v1, d1⟩ := h t a vt (hl a (List.mem_cons_self ..))
    rw [List.foldl_cons, List.foldl_cons, ← d1]
    exact ih _ v1 (fun b hb => hl b (List.mem_cons_of_mem _ hb))

/-! ## the interface to the external library -/

/-- the operations of `biodivine_lib_bdd` that `adfbiodivine.rs` calls -/
structure Lib (T : Type) where
  /-- `BddVariableSet::eval_expression` -/
  evalExpr : BExpr → T
  /-- `BddVariableSet::mk_false` -/
  mkFalse : T
  isTrue : T → Bool
  isFalse : T → Bool
  /-- `Bdd::select(&[(var, value)])` -/
  select : T → List (Nat × Bool) → T
  /-- `Bdd::exists(&[var])` -/
  exist : T → List Nat → T
  /-- the INHERENT `Bdd::restrict(&[(var, value)])` of biodivine_lib_bdd 0.5.23
  (`_impl_relation_ops.rs`, routine `restriction`): what `ac.restrict(&list)` in `adfbiodivine.rs`
  resolves to (method resolution prefers the inherent method to the file's own `impl BddRestrict`) -/
  restrict : T → List (Nat × Bool) → T
  and : T → T → T
  iff : T → T → T
  /-- `Bdd::sat_valuations().collect()`, a valuation = the values of the declared variables in order -/
  satVals : T → List (List Bool)

/-- THE ASSUMPTION about the external library, for `nv` declared variables: every diagram it hands
out denotes a Boolean function (`den`) and the operations compute what their names say;
`is_true` / `is_false` are exact; `sat_valuations` yields every satisfying total valuation of the
declared variables exactly once (in some order). `Valid` = "a diagram of this variable set". -/
structure Lawful {T : Type} (L : Lib T) (nv : Nat) where
  Valid : T → Prop
  den : T → BoolFn
  evalExpr_spec : ∀ e : BExpr, e.closed nv = true → Valid (L.evalExpr e) ∧ den (L.evalExpr e) = e.sem
  mkFalse_spec : Valid L.mkFalse ∧ den L.mkFalse = fun _ => false
  isTrue_spec : ∀ t, Valid t → (L.isTrue t = true ↔ ∀ σ, den t σ = true)
  isFalse_spec : ∀ t, Valid t → (L.isFalse t = true ↔ ∀ σ, den t σ = false)
  select_spec : ∀ t l, Valid t → (∀ p ∈ l, p.1 < nv) →
    Valid (L.select t l) ∧ den (L.select t l) = sel (den t) l
  exist_spec : ∀ t vs, Valid t → (∀ v ∈ vs, v < nv) →
    Valid (L.exist t vs) ∧ den (L.exist t vs) = exL (den t) vs
  /-- the library's documented contract of `restrict` ("a valuation v satisfies the result iff
  v[variables := values] satisfies the original"): the COFACTOR by the listed literals; assumed for
  lists of pairwise different declared variables only (all the back-end ever passes). `Valid` of the
  result is what keeps `is_true` / `is_false` exact on it (`isTrue_spec`: in the crate these are
  node-count tests, exact because the result is a reduced diagram). -/
  restrict_spec : ∀ t l, Valid t → (∀ p ∈ l, p.1 < nv) → (l.map (·.1)).Nodup →
    Valid (L.restrict t l) ∧ den (L.restrict t l) = fun σ => den t (updL σ l)
  and_spec : ∀ a b, Valid a → Valid b → Valid (L.and a b) ∧ den (L.and a b) = fun σ => den a σ && den b σ
  iff_spec : ∀ a b, Valid a → Valid b → Valid (L.iff a b) ∧ den (L.iff a b) = fun σ => den a σ == den b σ
  sat_spec : ∀ t, Valid t → (L.satVals t).Nodup ∧
    ∀ val : List Bool, val ∈ L.satVals t ↔ (val.length = nv ∧ den t (asgOf val) = true)

/-! ## the back-end's own code -/
section code
variable {T : Type} (L : Lib T)

/-- `AdfOperations::is_truth_value` for `Bdd` -/
def Lib.isTV (t : T) : Bool := L.isFalse t || L.isTrue t

/-- information value of a diagram (used in statements only) -/
def Lib.isConst (t : T) : Option Bool :=
  if L.isTrue t then some true else if L.isFalse t then some false else none

/-- `impl From<&Bdd> for Term` -/
def toTerm (t : T) : Nat := if L.isTrue t then 1 else if L.isFalse t then 0 else 2

/-- `Term::cmp_information(&self, other: &Bdd)` -/
def cmpInfo (x : Nat) (t : T) : Bool := (isTV x == L.isTV t) && ((x == 1) == L.isTrue t)

/-- `ac.restrict(&var_list)`. CAUTION (found by a coverage run of the harness, not by reading):
the back-end's own `impl BddRestrict for Bdd { fn restrict … select(..).exists(..) }` is DEAD code -
biodivine_lib_bdd 0.5.23 has an inherent `Bdd::restrict` (and `var_restrict`), which method
resolution prefers, so the call runs the library's own `restriction` routine = the operation
`Lib.restrict` of the interface. The assumption about the external library therefore INCLUDES the
law `Lawful.restrict_spec` ("restrict = cofactor"); it is NOT derived from the laws of `select` and
`exists`. -/
def restrict (t : T) (vl : List (Nat × Bool)) : T := L.restrict t vl

/-- the shadowed `impl BddRestrict for Bdd` of `adfbiodivine.rs` (`select`, then `exists` of the
selected variables): never executed; `Bio.restrictSE_den` (BioProofs.lean) derives from the laws of
`select` / `exists` that it denotes the same cofactor as the operation that runs -/
def restrictSE (t : T) (vl : List (Nat × Bool)) : T := L.exist (L.select t vl) (vl.map (·.1))

/-- `var_list(&[Bdd])` -/
def varList (cur : List T) : List (Nat × Bool) :=
  (cur.zipIdx.filter (fun p => L.isTV p.1)).map (fun p => (p.2, L.isTrue p.1))

/-- `var_list_from_term(&[Term])` -/
def varListTerm (c : List Nat) : List (Nat × Bool) :=
  (c.zipIdx.filter (fun p => isTV p.1)).map (fun p => (p.2, p.1 == 1))

/-- `reduction_list` of `stable` / `stable_bdd_representation`: the FALSE statements -/
def falseList (c : List Nat) : List (Nat × Bool) :=
  (c.zipIdx.filter (fun p => isTV p.1 && !(p.1 == 1))).map (fun p => (p.2, false))

/-- the `for` loop of one round of `grounded_internal`: every entry that is not a truth value is
restricted by the variable list computed BEFORE the loop; the flag is `truth_extention` -/
def roundGo (vl : List (Nat × Bool)) : List T → List T × Bool
  | [] => ([], false)
  | x :: xs =>
    let r := roundGo vl xs
    if L.isTV x then (x :: r.1, r.2)
    else let y := restrict L x vl; (y :: r.1, L.isTV y || r.2)

def bioRound (cur : List T) : List T × Bool := roundGo L (varList L cur) cur

/-- `loop { … if !truth_extention { break; } }` with a bound on the number of rounds -/
def groundedLoopB : Nat → List T → List T
  | 0, v => v
  | f+1, v => let r := bioRound L v; if r.2 then groundedLoopB f r.1 else r.1

/-- `grounded_internal`; `length + 1` rounds always reach the `break` (`groundedLoopB_fuel`) -/
def groundedInternal (v : List T) : List T := groundedLoopB L (v.length + 1) v

/-- `Adf::grounded` -/
def bioGrounded (ac : List T) : List Nat := (groundedInternal L ac).map (toTerm L)

/-- the filter of `Adf::complete` -/
def completeTest (ac : List T) (c : List Nat) : Bool :=
  ac.zipIdx.all (fun p => cmpInfo L (c.getD p.2 2) (restrict L p.1 (varListTerm c)))

/-- `Adf::complete` (collected) -/
def bioComplete (ac : List T) : List (List Nat) :=
  (threeValAll (bioGrounded L ac)).filter (completeTest L ac)

/-- the filter of `Adf::stable` and of `Adf::stable_bdd_representation` -/
def stableTest (ac : List T) (c : List Nat) : Bool :=
  let reduct := ac.map (fun a => restrict L a (falseList c))
  let grounded := groundedInternal L reduct
  (c.zip grounded).all (fun p => cmpInfo L p.1 p.2)

/-- `Adf::stable` (collected) -/
def bioStable (ac : List T) : List (List Nat) :=
  (twoValAll (bioGrounded L ac)).filter (stableTest L ac)

/-- `stable_representation`: `⋀ᵢ (acᵢ ↔ xᵢ)` folded over the conditions -/
def stableRepresentation (ac : List T) : T :=
  ac.zipIdx.foldl (fun acc p => L.and acc (L.iff p.1 (L.evalExpr (.var p.2)))) (L.evalExpr (.const true))

/-- the valuation as a vector of `Term::TOP` / `Term::BOT` -/
def toTerms (val : List Bool) : List Nat := val.map (fun b => if b then 1 else 0)

/-- `stable_model_candidates`: the prepared rewriting if there is one, else `stable_representation` -/
def stableModelCandidates (rewrite : Option T) (ac : List T) : List (List Nat) :=
  let sr := match rewrite with
    | some r => r
    | none => stableRepresentation L ac
  (L.satVals sr).map toTerms

/-- `Adf::stable_bdd_representation` of the biodivine back-end -/
def bioStableRep (rewrite : Option T) (ac : List T) : List (List Nat) :=
  (stableModelCandidates L rewrite ac).filter (stableTest L ac)

/-- `from_parser`: `n` = `dict_size`, `order` = `formula_order()` (the statement of the i-th
condition of the file), `fs` = the conditions in file order. A later condition for the same
statement overwrites an earlier one, a statement without condition keeps `mk_false`. -/
def acOf (n : Nat) (order : List Nat) (fs : List BExpr) : List T :=
  (order.zip fs).foldl (fun ac p => ac.set p.1 (L.evalExpr p.2)) (List.replicate n L.mkFalse)

/-- the expression built by `stm_rewriting`: one equivalence per condition OF THE FILE -/
def rewriteExpr (order : List Nat) (fs : List BExpr) : BExpr :=
  (order.zip fs).foldl (fun acc p => .and acc (.iff (.var p.1) p.2)) (.const true)

/-- `stm_rewriting` -/
def stmRewriting (order : List Nat) (fs : List BExpr) : T := L.evalExpr (rewriteExpr order fs)

end code

/-- `Adf::stable_bdd_representation(&mut self, biodivine)` of the NATIVE back-end (`adf.rs`):
the candidates come from the biodivine object, reduct / grounding / comparison run on the own store
(the body of the loop is the one of `stableAll`) -/
def nativeStableRep (s : Store) (n : Nat) (ac : List Nat) (cands : List (List Nat)) :
    Store × List (List Nat) :=
  cands.foldl (fun (acc : Store × List (List Nat)) cand =>
      let red := mapFalse acc.1 cand ac
      let grd := groundedLoop StoreRA (n + 1) red.1 red.2
      let ok := (cand.zip grd.2).all (fun (a, b) => sameInfo a b)
      (grd.1, if ok then acc.2 ++ [cand] else acc.2)) (s, [])

/-! ## instance 1: the ideal library (terms are Boolean functions) -/

/-- all valuations of `n` variables -/
def allVals : Nat → List (List Bool)
  | 0 => [[]]
  | n+1 => (allVals n).flatMap (fun v => [false :: v, true :: v])

open Classical in
noncomputable def fnLib (nv : Nat) : Lib BoolFn where
  evalExpr := BExpr.sem
  mkFalse := fun _ => false
  isTrue := fun f => decide (∀ σ, f σ = true)
  isFalse := fun f => decide (∀ σ, f σ = false)
  select := sel
  exist := exL
  restrict := fun f l σ => f (updL σ l)
  and := fun f g σ => f σ && g σ
  iff := fun f g σ => f σ == g σ
  satVals := fun f => (allVals nv).filter (fun val => f (asgOf val))

theorem mem_allVals : ∀ (n : Nat) (v : List Bool), v ∈ allVals n ↔ v.length = n := by
  intro n
  induction n with
  | zero => intro v; simp [allVals]
  | succ n ih =>
    intro v
    simp only [allVals, List.mem_flatMap, List.mem_cons, List.not_mem_nil, or_false]
    constructor
    · rintro ⟨u, hu, h | h⟩ <;> subst h <;> simp [(ih u).mp hu]
    · intro h
      cases v with
      | nil => simp at h
      | cons b v =>
        refine ⟨v, (ih v).mpr (by simpa using h), ?_⟩
        cases b <;> simp

theorem nodup_allVals : ∀ n, (allVals n).Nodup := by
  intro n
  induction n with
  | zero => simp [allVals]
  | succ n ih =>
    unfold allVals List.Nodup
    rw [List.pairwise_flatMap]
    refine ⟨fun v _ => by simp, ?_⟩
    apply List.Pairwise.imp _ ih
    intro a b hab x hx y hy hxy
    apply hab
    simp only [List.mem_cons, List.not_mem_nil, or_false] at hx hy
    subst hxy
    rcases hx with h | h <;> rcases hy with h' | h' <;>
      first
      | exact (List.cons.inj (h.symm.trans h')).2
      | (have := (List.cons.inj (h.symm.trans h')).1; cases this)

open Classical in
/-- the ideal library is lawful (for every number of declared variables) -/
noncomputable def fnLawful (nv : Nat) : Lawful (fnLib nv) nv where
  Valid := fun _ => True
  den := fun f => f
  evalExpr_spec := fun _ _ => ⟨trivial, rfl⟩
  mkFalse_spec := ⟨trivial, rfl⟩
  isTrue_spec := fun _ _ => decide_eq_true_iff
  isFalse_spec := fun _ _ => decide_eq_true_iff
  select_spec := fun _ _ _ _ => ⟨trivial, rfl⟩
  exist_spec := fun _ _ _ _ => ⟨trivial, rfl⟩
  restrict_spec := fun _ _ _ _ _ => ⟨trivial, rfl⟩
  and_spec := fun _ _ _ _ => ⟨trivial, rfl⟩
  iff_spec := fun _ _ _ _ => ⟨trivial, rfl⟩
  sat_spec := fun f _ => by
    refine ⟨List.Nodup.sublist List.filter_sublist (nodup_allVals nv), fun val => ?_⟩
    show val ∈ (allVals nv).filter (fun val => f (asgOf val)) ↔ _
    rw [List.mem_filter, mem_allVals]

/-! ## instance 2: truth tables over `nv` variables (computable; lawful: `ttLawful`, BioProofs.lean) -/

def ttEval (nv : Nat) : BExpr → Nat
  | .const b => TT.const nv b
  | .var i => TT.var nv i
  | .not a => TT.not nv (ttEval nv a)
  | .and a b => TT.and (ttEval nv a) (ttEval nv b)
  | .or a b => TT.or (ttEval nv a) (ttEval nv b)
  | .xor a b => TT.xor (ttEval nv a) (ttEval nv b)
  | .imp a b => TT.imp nv (ttEval nv a) (ttEval nv b)
  | .iff a b => TT.iff nv (ttEval nv a) (ttEval nv b)

/-- the values of the variables `0 … nv-1` under the valuation coded by `a` -/
def bitsList (nv a : Nat) : List Bool := (List.range nv).map (fun x => a.testBit x)

def ttLib (nv : Nat) : Lib Nat where
  evalExpr := ttEval nv
  mkFalse := 0
  isTrue := fun t => t == TT.mask nv
  isFalse := fun t => t == 0
  select := fun t l => l.foldl (fun acc p =>
    TT.and acc (if p.2 then TT.var nv p.1 else TT.not nv (TT.var nv p.1))) t
  exist := fun t vs => vs.foldl (fun acc v =>
    TT.or (TT.restrict nv acc v false) (TT.restrict nv acc v true)) t
  restrict := fun t l => l.foldl (fun acc p => TT.restrict nv acc p.1 p.2) t
  and := TT.and
  iff := TT.iff nv
  satVals := fun t => ((List.range (2 ^ nv)).filter (fun a => t.testBit a)).map (bitsList nv)

/-! ## what the model driver runs -/

def toI3 (v : List Nat) : List (Option Bool) := v.map storeIsConst

/-- the biodivine back-end's algorithms executed on the truth-table library: `n` statements,
`tts` their conditions as tables over `n` variables. `what` ∈ `grounded` (one vector), `complete`,
`stable`, `stablerew` (`stable_bdd_representation` without prepared rewriting; the candidates come
in ascending valuation order, the real library has its own order — compare as a set). -/
def runTT (what : String) (n : Nat) (tts : List Nat) : Option (List (List (Option Bool))) :=
  if tts.length != n then none
  else if what == "grounded" then some [toI3 (bioGrounded (ttLib n) tts)]
  else if what == "complete" then some ((bioComplete (ttLib n) tts).map toI3)
  else if what == "stable" then some ((bioStable (ttLib n) tts).map toI3)
  else if what == "stablerew" then some ((bioStableRep (ttLib n) none tts).map toI3)
  else none

end Bio
