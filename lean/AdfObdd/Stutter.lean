
namespace StutterM
/-! a stuttering simulation carries halting and the final abstract state from the
    abstract machine to the concrete one (the concrete nogood loop may spend one extra iteration
    in which only residual handles change) -/

inductive SRes (α : Type) where
  | cont (s : α) | done (s : α)

def srun {α : Type} (step : α → SRes α) : Nat → α → Option α
  | 0, _ => none
  | f+1, s => match step s with
    | SRes.done s' => some s'
    | SRes.cont s' => srun step f s'

structure StutterSim {C A : Type} (cstep : C → SRes C) (astep : A → SRes A) (abs : C → A)
    (settled : C → Prop) : Prop where
  /-- a continuing concrete iteration is an abstract iteration, or it reaches a state from which
  the abstract machine does exactly what it would have done before (and settles the concrete
  state) — the latter only from an unsettled state -/
  cont : ∀ c c', cstep c = SRes.cont c' →
    astep (abs c) = SRes.cont (abs c') ∨ (astep (abs c') = astep (abs c) ∧ ¬ settled c ∧ settled c')
  done : ∀ c c', cstep c = SRes.done c' → astep (abs c) = SRes.done (abs c')

theorem stutter_halts {C A : Type} {cstep : C → SRes C} {astep : A → SRes A} {abs : C → A}
    {settled : C → Prop} (h : StutterSim cstep astep abs settled) :
    ∀ (fuel : Nat) (c : C) (a' : A), srun astep fuel (abs c) = some a' →
      ∃ fuel' c', fuel' ≤ 2 * fuel ∧ srun cstep fuel' c = some c' ∧ abs c' = a' := by
  intro fuel
  induction fuel with
  | zero => intro c a' hr; simp [srun] at hr
  | succ f ih =>
    intro c a' hr
    -- one concrete iteration from a state whose next iteration is *not* a stutter
    have key : ∀ c0 : C, srun astep (f + 1) (abs c0) = some a' →
        (∀ c1, cstep c0 = SRes.cont c1 → astep (abs c0) = SRes.cont (abs c1)) →
        ∃ fuel' c', fuel' ≤ 2 * f + 1 ∧ srun cstep fuel' c0 = some c' ∧ abs c' = a' := by
      intro c0 hr0 hns
      unfold srun at hr0
      cases hc : cstep c0 with
      | done c1 =>
        have := h.done c0 c1 hc
        rw [this] at hr0; simp only [Option.some.injEq] at hr0
        exact ⟨1, c1, by omega, by simp [srun, hc], hr0⟩
      | cont c1 =>
        have := hns c1 hc
        rw [this] at hr0; simp only at hr0
        obtain ⟨f', c', hf, hrun, habs⟩ := ih c1 a' hr0
        exact ⟨f' + 1, c', by omega, by simp [srun, hc, hrun], habs⟩
    cases hc : cstep c with
    | done c1 =>
      obtain ⟨f', c', hf, hrun, habs⟩ := key c hr (fun c1' h1 => by rw [hc] at h1; cases h1)
      exact ⟨f', c', by omega, hrun, habs⟩
    | cont c1 =>
      rcases h.cont c c1 hc with hstep | ⟨hsame, _, hset⟩
      · obtain ⟨f', c', hf, hrun, habs⟩ := key c hr (fun c1' h1 => by
          rw [hc] at h1; simp only [SRes.cont.injEq] at h1; subst h1; exact hstep)
        exact ⟨f', c', by omega, hrun, habs⟩
      · -- a stutter: the next iteration starts settled, so it cannot stutter again
        have hr1 : srun astep (f + 1) (abs c1) = some a' := by
          unfold srun at hr ⊢; rw [hsame]; exact hr
        obtain ⟨f', c', hf, hrun, habs⟩ := key c1 hr1 (fun c2 h2 => by
          rcases h.cont c1 c2 h2 with h3 | ⟨_, hns, _⟩
          · exact h3
          · exact absurd hset hns)
        exact ⟨f' + 1, c', by omega, by simp [srun, hc, hrun], habs⟩
#print axioms stutter_halts

end StutterM
