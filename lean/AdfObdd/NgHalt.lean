import AdfObdd.NgSearch
/-! vocabulary of the termination argument for the abstract machine of `NgSearch.lean`: `PSub`, `Closed` (the generic
    machine uses them too), the liveness laws `Live`, the invariant `LInv`, and `ReachB` (the loop comes back asking
    for backtracking, its stack restored). The big-step lemma `bigstep` is proved in `NgBridge.lean`,
    halting from the initial state in `NgPrototype.lean` (`NgProto.terminates`). -/

def PSub (A B : PA) : Prop := ∀ i b, pget A i = some b → pget B i = some b
def Closed (g A : PA) : Prop := ∃ i c, pget g i = some c ∧ pget A i = some (!c)

theorem PSub.refl (A : PA) : PSub A A := fun _ _ h => h
theorem PSub.trans {A B C : PA} (h1 : PSub A B) (h2 : PSub B C) : PSub A C := fun i b h => h2 i b (h1 i b h)
theorem Closed.mono {g A B : PA} (h : Closed g A) (s : PSub A B) : Closed g B := by
  obtain ⟨i, c, h1, h2⟩ := h; exact ⟨i, c, h1, s i _ h2⟩
theorem psub_setAt {A : PA} {v : Nat} (b : Bool) (h : pget A v = none) : PSub A (setAt A v b) := by
  intro i c hi
  rw [pget_setAt]
  have : i ≠ v := by intro e; rw [e, h] at hi; cases hi
  rw [if_neg this]; exact hi
theorem Closed.of_flip {H g R : PA} {v : Nat} {b : Bool} (hs : PSub (setAt H v b) g) (hR : pget R v = some (!b)) :
    Closed g R :=
  ⟨v, b, hs v b (by rw [pget_setAt, if_pos rfl]), hR⟩

/-- liveness laws of the parameters; `mu` measures how much is decided, `n` bounds it -/
structure Live (P : Params) (n : Nat) (mu : PA → Nat) : Prop where
  heu_valid : ∀ t A v b, P.heu t A = some (v, b) → pget A v = none ∧ mu A < mu (setAt A v b)
  heu_total : ∀ t A, P.twoVal A = false → (P.heu t A).isSome = true ∧ mu A < n
  gam_sub : ∀ A, PSub A (P.gam A)
  gam_grow : ∀ A, P.gam A ≠ A → mu A < mu (P.gam A)
  upd_sub : ∀ st A R, P.closure st A = Closure.update R → PSub A R ∧ mu A < mu R
  mu_le : ∀ A, mu A ≤ n
  /-- back at `H` after the branch `v = b`, with every stored nogood complemented in `H` or extending the learned
  `H ∪ {v=b}`, the closure answers the flipped value -/
  cl_flip : ∀ st H v b, pget H v = none → setAt H v b ∈ st →
      (∀ g ∈ st, Closed g H ∨ PSub (setAt H v b) g) →
      ∃ R, P.closure st H = Closure.update R ∧ pget R v = some (!b)

/-- apply `iter` k times, all of them continuing -/
def iterN (P : Params) : Nat → St → Option St
  | 0, s => some s
  | k+1, s => match iter P s with
    | Res.cont s' => iterN P k s'
    | Res.done _ => none

def Plain (base top : PA) (extra : List Entry) : Prop :=
  ∀ e ∈ extra, e.choice = none ∧ PSub base e.ng ∧ PSub e.ng top

structure LInv (P : Params) (s : St) : Prop where
  nb : s.backtrack = false
  /-- (W) of DESIGN §7: every stored nogood has a literal complemented in the current interpretation -/
  w : ∀ g ∈ s.store, Closed g s.cur
  ch : s.choice = true → P.twoVal s.cur = false

/-- from `s` the loop reaches, without halting, a state that asks for backtracking and whose
stack is the given one plus plain entries above `base` -/
def ReachB (P : Params) (s : St) (base : PA) (stk : List Entry) (st0 : List PA) : Prop :=
  ∃ k s', iterN P k s = some s' ∧ s'.backtrack = true ∧ s'.choice = false ∧
    (∃ extra, s'.stack = extra ++ stk ∧ Plain base s'.cur extra) ∧
    (∀ g ∈ s'.store, g ∈ st0 ∨ PSub base g) ∧ PSub base s'.cur

