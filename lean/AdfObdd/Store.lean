import Std.Data.HashMap
import AdfObdd.Base
/-! The diagram store (`Bdd` of `obdd.rs`): node table, unique table and the two memo tables (restrict,
    if-then-else), its invariant `WF`, and the invariant `TableWF` of the bare node table. -/

structure Node where
  var : Nat
  lo : Nat
  hi : Nat
deriving DecidableEq, Hashable, Repr

def VBOT : Nat := 18446744073709551614
def VTOP : Nat := 18446744073709551615

structure Store where
  nodes : Array Node
  uniq : Std.HashMap Node Nat
  resC : Std.HashMap (Nat × Nat × Bool) Nat
  iteC : Std.HashMap (Nat × Nat × Nat) Nat

def Store.init : Store :=
  { nodes := #[⟨VBOT, 0, 0⟩, ⟨VTOP, 1, 1⟩], uniq := {}, resC := {}, iteC := {} }

def evalF (ns : Array Node) : Nat → Nat → Asg → Bool
  | 0, _, _ => false
  | fuel+1, t, σ =>
    if t = 0 then false else if t = 1 then true else
    match ns[t]? with
    | none => false
    | some n => if σ n.var then evalF ns fuel n.hi σ else evalF ns fuel n.lo σ

def eval (s : Store) (t : Nat) (σ : Asg) : Bool := evalF s.nodes (t+1) t σ
def topVar (s : Store) (t : Nat) : Nat := match s.nodes[t]? with | some n => n.var | none => VTOP

def mkNode (s : Store) (v lo hi : Nat) : Store × Nat :=
  if lo = hi then (s, lo) else
  match s.uniq[(⟨v, lo, hi⟩ : Node)]? with
  | some t => (s, t)
  | none => ({ s with nodes := s.nodes.push ⟨v, lo, hi⟩, uniq := s.uniq.insert ⟨v, lo, hi⟩ s.nodes.size },
             s.nodes.size)

/-- `mkNode` written so that the compiled code updates a uniquely referenced store in place (the
store is taken apart first, nothing else refers to its tables while they are updated); proved equal
and substituted by the compiler (`@[csimp]`) — theorems keep speaking about `mkNode` -/
def mkNodeL (s : Store) (v lo hi : Nat) : Store × Nat :=
  if lo = hi then (s, lo) else
  match s.uniq[(⟨v, lo, hi⟩ : Node)]? with
  | some t => (s, t)
  | none =>
    match s with
    | ⟨nodes, uniq, resC, iteC⟩ =>
      let k := nodes.size
      (⟨nodes.push ⟨v, lo, hi⟩, uniq.insert ⟨v, lo, hi⟩ k, resC, iteC⟩, k)

@[csimp] theorem mkNode_eq_mkNodeL : @mkNode = @mkNodeL := by
  funext s v lo hi
  unfold mkNode mkNodeL
  split
  · rfl
  · split <;> rfl

def minVar (s : Store) (i t e : Nat) : Nat := min (topVar s i) (min (topVar s t) (topVar s e))

/-- the structural invariant on a bare node table (what a dumped table can be checked for) -/
structure TableWF (ns : Array Node) : Prop where
  len : 2 ≤ ns.size
  bot : ns[0]? = some ⟨VBOT, 0, 0⟩
  top : ns[1]? = some ⟨VTOP, 1, 1⟩
  inner : ∀ i n, 2 ≤ i → ns[i]? = some n →
      n.var < VBOT ∧ n.lo < i ∧ n.hi < i ∧ n.lo ≠ n.hi ∧
      (∀ m, ns[n.lo]? = some m → n.var < m.var) ∧ (∀ m, ns[n.hi]? = some m → n.var < m.var)
  nodup : ∀ i j n, 2 ≤ i → 2 ≤ j → ns[i]? = some n → ns[j]? = some n → i = j

structure WF (s : Store) : Prop where
  len : 2 ≤ s.nodes.size
  bot : s.nodes[0]? = some ⟨VBOT, 0, 0⟩
  top : s.nodes[1]? = some ⟨VTOP, 1, 1⟩
  inner : ∀ i n, 2 ≤ i → s.nodes[i]? = some n →
      n.var < VBOT ∧ n.lo < i ∧ n.hi < i ∧ n.lo ≠ n.hi ∧
      (∀ m, s.nodes[n.lo]? = some m → n.var < m.var) ∧ (∀ m, s.nodes[n.hi]? = some m → n.var < m.var)
  uniqOK : ∀ n t, s.uniq[n]? = some t ↔ (2 ≤ t ∧ s.nodes[t]? = some n)
  -- the `topVar` bound (here and in `iteOK`) is what lets a memo hit be used as the child of a node above it
  resOK : ∀ t v b r, s.resC[(t, v, b)]? = some r →
      t < s.nodes.size ∧ r < s.nodes.size ∧ topVar s t ≤ topVar s r ∧ ∀ σ, eval s r σ = eval s t (upd σ v b)
  iteOK : ∀ i t e r, s.iteC[(i, t, e)]? = some r →
      i < s.nodes.size ∧ t < s.nodes.size ∧ e < s.nodes.size ∧ r < s.nodes.size ∧
      minVar s i t e ≤ topVar s r ∧
      ∀ σ, eval s r σ = if eval s i σ then eval s t σ else eval s e σ

/-- no duplicates follows from the unique table being exact -/
theorem WF.nodup {s : Store} (w : WF s) : ∀ i j n, 2 ≤ i → 2 ≤ j →
    s.nodes[i]? = some n → s.nodes[j]? = some n → i = j := by
  intro i j n hi hj h1 h2
  have a := (w.uniqOK n i).mpr ⟨hi, h1⟩
  have b := (w.uniqOK n j).mpr ⟨hj, h2⟩
  rw [a] at b; cases b; rfl

theorem WF.table {s : Store} (w : WF s) : TableWF s.nodes :=
  ⟨w.len, w.bot, w.top, w.inner, w.nodup⟩

theorem zero_lt (s : Store) (w : WF s) : 0 < s.nodes.size := Nat.lt_of_lt_of_le (by decide) w.len
theorem one_lt (s : Store) (w : WF s) : 1 < s.nodes.size := w.len

def Ext (s s' : Store) : Prop :=
  s.nodes.size ≤ s'.nodes.size ∧ ∀ (i : Nat) (n : Node), s.nodes[i]? = some n → s'.nodes[i]? = some n

theorem Ext.refl (s : Store) : Ext s s := ⟨Nat.le_refl _, fun _ _ h => h⟩
theorem Ext.trans {a b c : Store} (h1 : Ext a b) (h2 : Ext b c) : Ext a c :=
  ⟨Nat.le_trans h1.1 h2.1, fun i n h => h2.2 i n (h1.2 i n h)⟩
theorem Ext_of_nodes {s s' : Store} (h : s'.nodes = s.nodes) : Ext s s' :=
  ⟨by rw [h]; exact Nat.le_refl _, fun i n hn => by rw [h]; exact hn⟩
theorem Ext.lt {s s' : Store} (he : Ext s s') {t : Nat} (h : t < s.nodes.size) : t < s'.nodes.size :=
  Nat.lt_of_lt_of_le h he.1

def Node.child (n : Node) (b : Bool) : Nat := if b then n.hi else n.lo

theorem upd_same (σ : Asg) (v : Nat) (b : Bool) : upd σ v b v = b := if_pos rfl
theorem upd_other (σ : Asg) {v x : Nat} (b : Bool) (h : x ≠ v) : upd σ v b x = σ x := if_neg h

theorem upd_comm' (σ : Asg) {k j : Nat} (h : k ≠ j) (b c : Bool) :
    upd (upd σ k b) j c = upd (upd σ j c) k b := by
  funext x; simp only [upd]; split <;> split <;> first | rfl | omega

theorem MemoT.upd_upd (σ : Asg) (x : Nat) (a b : Bool) : upd (upd σ x a) x b = upd σ x b := by
  funext z; simp only [upd]; split <;> rfl

theorem upd_self {σ : Asg} {v : Nat} {b : Bool} (h : σ v = b) : upd σ v b = σ := by
  funext x; simp only [upd]; split
  · rename_i hx; subst hx; exact h.symm
  · rfl

theorem get_of_lt {ns : Array Node} {i : Nat} (h : i < ns.size) : ∃ m, ns[i]? = some m :=
  ⟨ns[i], Array.getElem?_eq_getElem h⟩
theorem lt_of_get {ns : Array Node} {i : Nat} {n : Node} (h : ns[i]? = some n) : i < ns.size :=
  (Array.getElem?_eq_some_iff.mp h).1

theorem getD_of_get {α : Type} {l : List α} {i : Nat} {a d : α} (h : l[i]? = some a) : l.getD i d = a := by
  rw [List.getD_eq_getElem?_getD, h]; rfl

theorem mapM_map_some {α β : Type} (f : α → β) (g : β → Option α) (h : ∀ x, g (f x) = some x) (l : List α) :
    (l.map f).mapM g = some l := by
  rw [List.mapM_map, show g ∘ f = fun x => pure (id x) from funext h, List.mapM_pure, List.map_id]
  rfl

theorem topVar_of_get {s : Store} {t : Nat} {n : Node} (h : s.nodes[t]? = some n) : topVar s t = n.var := by
  unfold topVar; rw [h]

theorem eval_congr {s s' : Store} (h : s'.nodes = s.nodes) (t : Nat) (σ : Asg) : eval s' t σ = eval s t σ := by
  unfold eval; rw [h]
theorem topVar_congr {s s' : Store} (h : s'.nodes = s.nodes) (t : Nat) : topVar s' t = topVar s t := by
  unfold topVar; rw [h]

theorem getElem?_push_lt {ns : Array Node} (x : Node) {i : Nat} (h : i < ns.size) :
    (ns.push x)[i]? = ns[i]? := by
  rw [Array.getElem?_push, if_neg (Nat.ne_of_lt h)]

theorem getElem?_push_some {ns : Array Node} {x n : Node} {i : Nat} (h : (ns.push x)[i]? = some n) :
    (i < ns.size ∧ ns[i]? = some n) ∨ (i = ns.size ∧ n = x) := by
  rw [Array.getElem?_push] at h
  split at h
  · rename_i e; exact Or.inr ⟨e, (Option.some.inj h).symm⟩
  · exact Or.inl ⟨lt_of_get h, h⟩

theorem getElem?_insert_some {α β : Type} [BEq α] [Hashable α] [LawfulBEq α] [LawfulHashable α]
    (m : Std.HashMap α β) (k a : α) (v b : β) :
    (m.insert k v)[a]? = some b ↔ (k = a ∧ v = b) ∨ (k ≠ a ∧ m[a]? = some b) := by
  rw [Std.HashMap.getElem?_insert]
  by_cases h : k = a
  · simp [h]
  · simp [h]

theorem evalF_lt2 (ns : Array Node) (f : Nat) {t : Nat} (h : t < 2) (σ : Asg) :
    evalF ns (f+1) t σ = decide (t = 1) := by
  rcases (by omega : t = 0 ∨ t = 1) with rfl | rfl <;> rfl

theorem WF_init : WF Store.init where
  len := Nat.le_refl 2
  bot := rfl
  top := rfl
  inner := fun i n hi hn => absurd (lt_of_get hn) (Nat.not_lt.mpr hi)
  uniqOK := fun n t => ⟨fun h => by simp [Store.init] at h,
    fun ⟨h2, hn⟩ => absurd (lt_of_get hn) (Nat.not_lt.mpr h2)⟩
  resOK := fun t v b r h => by simp [Store.init] at h
  iteOK := fun i t e r h => by simp [Store.init] at h

theorem WF.dropMemo {s : Store} (w : WF s) : WF { s with iteC := {}, resC := {} } :=
  ⟨w.len, w.bot, w.top, w.inner, w.uniqOK, fun t v b r h => by simp at h, fun i t e r h => by simp at h⟩
