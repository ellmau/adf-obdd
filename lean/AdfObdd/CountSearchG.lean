import AdfObdd.CountSearchS
/-! The counting-guided branching search over a concrete state observed through `abs`: complete, sound and
    duplicate-free for every selection strategy. -/

namespace G

/-- the machine of `CountSearch.lean` over an arbitrary concrete state type `C` (interpretation vector with
residual handles, `will_be`, the store …) observed through `abs` -/
structure CParams (C : Type) where
  n : Nat
  abs : C → PA
  pick : C → Option Nat
  goal : C → Nat → Bool
  cubes : C → Nat → Bool → List Cube
  cubeStep : C → Nat → Bool → Cube → Option C
  flipStep : C → Nat → Bool → Option C
  leaf : C → PA

def search {C : Type} (P : CParams C) : Nat → C → List PA
  | 0, _ => []
  | fuel+1, A =>
    match P.pick A with
    | none => [P.leaf A]
    | some idx =>
      let g := P.goal A idx
      (P.cubes A idx g).flatMap (fun c =>
          match P.cubeStep A idx g c with
          | some A' => search P fuel A'
          | none => [])
        ++ (match P.flipStep A idx g with
            | some A' => search P fuel A'
            | none => [])

structure CSound {C : Type} (T : Asg → Prop) (P : CParams C) : Prop where
  bound : ∀ A, P.pick A ≠ none → decided (P.abs A) < P.n
  leaf_law : ∀ A, P.pick A = none → ∀ σ, Matches (P.leaf A) σ ↔ Matches (P.abs A) σ
  cube_cover : ∀ A idx, P.pick A = some idx → ∀ σ, T σ → Matches (P.abs A) σ → σ idx = P.goal A idx →
      ∃ c ∈ P.cubes A idx (P.goal A idx), InCube c σ
  cube_disj : ∀ A idx, P.pick A = some idx →
      (P.cubes A idx (P.goal A idx)).Pairwise (fun c c' => ∀ σ, ¬ (InCube c σ ∧ InCube c' σ))
  cube_some : ∀ A idx c A', P.pick A = some idx → P.cubeStep A idx (P.goal A idx) c = some A' →
      decided (P.abs A) < decided (P.abs A') ∧
      (∀ σ, Matches (P.abs A') σ → Matches (P.abs A) σ ∧ InCube c σ ∧ σ idx = P.goal A idx) ∧
      (∀ σ, T σ → Matches (P.abs A) σ → InCube c σ → σ idx = P.goal A idx → Matches (P.abs A') σ)
  cube_none : ∀ A idx c, P.pick A = some idx → P.cubeStep A idx (P.goal A idx) c = none →
      ∀ σ, T σ → Matches (P.abs A) σ → InCube c σ → σ idx = P.goal A idx → False
  flip_some : ∀ A idx A', P.pick A = some idx → P.flipStep A idx (P.goal A idx) = some A' →
      decided (P.abs A) < decided (P.abs A') ∧
      (∀ σ, Matches (P.abs A') σ → Matches (P.abs A) σ ∧ σ idx = !P.goal A idx) ∧
      (∀ σ, T σ → Matches (P.abs A) σ → σ idx = (!P.goal A idx) → Matches (P.abs A') σ)
  flip_none : ∀ A idx, P.pick A = some idx → P.flipStep A idx (P.goal A idx) = none →
      ∀ σ, T σ → Matches (P.abs A) σ → σ idx = (!P.goal A idx) → False

variable {C : Type} {T : Asg → Prop} {P : CParams C}

/-! Without a store to thread the loop over the cubes is a `flatMap`: the machine is `GS.search` with the trivial
store `Unit`. -/

def toGS (P : CParams C) : GS.CParams Unit C where
  n := P.n
  abs := P.abs
  Inv _ _ := True
  Le _ _ := True
  pick _ := P.pick
  goal _ := P.goal
  cubes _ := P.cubes
  cubeStep _ c idx g cu := ((), P.cubeStep c idx g cu)
  flipStep _ c idx g := ((), P.flipStep c idx g)
  leaf _ := P.leaf

theorem cubeLoop_toGS (P : CParams C) (rec : Unit → C → Unit × List PA) (c : C) (idx : Nat) (g : Bool) :
    ∀ (l : List Cube) (s : Unit), (GS.cubeLoop (toGS P) rec c idx g l s).2 =
      l.flatMap (fun cu => match P.cubeStep c idx g cu with | some c' => (rec () c').2 | none => [])
  | [], _ => rfl
  | cu :: cus, s => by
    simp only [GS.cubeLoop, List.flatMap_cons, cubeLoop_toGS P rec c idx g cus]
    cases h : P.cubeStep c idx g cu <;> simp [toGS, h]

theorem search_toGS (P : CParams C) : ∀ (fuel : Nat) (s : Unit) (c : C), (GS.search (toGS P) fuel s c).2 = search P fuel c
  | 0, _, _ => rfl
  | fuel + 1, s, c => by
    simp only [GS.search, search, cubeLoop_toGS, search_toGS P fuel]
    cases hp : P.pick c with
    | none => simp [toGS, hp]
    | some idx => cases hf : P.flipStep c idx (P.goal c idx) <;> simp [toGS, hp, hf]

theorem CSound.toGS (hP : CSound T P) : GS.CSound T (toGS P) where
  le_refl _ := trivial
  le_trans _ _ _ _ _ := trivial
  inv_mono _ _ _ _ _ := trivial
  bound _ c _ := hP.bound c
  leaf_law _ c _ := hP.leaf_law c
  cube_cover _ c idx _ := hP.cube_cover c idx
  cube_disj _ c idx _ := hP.cube_disj c idx
  cube_step _ _ c idx cu _ hp _ :=
    ⟨trivial, fun c' hc => ⟨trivial, hP.cube_some c idx cu c' hp hc⟩, hP.cube_none c idx cu hp⟩
  flip_step _ _ c idx _ hp _ :=
    ⟨trivial, fun c' hc => ⟨trivial, hP.flip_some c idx c' hp hc⟩, hP.flip_none c idx hp⟩

/-- C04 core: complete (every target model extending `A` is matched by an output), sound
(every output extends `A`), duplicate-free (outputs pairwise disjoint) -/
theorem search_spec (hP : CSound T P) : ∀ (fuel : Nat) (A : C), P.n - decided (P.abs A) < fuel →
    (∀ σ, T σ → Matches (P.abs A) σ → ∃ o ∈ search P fuel A, Matches o σ) ∧
    (∀ o ∈ search P fuel A, ∀ σ, Matches o σ → Matches (P.abs A) σ) ∧
    (search P fuel A).Pairwise Disj := by
  intro fuel A hf
  have sp := GS.search_spec hP.toGS fuel () A trivial hf
  rw [← search_toGS P fuel () A]
  exact ⟨sp.cover, sp.sound, sp.disj⟩
end G
#print axioms G.search_spec

/-! The machine on partial assignments themselves (`CountSearch.lean`) is the case `abs = id`. -/

def CParams.toG (P : CParams) : G.CParams PA where
  n := P.n
  abs := id
  pick := P.pick
  goal := P.goal
  cubes := P.cubes
  cubeStep := P.cubeStep
  flipStep := P.flipStep
  leaf := P.leaf

variable {T : Asg → Prop} {P : CParams}

theorem search_toG (P : CParams) : ∀ (fuel : Nat) (A : PA), search P fuel A = G.search P.toG fuel A
  | 0, _ => rfl
  | fuel + 1, A => by
    have ih : search P fuel = G.search P.toG fuel := funext (search_toG P fuel)
    simp only [search, G.search, ih, CParams.toG]
    cases P.pick A with
    | none => rfl
    | some idx =>
      -- the two definitions have matchers of their own, which `rfl` cannot identify on an open term
      show _ ++ _ = _ ++ _
      congr 1
      · congr 1
        funext c
        cases P.cubeStep A idx (P.goal A idx) c <;> rfl
      · cases P.flipStep A idx (P.goal A idx) <;> rfl

theorem CSound.toG (hP : CSound T P) : G.CSound T P.toG :=
  ⟨hP.bound, hP.leaf_law, hP.cube_cover, hP.cube_disj, hP.cube_some, hP.cube_none, hP.flip_some, hP.flip_none⟩

/-- C04 core: complete (every target model extending `A` is matched by an output), sound
(every output extends `A`), duplicate-free (outputs pairwise disjoint) -/
theorem search_spec (hP : CSound T P) : ∀ (fuel : Nat) (A : PA), P.n - decided A < fuel →
    (∀ σ, T σ → Matches A σ → ∃ o ∈ search P fuel A, Matches o σ) ∧
    (∀ o ∈ search P fuel A, ∀ σ, Matches o σ → Matches A σ) ∧
    (search P fuel A).Pairwise Disj := by
  intro fuel A hf
  rw [search_toG]
  exact G.search_spec hP.toG fuel A hf
#print axioms search_spec
