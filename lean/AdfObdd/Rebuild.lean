import AdfObdd.StoreOps
/-! rebuilding a store from its plain node list (`impl From<Vec<BddNode>> for Bdd`,
    what the web service's database layer does) reproduces the node table exactly -/

theorem foldl_take_succ {α β : Type} (f : β → α → β) (b : β) {l : List α} {k : Nat} (hk : k < l.length) :
    (l.take (k + 1)).foldl f b = f ((l.take k).foldl f b) l[k] := by
  rw [List.take_succ_eq_append_getElem hk, List.foldl_append]; rfl

def rebuildL (nodes : List Node) (s : Store) : Store :=
  nodes.foldl (fun s n => (mkNode s n.var n.lo n.hi).1) s

def rebuild (nodes : Array Node) : Store := rebuildL nodes.toList Store.init

/-- the store reached after replaying the first `k ≥ 2` nodes of a well-formed table -/
structure Prefix (orig : Store) (k : Nat) (s : Store) : Prop where
  size : s.nodes.size = k
  nodes : ∀ i, i < k → s.nodes[i]? = orig.nodes[i]?
  uniq : ∀ n t, s.uniq[n]? = some t ↔ (2 ≤ t ∧ t < k ∧ orig.nodes[t]? = some n)

namespace Tab

/-- the next node of a well-formed table is not yet in the unique table of the replay: the table has no duplicates -/
theorem fresh {orig : Store} (h : TableWF orig.nodes) {k : Nat} (hk2 : 2 ≤ k) (hk : k < orig.nodes.size)
    {s : Store} (p : Prefix orig k s) :
    orig.nodes[k].lo ≠ orig.nodes[k].hi ∧
    s.uniq[(⟨orig.nodes[k].var, orig.nodes[k].lo, orig.nodes[k].hi⟩ : Node)]? = none := by
  have hget : orig.nodes[k]? = some orig.nodes[k] := Array.getElem?_eq_getElem hk
  refine ⟨(h.inner k _ hk2 hget).2.2.2.1, ?_⟩
  cases hu : s.uniq[(⟨orig.nodes[k].var, orig.nodes[k].lo, orig.nodes[k].hi⟩ : Node)]? with
  | none => rfl
  | some t =>
    have ⟨ht2, htk, hgt⟩ := (p.uniq _ t).mp hu
    exact absurd (h.nodup t k _ ht2 hk2 hgt hget) (Nat.ne_of_lt htk)

/-- by `fresh`, `mkNode` appends the next node at its own position -/
theorem prefix_step (orig : Store) (h : TableWF orig.nodes) (k : Nat) (hk2 : 2 ≤ k) (hk : k < orig.nodes.size)
    (s : Store) (p : Prefix orig k s) :
    Prefix orig (k+1) (mkNode s orig.nodes[k].var orig.nodes[k].lo orig.nodes[k].hi).1 := by
  have hget : orig.nodes[k]? = some orig.nodes[k] := Array.getElem?_eq_getElem hk
  have ⟨hne, hfresh⟩ := fresh h hk2 hk p
  rw [mkNode_fresh s _ _ _ hne hfresh]
  refine ⟨by rw [Array.size_push, p.size], fun i hi => ?_, fun n t => ?_⟩
  · show (s.nodes.push _)[i]? = _
    rcases Nat.lt_or_ge i k with hlt | hge
    · rw [getElem?_push_lt _ (by rw [p.size]; exact hlt)]; exact p.nodes i hlt
    · have : i = k := Nat.le_antisymm (Nat.le_of_lt_succ hi) hge
      subst this
      rw [Array.getElem?_push, if_pos p.size.symm, hget]
  · show (s.uniq.insert _ s.nodes.size)[n]? = some t ↔ _
    rw [getElem?_insert_some, p.uniq n t, p.size]
    constructor
    · rintro (⟨rfl, rfl⟩ | ⟨_, a, b, c⟩)
      · exact ⟨hk2, Nat.lt_succ_self _, hget⟩
      · exact ⟨a, Nat.lt_succ_of_lt b, c⟩
    · intro ⟨a, b, c⟩
      rcases Nat.lt_or_ge t k with hlt | hge
      · exact Or.inr ⟨fun e => Nat.ne_of_lt hlt (h.nodup t k n a hk2 c (e ▸ hget)), a, hlt, c⟩
      · have : t = k := Nat.le_antisymm (Nat.le_of_lt_succ b) hge
        subst this
        rw [hget] at c
        exact Or.inl ⟨Option.some.inj c, rfl⟩

theorem take_two {ns : Array Node} (w : TableWF ns) : ns.toList.take 2 = [⟨VBOT, 0, 0⟩, ⟨VTOP, 1, 1⟩] := by
  rw [List.take_add_one, List.take_add_one, List.take_zero, Array.getElem?_toList, Array.getElem?_toList, w.bot, w.top]
  rfl

theorem rebuild_take (orig : Store) (h : TableWF orig.nodes) : ∀ k, 2 ≤ k → k ≤ orig.nodes.size →
    Prefix orig k (rebuildL (orig.nodes.toList.take k) Store.init)
  | 2, _, _ => by
    -- the two terminals fall out of `mkNode` through `lo = hi`: the fresh store already holds them
    rw [take_two h]
    refine ⟨rfl, fun i hi => ?_, fun n t => ⟨fun hu => ?_, fun ⟨a, b, _⟩ => absurd a (Nat.not_le_of_lt b)⟩⟩
    · match i, hi with
      | 0, _ => exact h.bot.symm
      | 1, _ => exact h.top.symm
    · simp [rebuildL, mkNode, Store.init] at hu
  | k+3, _, hk => by
    rw [rebuildL, foldl_take_succ _ _ (by rw [Array.length_toList]; exact hk), Array.getElem_toList]
    exact prefix_step orig h (k + 2) (by omega) hk _ (rebuild_take orig h (k + 2) (by omega) (by omega))

theorem rebuild_prefix (orig : Store) (h : TableWF orig.nodes) :
    Prefix orig orig.nodes.size (rebuild orig.nodes) := by
  have := rebuild_take orig h orig.nodes.size h.len (Nat.le_refl _)
  rwa [← Array.length_toList, List.take_length] at this

end Tab

theorem Tab.rebuild_id (orig : Store) (h : TableWF orig.nodes) :
    (rebuild orig.nodes).nodes = orig.nodes ∧
    ∀ n t, (rebuild orig.nodes).uniq[n]? = some t ↔ (2 ≤ t ∧ orig.nodes[t]? = some n) := by
  have p := Tab.rebuild_prefix orig h
  constructor
  · apply Array.ext p.size
    intro i h1 h2
    have := p.nodes i h2
    rw [Array.getElem?_eq_getElem h1, Array.getElem?_eq_getElem h2] at this
    exact Option.some.inj this
  · intro n t
    rw [p.uniq n t]
    exact ⟨fun ⟨a, _, c⟩ => ⟨a, c⟩, fun ⟨a, c⟩ => ⟨a, lt_of_get c, c⟩⟩

/-- C14 core: rebuilding from the plain node list gives back the same node table (same
numbering) and a unique table that is exact for it -/
theorem rebuild_id (orig : Store) (w : WF orig) :
    (rebuild orig.nodes).nodes = orig.nodes ∧
    ∀ n t, (rebuild orig.nodes).uniq[n]? = some t ↔ (2 ≤ t ∧ orig.nodes[t]? = some n) :=
  Tab.rebuild_id orig w.table

/-! a structurally well-formed table is the node table of a store with the full invariant: the
rebuilt one (exact unique table, empty memo tables) -/

theorem rebuildL_memo : ∀ (l : List Node) (s : Store),
    (rebuildL l s).resC = s.resC ∧ (rebuildL l s).iteC = s.iteC := by
  intro l
  induction l with
  | nil => intro s; exact ⟨rfl, rfl⟩
  | cons n l ih =>
    intro s
    have ⟨a, b⟩ := ih (mkNode s n.var n.lo n.hi).1
    have ⟨c, d⟩ := mkNode_memo s n.var n.lo n.hi
    exact ⟨a.trans c, b.trans d⟩

theorem rebuild_WF (ns : Array Node) (h : TableWF ns) : WF (rebuild ns) ∧ (rebuild ns).nodes = ns := by
  have ⟨hn, hu⟩ := Tab.rebuild_id ⟨ns, ∅, ∅, ∅⟩ h
  have ⟨hr, hi⟩ := rebuildL_memo ns.toList Store.init
  refine ⟨⟨hn ▸ h.len, hn ▸ h.bot, hn ▸ h.top, hn ▸ h.inner, hn ▸ hu, fun t v b r hh => ?_, fun i t e r hh => ?_⟩, hn⟩
  · rw [show (rebuild ns).resC = Store.init.resC from hr] at hh
    simp [Store.init] at hh
  · rw [show (rebuild ns).iteC = Store.init.iteC from hi] at hh
    simp [Store.init] at hh

#print axioms rebuild_id
