import AdfObdd.Compile
import AdfObdd.Grounded
/-! `Adf::from_parser` on the store model: create every statement's variable, then compile the
    acceptance conditions in order; end-to-end correctness of the compiled framework. -/

/-- the first loop of `Adf::from_parser`: `bdd.variable(Var(v))` for every statement -/
def buildVars (n : Nat) (s : Store) : Store := (List.range n).foldl (fun s v => (mkNode s v 0 1).1) s

def compileAll : List Fm → Store → List Nat → Store × List Nat
  | [], s, acc => (s, acc)
  | f :: fs, s, acc => let r := compile s f; compileAll fs r.1 (acc ++ [r.2])

def buildNative (n : Nat) (fms : List Fm) : Store × List Nat := compileAll fms (buildVars n Store.init) []

theorem buildVars_wf : ∀ (l : List Nat) (s : Store), WF s → (∀ v ∈ l, v < VBOT) →
    WF (l.foldl (fun s v => (mkNode s v 0 1).1) s) ∧ Ext s (l.foldl (fun s v => (mkNode s v 0 1).1) s) := by
  intro l
  induction l with
  | nil => intro s w _; exact ⟨w, Ext.refl _⟩
  | cons v l ih =>
    intro s w hv
    have g := compile_correct (.atom v) s w (hv v (by simp))
    have ⟨a, b⟩ := ih (mkNode s v 0 1).1 g.wf (fun x hx => hv x (by simp [hx]))
    exact ⟨a, g.ext.trans b⟩

theorem compileAll_eq : ∀ (fms : List Fm) (s : Store) (acc : List Nat),
    compileAll fms s acc = ((mapS compile s fms).1, acc ++ (mapS compile s fms).2)
  | [], s, acc => by simp only [compileAll, mapS, List.append_nil]
  | f :: fms, s, acc => by simp only [compileAll, mapS, compileAll_eq fms, List.append_assoc, List.singleton_append]

theorem mapS_compile (fms : List Fm) (s : Store) (w : WF s) (hv : ∀ f ∈ fms, f.atomsOK) :
    WF (mapS compile s fms).1 ∧ Ext s (mapS compile s fms).1 ∧
    (∀ t ∈ (mapS compile s fms).2, t < (mapS compile s fms).1.nodes.size) ∧
    (mapS compile s fms).2.map (eval (mapS compile s fms).1) = fms.map Fm.sem :=
  mapS_yields StoreRA (f := compile) (P := fun _ f => f.atomsOK) (d := fun _ f => f.sem) (fun _ _ _ _ _ h => ⟨h, rfl⟩)
    (fun s f w h => have g := compile_correct f s w h; ⟨g.wf, g.ext, g.lt, funext g.ev⟩) fms s w hv

/-- the list form of `buildNative_correct`: the handles of the conditions denote the written formulas -/
theorem buildNative_fns (n : Nat) (fms : List Fm) (hn : n ≤ VBOT) (hv : ∀ f ∈ fms, f.atomsOK) :
    WF (buildNative n fms).1 ∧ (buildNative n fms).2.length = fms.length ∧
    (∀ t ∈ (buildNative n fms).2, t < (buildNative n fms).1.nodes.size) ∧
    (buildNative n fms).2.map (eval (buildNative n fms).1) = fms.map Fm.sem := by
  have ⟨w0, _⟩ := buildVars_wf (List.range n) Store.init WF_init (by
    intro v hv; simp at hv; omega)
  have ⟨w, _, hlt, e⟩ := mapS_compile fms (buildVars n Store.init) w0 hv
  rw [buildNative, compileAll_eq, List.nil_append]
  exact ⟨w, mapS_length compile fms _, hlt, e⟩

/-- **C09, native pipeline, whole framework**: every stored handle is valid in a well-formed store
and denotes exactly the Boolean function of its statement's acceptance condition -/
theorem buildNative_correct (n : Nat) (fms : List Fm) (hn : n ≤ VBOT) (hv : ∀ f ∈ fms, f.atomsOK) :
    WF (buildNative n fms).1 ∧ (buildNative n fms).2.length = fms.length ∧
    ∀ (i t : Nat) (f : Fm), (buildNative n fms).2[i]? = some t → fms[i]? = some f →
      t < (buildNative n fms).1.nodes.size ∧ ∀ σ, eval (buildNative n fms).1 t σ = f.sem σ := by
  have ⟨w, hl, hlt, e⟩ := buildNative_fns n fms hn hv
  exact ⟨w, hl, fun i t f ht hf => ⟨hlt t (List.mem_of_getElem? ht), congrFun (map_eq_map_get e ht hf)⟩⟩

theorem map_eval_eq_sem (s : Store) (acs : List Nat) (fms : List Fm) (hl : acs.length = fms.length)
    (h : ∀ (i t : Nat) (f : Fm), acs[i]? = some t → fms[i]? = some f → ∀ σ, eval s t σ = f.sem σ) :
    acs.map (eval s) = fms.map Fm.sem := by
  apply List.ext_getElem (by rw [List.length_map, List.length_map, hl])
  intro i h1 h2
  rw [List.length_map] at h1 h2
  rw [List.getElem_map, List.getElem_map]
  funext σ
  exact h i _ _ (List.getElem?_eq_getElem h1) (List.getElem?_eq_getElem h2) σ

/-- **C01, native back-end, end to end from the parsed formulas**: the decided part of the
vector computed by `from_parser` + `grounded` is the least fixpoint of the consequence operator of
the written acceptance conditions -/
theorem grounded_native_end_to_end (n : Nat) (fms : List Fm) (hn : n ≤ VBOT) (hv : ∀ f ∈ fms, f.atomsOK)
    (fuel : Nat) (hf : fms.length < fuel) :
    let b := buildNative n fms
    let D := fms.map Fm.sem
    let g := (groundedLoop StoreRA fuel b.1 b.2).2.map storeIsConst
    Gam D g = g ∧ ∀ w', Gam D w' = w' → Le3 g w' := by
  intro b D g
  have ⟨w, hl, hvalid, e⟩ := buildNative_fns n fms hn hv
  have hl' : b.2.length = fms.length := hl
  have e : b.2.map (eval b.1) = D := e
  have := grounded_native fuel b.1 b.2 w hvalid (by omega)
  simp only [e] at this
  exact this
